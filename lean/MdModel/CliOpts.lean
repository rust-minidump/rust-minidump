/-
  MdModel.CliOpts — from the command line to what is handed to the library (main.rs:340-403, 430-470):
  `--features` ↦ `ProcessorOptions`, the overloads from `--evil-json` / `--recover-function-args`,
  the symbol supplier, the interactive-UI rule. The tables (`Gen.*`) are translated from
  minidump-processor/src/processor.rs and minidump-stackwalk/src/main.rs by translators/cli_opts.py;
  this file interprets them.
-/
import MdModel.Prelude
import MdModel.Gen.CliOpts
namespace MdModel.Cli

/-- `minidump_processor::ProcessorOptions` (`stat_reporter`: subscribed or not) -/
structure ProcOptions where
  evilJson : Option String
  recoverFunctionArgs : Bool
  statReporter : Bool
  deriving DecidableEq, Repr

/-- the constructors, field values translated from processor.rs -/
def ctor (name : String) : Option ProcOptions :=
  match name with
  | "stable_basic" => some ⟨none, Gen.ctorRecover_stable_basic, false⟩
  | "stable_all" => some ⟨none, Gen.ctorRecover_stable_all, false⟩
  | "unstable_all" => some ⟨none, Gen.ctorRecover_unstable_all, false⟩
  | _ => none

/-- the options of the command line that steer processing (not: where the reports go) -/
structure ProcArgs where
  features : String
  evilJson : Option String
  recoverFunctionArgs : Bool
  useLocalDebuginfo : Bool
  symbolsUrl : List String
  symbolsCache : Option String
  symbolsTmp : Option String
  timeoutSecs : Nat
  symbolsPath : List String          -- `--symbols-path`
  symbolsPathLegacy : List String    -- positional
  noInteractive : Bool
  deriving DecidableEq, Repr

inductive Supplier where
  | none
  | simple (paths : List String)
  | http (paths urls : List String) (cache tmp : String) (timeoutSecs : Nat)
  deriving DecidableEq, Repr

/-- everything `process_minidump_with_options` and the provider are built from -/
structure Plan where
  options : ProcOptions
  localDebuginfo : Bool      -- a `DebugInfoSymbolProvider` is added first
  supplier : Supplier
  interactive : Bool
  deriving DecidableEq, Repr

inductive Planned where
  | usage                    -- clap rejects the value (status 2)
  | panic                    -- `unimplemented!("unknown --features value")`
  | ok (p : Plan)
  deriving DecidableEq, Repr

def applyOverride (kind : String) (old new : Bool) : Bool :=
  if kind == "orAssign" then old || new else new

def overrideKind (field : String) : String :=
  match Gen.overrides.find? (fun p => p.1 == field) with
  | some (_, k) => k
  | none => "none"

/-- `temp_dir.join(leaf)` for the paths used here (no trailing separator on `tempDir`) -/
def joinPath (dir leaf : String) : String := dir ++ "/" ++ leaf

def mergedPaths (a : ProcArgs) : List String :=
  Gen.symbolPathMerge.flatMap fun src =>
    if src == "named" then a.symbolsPath else if src == "legacy" then a.symbolsPathLegacy else []

def interactiveAtom (a : ProcArgs) (json outputFile : Bool) (atom : String) : Bool :=
  match atom with
  | "notJson" => !json
  | "json" => json
  | "notNoInteractive" => !a.noInteractive
  | "noInteractive" => a.noInteractive
  | "noOutputFile" => !outputFile
  | "outputFile" => outputFile
  | _ => false

/-- main.rs:340-403 + 430-470. `json`: JSON output is on (after the cyborg desugaring);
    `outputFile`: `--output-file` was given; `tempDir`: `std::env::temp_dir()`. -/
def plan (tempDir : String) (a : ProcArgs) (json outputFile : Bool) : Planned :=
  if !Gen.featureValues.contains a.features then .usage else
  match Gen.featureArms.find? (fun p => p.1 == a.features) with
  | none => .panic
  | some (_, c) =>
    match ctor c with
    | none => .panic
    | some o =>
      let interactive := Gen.interactiveRule.all (interactiveAtom a json outputFile)
      -- "Now overload the defaults"
      let evil := if overrideKind "evil_json" == "none" then o.evilJson else a.evilJson
      let rec_ := if overrideKind "recover_function_args" == "none" then o.recoverFunctionArgs
                  else applyOverride (overrideKind "recover_function_args") o.recoverFunctionArgs a.recoverFunctionArgs
      let opts : ProcOptions := ⟨evil, rec_, interactive⟩
      let paths := mergedPaths a
      let supplier :=
        if !a.symbolsUrl.isEmpty then
          Supplier.http paths a.symbolsUrl
            (a.symbolsCache.getD (joinPath tempDir Gen.cacheLeaf)) (a.symbolsTmp.getD tempDir) a.timeoutSecs
        else if !paths.isEmpty then Supplier.simple paths
        else Supplier.none
      .ok ⟨opts, a.useLocalDebuginfo, supplier, interactive⟩

/-- `--use-local-debuginfo`: does main.rs hand a dump of this CPU (`minidump::system_info::Cpu` variant
    name) to `DebugInfoSymbolProvider::new`? (main.rs, fix fb88910; `none` = no rule) -/
def localDebuginfoAllowed (cpu : String) : Bool :=
  match Gen.localDebuginfoCpus with
  | none => true
  | some l => l.contains cpu

/-- the `localUnsupported` of `MdModel.Cli.Cfg`: the flag was given and the rule refuses the dump's CPU -/
def localUnsupportedOf (useLocal : Bool) (cpu : String) : Bool := useLocal && !localDebuginfoAllowed cpu

/-! ### line protocol
    `cli opts <features> evil:<0|1> rec:<0|1> local:<0|1> url:<n> cache:<0|1> tmp:<0|1> to:<secs> named:<ids> legacy:<ids> noint:<0|1> json:<0|1> out:<0|1>`
    paths are abstract ids (`a,b,…` or `-`); urls `u1..un`; answer:
    `usage` | `panic` | `ok evil:<0|1> rec:<0|1> stat:<0|1> local:<0|1> sup:<none|simple:ids|http:ids:nurls:cache:tmp:secs> int:<0|1>` -/

def idsOf (s : String) : List String := if s == "-" then [] else Proto.pieces s ","
def showIds (l : List String) : String := if l.isEmpty then "-" else ",".intercalate l
def bit (b : Bool) : String := if b then "1" else "0"

def Supplier.render : Supplier → String
  | .none => "none"
  | .simple ps => s!"simple:{showIds ps}"
  | .http ps us c t s => s!"http:{showIds ps}:{us.length}:{c}:{t}:{s}"

def Planned.render : Planned → String
  | .usage => "usage"
  | .panic => "panic"
  | .ok p => s!"ok evil:{bit p.options.evilJson.isSome} rec:{bit p.options.recoverFunctionArgs} stat:{bit p.options.statReporter} local:{bit p.localDebuginfo} sup:{p.supplier.render} int:{bit p.interactive}"

def field? (pre : String) (s : String) : Option String :=
  if s.startsWith pre then some (s.drop pre.length).toString else none

def bit? (pre s : String) : Option Bool :=
  match field? pre s with
  | some "0" => some false
  | some "1" => some true
  | _ => none

def handleOpts (args : List String) : String :=
  match args with
  | [feat, evil, rec_, loc, url, cache, tmp, to, named, legacy, noint, json, out] =>
    match bit? "evil:" evil, bit? "rec:" rec_, bit? "local:" loc, (field? "url:" url).bind String.toNat?,
          bit? "cache:" cache, bit? "tmp:" tmp, (field? "to:" to).bind String.toNat?,
          field? "named:" named, field? "legacy:" legacy, bit? "noint:" noint, bit? "json:" json, bit? "out:" out with
    | some e, some r, some l, some n, some c, some t, some secs, some nm, some lg, some ni, some j, some o =>
      let a : ProcArgs := {
        features := feat, evilJson := if e then some "EVIL" else none, recoverFunctionArgs := r,
        useLocalDebuginfo := l, symbolsUrl := (List.range n).map (fun i => s!"u{i+1}"),
        symbolsCache := if c then some "CACHE" else none, symbolsTmp := if t then some "TMP" else none,
        timeoutSecs := secs, symbolsPath := idsOf nm, symbolsPathLegacy := idsOf lg, noInteractive := ni }
      (plan "TEMP" a j o).render
    | _, _, _, _, _, _, _, _, _, _, _, _ => "bad-op"
  | _ => "bad-op"

end MdModel.Cli
