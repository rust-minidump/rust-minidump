/-
  MdModel.CliDump — the raw dump (`--dump`, `print_minidump_dump`, main.rs:669-782) as DATA: the
  ordered list of sections with the condition under which each is printed. `Gen.dumpStmts` is
  translated from main.rs, `Gen.streamTypes` (which stream types the library can read, and which of
  them it can print) independently from minidump/src/minidump.rs, by translators/cli_streams.py.
  This file interprets the statements over an abstract dump: for every stream TYPE whether
  `dump.get_stream::<T>()` is `Ok`, `Err(StreamNotFound)` or another error, and for the raw Linux
  streams whether `get_raw_stream` succeeds.
-/
import MdModel.Prelude
import MdModel.Gen.CliDump
namespace MdModel.Cli

/-- the result of `dump.get_stream::<T>()` -/
inductive St where
  | absent        -- Err(StreamNotFound)
  | unreadable    -- any other error
  | ok
  deriving DecidableEq, Repr

/-- a statement of `print_minidump_dump` -/
inductive Stmt where
  | header                                              -- `dump.print(output)?;`
  | preload (v t : String)                              -- `let v = dump.get_stream::<t>().ok();`
  | unify (v a va : String) (eager : Bool) (b vb : String)
      -- `let v = a.take().map(U::va).or_else(|| b.take().map(U::vb));`  (`eager`: `.or(…)`)
  | stream (t : String) (args : List String)            -- `if let Ok(x) = dump.get_stream::<t>() { x.print(output, args…)?; }`
  | var (v : String) (args : List String)               -- `if let Some(x) = v { x.print(output, args…)?; }`
  | streamOrNote (t : String)                           -- the crashpad `match` with its "cannot print invalid data" note
  | raw (n : String)                                    -- one round of the loop over the raw Linux streams
  deriving DecidableEq, Repr

def parseStmt : String × String × List String → Option Stmt
  | ("header", _, []) => some .header
  | ("preload", v, [t]) => some (.preload v t)
  | ("unify", v, [_, a, va, lz, _, b, vb]) => some (.unify v a va (lz == "or") b vb)
  | ("stream", t, args) => some (.stream t args)
  | ("var", v, args) => some (.var v args)
  | ("streamOrNote", t, []) => some (.streamOrNote t)
  | ("raw", n, []) => some (.raw n)
  | _ => none

/-- the translated statements; `none` if one of them is not understood -/
def stmts? : Option (List Stmt) := Gen.dumpStmts.mapM parseStmt
def stmts : List Stmt := stmts?.getD []

/-- what a section prints -/
inductive What where
  | header
  | typed (t : String)      -- the library's printer of stream type `t`
  | note (t : String)       -- "<t> cannot print invalid data"
  | raw (n : String)        -- main.rs's own `print_raw_stream` of the stream named `n`
  deriving DecidableEq, Repr

/-- one printed section: what is printed and with which resolved arguments -/
structure Sec where
  what : What
  args : List (String × String) -- (parameter, value): variables resolve to the stream type they hold or "-", `brief` to 0/1
  deriving DecidableEq, Repr

/-- the abstract dump -/
structure DumpEnv where
  stream : String → St          -- by rust type name
  raw : String → Bool           -- by MINIDUMP_STREAM_TYPE name

abbrev Vars := List (String × Option String)   -- variable ↦ stream type it holds (`none`: None / moved out)

def Vars.get (vs : Vars) (v : String) : Option String :=
  match vs.find? (fun p => p.1 == v) with
  | some (_, x) => x
  | none => none

def Vars.set (vs : Vars) (v : String) (x : Option String) : Vars :=
  (v, x) :: vs.filter (fun p => p.1 != v)

def resolveArg (vs : Vars) (brief : Bool) (a : String) : String × String :=
  if a == "brief" then ("brief", if brief then "1" else "0")
  else (a, (vs.get a).getD "-")

def variantType (v : String) : Option String :=
  (Gen.unifiedVariants.find? (fun p => p.1 == v)).map (·.2)

/-- `a.take().map(va).or_else(|| b.take().map(vb))` and its eager variant -/
def unify (vs : Vars) (v a va : String) (eager : Bool) (b vb : String) : Vars :=
  -- the wrapped type must be the variant's (a mismatch would not compile)
  let xa := if vs.get a == variantType va then vs.get a else none
  let xb := if vs.get b == variantType vb then vs.get b else none
  match xa with
  | some t =>
    -- `take` leaves `a` empty; with `.or(…)` the second operand is consumed as well
    let vs := vs.set a none
    let vs := if eager then vs.set b none else vs
    vs.set v (some t)
  | none =>
    let vs := vs.set b none
    vs.set v xb

/-- interpret the statements -/
def runStmts (env : DumpEnv) (brief : Bool) : List Stmt → Vars → List Sec
  | [], _ => []
  | .header :: rest, vs => ⟨.header, []⟩ :: runStmts env brief rest vs
  | .preload v t :: rest, vs =>
    runStmts env brief rest (vs.set v (if env.stream t = .ok then some t else none))
  | .unify v a va eager b vb :: rest, vs => runStmts env brief rest (unify vs v a va eager b vb)
  | .stream t args :: rest, vs =>
    (if env.stream t = .ok then [⟨.typed t, args.map (resolveArg vs brief)⟩] else [])
      ++ runStmts env brief rest vs
  | .var v args :: rest, vs =>
    (match vs.get v with
     | some t => [⟨.typed t, args.map (resolveArg vs brief)⟩]
     | none => [])
      ++ runStmts env brief rest (vs.set v none)
  | .streamOrNote t :: rest, vs =>
    (match env.stream t with
     | .ok => [⟨.typed t, []⟩]
     | .absent => []
     | .unreadable => [⟨.note t, []⟩])
      ++ runStmts env brief rest vs
  | .raw n :: rest, vs =>
    (if env.raw n then [⟨.raw n, []⟩] else []) ++ runStmts env brief rest vs

/-- the sections `--dump [--brief]` prints for an abstract dump, in order -/
def dumpSections (env : DumpEnv) (brief : Bool) : List Sec := runStmts env brief stmts []

/-- the stream types the library can print (independent list, from the minidump crate) -/
def printable : List String := (Gen.streamTypes.filter (fun p => p.2.2)).map (·.1)

/-- printable stream types `--dump` does NOT print (hand-written, visible exception list):
    `MinidumpThreadInfoList::print` exists but `print_minidump_dump` never calls it. -/
def dumpGaps : List String := ["MinidumpThreadInfoList"]

/-- the STREAM_TYPE name of a rust type -/
def streamTypeName (t : String) : Option String :=
  (Gen.streamTypes.find? (fun p => p.1 == t)).map (·.2.1)

/-- does section `s` print the stream type `t` (through the library's printer, or raw)? -/
def covers (t : String) (s : Sec) : Bool :=
  s.what == .typed t || (match streamTypeName t with | some n => s.what == .raw n | none => false)

/-! ### line protocol
    `cli dumpsecs b:<0|1> ok:<types|-> bad:<types|-> raw:<names|->`   (comma separated)
    answer: sections joined with `;`, each `what[param=value,…]` -/

def What.render : What → String
  | .header => "header"
  | .typed t => t
  | .note t => "note:" ++ t
  | .raw n => "raw:" ++ n

def Sec.render (s : Sec) : String :=
  if s.args.isEmpty then s.what.render
  else s.what.render ++ "[" ++ ",".intercalate (s.args.map fun p => p.1 ++ "=" ++ p.2) ++ "]"

def listOf (s : String) : List String := if s == "-" then [] else Proto.pieces s ","

def handleDump (args : List String) : String :=
  match args with
  | [b, ok, bad, raw] =>
    match b, ok.startsWith "ok:", bad.startsWith "bad:", raw.startsWith "raw:" with
    | "b:0", true, true, true | "b:1", true, true, true =>
      if stmts?.isNone then "bad-table" else
      let oks := listOf (ok.drop 3).toString
      let bads := listOf (bad.drop 4).toString
      let raws := listOf (raw.drop 4).toString
      let env : DumpEnv := {
        stream := fun t => if oks.contains t then .ok else if bads.contains t then .unreadable else .absent,
        raw := fun n => raws.contains n }
      ";".intercalate ((dumpSections env (b == "b:1")).map Sec.render)
    | _, _, _, _ => "bad-op"
  | _ => "bad-op"

end MdModel.Cli
