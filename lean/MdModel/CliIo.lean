/-
  MdModel.CliIo — `main` / `main_result` of minidump-stackwalk (main.rs:274-541) as a state machine over
  a world made of a file system, the standard output and the diagnostics.

  What is modelled, statement by statement:
    * clap's exclusive group `output-format` (five members, `--help-markdown` is one)      → status 2
    * `--log-file`: `File::create(log_path)?` BEFORE anything else; afterwards `error!` goes to that
      file instead of standard error (and prints nothing at `--verbose off`)
    * `--help-markdown`: written to stdout, `.expect(..)` on the result                      → panic, 101
    * the two validity tests (`--pretty` without JSON, `--brief` with JSON alone)            → `error!`, exit(1)
    * `Minidump::read_path` fails                                                            → `error!`, exit(1)
      (nothing but the log file has been touched at that point)
    * `cli.cyborg.map(File::create).transpose()?`  THEN  `File::create(output_path)?`:
      create-or-TRUNCATE, both before the dump is processed; a failing create goes through `?`
      → `main` prints `Error: …` with `eprintln!` (standard error even with `--log-file`) and exits 1
    * `--dump`: `print_minidump_dump(&dump, &mut output, brief)` and return its result
    * processing fails → `error!`, exit(1)  (the output and cyborg files exist and are EMPTY)
    * human report → primary; JSON report → cyborg file if given, else primary; each through `?`
    * `main`: an `Err(e)` with `e.kind() == BrokenPipe` is swallowed (status 0, no diagnostic),
      every other error prints `Error: {e}` and exits 1
    * after the reports: `output.flush()?` (fix 433988c) — what standard output's `LineWriter` still holds
      is written NOW and a failure is an error like any other (status 1, `Error: …`; broken pipe: status 0)
    * `--use-local-debuginfo` on a dump whose CPU is neither x86-64 nor arm64 (or without readable system
      info): `error!` + exit(1) after the files were created, before processing (fix fb88910)
    * process exit (normal return and `process::exit` alike) flushes what standard output's
      `LineWriter` still holds and IGNORES the result (std::rt::cleanup) — after the explicit flush this
      only matters on the failure paths

  A report is a byte string together with `pend`, the number of its trailing bytes that are still
  inside standard output's `LineWriter` when the printer returns (0 for a report that ends in a
  newline; the engine measures it with the real `std::io::LineWriter`). Files are unbuffered.

  File system: `Path → Entry` plus a per-path size limit (disk full / quota / RLIMIT_FSIZE: a write
  that would grow the file past the limit stores the part that fits and fails). Handles carry
  their own offset, so two handles on one path overwrite each other exactly like two descriptors
  obtained from two `open(2)` calls without `O_APPEND`.
-/
import MdModel.CliTable
namespace MdModel.Cli

abbrev Bytes := List UInt8
abbrev Path := String

/-- what a path denotes -/
inductive Entry where
  | absent (creatable : Bool)   -- nothing there; `creatable`: the parent exists and is writable
  | dir                         -- a directory: `File::create` fails (EISDIR)
  | file (content : Bytes)      -- a regular file
  | full                        -- opens fine, every non-empty write fails (`/dev/full`)
  | null                        -- opens fine, accepts and discards (`/dev/null`)
  deriving DecidableEq, Repr

structure Fs where
  entry : Path → Entry
  /-- a regular file at this path cannot grow beyond this many bytes (`none`: no limit) -/
  limit : Path → Option Nat

def Fs.set (fs : Fs) (p : Path) (e : Entry) : Fs :=
  { fs with entry := fun q => if q = p then e else fs.entry q }

/-- an open file description: path + own offset -/
structure Handle where
  path : Path
  off : Nat
  deriving DecidableEq, Repr

/-- `File::create`: `open(O_WRONLY|O_CREAT|O_TRUNC)`; `none` = the call fails -/
def Fs.create (fs : Fs) (p : Path) : Option (Fs × Handle) :=
  match fs.entry p with
  | .absent true => some (fs.set p (.file []), ⟨p, 0⟩)
  | .absent false => none
  | .dir => none
  | .file _ => some (fs.set p (.file []), ⟨p, 0⟩)
  | .full => some (fs, ⟨p, 0⟩)
  | .null => some (fs, ⟨p, 0⟩)

/-- `pwrite`-like: put `bs` at offset `off` (a gap is filled with zeros) -/
def writeAt (old : Bytes) (off : Nat) (bs : Bytes) : Bytes :=
  old.take off ++ List.replicate (off - old.length) 0 ++ bs ++ old.drop (off + bs.length)

/-- how many of `n` bytes fit at offset `off` under the limit -/
def room (lim : Option Nat) (off n : Nat) : Nat :=
  match lim with
  | none => n
  | some l => min n (l - off)

/-- `write_all` of `bs` through a handle: the new file system, the advanced handle, success? -/
def Fs.write (fs : Fs) (h : Handle) (bs : Bytes) : Fs × Handle × Bool :=
  match fs.entry h.path with
  | .file c =>
    let k := room (fs.limit h.path) h.off bs.length
    let fs' := if k = 0 then fs else fs.set h.path (.file (writeAt c h.off (bs.take k)))
    (fs', { h with off := h.off + k }, k == bs.length)
  | .full => (fs, h, bs.isEmpty)
  | .null => (fs, { h with off := h.off + bs.length }, true)
  | _ => (fs, h, bs.isEmpty)          -- unreachable: nothing removes a file

/-- the two `io::ErrorKind`s `main` tells apart -/
inductive ErrKind where
  | other | brokenPipe
  deriving DecidableEq, Repr

/-- a report: its bytes and how many trailing bytes the printer leaves in stdout's `LineWriter` -/
structure Rep where
  bytes : Bytes
  pend : Nat
  deriving Repr

/-- standard output -/
structure Stdout where
  out : Bytes            -- reached the descriptor
  buf : Bytes            -- still inside the `LineWriter`
  cap : Option Nat       -- the descriptor accepts this many bytes in total (`none`: unbounded)
  kind : ErrKind         -- the error once `cap` is exhausted (ENOSPC/EFBIG … vs EPIPE)
  deriving Repr

def Stdout.room (s : Stdout) (n : Nat) : Nat :=
  match s.cap with
  | none => n
  | some c => min n (c - s.out.length)

/-- print a report to stdout: everything but its last `pend` bytes has to go to the descriptor now -/
def Stdout.write (s : Stdout) (r : Rep) : Stdout × Option ErrKind :=
  let keep := min r.pend r.bytes.length
  let now := s.buf ++ r.bytes.take (r.bytes.length - keep)
  let k := s.room now.length
  if k = now.length then
    ({ s with out := s.out ++ now, buf := r.bytes.drop (r.bytes.length - keep) }, none)
  else
    ({ s with out := s.out ++ now.take k, buf := [] }, some s.kind)

/-- `flush()`: write what the `LineWriter` holds; the error is reported -/
def Stdout.flush (s : Stdout) : Stdout × Option ErrKind :=
  let k := s.room s.buf.length
  if k = s.buf.length then ({ s with out := s.out ++ s.buf, buf := [] }, none)
  else ({ s with out := s.out ++ s.buf.take k, buf := [] }, some s.kind)

/-- process exit: flush, ignoring the result -/
def Stdout.atExit (s : Stdout) : Stdout :=
  { s with out := s.out ++ s.buf.take (s.room s.buf.length), buf := [] }

/-- diagnostics; `render` below gives the bytes of a logged one -/
inductive Diag where
  | usage              -- clap's message (standard error, status 2)
  | ioError            -- `Error: {e}` printed by `main` with `eprintln!`
  | prettyInvalid      -- `error!("Humans must be hideous! …")`
  | briefInvalid       -- `error!("Robots cannot be brief! …")`
  | readError          -- `error!("{} - Error reading dump: {}")`
  | processError       -- `error!("{} - Error processing dump: {}")` (also: system info missing with --use-local-debuginfo)
  | localDebuginfoError -- `error!("Local debug info is only supported for x86-64 and arm64 dumps …")`
  | panicLogged        -- the panic hook's `error!("Panic - …")`
  deriving DecidableEq, Repr

structure World where
  fs : Fs
  stdout : Stdout
  stderr : List Diag

/-- the parsed command line as far as it steers the effects -/
structure Cfg where
  flags : Flags
  cyborgPath : Path            -- meaningful iff `flags.cyborg`
  helpMarkdown : Bool
  outputFile : Option Path
  logFile : Option Path
  verboseOff : Bool            -- `--verbose off`: `error!` prints nothing
  /-- `--use-local-debuginfo` was given AND the dump's CPU is not one the debuginfo provider supports -/
  localUnsupported : Bool

structure Reports where
  human : Rep
  humanBrief : Rep
  json : Rep
  jsonPretty : Rep
  dump : Rep
  dumpBrief : Rep
  helpMd : Rep

structure Result where
  exit : Nat
  world : World

/-- `error!(…)`: to the log file if one was opened, else to standard error; nothing at `--verbose off`.
    tracing ignores a failing log write. -/
def logErr (render : Diag → Bytes) (cfg : Cfg) (w : World) (lg : Option Handle) (d : Diag) : World :=
  if cfg.verboseOff then w else
  match lg with
  | none => { w with stderr := w.stderr ++ [d] }
  | some h => { w with fs := (w.fs.write h (render d)).1 }

def finish (code : Nat) (w : World) : Result :=
  ⟨code, { w with stdout := w.stdout.atExit }⟩

/-- `main`'s treatment of `Err(e)` from `main_result` -/
def failWith (w : World) (k : ErrKind) : Result :=
  match k with
  | .brokenPipe => finish 0 w
  | .other => finish 1 { w with stderr := w.stderr ++ [.ioError] }

def done (w : World) (e : Option ErrKind) : Result :=
  match e with
  | none => finish 0 w
  | some k => failWith w k

/-- the primary writer -/
inductive Writer where
  | stdout
  | file (h : Handle)

def emitFile (w : World) (h : Handle) (r : Rep) : World × Handle × Option ErrKind :=
  let (fs', h', ok) := w.fs.write h r.bytes
  ({ w with fs := fs' }, h', if ok then none else some .other)

def emit (w : World) (wr : Writer) (r : Rep) : World × Writer × Option ErrKind :=
  match wr with
  | .stdout =>
    let (s', e) := w.stdout.write r
    ({ w with stdout := s' }, .stdout, e)
  | .file h =>
    let (w', h', e) := emitFile w h r
    (w', .file h', e)

/-- `output.flush()` on the primary writer (a `File` has nothing to flush) -/
def flushPrimary (w : World) : Writer → World × Option ErrKind
  | .stdout => ({ w with stdout := w.stdout.flush.1 }, w.stdout.flush.2)
  | .file _ => (w, none)

/-- `output.flush()?; Ok(())` -/
def finishOk (w : World) (out : Writer) : Result :=
  done (flushPrimary w out).1 (flushPrimary w out).2

/-- the result `e` of the last report write through `?`, then `output.flush()?; Ok(())` -/
def doneThen (w : World) (e : Option ErrKind) (out : Writer) : Result :=
  match e with
  | some k => failWith w k
  | none => finishOk w out

def openOpt (w : World) (p : Option Path) : Option (World × Option Handle) :=
  match p with
  | none => some (w, none)
  | some p =>
    match w.fs.create p with
    | none => none
    | some (fs', h) => some ({ w with fs := fs' }, some h)

def openPrimary (w : World) (p : Option Path) : Option (World × Writer) :=
  match p with
  | none => some (w, .stdout)
  | some p =>
    match w.fs.create p with
    | none => none
    | some (fs', h) => some ({ w with fs := fs' }, .file h)

/-- main.rs:361-368: "Human is just enabled if nothing else is … Cyborg is just desugarred to --json --human" -/
def humanOn (f : Flags) : Bool := if f.cyborg then true else (!f.json && !f.dump)
def jsonOn (f : Flags) : Bool := if f.cyborg then true else f.json

def humanRep (f : Flags) (reps : Reports) : Rep := if f.brief then reps.humanBrief else reps.human
def jsonRep (f : Flags) (reps : Reports) : Rep := if f.pretty then reps.jsonPretty else reps.json
def dumpRep (f : Flags) (reps : Reports) : Rep := if f.brief then reps.dumpBrief else reps.dump

def emitIf (b : Bool) (w : World) (wr : Writer) (r : Rep) : World × Writer × Option ErrKind :=
  if b then emit w wr r else (w, wr, none)

/-- main.rs:517-524: "Print the json output if requested (using "cyborg" output if available)" -/
def writeJson (f : Flags) (reps : Reports) (json : Bool) (cy : Option Handle) (out : Writer) (w : World) : Result :=
  if json then
    match cy with
    | some h => doneThen (emitFile w h (jsonRep f reps)).1 (emitFile w h (jsonRep f reps)).2.2 out
    | none => doneThen (emit w out (jsonRep f reps)).1 (emit w out (jsonRep f reps)).2.2
                (emit w out (jsonRep f reps)).2.1
  else finishOk w out

/-- main.rs:508-528: human report first, then JSON; every write through `?` -/
def writeReports (f : Flags) (reps : Reports) (human json : Bool) (cy : Option Handle) (out : Writer)
    (w : World) : Result :=
  match (emitIf human w out (humanRep f reps)).2.2 with
  | some k => failWith (emitIf human w out (humanRep f reps)).1 k
  | none => writeJson f reps json cy (emitIf human w out (humanRep f reps)).2.1
              (emitIf human w out (humanRep f reps)).1

/-- main.rs:421-534, once both files are open -/
def afterOpen (render : Diag → Bytes) (cfg : Cfg) (inp : Input) (reps : Reports) (human json : Bool)
    (lg cy : Option Handle) (out : Writer) (w : World) : Result :=
  if cfg.flags.dump then
    doneThen (emit w out (dumpRep cfg.flags reps)).1 (emit w out (dumpRep cfg.flags reps)).2.2
      (emit w out (dumpRep cfg.flags reps)).2.1
  else
    match inp with
    | .unprocessable => finish 1 (logErr render cfg w lg .processError)
    | _ =>
      if cfg.localUnsupported then finish 1 (logErr render cfg w lg .localDebuginfoError)
      else writeReports cfg.flags reps human json cy out w

/-- the part of `main_result` after the dump was read (main.rs:408-534): the cyborg file is created
    first, then the output file, then the reports are produced -/
def emitReports (render : Diag → Bytes) (cfg : Cfg) (inp : Input) (reps : Reports)
    (human json : Bool) (lg : Option Handle) (w : World) : Result :=
  match openOpt w (if cfg.flags.cyborg then some cfg.cyborgPath else none) with
  | none => failWith w .other
  | some (w1, cy) =>
    match openPrimary w1 cfg.outputFile with
    | none => failWith w1 .other
    | some (w2, out) => afterOpen render cfg inp reps human json lg cy out w2

/-- `main` (main.rs:274-541). `render` gives the bytes of a logged diagnostic. -/
def run (render : Diag → Bytes) (cfg : Cfg) (inp : Input) (reps : Reports) (w : World) : Result :=
  let f := cfg.flags
  if groupCount f + b2n cfg.helpMarkdown > 1 then
    finish 2 { w with stderr := w.stderr ++ [.usage] }
  else
    match openOpt w cfg.logFile with
    | none => failWith w .other
    | some (w, lg) =>
      if cfg.helpMarkdown then
        let (s', e) := w.stdout.write reps.helpMd
        let w := { w with stdout := s' }
        match e with
        | none => finish 0 w
        | some _ => finish 101 (logErr render cfg w lg .panicLogged)
      else
        let rawDump := f.dump
        let human := humanOn f
        let json := jsonOn f
        if f.pretty && !json then finish 1 (logErr render cfg w lg .prettyInvalid)
        else if f.brief && !(human || rawDump) then finish 1 (logErr render cfg w lg .briefInvalid)
        else
          match inp with
          | .unreadable => finish 1 (logErr render cfg w lg .readError)
          | _ => emitReports render cfg inp reps human json lg w

/-- SPECIFICATION (option documentation): the bytes an accepted command line sends to the PRIMARY
    output — the raw dump; or the human report ("the default"; with `--cyborg` "the --human output will
    be the 'primary' output"); or the JSON report (`--json`). Used by the theorems, not by `run`. -/
def primaryBytes (f : Flags) (reps : Reports) : Bytes :=
  if f.dump then (dumpRep f reps).bytes
  else (if humanOn f then (humanRep f reps).bytes else []) ++
       (if jsonOn f && !f.cyborg then (jsonRep f reps).bytes else [])

end MdModel.Cli
