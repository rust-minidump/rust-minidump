/-
  MdModel.Walk.LayoutGen — C04: the GENERATORS of the `chain` engine (`gen_chain`,
  harness/src/engines/chain.rs) as Lean functions of their parameters, generically in the pointer
  width. For each of them `Pre` is PROVED of the function's value for all parameters
  (MdProofs/C04Gen.lean), and the engine ties the function to the Rust generator on every generated
  case: the parameters are recovered from the case, the compiled model evaluates the layout
  function (`chain layout …`, Walk.lean), and stack bytes, context registers and chain are
  compared (class `layout-not-mirrored`).

    `wordsMemP p base ws`      the stack memory holding the `p`-byte words `ws` at `base`
    `gfpWords` / `gfpChain`    frame-pointer chains (x86, x86-64 non-Windows, ARM iOS, ARM64 ×2)
    `gcfiWords` / `gcfiChain`  canonical STACK CFI chains (frame sizes in words, saves-fp flags,
                               leaf first frame), all seven context kinds / modes
-/
import MdModel.Walk.Layout
namespace MdModel.Walk
open MdModel

/-- little-endian bytes of a `p`-byte word -/
def leP (p v : Nat) : List UInt8 := (List.range p).map fun i => UInt8.ofNat (v / 256 ^ i % 256)

/-- the stack memory with the `p`-byte words `ws` at `base`, `base + p`, … -/
def wordsMemP (p base : Nat) (ws : List Nat) : Mem := { base := base, bytes := (ws.flatMap (leP p)).toArray }

/-- address of stack word `i` -/
def pAddr (p base i : Nat) : Nat := base + p * i

/-! ### frame-pointer chains

  `gen_chain`, technique `fp` (not Windows x86-64): the context has `sp = addr s0`, `fp = addr f0`;
  for every call `(gap, ret)` a record `w[f] = addr f'`, `w[f+1] = ret` with `f' = f + 2 + gap`;
  the outermost record `(0, 0)` and `1 + tail` zero words after it; every other word 0. -/

def gfpTail (p base tail : Nat) : Nat → List (Nat × Nat) → List Nat
  | _, [] => [0, 0] ++ List.replicate (1 + tail) 0
  | f, (gap, ret) :: rest =>
    [pAddr p base (f + 2 + gap), ret] ++ List.replicate gap 0 ++ gfpTail p base tail (f + 2 + gap) rest

def gfpWords (p base f0 tail : Nat) (calls : List (Nat × Nat)) : List Nat :=
  List.replicate f0 0 ++ gfpTail p base tail f0 calls

def gfpChain (p base : Nat) : Nat → List (Nat × Nat) → List Exp
  | _, [] => []
  | f, (gap, ret) :: rest =>
    { ret := ret, sp := pAddr p base (f + 2), fp := some (pAddr p base (f + 2 + gap)) } ::
      gfpChain p base (f + 2 + gap) rest

/-- what a return address of a frame-pointer chain must satisfy beyond `4096 ≤ ret ≤ regMax`:
    canonical on x86-64; on ARM64 canonical and untouched by the pointer-authentication strip -/
def retOkFp (a : Arch) (mask ret : Nat) : Bool :=
  match a with
  | .amd64 => !nonCanonAmd64 ret
  | .arm64 | .arm64old => decide (ret &&& mask = ret) && !nonCanonArm64 ret
  | _ => true

/-! ### canonical STACK CFI chains

  `gen_chain`, technique `cfi`: the context has `sp = addr s0`, `fp = fp0` (0, or a stack address),
  on a leaf first frame the link register = the first return address. A frame of a function whose
  record is `.cfa: $sp p·n + .ra: .cfa -p + ^ [$fp: .cfa -2p + ^]` occupies `n` words: the return
  address in the last, the saved frame pointer (when the record saves it) in the last but one, the
  others 0. After the last frame `tail` zero words (`tail = 0`: the stack ENDS with the outermost
  return-address slot). -/

/-- one generated frame: size in words (`0`: the leaf first frame, nothing on the stack), does the
    record save the frame pointer, the return address, the value of the saved frame pointer -/
structure CfiFr where
  n : Nat
  saves : Bool
  ret : Nat
  fpv : Nat
  deriving Repr, Inhabited

/-- the words of one frame -/
def CfiFr.words (c : CfiFr) : List Nat :=
  if c.n = 0 then []
  else if c.saves then List.replicate (c.n - 2) 0 ++ [c.fpv, c.ret]
  else List.replicate (c.n - 1) 0 ++ [c.ret]

def gcfiBody : List CfiFr → List Nat
  | [] => []
  | c :: rest => c.words ++ gcfiBody rest

def gcfiWords (s0 tail : Nat) (frames : List CfiFr) : List Nat :=
  List.replicate s0 0 ++ gcfiBody frames ++ List.replicate tail 0

/-- the expected chain: `s` = word index of the callee's stack pointer, `fp` = its frame pointer -/
def gcfiChain (p base : Nat) : Nat → Nat → List CfiFr → List Exp
  | _, _, [] => []
  | s, fp, c :: rest =>
    let fp' := if c.n ≠ 0 ∧ c.saves then c.fpv else fp
    { ret := c.ret, sp := pAddr p base (s + c.n), fp := some fp' } :: gcfiChain p base (s + c.n) fp' rest

/-- the frame pointer the outermost frame is left with -/
def gcfiLastFp : Nat → List CfiFr → Nat
  | fp, [] => fp
  | fp, c :: rest => gcfiLastFp (if c.n ≠ 0 ∧ c.saves then c.fpv else fp) rest

/-- the side condition on the module list and symbol records (NOT on the stack): the record
    covering each frame's lookup address is canonical for the frame's size (the leaf rule for a
    frame of size 0), without delta lines; no record covers the outermost lookup address -/
def gcfiSide (w : World) (a : Arch) : Nat → Bool → List CfiFr → Bool
  | instr, _, [] => (cfiRecordAt w instr).isNone
  | instr, first, c :: rest =>
    (match cfiRecordAt w instr with
     | none => false
     | some rec =>
       rec.adds.isEmpty &&
       (if c.n = 0 then first && a.leafOk && tokenize rec.init == leafToks a
        else tokenize rec.init == canonicalToks a (a.ptr * c.n) c.saves)) &&
    gcfiSide w a (c.ret - a.adj) false rest

/-- the parameter ranges of the generator that concern the frames: a frame that saves the frame
    pointer has at least two words; return addresses are `≥ 4096`, fit the register and are
    untouched by the pointer-authentication strip; so are the saved frame pointers -/
def gcfiFramesOk (a : Arch) (mask : Nat) (frames : List CfiFr) : Bool :=
  frames.all fun c =>
    decide (4096 ≤ c.ret) && decide (c.ret ≤ a.regMax) && decide (stripOf a mask c.ret = c.ret) &&
    (c.n == 0 || !c.saves || (decide (2 ≤ c.n) && decide (c.fpv ≤ a.regMax) && decide (stripOf a mask c.fpv = c.fpv)))

/-! ### the side condition from record-level facts (one-module worlds)

  `gcfiSide` goes through the module table and the CFI range table; `gcfiSideOne` is the same
  condition with a linear search over the module's list of STACK CFI records. Under `oneModOkB`
  the second implies the first (`gcfiSide_of_one`, MdProofs/Lemmas/WalkGenSide.lean). -/

/-- the record's range (relative to the module base) contains `instr` -/
def CfiRec.covers (m : Module) (instr : Nat) (c : CfiRec) : Bool :=
  decide (m.base + c.addr ≤ instr) && decide (instr < m.base + c.addr + c.size)

/-- the first STACK CFI record of the list that covers `instr`: a linear search -/
def cfiCover (m : Module) (sf : SymFile) (instr : Nat) : Option CfiRec :=
  sf.cfis.find? (CfiRec.covers m instr)

/-- `gcfiSide` with the linear search in place of the range tables; the outermost lookup address
    lies inside the module (in a function without STACK CFI) -/
def gcfiSideOne (m : Module) (sf : SymFile) (a : Arch) : Nat → Bool → List CfiFr → Bool
  | instr, _, [] =>
    decide (m.base ≤ instr) && decide (instr < m.base + m.size) && (cfiCover m sf instr).isNone
  | instr, first, c :: rest =>
    (match cfiCover m sf instr with
     | none => false
     | some rec =>
       rec.adds.isEmpty &&
       (if c.n = 0 then first && a.leafOk && tokenize rec.init == leafToks a
        else tokenize rec.init == canonicalToks a (a.ptr * c.n) c.saves)) &&
    gcfiSideOne m sf a (c.ret - a.adj) false rest

/-- decidable form of the record-level well-formedness of a one-module world (`OneModOk`,
    MdProofs/Lemmas/WalkGenSide.lean): the module has a range, every STACK CFI record is non-empty
    and inside the module, the records are pairwise disjoint -/
def disjB : List CfiRec → Bool
  | [] => true
  | c :: rest =>
    rest.all (fun d => decide (c.addr + c.size ≤ d.addr) || decide (d.addr + d.size ≤ c.addr)) && disjB rest

def oneModOkB (m : Module) (sf : SymFile) : Bool :=
  decide (0 < m.size) && decide (m.base + m.size ≤ U64MAX) &&
  sf.cfis.all (fun c => decide (0 < c.size) && decide (c.addr + c.size ≤ m.size)) && disjB sf.cfis

/-! ### … worlds of several modules

  The same with a linear search through the module list first (`modFind`): under `worldOkB` (modules
  with ranges, pairwise disjoint; every symbol file `oneModOkB` for its module) `gcfiSideW` implies
  `gcfiSide` (`gcfiSide_of_world`, MdProofs/Lemmas/WalkGenSide.lean). -/

def Module.has (m : Module) (instr : Nat) : Bool := decide (m.base ≤ instr) && decide (instr < m.base + m.size)

/-- the first module of the list containing `instr`, with its position and symbol file -/
def modFind (w : World) (instr : Nat) : Option (Module × SymFile) :=
  match w.mods.zipIdx.find? (fun x => x.1.has instr) with
  | none => none
  | some (m, i) => ((w.syms[i]?).join).map fun sf => (m, sf)

def modsDisjB : List Module → Bool
  | [] => true
  | c :: rest =>
    rest.all (fun d => decide (c.base + c.size ≤ d.base) || decide (d.base + d.size ≤ c.base)) && modsDisjB rest

def worldOkB (w : World) : Bool :=
  modsDisjB w.mods && w.mods.all (fun m => decide (0 < m.size) && decide (m.base + m.size ≤ U64MAX)) &&
  w.mods.zipIdx.all fun x => match (w.syms[x.2]?).join with
    | some sf => oneModOkB x.1 sf
    | none => true

def gcfiSideW (w : World) (a : Arch) : Nat → Bool → List CfiFr → Bool
  | instr, _, [] =>
    (match modFind w instr with
     | some (m, sf) => (cfiCover m sf instr).isNone
     | none => false)
  | instr, first, c :: rest =>
    (match (modFind w instr).bind fun x => cfiCover x.1 x.2 instr with
     | none => false
     | some rec =>
       rec.adds.isEmpty &&
       (if c.n = 0 then first && a.leafOk && tokenize rec.init == leafToks a
        else tokenize rec.init == canonicalToks a (a.ptr * c.n) c.saves)) &&
    gcfiSideW w a (c.ret - a.adj) false rest

end MdModel.Walk
