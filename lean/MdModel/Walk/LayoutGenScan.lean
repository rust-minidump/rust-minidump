/-
  MdModel.Walk.LayoutGenScan — C04: the scan-only GENERATOR of the `chain` engine (`gen_chain`,
  technique `scan`) as a Lean function of its parameters, generically in the pointer width.

  The context has `sp = addr s0`, frame pointer 0. A frame = `junk` words (each 0 or a small
  integer `< 4096`, never a valid instruction address) followed by the return address. On MIPS32 the
  walker skips the first four words of every frame but the topmost (the argument area): there the
  generator emits at least four junk words and only those after the fourth are scanned. After the
  last frame `tail` zero words (`tail = 0`: the stack ENDS with the outermost return-address slot).
-/
import MdModel.Walk.LayoutGen
namespace MdModel.Walk
open MdModel

/-- one generated frame: the junk words below the return address, the return address -/
structure ScFr where
  junk : List Nat
  ret : Nat
  deriving Repr, Inhabited

def gscanBody : List ScFr → List Nat
  | [] => []
  | c :: rest => c.junk ++ [c.ret] ++ gscanBody rest

def gscanWords (s0 tail : Nat) (frames : List ScFr) : List Nat :=
  List.replicate s0 0 ++ gscanBody frames ++ List.replicate tail 0

/-- the expected chain: `s` = word index of the callee's stack pointer; no frame pointer recovered -/
def gscanChain (p base : Nat) : Nat → List ScFr → List Exp
  | _, [] => []
  | s, c :: rest =>
    { ret := c.ret, sp := pAddr p base (s + c.junk.length + 1), fp := none } ::
      gscanChain p base (s + c.junk.length + 1) rest

/-- words of a frame the walker does not look at (MIPS32, not the topmost frame: 4) -/
def gscanSkip (a : Arch) (first : Bool) : Nat := if a = .mips32 ∧ !first then 4 else 0

/-- the scan windows of the property text -/
def gscanWindow (a : Arch) (first : Bool) : Nat :=
  match a with
  | .mips32 => if first then 256 else 252
  | .mips64 => 128
  | _ => if first then 160 else 40

/-- the side condition on the environment (module list, symbol records — NOT the stack) and the
    parameter ranges: the skipped words exist, the scanned junk words fit the window, are `< 4096`
    and no valid instruction; the return address is a valid instruction `≥ 4096` -/
def gscanFramesOk (env : Env) (a : Arch) : Bool → List ScFr → Bool
  | _, [] => true
  | first, c :: rest =>
    decide (gscanSkip a first ≤ c.junk.length) && decide (c.junk.length - gscanSkip a first < gscanWindow a first) &&
    (c.junk.drop (gscanSkip a first)).all (fun w => decide (w < 4096) && !instrValid env a w) &&
    (c.junk.take (gscanSkip a first)).all (fun w => decide (w ≤ a.regMax)) &&
    decide (4096 ≤ c.ret) && decide (c.ret ≤ a.regMax) && instrValid env a c.ret &&
    gscanFramesOk env a false rest

/-- `gscanFramesOk` without the by-symbols check of the junk words: when every module starts at or
    above 4096 a word `< 4096` is no valid instruction (`junk_not_valid`,
    MdProofs/Lemmas/WalkGenScan.lean), so this implies `gscanFramesOk` (`gscanFramesOk_of_junk`) -/
def gscanFramesOkJ (env : Env) (a : Arch) : Bool → List ScFr → Bool
  | _, [] => true
  | first, c :: rest =>
    decide (gscanSkip a first ≤ c.junk.length) && decide (c.junk.length - gscanSkip a first < gscanWindow a first) &&
    (c.junk.drop (gscanSkip a first)).all (fun w => decide (w < 4096)) &&
    (c.junk.take (gscanSkip a first)).all (fun w => decide (w ≤ a.regMax)) &&
    decide (4096 ≤ c.ret) && decide (c.ret ≤ a.regMax) && instrValid env a c.ret &&
    gscanFramesOkJ env a false rest

end MdModel.Walk
