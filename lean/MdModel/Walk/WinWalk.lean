/-
  MdModel.Walk.WinWalk — the walker on symbol files that also carry STACK WIN records (C04's
  `win` / `mixed` chains). `mkEnv` (Walk/Cfi.lean, shared with C05/C03) knows STACK CFI only and is
  left untouched; `mkEnvW` is the environment of a walk whose modules may have STACK WIN records:

    SymbolFile::walk_frame                     sym_file/mod.rs:496-527 — frame data, else FPO, else
                                               (when STACK WIN yields nothing) STACK CFI, on the
                                               walker as STACK WIN left it
    SymbolFile::fill_symbol (parameter_size)   sym_file/mod.rs:348-369 — a FUNC's parameter size is
                                               taken from the frame-data / FPO record at the address
    CfiStackWalker<CONTEXT_X86>                minidump-unwind/src/lib.rs:553-655 — `has_grand_callee`,
                                               `grand_callee_parameter_size` (0 when unknown)

  The STACK WIN evaluators themselves are `MdModel.Win` (property C07's model), reused here as they
  are: this file only converts between the walker's contexts and C07's `Walker` / `Caller`.
  On every context kind but x86 the STACK WIN routines end at their first
  `get_callee_register("esp")?` (an unknown name) before any `set_caller_register`, so STACK WIN
  records are without effect there.
  A panic outcome of C07's model (`win_frame_size` overflow is checked since the F6 fix; `rhs - 1`
  is guarded; the `unreachable!()`s need a record of the other kind) cannot occur for records the
  parser builds; it is mapped to "no frame".
-/
import MdModel.Walk.Cfi
import MdModel.Win
namespace MdModel.Walk
open MdModel

/-- the two STACK WIN tables of a symbol file (`win_stack_framedata_info`, `win_stack_fpo_info`)
    and the classified records they index -/
structure WinTables where
  typed : List Win.FrameType
  fd : List RangeMap.Entry
  fpo : List RangeMap.Entry
  deriving Inhabited

def WinTables.empty : WinTables := { typed := [], fd := [], fpo := [] }

def winTables (recs : List Win.Rec) : WinTables :=
  let typed := recs.map Win.classifyRec
  let idx := (recs.zip typed).zipIdx
  let fdRecs := idx.filterMap fun ((r, t), i) =>
    match t with | .frameData _ => some (r.addr, r.size, i) | _ => none
  let fpoRecs := idx.filterMap fun ((r, t), i) =>
    match t with | .fpo _ => some (r.addr, r.size, i) | _ => none
  match Win.buildTable fdRecs, Win.buildTable fpoRecs with
  | .ok t4, .ok t0 => { typed := typed, fd := t4, fpo := t0 }
  | _, _ => WinTables.empty

def WinTables.pick (t : WinTables) (tbl : List RangeMap.Entry) (addr : Nat) : Option Win.SInfo :=
  (Win.lookup tbl addr).bind fun i =>
    match t.typed[i]? with
    | some (.frameData si) => some si
    | some (.fpo si) => some si
    | _ => none

/-- the record `walk_frame` uses at a module-relative address: frame data preferred to FPO -/
def WinTables.at (t : WinTables) (addr : Nat) : Option Win.SInfo × Option Win.SInfo :=
  (t.pick t.fd addr, t.pick t.fpo addr)

/-- `parameter_size` of the STACK WIN record covering `addr` (frame data first) -/
def WinTables.psize (t : WinTables) (addr : Nat) : Option Nat :=
  match t.pick t.fd addr with
  | some si => some si.info.par.toNat
  | none => (t.pick t.fpo addr).map fun si => si.info.par.toNat

/-- `fill_symbol` with STACK WIN records present: only a FUNC's parameter size is overridden -/
def fillSymbolW (sf : SymFile) (ftbl : List RangeMap.Entry) (wt : WinTables) (modBase instr : Nat) :
    Option FuncInfo :=
  match fillSymbol sf ftbl modBase instr with
  | none => none
  | some f =>
    if instr < modBase then some f
    else match RangeMap.get ftbl (instr - modBase) with
      | some _ => some { f with psize := (wt.psize (instr - modBase)).getD f.psize }
      | none => some f

def symbOfW (w : World) (mtbl : List RangeMap.Entry) (ftbls : List (List RangeMap.Entry))
    (wts : List WinTables) (instr : Nat) : Option Nat × Option FuncInfo :=
  match moduleAt mtbl instr with
  | none => (none, none)
  | some i =>
    match w.mods[i]?, (w.syms[i]?).join, ftbls[i]? with
    | some m, some sf, some ft => (some i, fillSymbolW sf ft (wts[i]?.getD WinTables.empty) m.base instr)
    | _, _, _ => (some i, none)

/-! ### `CfiStackWalker<CONTEXT_X86>` ↔ C07's `Walker` / `Caller` -/

def x86Vals (c : Ctx) : Win.Vars :=
  Win.x86Regs.map fun r => (r, UInt32.ofNat (c.raw .x86 r))

def winWalker (mem : Mem) (callee : Frame) (grand : Option Frame) : Win.Walker :=
  { hasGC := grand.isSome
    gcParam := UInt32.ofNat ((grand.bind fun g => g.func.map (·.psize)).getD 0)
    reg := fun n => if Win.x86Regs.contains n then (callee.ctx.get .x86 n).map UInt32.ofNat else none
    mem := fun a => (mem.read a 4).map UInt32.ofNat }

def callerOfCtx (c : Ctx) : Win.Caller :=
  Win.Caller.init (x86Vals c) (fun r => c.hasLit r)

def ctxOfCaller (c : Win.Caller) : Ctx :=
  let v := fun r => ((c.vals.get r).getD 0).toNat
  { ip := v "eip", sp := v "esp",
    rest := (Win.x86Regs.filter fun r => r ≠ "eip" ∧ r ≠ "esp").map fun r => (r, v r),
    valid := some c.valid }

def cfiOutOfCaller (c : Win.Caller) : CfiOut :=
  { ctx := { ctxOfCaller c with valid := none }, valid := c.valid }

/-- x86 `get_caller_by_cfi` through `SymbolFile::walk_frame` with STACK WIN records -/
def cfiWalkW (w : World) (mtbl : List RangeMap.Entry) (ctbls : List (List RangeMap.Entry))
    (wts : List WinTables) (mem : Mem) (callee : Frame) (grand : Option Frame) : Option Ctx :=
  match moduleAt mtbl callee.instruction with
  | none => none
  | some i =>
    match w.mods[i]?, (w.syms[i]?).join, ctbls[i]? with
    | some m, some sf, some ct =>
      if callee.instruction < m.base then none
      else
        let addr := callee.instruction - m.base
        let wt := wts[i]?.getD WinTables.empty
        let (fd, fpo) := wt.at addr
        match Win.winResult Win.clearNamesActual fd fpo (winWalker mem callee grand) (callerOfCtx callee.ctx) with
        | .panic _ => none
        | .ok (true, c) => some (ctxOfCaller c)
        | .ok (false, c) =>
          -- STACK CFI on the walker as STACK WIN left it
          let o := cfiOutOfCaller c
          (walkFrameCfi sf ct m.base { arch := .x86, callee := callee.ctx, mem := mem }
            { o with ctx := { o.ctx with valid := callee.ctx.valid } } callee.instruction).map fun o =>
              { o.ctx with valid := some o.valid }
    | _, _, _ => none

/-- has the module list any STACK WIN record at all? -/
def noWins (wins : List (List Win.Rec)) : Bool := wins.all fun l => l.isEmpty

def cfiOfW (arch : Arch) (w : World) (mtbl : List RangeMap.Entry) (ctbls : List (List RangeMap.Entry))
    (wts : List WinTables) (mask : Nat) (mem : Mem) (callee : Frame) (grand : Option Frame) : Option Ctx :=
  if effArch arch callee.ctx = .x86 then
    if !callee.ctx.hasLit "esp" then none
    else cfiWalkW w mtbl ctbls wts mem callee grand
  else cfiOf arch w mtbl ctbls mask mem callee grand

/-- The environment of a concrete walk whose symbol files may carry STACK WIN records
    (`wins`: per module, by position). -/
def mkEnvW (arch : Arch) (os : Os) (w : World) (wins : List (List Win.Rec)) (mem : Mem) : Env :=
  let mtbl := modTable w.mods
  let ftbls := w.syms.map fun s => match s with
    | some sf => funcTable sf
    | none => []
  let ctbls := cfiTables w
  let wts := wins.map winTables
  let bits := if arch = .arm64old then Consts.arm64old_ptrauth_bits else Consts.arm64_ptrauth_bits
  let mask := ptrAuthMask w mtbl bits
  { arch := arch, os := os,
    cfi := cfiOfW arch w mtbl ctbls wts mask mem,
    instrOk := instrOkOf w mtbl ftbls,
    symb := symbOfW w mtbl ftbls wts,
    mask := mask }

end MdModel.Walk
