/-
  MdModel.Walk.Cfi — `get_caller_by_cfi` for STACK CFI records:

    per-arch get_caller_by_cfi            amd64.rs:26 x86.rs:22 arm.rs:26 arm64.rs:28 mips.rs:21
    CfiStackWalker (FrameWalker impl)     lib.rs:553-655
    SymbolFile::walk_frame (CFI part)     sym_file/mod.rs:496-527
    walk_with_stack_cfi, parse_cfi_exprs, eval_cfi_expr      sym_file/walker.rs:493-738

  STACK WIN records are not part of this model (property C07 models their evaluator); the
  `walk`/`chain` engines only compare walks whose symbol files carry no STACK WIN record.
  C05's theorems do not depend on this file: there the whole of `get_caller_by_cfi` is an
  arbitrary function (`Env.cfi`).
-/
import MdModel.Walk.Sym
namespace MdModel.Walk
open MdModel

inductive CfiReg where
  | cfa | ra | other (name : String)
  deriving DecidableEq, Repr

/-! The lexer works on the characters of a line (`String.toList`) with structural recursion only,
    so that it also reduces inside the kernel: C04's non-vacuity examples evaluate the
    precondition — which tokenizes the rule text of concrete records — by `decide`. -/

def isWs (c : Char) : Bool := c = ' ' || c = '\t' || c = '\n' || c = '\r' || c = '\x0c'

/-- `cur` = the characters of the piece being read, reversed -/
def splitWsAux : List Char → List Char → List (List Char)
  | [], cur => if cur.isEmpty then [] else [cur.reverse]
  | c :: rest, cur =>
    if isWs c then (if cur.isEmpty then splitWsAux rest [] else cur.reverse :: splitWsAux rest [])
    else splitWsAux rest (c :: cur)

/-- `split_ascii_whitespace`, on characters -/
def splitWsL (cs : List Char) : List (List Char) := splitWsAux cs []

/-- `split_ascii_whitespace` -/
def splitWs (s : String) : List String := (splitWsL s.toList).map String.ofList

/-- `i64::from_str`, result as the `u64` bit pattern (`value as u64`) -/
def parseI64L (cs : List Char) : Option Nat :=
  let (neg, ds) : Bool × List Char :=
    match cs with
    | '-' :: t => (true, t)
    | '+' :: t => (false, t)
    | _ => (false, cs)
  if ds.isEmpty ∨ !(ds.all Char.isDigit) then none
  else
    let v := ds.foldl (fun acc c => acc * 10 + (c.toNat - '0'.toNat)) 0
    if neg then (if v ≤ 2 ^ 63 then some ((2 ^ 64 - v) % 2 ^ 64) else none)
    else (if v < 2 ^ 63 then some v else none)

def parseI64 (s : String) : Option Nat := parseI64L s.toList

/-! ### tokens

  `parse_cfi_exprs` and `eval_cfi_expr` look at one whitespace-separated token at a time, and what
  they do with a token depends on its text only. The model therefore classifies every token once
  (`classify`, in the order of the `match` in `eval_cfi_expr`; `classifyR` adds the `REG:` test of
  `parse_cfi_exprs`) and lets the splitter and the evaluator work on the classified tokens — the
  same computation, with the lexing separated from the evaluation (which is what C04's theorems
  about the canonical rules need: `Pre` compares `tokenize rule` with the canonical token list). -/

/-- a token of an expression -/
inductive ETok where
  | add | sub | mul | div | rem | align | deref | cfa | undef
  /-- a token containing `$`: the register named by the text after the first `$` -/
  | dollar (name : String)
  /-- `i64::from_str` succeeded (value as the `u64` bit pattern) -/
  | lit (v : Nat)
  /-- anything else: a bare register name -/
  | bare (name : String)
  deriving DecidableEq, Repr

/-- the `match token { … }` of `eval_cfi_expr`, in the code's order -/
def classifyL (tok : List Char) : ETok :=
  if tok = ['+'] then .add
  else if tok = ['-'] then .sub
  else if tok = ['*'] then .mul
  else if tok = ['/'] then .div
  else if tok = ['%'] then .rem
  else if tok = ['@'] then .align
  else if tok = ['^'] then .deref
  else if tok = ['.', 'c', 'f', 'a'] then .cfa
  else if tok = ['.', 'u', 'n', 'd', 'e', 'f'] then .undef
  else if tok.contains '$' then .dollar (String.ofList ((tok.dropWhile (· ≠ '$')).drop 1))
  else match parseI64L tok with
    | some v => .lit v
    | none => .bare (String.ofList tok)

def classify (tok : String) : ETok := classifyL tok.toList

def mkCfiRegL (tok : List Char) : CfiReg :=
  if tok = ['.', 'c', 'f', 'a'] then .cfa else if tok = ['.', 'r', 'a'] then .ra
  else match tok with
    | '$' :: t => .other (String.ofList t)
    | _ => .other (String.ofList tok)

def mkCfiReg (tok : String) : CfiReg := mkCfiRegL tok.toList

/-- a token of a rule set: `REG:` or an expression token -/
inductive RTok where
  | label (r : CfiReg)
  | tok (t : ETok)
  deriving DecidableEq, Repr

def classifyRL (tok : List Char) : RTok :=
  if tok.getLast? = some ':' then .label (mkCfiRegL tok.dropLast) else .tok (classifyL tok)

def classifyR (tok : String) : RTok := classifyRL tok.toList

/-- the classified tokens of a `STACK CFI` rule text -/
def tokenize (line : String) : List RTok := (splitWsL line.toList).map classifyRL

def ruleSet (out : List (CfiReg × List ETok)) (r : CfiReg) (e : List ETok) : List (CfiReg × List ETok) :=
  match out with
  | [] => [(r, e)]
  | (r', e') :: t => if r' = r then (r, e) :: t else (r', e') :: ruleSet t r e

/-- `parse_cfi_exprs`: `cur` = register being defined, `expr` = its tokens so far (reversed) -/
def parseRules : List RTok → Option CfiReg → List ETok → List (CfiReg × List ETok) →
    Option (List (CfiReg × List ETok))
  | [], cur, expr, out =>
    if expr.isEmpty then none
    else match cur with
      | none => none
      | some r => some (ruleSet out r expr.reverse)
  | .label name :: rest, cur, expr, out =>
    match cur with
    | some r =>
      if expr.isEmpty then none
      else parseRules rest (some name) [] (ruleSet out r expr.reverse)
    | none => parseRules rest (some name) [] out
  | .tok t :: rest, cur, expr, out =>
    match cur with
    | none => none
    | some _ => parseRules rest cur (t :: expr) out

def isPow2 (n : Nat) : Bool := n != 0 && (n &&& (n - 1)) == 0

/-- the state `eval_cfi_expr` reads: callee registers and stack memory -/
structure CfiIn where
  arch : Arch
  callee : Ctx
  mem : Mem

def CfiIn.reg (x : CfiIn) (name : String) : Option Nat := x.callee.get x.arch name
def CfiIn.deref (x : CfiIn) (addr : Nat) : Option Nat :=
  x.mem.read addr (if x.arch.regMax = U32MAX then 4 else 8)

def W64 : Nat := 2 ^ 64

/-- `eval_cfi_expr` -/
def evalCfi (x : CfiIn) (cfa : Option Nat) : List ETok → List Nat → Option Nat
  | [], st => match st with
    | [v] => some v
    | _ => none
  | tok :: rest, st =>
    let bin (f : Nat → Nat → Option Nat) : Option Nat :=
      match st with
      | rhs :: lhs :: st' => match f lhs rhs with
        | some v => evalCfi x cfa rest (v :: st')
        | none => none
      | _ => none
    match tok with
    | .add => bin fun l r => some ((l + r) % W64)
    | .sub => bin fun l r => some ((l + W64 - r) % W64)
    | .mul => bin fun l r => some ((l * r) % W64)
    | .div => bin fun l r => if r = 0 then none else some (l / r)
    | .rem => bin fun l r => if r = 0 then none else some (l % r)
    | .align => bin fun l r => if isPow2 r then some (l - l % r) else none
    | .deref =>
      match st with
      | p :: st' => match x.deref p with
        | some v => evalCfi x cfa rest (v :: st')
        | none => none
      | _ => none
    | .cfa =>
      match cfa with
      | some v => evalCfi x cfa rest (v :: st)
      | none => none
    | .undef => none
    | .dollar name | .bare name =>
      match x.reg name with
      | some v => evalCfi x cfa rest (v :: st)
      | none => none
    | .lit v => evalCfi x cfa rest (v :: st)

/-- `CfiStackWalker`'s mutable half: caller registers and the caller validity set -/
structure CfiOut where
  ctx : Ctx
  valid : List String

def setInsert (l : List String) (s : String) : List String := if l.contains s then l else l ++ [s]

/-- `set_caller_register`: `none` for an unknown name or a value the register cannot hold -/
def CfiOut.setReg (a : Arch) (o : CfiOut) (name : String) (v : Nat) : Option CfiOut :=
  match a.canon name with
  | none => none
  | some m =>
    if v > a.regMax then none
    else match o.ctx.set a name v with
      | some c => some { ctx := c, valid := setInsert o.valid m }
      | none => none

/-- `clear_caller_register` -/
def CfiOut.clearReg (a : Arch) (o : CfiOut) (name : String) : CfiOut :=
  match a.canon name with
  | none => o
  | some m => { o with valid := o.valid.filter (· ≠ m) }

def otherRules (rs : List (CfiReg × List ETok)) : List (String × List ETok) :=
  rs.filterMap fun (r, e) => match r with
    | .other n => some (n, e)
    | _ => none

def strLe (a b : String) : Bool := a < b || a == b

/-- `walk_with_stack_cfi` -/
def walkCfi (x : CfiIn) (o : CfiOut) (init : String) (adds : List String) : Option CfiOut :=
  let a := x.arch
  -- later definitions of a register override earlier ones
  let parsed := (init :: adds).foldl (fun acc line => acc.bind fun out => parseRules (tokenize line) none [] out) (some [])
  match parsed with
  | none => none
  | some rs =>
    match rs.lookup .cfa, rs.lookup .ra with
    | some cfaE, some raE =>
      match evalCfi x none cfaE [] with
      | none => none
      | some cfa =>
        match evalCfi x (some cfa) raE [] with
        | none => none
        | some ra =>
          -- `set_cfa(cfa)?; set_ra(ra)?` — both must fit the register width
          if cfa > a.regMax ∨ ra > a.regMax then none
          else
            let o := { o with ctx := { o.ctx with sp := cfa, ip := ra },
                              valid := setInsert (setInsert o.valid a.spName) a.ipName }
            let others := (otherRules rs).mergeSort fun p q => strLe p.1 q.1
            some (others.foldl (fun o (n, e) =>
              match evalCfi x (some cfa) e [] with
              | some v =>
                -- a value that does not fit is a failed rule too (fix 15b778b): clear, do not forward
                (match o.setReg a n v with
                 | some o' => o'
                 | none => o.clearReg a n)
              | none => o.clearReg a n) o)
    | _, _ => none

/-- `callee_forwarded_regs`: x86 / x86-64 / MIPS test `which.contains(reg)`; the three ARM
    unwinders go through `register_is_valid` (fix of F28), so that a frame pointer recorded under
    its other name (`r11` / `x29`, as the frame-pointer unwinder does) is forwarded too -/
def forwarded (a : Arch) (c : Ctx) : List String :=
  match a with
  | .arm | .arm64 | .arm64old => a.calleeSaved.filter fun r => c.has a r
  | _ => a.calleeSaved.filter fun r => c.hasLit r

/-- derived `Ord` of `CfiRules`: `(address, rules)` -/
def addLe (p q : Nat × String) : Bool := p.1 < q.1 || (p.1 == q.1 && strLe p.2 q.2)

/-- `SymbolFile::walk_frame`, STACK CFI part -/
def walkFrameCfi (sf : SymFile) (ctbl : List RangeMap.Entry) (modBase : Nat) (x : CfiIn) (o : CfiOut)
    (instr : Nat) : Option CfiOut :=
  if instr < modBase then none
  else
    let addr := instr - modBase
    match RangeMap.get ctbl addr with
    | none => none
    | some i => match sf.cfis[i]? with
      | none => none
      | some rec =>
        let adds := (rec.adds.mergeSort addLe).takeWhile fun p => p.1 ≤ addr
        walkCfi x o rec.init (adds.map (·.2))

/-- module of the callee's lookup address, its symbol file, `SymbolFile::walk_frame` on a fresh
    `CfiStackWalker` -/
def cfiWalk (a : Arch) (w : World) (mtbl : List RangeMap.Entry) (ctbls : List (List RangeMap.Entry))
    (mem : Mem) (callee : Frame) : Option CfiOut :=
  match moduleAt mtbl callee.instruction with
  | none => none
  | some i =>
    match w.mods[i]?, (w.syms[i]?).join, ctbls[i]? with
    | some m, some sf, some ct =>
      walkFrameCfi sf ct m.base { arch := a, callee := callee.ctx, mem := mem }
        { ctx := callee.ctx, valid := forwarded a callee.ctx } callee.instruction
    | _, _, _ => none

/-- `get_caller_by_cfi` of every architecture -/
def cfiOf (arch : Arch) (w : World) (mtbl : List RangeMap.Entry) (ctbls : List (List RangeMap.Entry))
    (mask : Nat) (mem : Mem) (callee : Frame) (_grand : Option Frame) : Option Ctx :=
  let a := effArch arch callee.ctx
  let c := callee.ctx
  let spOk : Bool :=
    match a with
    | .x86 => c.hasLit "esp"
    | .amd64 => c.hasLit "rsp"
    | .arm => c.has a "r13"
    | _ => c.has a "sp"
  if !spOk then none
  else match cfiWalk a w mtbl ctbls mem callee with
    | none => none
    | some o =>
      let r : Ctx := { o.ctx with valid := some o.valid }
      match a with
      | .arm64 | .arm64old =>
        -- ptr-auth stripping of pc, and of lr / fp when they are valid
        let r := { r with ip := r.ip &&& mask }
        let r := if r.has a "x30" then (r.set a "x30" (r.raw a "x30" &&& mask)).getD r else r
        let r := if r.has a "x29" then (r.set a "x29" (r.raw a "x29" &&& mask)).getD r else r
        some r
      | _ => some r

/-- the CFI range table of every module's symbol file (by module position) -/
def cfiTables (w : World) : List (List RangeMap.Entry) :=
  w.syms.map fun s => match s with
    | some sf => cfiTable sf
    | none => []

/-- The environment of a concrete walk: modules, symbol records, stack memory. -/
def mkEnv (arch : Arch) (os : Os) (w : World) (mem : Mem) : Env :=
  let mtbl := modTable w.mods
  let ftbls := w.syms.map fun s => match s with
    | some sf => funcTable sf
    | none => []
  let ctbls := cfiTables w
  let bits := if arch = .arm64old then Consts.arm64old_ptrauth_bits else Consts.arm64_ptrauth_bits
  let mask := ptrAuthMask w mtbl bits
  { arch := arch, os := os,
    cfi := cfiOf arch w mtbl ctbls mask mem,
    instrOk := instrOkOf w mtbl ftbls,
    symb := symbOf w mtbl ftbls,
    mask := mask }

end MdModel.Walk
