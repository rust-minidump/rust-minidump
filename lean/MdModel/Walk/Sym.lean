/-
  MdModel.Walk.Sym — module lists and symbol records as the walker sees them:

    MinidumpModuleList::{from_modules, module_at_address, by_addr}     minidump.rs:1473-1513
    SymbolFile::fill_symbol (FUNC lookup, PUBLIC fallback)              sym_file/mod.rs:341-494
    instruction_seems_valid_by_symbols                                  lib.rs:825-906
    fill_source_line_info                                               lib.rs:681-703
    ptr_auth_strip's mask                                               arm64.rs:230-286

  Range tables are the ones of `MdModel.RangeMap` (property C08). A symbol file is a list of
  records (`FUNC`, `PUBLIC`, `STACK CFI INIT` with its `STACK CFI` lines); turning symbol *text* into
  records is the parser's business (C09/C10) — the harness renders the same records to text.
-/
import MdModel.Walk.Unwind
import MdModel.RangeMap
namespace MdModel.Walk
open MdModel

structure Module where
  base : Nat
  size : Nat
  name : String
  deriving Repr, Inhabited

structure FuncRec where
  addr : Nat
  size : Nat
  psize : Nat
  name : String
  deriving Repr, Inhabited

structure PubRec where
  addr : Nat
  psize : Nat
  name : String
  deriving Repr, Inhabited

/-- `STACK CFI INIT addr size rules` followed by its `STACK CFI addr rules` lines -/
structure CfiRec where
  addr : Nat
  size : Nat
  init : String
  adds : List (Nat × String)
  deriving Repr, Inhabited

structure SymFile where
  funcs : List FuncRec := []
  pubs : List PubRec := []
  cfis : List CfiRec := []
  deriving Repr, Inhabited

/-- `modules_by_addr`: `(module.memory_range(), index)` through `into_rangemap_safe` -/
def modTable (mods : List Module) : List RangeMap.Entry :=
  RangeMap.safeVec (mods.zipIdx.map fun (m, i) => (RangeMap.mkRange m.base m.size, i))

/-- `module_at_address` (index into the module list) -/
def moduleAt (tbl : List RangeMap.Entry) (a : Nat) : Option Nat := RangeMap.get tbl a

/-- `SymbolFile::functions`: FUNC records with a `memory_range()`, through the parser's
    `into_rangemap_safe`; the value is the index of the record. -/
def funcTable (sf : SymFile) : List RangeMap.Entry :=
  RangeMap.safeVecP (sf.funcs.zipIdx.filterMap fun (f, i) =>
    (RangeMap.mkRange f.addr f.size).map fun r => (r, i))

/-- `SymbolFile::cfi_stack_info` -/
def cfiTable (sf : SymFile) : List RangeMap.Entry :=
  RangeMap.safeVecP (sf.cfis.zipIdx.filterMap fun (c, i) =>
    (RangeMap.mkRange c.addr c.size).map fun r => (r, i))

/-- derived `Ord` of `PublicSymbol`: `(address, name, parameter_size)` -/
def pubLe (p q : PubRec) : Bool :=
  p.addr < q.addr || (p.addr == q.addr && (p.name < q.name || (p.name == q.name && p.psize ≤ q.psize)))

/-- `find_nearest_public`: the last symbol, in sorted order, whose address is `≤ addr` -/
def nearestPublic (pubs : List PubRec) (addr : Nat) : Option PubRec :=
  pubs.foldl (fun best p =>
    if p.addr ≤ addr then
      match best with
      | none => some p
      | some b => if pubLe b p then some p else some b
    else best) none

/-- the FUNC nearest below `addr` in the function table (`binary_search_by_key(range.start)` then `idx - 1`):
    the last table entry whose start is `< addr` -/
def prevFunc (tbl : List RangeMap.Entry) (addr : Nat) : Option Nat :=
  tbl.foldl (fun best e => if e.1.lo < addr then some e.2 else best) none

/-- the PUBLIC is cut short by a FUNC that starts after it and before `addr`
    (`public.address <= prev_func.address` ⇒ do not use it) -/
def pubTruncated (sf : SymFile) (ftbl : List RangeMap.Entry) (addr : Nat) (p : PubRec) : Bool :=
  match prevFunc ftbl addr with
  | none => false
  | some i => match sf.funcs[i]? with
    | some f => decide (p.addr ≤ f.addr)
    | none => false

/-- `SymbolFile::fill_symbol` as far as the function is concerned. -/
def fillSymbol (sf : SymFile) (ftbl : List RangeMap.Entry) (modBase instr : Nat) : Option FuncInfo :=
  if instr < modBase then none
  else
    let addr := instr - modBase
    match RangeMap.get ftbl addr with
    | some i =>
      match sf.funcs[i]? with
      | some f => some { name := f.name, base := f.addr + modBase, psize := f.psize }
      | none => none
    | none =>
      match nearestPublic sf.pubs addr with
      | none => none
      | some p =>
        if pubTruncated sf ftbl addr p then none
        else some { name := p.name, base := p.addr + modBase, psize := p.psize }

/-- modules, and per module (by position) its symbol file if the supplier has one -/
structure World where
  mods : List Module
  syms : List (Option SymFile)
  deriving Inhabited

/-- `fill_source_line_info`: module index and function of an instruction address -/
def symbOf (w : World) (mtbl : List RangeMap.Entry) (ftbls : List (List RangeMap.Entry)) (instr : Nat) :
    Option Nat × Option FuncInfo :=
  match moduleAt mtbl instr with
  | none => (none, none)
  | some i =>
    match w.mods[i]?, (w.syms[i]?).join, ftbls[i]? with
    | some m, some sf, some ft => (some i, fillSymbol sf ft m.base instr)
    | _, _, _ => (some i, none)

/-- `instruction_seems_valid_by_symbols` -/
def instrOkOf (w : World) (mtbl : List RangeMap.Entry) (ftbls : List (List RangeMap.Entry)) (ip : Nat) : Bool :=
  let a := ip - 1          -- `saturating_sub(1)`
  if a = 0 then false
  else match moduleAt mtbl a with
    | none => false
    | some i =>
      match w.mods[i]?, (w.syms[i]?).join, ftbls[i]? with
      | some m, some sf, some ft =>
        (match fillSymbol sf ft m.base a with
         | some f => f.name ≠ ""
         | none => false)
      | _, _, _ => true     -- no symbols for the module: assume valid

def pow2Ge (n : Nat) : Nat → Nat → Nat
  | 0, p => p
  | k + 1, p => if p ≥ n then p else pow2Ge n k (2 * p)

/-- `ptr_auth_strip`: mask from the module that is last by address (its own `base + size`,
    saturating) and the Apple default of 47 bits; `checked_next_power_of_two` overflow ⇒ all ones. -/
def ptrAuthMask (w : World) (mtbl : List RangeMap.Entry) (bits : Nat) : Nat :=
  let maxMod : Nat :=
    match mtbl.getLast? with
    | none => 0
    | some e => match w.mods[e.2]? with
      | some m => min (m.base + m.size) U64MAX
      | none => 0
  let maxAddr := max (2 ^ bits - 1) maxMod
  let p := pow2Ge maxAddr 64 1
  if p ≥ maxAddr ∧ p ≤ U64MAX then p - 1 else U64MAX

end MdModel.Walk
