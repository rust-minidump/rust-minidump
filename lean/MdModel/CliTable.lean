/-
  MdModel.CliTable — decision table of `minidump-stackwalk`'s `main_result`
  (minidump-stackwalk/src/main.rs:355-541): output-mode munging, the two validity tests,
  writer selection and exit status. Everything below `process_minidump_with_options` and the
  printers is *not* modelled here: a `Report` is a name for the bytes the library produces
  (`ProcessState::print`, `print_brief`, `print_json(pretty)`, and the raw-dump printers), which
  the engine `cli` computes in-process on the same file and options.
-/
import MdModel.Prelude
namespace MdModel.Cli

/-- the flags that take part in the decision (clap's `output-format` group + `--brief`/`--pretty`) -/
structure Flags where
  human : Bool
  json : Bool
  cyborg : Bool      -- `--cyborg <path>` given
  dump : Bool
  brief : Bool
  pretty : Bool
  deriving DecidableEq, Repr

/-- what the file given as the minidump turns out to be -/
inductive Input where
  | unreadable      -- missing, a directory, empty, not a minidump: `Minidump::read_path` fails
  | unprocessable   -- readable, but `process_minidump_with_options` returns an error
  | ok
  deriving DecidableEq, Repr

inductive Report where
  | human | humanBrief | json | jsonPretty | dump | dumpBrief
  deriving DecidableEq, Repr

inductive Outcome where
  | usage                                   -- clap rejects the command line (exit status 2)
  | exit1                                   -- diagnostic, no report
  | exit0 (primary cyborg : List Report)    -- reports written to the primary output / the cyborg file
  deriving DecidableEq, Repr

def b2n (b : Bool) : Nat := if b then 1 else 0

/-- clap's `ArgGroup "output-format"`: at most one of the members may be given -/
def groupCount (f : Flags) : Nat := b2n f.human + b2n f.json + b2n f.cyborg + b2n f.dump

/-- main.rs:355-541, transcribed. -/
def cli (f : Flags) (i : Input) : Outcome :=
  if groupCount f > 1 then .usage else
  let rawDump := f.dump
  let json0 := f.json
  let human0 := !json0 && !rawDump
  -- "Cyborg is just desugarred to --json --human"
  let human := if f.cyborg then true else human0
  let json := if f.cyborg then true else json0
  if f.pretty && !json then .exit1            -- "Humans must be hideous!"
  else if f.brief && !(human || rawDump) then .exit1   -- "Robots cannot be brief!"
  else
    match i with
    | .unreadable => .exit1                   -- "Error reading dump"
    | _ =>
      if rawDump then .exit0 [if f.brief then .dumpBrief else .dump] []
      else
        match i with
        | .unprocessable => .exit1            -- "Error processing dump"
        | _ =>
          let h := if human then [if f.brief then Report.humanBrief else Report.human] else []
          let j := if json then [if f.pretty then Report.jsonPretty else Report.json] else []
          if f.cyborg then .exit0 h j else .exit0 (h ++ j) []

/-! ### The documented behaviour, written independently from the option documentation
    (`--help` text of each flag), as a table over the *mode*. -/

inductive Mode where
  | human | json | cyborg | dump
  deriving DecidableEq, Repr

/-- "Emit a human-readable report (the default)"; the four formats are mutually exclusive -/
def modeOf (f : Flags) : Option Mode :=
  match f.human, f.json, f.cyborg, f.dump with
  | false, false, false, false => some .human
  | true, false, false, false => some .human
  | false, true, false, false => some .json
  | false, false, true, false => some .cyborg
  | false, false, false, true => some .dump
  | _, _, _, _ => none

def spec (f : Flags) (i : Input) : Outcome :=
  match modeOf f with
  | none => .usage
  | some m =>
    -- "Pretty-print --json output": only meaningful where JSON is produced
    if f.pretty && !(m = .json || m = .cyborg) then .exit1
    -- "Provide a briefer --human or --dump report": not for JSON alone
    else if f.brief && m = .json then .exit1
    else
      match m, i with
      | _, .unreadable => .exit1
      | .dump, _ => .exit0 [if f.brief then .dumpBrief else .dump] []
      | _, .unprocessable => .exit1
      | .human, .ok => .exit0 [if f.brief then .humanBrief else .human] []
      | .json, .ok => .exit0 [if f.pretty then .jsonPretty else .json] []
      -- "Combine --human and --json … The --human output will be the 'primary' output"
      | .cyborg, .ok => .exit0 [if f.brief then .humanBrief else .human]
                               [if f.pretty then .jsonPretty else .json]

/-! ### line protocol:  `cli <flags> <input>`   flags = subset of `hjcdbp` or `-`; input ∈ unreadable|unprocessable|ok
    answer: `usage` | `exit1` | `exit0 primary:<r+r|-> cyborg:<r|->` -/

def Report.name : Report → String
  | .human => "human" | .humanBrief => "human-brief" | .json => "json"
  | .jsonPretty => "json-pretty" | .dump => "dump" | .dumpBrief => "dump-brief"

def Outcome.render : Outcome → String
  | .usage => "usage"
  | .exit1 => "exit1"
  | .exit0 p c =>
    let show' (rs : List Report) := if rs.isEmpty then "-" else "+".intercalate (rs.map Report.name)
    s!"exit0 primary:{show' p} cyborg:{show' c}"

def parseFlags (s : String) : Option Flags :=
  if s == "-" then some ⟨false, false, false, false, false, false⟩
  else if s.toList.all (fun c => "hjcdbp".toList.contains c) then
    let has (c : Char) := s.toList.contains c
    some ⟨has 'h', has 'j', has 'c', has 'd', has 'b', has 'p'⟩
  else none

def parseInput : String → Option Input
  | "unreadable" => some .unreadable
  | "unprocessable" => some .unprocessable
  | "ok" => some .ok
  | _ => none

def handleTab (args : List String) : String :=
  match args with
  | [fs, inp] =>
    match parseFlags fs, parseInput inp with
    | some f, some i => (cli f i).render
    | _, _ => "bad-op"
  | _ => "bad-op"

end MdModel.Cli
