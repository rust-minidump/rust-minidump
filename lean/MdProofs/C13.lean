/-
  C13 — Processing is deterministic and independent of scheduling.

  Property text: "Processing the same minidump with the same symbols always yields byte-identical
  JSON and text reports, across repeated runs and regardless of the order and timing in which the
  symbol requests of the concurrently walked threads complete."

  Two sources can make two runs of one input differ: (a) the per-process random iteration order
  of `HashMap`/`HashSet` ("repeated runs": fresh hash seeds), (b) the order in which the
  concurrently walked threads' symbol requests complete ("order and timing"). Every place of the
  report pipeline where such an order is consumed is modelled in `MdModel.Det` with the order as an
  explicit parameter — an ARBITRARY permutation of the container's entries, an ARBITRARY completion
  order — and the theorems below state that the produced piece of the report does not depend on
  it, for containers of any size.

  For each, the NEGATION for the order-consuming variant (the code before its `fix:` commit, or
  the mutation the check must catch) is proved with a concrete witness, so the theorems are not
  vacuous and document what the repairs repaired. §5 needs a hypothesis — modules with one file
  leaf name have one symbol outcome — and `stats_order_dependent` proves that without it the
  report DOES depend on the completion order: that is the genuine residual defect F16
  (`known_findings.d/C13.json`), reproduced on the real code by engine `det`. §6 was a second
  defect found by this check (a dual-signed module's `cert_subject` depended on the hash seed,
  `cert_unsorted_order_dependent`), repaired by fix 2943e9c; `cert_order_free` is unconditional.

  The models are the ones the compiled driver executes; engine `det` compares them on every run
  with the real renderer / walker / processor, fed with the REAL iteration orders of the real
  containers and the REAL completion order of the supplier calls.
-/
import MdProofs.Lemmas.Det
import MdProofs.Lemmas.DetCfi
import MdProofs.C12
namespace MdModel.Det
open MdModel MdModel.Gen.Regs

abbrev nCpu : List Nat := [77, 97, 120, 32, 99, 112, 117, 32, 116, 105, 109, 101]  -- "Max cpu time"
abbrev nFiles : List Nat := [77, 97, 120, 32, 111, 112, 101, 110, 32, 102, 105, 108, 101, 115]  -- "Max open files"
abbrev nFp : List Nat := [102, 112]  -- "fp"
abbrev nX29 : List Nat := [120, 50, 57]  -- "x29"
abbrev nX19 : List Nat := [120, 49, 57]  -- "x19"
abbrev nX20 : List Nat := [120, 50, 48]  -- "x20"
abbrev nSp : List Nat := [115, 112]  -- "sp"
abbrev nPc : List Nat := [112, 99]  -- "pc"
abbrev nX30 : List Nat := [120, 51, 48]  -- "x30"
abbrev nLr : List Nat := [108, 114]  -- "lr"
abbrev nR11 : List Nat := [114, 49, 49]  -- "r11"
abbrev nR13 : List Nat := [114, 49, 51]  -- "r13"
abbrev nR14 : List Nat := [114, 49, 52]  -- "r14"
abbrev nR15 : List Nat := [114, 49, 53]  -- "r15"
abbrev nBogus : List Nat := [98, 111, 103, 117, 115]  -- "bogus"
abbrev nXdll : List Nat := [120, 46, 100, 108, 108]  -- "x.dll"
abbrev nYdll : List Nat := [121, 46, 100, 108, 108]  -- "y.dll"

/-- `slice::sort_by` is only assumed to return a sorted permutation of its input: for map entries
    (pairwise distinct keys) every such function agrees with the model's insertion sort. -/
theorem sort_unique {β : Type} (l out : List (List Nat × β)) (nd : (l.map (·.1)).Nodup)
    (hperm : out.Perm l) (hsorted : out.Pairwise (fun a b => keyLe a b = true)) :
    out = isort keyLe l :=
  eq_isort_keyLe nd hperm hsorted

/-- non-vacuity of `sort_unique`'s hypotheses: a sorted arrangement of a two-entry map. -/
example :
    let l : List (List Nat × Nat) := [(nFiles, 1024), (nCpu, 0)]
    let out : List (List Nat × Nat) := [(nCpu, 0), (nFiles, 1024)]
    (l.map (·.1)).Nodup ∧ out.Pairwise (fun a b => keyLe a b = true) ∧ out = isort keyLe l := by
  decide +kernel

/-! ## 1. "byte-identical JSON … across repeated runs": the `/proc/limits` section -/

/-- **C13.1** `limits_render_perm`: the `"limits"` array is the same for every iteration order of
    the `HashMap` (`iter'` is any permutation of `iter`; keys of a map are pairwise distinct). -/
theorem limits_render_perm {β γ : Type} (json : LimitEntry β → γ) (iter iter' : List (LimitEntry β))
    (nd : (iter.map (·.1)).Nodup) (hp : iter.Perm iter') :
    renderLimits json iter' = renderLimits json iter := by
  unfold renderLimits
  rw [isort_keyLe_perm nd hp]

/-- what the array is: the entries in ascending name order (a permutation of the map, sorted) -/
theorem limits_render_sorted {β : Type} (iter : List (LimitEntry β)) :
    (isort keyLe iter).Perm iter ∧ (isort keyLe iter).Pairwise (fun a b => lexLe a.1 b.1 = true) :=
  ⟨isort_perm keyLe iter,
   isort_sorted keyLe (fun a b => lexLe_total a.1 b.1) (fun _ _ _ => lexLe_trans) iter⟩

/-- the renderer before fix 55811f9 (F14) DID depend on the iteration order: two limits suffice. -/
theorem limits_unsorted_order_dependent :
    ∃ iter iter' : List (LimitEntry Nat), (iter.map (·.1)).Nodup ∧ iter.Perm iter' ∧
      renderLimitsUnsorted id iter' ≠ renderLimitsUnsorted id iter :=
  ⟨[(nCpu, 0), (nFiles, 1024)], [(nFiles, 1024), (nCpu, 0)],
   by decide, List.Perm.swap _ _ _, by decide⟩

/-- non-vacuity of `limits_render_perm` on that witness: both orders render alike, sorted. -/
example :
    renderLimits id [(nFiles, 1024), (nCpu, 0)] = renderLimits id [(nCpu, 0), (nFiles, 1024)] ∧
    renderLimits id [(nFiles, 1024), (nCpu, 0)] = [(nCpu, 0), (nFiles, 1024)] := by
  decide +kernel

/-! ## 2. "across repeated runs": registers recovered by the remaining STACK CFI rules -/

/-- **C13.2** `cfi_rules_order_free`: the caller register file after the remaining-register loop is
    the same for every iteration order of the rule map — for EVERY label table `W.canon` (any
    function from labels to registers: every alias relation, equivalence or not) and with NO
    hypothesis on aliasing: two labels may denote one register (`fp`/`x29`, `r11`/`fp`, `r13`/`sp`
    …); the sort by label makes the later NAME win. -/
theorem cfi_rules_order_free (W : Walker) (s : Regs) (iter iter' : List Rule)
    (nd : (iter.map (·.1)).Nodup) (hp : iter.Perm iter') :
    walkRest W s iter' = walkRest W s iter := by
  unfold walkRest
  rw [isort_keyLe_perm nd hp]

/-- … in particular for the table of each of the nine CPU contexts, as generated from
    minidump/src/context.rs by translators/regs.py (`MdModel.Gen.Regs`, interpreted by
    `MdModel.Regs.memoize`, C18): X86, AMD64, ARM (`r11`/`fp`, `r13`/`sp`, `r14`/`lr`, `r15`/`pc`),
    ARM64 and ARM64_OLD (`x29`/`fp`, `x30`/`lr`), PPC, PPC64, MIPS, SPARC (`o0`…`i7` window names). -/
theorem cfi_rules_order_free_cpu (c : Gen.Regs.Ctx) (s : Regs) (iter iter' : List Rule)
    (nd : (iter.map (·.1)).Nodup) (hp : iter.Perm iter') :
    walkRest (cpu c) s iter' = walkRest (cpu c) s iter :=
  cfi_rules_order_free (cpu c) s iter iter' nd hp

/-- the alias pairs of the generated tables really are aliases in the model (so the statement
    above is not about an alias-free table): canonical register = position in `REGISTERS` -/
example :
    canonCpu .ARM nR11 = some 12 ∧ canonCpu .ARM nFp = some 12 ∧
    canonCpu .ARM nR13 = some 13 ∧ canonCpu .ARM nSp = some 13 ∧
    canonCpu .ARM nR14 = some 14 ∧ canonCpu .ARM nLr = some 14 ∧
    canonCpu .ARM nR15 = some 15 ∧ canonCpu .ARM nPc = some 15 ∧
    canonCpu .ARM64 nX29 = some 29 ∧ canonCpu .ARM64 nFp = some 29 ∧
    canonCpu .ARM64 nX30 = some 30 ∧ canonCpu .ARM64 nLr = some 30 ∧
    canonCpu .ARM64_OLD nX29 = some 29 ∧ canonCpu .ARM64_OLD nFp = some 29 ∧
    canonCpu .ARM64 nR11 = none ∧ canonCpu .X86 nFp = none ∧ canonCpu .MIPS nFp = some 2 := by
  decide +kernel

/-- the loop before fix c84fd4e (F15) depended on the iteration order as soon as two labels alias
    — for ANY table: labels `a ≠ b` of one register, two values the register can hold. -/
theorem cfi_unsorted_order_dependent_of_alias (W : Walker) (a b : List Nat) (r : Nat)
    (ha : W.canon a = some r) (hb : W.canon b = some r) (v w : Nat)
    (hv : W.fits v = true) (hw : W.fits w = true) (hvw : v ≠ w) (s : Regs) :
    walkRestUnsorted W s [(b, some w), (a, some v)] ≠ walkRestUnsorted W s [(a, some v), (b, some w)] := by
  intro h
  have := congrFun h r
  simp [walkRestUnsorted, runRules, applyRule, setReg, ha, hb, hv, hw, upd] at this
  exact hvw this

/-- … and equally with a failing rule (`fp: 5`, `x29: .undef`): valid or unknown. -/
theorem cfi_unsorted_clear_order_dependent_of_alias (W : Walker) (a b : List Nat) (r : Nat)
    (ha : W.canon a = some r) (hb : W.canon b = some r) (v : Nat) (hv : W.fits v = true) (s : Regs) :
    (walkRestUnsorted W s [(b, none), (a, some v)] r).valid ≠
      (walkRestUnsorted W s [(a, some v), (b, none)] r).valid := by
  simp [walkRestUnsorted, runRules, applyRule, setReg, clearReg, ha, hb, hv, upd]

private theorem arm64_fp_x29 : arm64.canon nFp = some 29 ∧ arm64.canon nX29 = some 29 := by
  decide +kernel

/-- the ARM64 witnesses of F15: `fp: 5` and `x29: 6` leave `fp = 6` or `fp = 5`. -/
theorem cfi_unsorted_alias_order_dependent :
    ∃ (s : Regs) (iter iter' : List Rule), (iter.map (·.1)).Nodup ∧ iter.Perm iter' ∧
      walkRestUnsorted arm64 s iter' ≠ walkRestUnsorted arm64 s iter :=
  ⟨fun _ => ⟨0, false⟩, [(nFp, some 5), (nX29, some 6)], [(nX29, some 6), (nFp, some 5)],
    by decide, List.Perm.swap _ _ _,
    cfi_unsorted_order_dependent_of_alias arm64 nFp nX29 29 arm64_fp_x29.1 arm64_fp_x29.2
      5 6 (by decide +kernel) (by decide +kernel) (by decide) _⟩

theorem cfi_unsorted_alias_clear_order_dependent :
    ∃ (s : Regs) (iter iter' : List Rule), (iter.map (·.1)).Nodup ∧ iter.Perm iter' ∧
      (walkRestUnsorted arm64 s iter' 29).valid ≠ (walkRestUnsorted arm64 s iter 29).valid :=
  ⟨fun _ => ⟨0, false⟩, [(nFp, some 5), (nX29, none)], [(nX29, none), (nFp, some 5)],
    by decide, List.Perm.swap _ _ _,
    cfi_unsorted_clear_order_dependent_of_alias arm64 nFp nX29 29 arm64_fp_x29.1 arm64_fp_x29.2
      5 (by decide +kernel) _⟩

/-- the same on 32-bit ARM, for each of its four alias pairs (the inputs of seeded break C13-2a):
    without the sort `r11: 5 fp: 6` (`r13`/`sp`, `r14`/`lr`, `r15`/`pc`) is order dependent. -/
theorem cfi_unsorted_alias_order_dependent_arm :
    ∀ p, p ∈ [(nR11, nFp), (nR13, nSp), (nR14, nLr), (nR15, nPc)] → ∀ s : Regs,
      walkRestUnsorted arm s [(p.2, some 6), (p.1, some 5)] ≠
        walkRestUnsorted arm s [(p.1, some 5), (p.2, some 6)] := by
  intro p hp s
  have alias : ∀ q ∈ [(nR11, nFp), (nR13, nSp), (nR14, nLr), (nR15, nPc)],
      (arm.canon q.1).isSome = true ∧ arm.canon q.2 = arm.canon q.1 := by decide +kernel
  obtain ⟨r, hr⟩ := Option.isSome_iff_exists.mp (alias p hp).1
  exact cfi_unsorted_order_dependent_of_alias arm p.1 p.2 r hr ((alias p hp).2.trans hr) 5 6
    (by decide +kernel) (by decide +kernel) (by decide) s

/-- non-vacuity: on the aliased witnesses the current loop gives the value of the label that sorts
    LAST in both orders (`x29` after `fp` on ARM64; `r11` after `fp` on ARM), and a value a 32-bit
    register cannot hold clears it (F25). -/
example :
    walkRest arm64 (fun _ => ⟨0, false⟩) [(nX29, some 6), (nFp, some 5)] 29 = ⟨6, true⟩ ∧
    walkRest arm64 (fun _ => ⟨0, false⟩) [(nFp, some 5), (nX29, some 6)] 29 = ⟨6, true⟩ ∧
    walkRest arm (fun _ => ⟨0, false⟩) [(nR11, some 5), (nFp, some 6)] 12 = ⟨5, true⟩ ∧
    walkRest arm (fun _ => ⟨0, false⟩) [(nFp, some 6), (nR11, some 5)] 12 = ⟨5, true⟩ ∧
    walkRest arm (fun _ => ⟨7, true⟩) [(nFp, some 6), (nR11, some (2 ^ 32))] 12 = ⟨6, false⟩ := by
  decide +kernel

/-- **C13.2b** (= C06 `order_independent`): WITHOUT the sort the loop was order-free under the
    hypothesis that no two labels of the map denote the same register. -/
theorem cfi_unsorted_order_free_of_no_alias (W : Walker) (s : Regs) (iter iter' : List Rule)
    (noalias : ∀ a, a ∈ iter → ∀ b, b ∈ iter → a ≠ b → W.canon a.1 ≠ W.canon b.1 ∨ W.canon a.1 = none)
    (hp : iter.Perm iter') :
    walkRestUnsorted W s iter' = walkRestUnsorted W s iter := by
  unfold walkRestUnsorted runRules
  refine (hp.foldl_eq' (fun a ha b hb s => ?_) s).symm
  by_cases hab : a = b
  · rw [hab]
  · exact applyRule_comm W s a b (noalias a ha b hb hab)

/-- non-vacuity of the no-alias hypothesis (three labels, three registers, one unknown name). -/
example :
    let iter : List Rule := [(nX19, some 1), (nFp, none), (nX20, some 2), (nBogus, some 3)]
    (∀ a, a ∈ iter → ∀ b, b ∈ iter → a ≠ b → arm64.canon a.1 ≠ arm64.canon b.1 ∨ arm64.canon a.1 = none) := by
  decide +kernel

/-- **C13.2c** aliasing was EXACTLY the leak: for a table whose registers can hold two different
    values, the unsorted loop is order-free on all rule maps iff the table maps no two different
    labels to one register. -/
theorem cfi_unsorted_order_free_iff_no_alias (W : Walker) (v w : Nat)
    (hv : W.fits v = true) (hw : W.fits w = true) (hvw : v ≠ w) :
    (∀ (s : Regs) (iter iter' : List Rule), (iter.map (·.1)).Nodup → iter.Perm iter' →
        walkRestUnsorted W s iter' = walkRestUnsorted W s iter) ↔
    (∀ a b : List Nat, a ≠ b → W.canon a ≠ W.canon b ∨ W.canon a = none) := by
  constructor
  · intro h a b hab
    cases hca : W.canon a with
    | none => right; rfl
    | some r =>
      left
      intro hcb
      exact cfi_unsorted_order_dependent_of_alias W a b r hca hcb.symm v w hv hw hvw (fun _ => ⟨0, false⟩)
        (h _ [(a, some v), (b, some w)] [(b, some w), (a, some v)]
          (by simp [hab]) (List.Perm.swap _ _ _))
  · intro h s iter iter' nd hp
    apply cfi_unsorted_order_free_of_no_alias W s iter iter' _ hp
    intro a ha b hb hab
    by_cases hl : a.1 = b.1
    · -- distinct entries of a map have distinct labels
      exact absurd (List.eq_of_mem_of_fst_eq nd ha hb hl) hab
    · exact h a.1 b.1 hl

/-! ### the seeded variant C13-2a: sort only when an alias NAME is used -/

/-- sorting only when some label is flagged is still order-free PROVIDED every aliasing pair of
    labels of the map contains a flagged label … -/
theorem cfi_sort_if_order_free_of_cover (isAlias : List Nat → Bool) (W : Walker) (s : Regs)
    (iter iter' : List Rule) (nd : (iter.map (·.1)).Nodup) (hp : iter.Perm iter')
    (cover : ∀ a, a ∈ iter → ∀ b, b ∈ iter → a ≠ b → W.canon a.1 = W.canon b.1 → W.canon a.1 ≠ none →
      isAlias a.1 = true ∨ isAlias b.1 = true) :
    walkRestSortIf isAlias W s iter' = walkRestSortIf isAlias W s iter := by
  unfold walkRestSortIf
  rw [← hp.any_eq]
  split
  · exact cfi_rules_order_free W s iter iter' nd hp
  · rename_i hnone
    apply cfi_unsorted_order_free_of_no_alias W s iter iter' _ hp
    intro a ha b hb hab
    by_cases hc : W.canon a.1 = W.canon b.1
    · by_cases hn : W.canon a.1 = none
      · right; exact hn
      · exfalso
        apply hnone
        rw [List.any_eq_true]
        rcases cover a ha b hb hab hc hn with h | h
        · exact ⟨a, ha, h⟩
        · exact ⟨b, hb, h⟩
    · left; exact hc

/-- … which holds on every CPU but SPARC when the flagged labels are THAT CPU's alias-arm keys
    (ASCII labels): "only pay for the sort when one of the alias names is used" would have been
    sound with the right names per architecture. -/
theorem cfi_sort_if_own_alias_names_order_free (c : Gen.Regs.Ctx) (hc : c ≠ .SPARC) (s : Regs)
    (iter iter' : List Rule) (nd : (iter.map (·.1)).Nodup) (hp : iter.Perm iter')
    (ascii : ∀ r, r ∈ iter → ∀ x, x ∈ r.1 → x < 128) :
    walkRestSortIf (armKey c) (cpu c) s iter' = walkRestSortIf (armKey c) (cpu c) s iter := by
  apply cfi_sort_if_order_free_of_cover (armKey c) (cpu c) s iter iter' nd hp
  intro a ha b hb hab hcan hsome
  cases hi : (cpu c).canon a.1 with
  | none => exact absurd hi hsome
  | some i =>
    rcases alias_needs_arm_key hc (a := a.1) (b := b.1) hi (hcan.symm.trans hi) with h | h | h
    · exact absurd (List.eq_of_mem_of_fst_eq nd ha hb (labelStr_inj (ascii a ha) (ascii b hb) h)) hab
    · left; exact h
    · right; exact h

/-- the seeded code flags ARM64's names `x29`/`x30` on EVERY architecture: on 32-bit ARM the map
    `r11: 5 fp: 6` uses no flagged name, is not sorted, and the result depends on the iteration
    order (likewise `r13`/`sp`, `r14`/`lr`, `r15`/`pc`). -/
theorem cfi_sort_if_arm64_names_order_dependent_on_arm :
    ∃ (s : Regs) (iter iter' : List Rule), (iter.map (·.1)).Nodup ∧ iter.Perm iter' ∧
      walkRestSortIf (armKey .ARM64) arm s iter' ≠ walkRestSortIf (armKey .ARM64) arm s iter := by
  refine ⟨fun _ => ⟨0, false⟩, [(nR11, some 5), (nFp, some 6)], [(nFp, some 6), (nR11, some 5)],
    by decide, List.Perm.swap _ _ _, ?_⟩
  have h1 : ([(nFp, some 6), (nR11, some 5)] : List Rule).any (fun r => armKey .ARM64 r.1) = false := by
    decide +kernel
  have h2 : ([(nR11, some 5), (nFp, some 6)] : List Rule).any (fun r => armKey .ARM64 r.1) = false := by
    decide +kernel
  unfold walkRestSortIf
  rw [h1, h2]
  exact cfi_unsorted_alias_order_dependent_arm (nR11, nFp) (by simp) _

/-- non-vacuity of the cover hypothesis / the ASCII hypothesis: ARM's own names flag `r11`. -/
example :
    let iter : List Rule := [(nR11, some 5), (nFp, some 6), (nR13, none)]
    (∀ r, r ∈ iter → ∀ x, x ∈ r.1 → x < 128) ∧ armKey .ARM nR11 = true ∧ armKey .ARM nFp = false ∧
    armKey .ARM64 nR11 = false ∧ armKey .ARM64 nX29 = true ∧ armKey .X86 nFp = false := by
  decide +kernel

/-! ## 3. "regardless of the order and timing in which the symbol requests … complete":
      the thread list -/

theorem joinByIndex_length {R : Type} (res : Nat → R) (init : List R) (order : List Nat) :
    (joinByIndex res init order).length = init.length :=
  order.foldlRecOn _ (motive := fun l : List R => l.length = init.length) rfl fun _ h _ _ => List.length_set.trans h

/-- **C13.3** `join_by_index`: when every one of the `n` walks has finished — in ANY completion
    order (any permutation of `0..n-1`) — slot `i` of `state.threads` holds walk `i`'s result:
    the thread list is a function of the per-thread results only. -/
theorem join_by_index {R : Type} (res : Nat → R) (init : List R) (order : List Nat)
    (hp : order.Perm (List.range init.length)) :
    joinByIndex res init order = (List.range init.length).map res :=
  joinByIndex_complete res init order fun _ hj => hp.mem_iff.2 (List.mem_range.2 hj)

theorem join_order_free {R : Type} (res : Nat → R) (init : List R) (o₁ o₂ : List Nat)
    (h₁ : o₁.Perm (List.range init.length)) (h₂ : o₂.Perm (List.range init.length)) :
    joinByIndex res init o₁ = joinByIndex res init o₂ := by
  rw [join_by_index res init o₁ h₁, join_by_index res init o₂ h₂]

/-- a collector that appends results in completion order (mutation "collect `join_all` results by
    completion") is order dependent as soon as two threads differ. -/
theorem join_by_completion_order_dependent :
    ∃ (res : Nat → Nat) (o₁ o₂ : List Nat), o₁.Perm (List.range 2) ∧ o₂.Perm (List.range 2) ∧
      joinByCompletion res o₁ ≠ joinByCompletion res o₂ :=
  ⟨fun i => 100 + i, [0, 1], [1, 0], by decide, by decide, by decide⟩

/-- **C13.3b** `threads_schedule_free` — the symbol outcomes a walk sees come from C12
    (`MdModel.Once`, theorem `results_schedule_free`): task `t`'s sequence of lookup results is the
    same under every poll schedule that lets it finish. A walk's result is a function `walk t` of
    the thread's own data and of that sequence; so for ANY two poll schedules (both finishing all
    tasks) and ANY two completion orders of the walks the resulting thread lists are equal. -/
theorem threads_schedule_free {R : Type} (cfg : Once.Cfg) (walk : Nat → List (Nat × Once.Res) → R)
    (init : List R) (hn : init.length = cfg.ntasks)
    (sched₁ sched₂ : List Nat) (o₁ o₂ : List Nat)
    (hf₁ : ∀ t, t < cfg.ntasks → Once.isFin (Once.exec cfg sched₁ (Once.init cfg)) t = true)
    (hf₂ : ∀ t, t < cfg.ntasks → Once.isFin (Once.exec cfg sched₂ (Once.init cfg)) t = true)
    (h₁ : o₁.Perm (List.range init.length)) (h₂ : o₂.Perm (List.range init.length)) :
    joinByIndex (fun t => walk t (Once.seenBy t (Once.exec cfg sched₁ (Once.init cfg)).log)) init o₁
      = joinByIndex (fun t => walk t (Once.seenBy t (Once.exec cfg sched₂ (Once.init cfg)).log)) init o₂ := by
  rw [join_by_index _ init o₁ h₁, join_by_index _ init o₂ h₂]
  apply List.map_congr_left
  intro t ht
  have ht' : t < cfg.ntasks := by rw [← hn]; exact List.mem_range.1 ht
  show walk t _ = walk t _
  rw [Once.results_schedule_free cfg sched₁ sched₂ t (hf₁ t ht') (hf₂ t ht')]

/-- non-vacuity: two tasks, two different schedules that finish both, two completion orders. -/
example :
    let cfg : Once.Cfg := ⟨[[0, 1], [1, 0]], fun k => if k = 0 then ⟨1, .ok⟩ else ⟨2, .notFound⟩⟩
    (∀ t, t < cfg.ntasks → Once.isFin (Once.exec cfg [0, 1, 0, 1, 0, 1, 0, 1] (Once.init cfg)) t = true) ∧
    (∀ t, t < cfg.ntasks → Once.isFin (Once.exec cfg [1, 1, 1, 1, 1, 0, 0, 0, 0] (Once.init cfg)) t = true) ∧
    [1, 0].Perm (List.range 2) := by
  decide +kernel

/-! ## 4. "byte-identical JSON and text reports": the registers of a frame -/

/-- **C13.4** `json_registers_order_free`: both renderers walk the fixed register list and only TEST
    membership in the validity `HashSet`, so its iteration order is never consumed. -/
theorem json_registers_order_free (fixed valid valid' : List (List Nat)) (hp : valid.Perm valid') :
    textRegs fixed valid' = textRegs fixed valid ∧ jsonRegs fixed valid' = jsonRegs fixed valid :=
  regs_congr fixed fun _ => hp.mem_iff.symm

/-- the text shows the valid registers in the order of the fixed list -/
theorem textRegs_sublist (fixed valid : List (List Nat)) : (textRegs fixed valid).Sublist fixed :=
  List.filter_sublist

/-- a renderer that iterates the validity set (mutation) is order dependent. -/
theorem regs_by_set_order_dependent :
    ∃ fixed valid valid' : List (List Nat), valid.Perm valid' ∧
      regsBySet fixed valid' ≠ regsBySet fixed valid :=
  ⟨[nX19, nFp, nSp, nPc], [nSp, nPc], [nPc, nSp],
   List.Perm.swap _ _ _, by decide⟩

example :
    textRegs [nX19, nFp, nSp, nPc] [nPc, nSp] = [nSp, nPc] ∧
    jsonRegs [nX19, nFp, nSp, nPc] [nPc, nSp] = [nPc, nSp] := by
  decide +kernel

/-! ## 5. "regardless of the order … in which the symbol requests … complete":
      the per-module symbol statistics (F16) -/

/-- **C13.5a** `stats_last_writer`: the entry the report finds for a leaf name is the outcome of the
    module with that leaf whose supplier call completed LAST. -/
theorem stats_last_writer (mods : Nat → Mod) (pre post : List Nat) (k : Nat)
    (hpost : ∀ j, j ∈ post → (mods j).leaf ≠ (mods k).leaf) :
    lookup (statsAfter mods (pre ++ k :: post)) (mods k).leaf = some (mods k).res := by
  rw [statsAfter_eq]
  simp only [List.map_append, List.map_cons, List.reverse_append, List.reverse_cons,
    List.append_assoc, List.singleton_append, lookup]
  rw [List.find?_append]
  have : List.find? (fun x => x.1 == (mods k).leaf)
      (post.map fun k => ((mods k).leaf, (mods k).res)).reverse = none := by
    rw [List.find?_eq_none]
    intro e he
    rw [List.mem_reverse, List.mem_map] at he
    obtain ⟨j, hj, rfl⟩ := he
    simpa using hpost j hj
  rw [this]
  simp

/-- non-vacuity of `stats_last_writer`: three completed lookups, the middle one is the last with
    leaf `x.dll`. -/
example :
    let mods : Nat → Mod := fun k =>
      if k = 0 then ⟨nXdll, .ok⟩ else if k = 1 then ⟨nXdll, .notFound⟩ else ⟨nYdll, .parseError⟩
    (∀ j, j ∈ [2] → (mods j).leaf ≠ (mods 1).leaf) ∧
    lookup (statsAfter mods ([0] ++ 1 :: [2])) nXdll = some .notFound := by
  decide +kernel

/-- **C13.5** `stats_order_free`: if modules (among those whose symbols were requested) that share a
    file leaf name have the same symbol outcome — in particular if distinct module keys have
    distinct leaf names — then the statistics shown for every module are the same for every
    completion order of the supplier calls. -/
theorem stats_order_free (mods : Nat → Mod) (done done' shown : List Nat)
    (hleaf : ∀ k, k ∈ done → ∀ k', k' ∈ done → (mods k).leaf = (mods k').leaf → (mods k).res = (mods k').res)
    (hp : done.Perm done') :
    statsReport mods done' shown = statsReport mods done shown := by
  unfold statsReport
  apply List.map_congr_left
  intro i _
  congr 1
  refine assoc_congr (m := statsAfter mods done) (fun e => ?_) ?_ _
  · simp only [statsAfter_eq, List.mem_reverse]
    exact (hp.map _).mem_iff
  · intro e he e' he' h
    obtain ⟨k, hk, rfl⟩ := mem_statsAfter.1 he
    obtain ⟨k', hk', rfl⟩ := mem_statsAfter.1 he'
    exact hleaf k hk k' hk' h

/-- the form the property needs: distinct module keys ⇒ distinct leaf names. -/
theorem stats_order_free_of_distinct_leaves (mods : Nat → Mod) (done done' shown : List Nat)
    (hinj : ∀ k, k ∈ done → ∀ k', k' ∈ done → (mods k).leaf = (mods k').leaf → k = k')
    (hp : done.Perm done') :
    statsReport mods done' shown = statsReport mods done shown :=
  stats_order_free mods done done' shown
    (fun k hk k' hk' h => by rw [hinj k hk k' hk' h]) hp

/-- **F16** `stats_order_dependent`: WITHOUT the hypothesis the report depends on the completion
    order — `a/x.dll` (symbols found) and `b/x.dll` (no symbols) share the entry `x.dll`: whichever
    lookup completes last decides what BOTH modules show. -/
theorem stats_order_dependent :
    ∃ (mods : Nat → Mod) (done done' shown : List Nat), done.Perm done' ∧ done.Nodup ∧
      statsReport mods done' shown ≠ statsReport mods done shown :=
  ⟨fun k => if k = 0 then ⟨nXdll, .ok⟩ else ⟨nXdll, .notFound⟩,
   [0, 1], [1, 0], [0, 1], List.Perm.swap _ _ _, by decide, by decide⟩

/-- what the two reports of the witness are: both modules "missing" in one, both "loaded" in the
    other. -/
example :
    let mods : Nat → Mod := fun k => if k = 0 then ⟨nXdll, .ok⟩ else ⟨nXdll, .notFound⟩
    statsReport mods [0, 1] [0, 1] = [(true, false, false), (true, false, false)] ∧
    statsReport mods [1, 0] [0, 1] = [(false, true, false), (false, true, false)] := by
  decide +kernel

/-- non-vacuity of `stats_order_free`'s hypothesis: distinct leaves, mixed outcomes. -/
example :
    let mods : Nat → Mod := fun k => if k = 0 then ⟨nXdll, .ok⟩ else ⟨nYdll, .parseError⟩
    (∀ k, k ∈ [0, 1] → ∀ k', k' ∈ [0, 1] → (mods k).leaf = (mods k').leaf → k = k') ∧
    statsReport mods [0, 1] [0, 1] = statsReport mods [1, 0] [0, 1] ∧
    statsReport mods [0, 1] [0, 1] = [(false, true, false), (false, true, true)] := by
  decide +kernel

/-! ## 6. "across repeated runs": module certificates from the evil JSON
      (defect found by this check, repaired by fix 2943e9c) -/

/-- **C13.6** `cert_order_free`: the certificate shown for every module is the same for every
    iteration order of the `ModuleSignatureInfo` map — with NO hypothesis about modules listed
    under several certificates: the certificates are visited in name order, the last NAME wins. -/
theorem cert_order_free (iter iter' : CertInfo) (shown : List (List Nat))
    (nd : (iter.map (·.1)).Nodup) (hp : iter.Perm iter') :
    certReport iter' shown = certReport iter shown := by
  unfold certReport certMap
  rw [isort_keyLe_perm nd hp]

/-- **C13.6b** the loop BEFORE the fix was order-free only if no module is listed under two
    different certificates … -/
theorem cert_unsorted_order_free_of_unique (iter iter' : CertInfo) (shown : List (List Nat))
    (huniq : ∀ e, e ∈ certPairs iter → ∀ e', e' ∈ certPairs iter → e.1 = e'.1 → e.2 = e'.2)
    (hp : iter.Perm iter') :
    certReportUnsorted iter' shown = certReportUnsorted iter shown := by
  unfold certReportUnsorted
  apply List.map_congr_left
  intro name _
  refine assoc_congr (m := certMapUnsorted iter) (fun e => ?_) ?_ _
  · simp only [certMapUnsorted_eq, List.mem_reverse]
    exact (hp.flatMap_right _).mem_iff
  · simp only [certMapUnsorted_eq, List.mem_reverse]
    exact huniq

/-- … and `cert_unsorted_order_dependent`: a module listed under two certificates (a dual-signed
    binary) got whichever certificate the map iterated LAST — the report depended on the hash
    seed. This is what fix 2943e9c repaired. -/
theorem cert_unsorted_order_dependent :
    ∃ (iter iter' : CertInfo) (shown : List (List Nat)), (iter.map (·.1)).Nodup ∧ iter.Perm iter' ∧
      certReportUnsorted iter' shown ≠ certReportUnsorted iter shown :=
  ⟨[([65], [nXdll]), ([66], [nXdll, nYdll])], [([66], [nXdll, nYdll]), ([65], [nXdll])], [nXdll, nYdll],
   by decide, List.Perm.swap _ _ _, by decide⟩

/-- non-vacuity: on that witness the current code shows certificate `B` (the later name) for the
    dual-signed module in both iteration orders; an unknown module has none. -/
example :
    certReport [([65], [nXdll]), ([66], [nXdll, nYdll])] [nXdll, nYdll, nBogus] = [some [66], some [66], none] ∧
    certReport [([66], [nXdll, nYdll]), ([65], [nXdll])] [nXdll, nYdll, nBogus] = [some [66], some [66], none] := by
  decide +kernel

/-- non-vacuity of `cert_unsorted_order_free_of_unique`'s hypothesis. -/
example :
    let iter : CertInfo := [([65], [nXdll]), ([66], [nYdll])]
    (∀ e, e ∈ certPairs iter → ∀ e', e' ∈ certPairs iter → e.1 = e'.1 → e.2 = e'.2) ∧
    certReportUnsorted iter [nXdll, nYdll, nBogus] = [some [65], some [66], none] := by
  decide +kernel

/-! ## 7. "byte-identical … reports": the thread-local print context (seeded break C13-2b) -/

/-- **C13.7** `print_context_history_free`: what a print shows depends on the printed state only —
    not on the context the thread was left with (`ctx`, `ctx'`: anything earlier prints, of any
    dumps, on this thread or worker did) and not on what is printed before it (`pre`, `pre'`). -/
theorem print_context_history_free (ctx ctx' : Option Width) (pre pre' : List Width) (w : Width)
    (post : List Width) :
    (printSeq setCtx ctx (pre ++ w :: post)).drop pre.length =
      (printSeq setCtx ctx' (pre' ++ w :: post)).drop pre'.length := by
  rw [printSeq_setCtx, printSeq_setCtx]
  simp [List.map_append]

/-- a 32-bit dump is printed with 10-character addresses, a 64-bit one with 18, whatever came first -/
example : printSeq setCtx none [64, 32, 64, 32] = [18, 10, 18, 10] ∧
    printSeq setCtx (some 64) [32] = [10] := by decide +kernel

/-- the variant of seeded break C13-2b (fill the context only when it is empty) makes the bytes of
    a report depend on what the thread printed before: an x86 dump after an amd64 dump gets
    18-character addresses, alone it gets 10. -/
theorem print_context_once_history_dependent :
    ∃ (ctx ctx' : Option Width) (w : Width), printSeq setCtxOnce ctx [w] ≠ printSeq setCtxOnce ctx' [w] :=
  ⟨none, some 64, 32, by decide⟩

example : printSeq setCtxOnce none [64, 32] = [18, 18] ∧ printSeq setCtxOnce none [32] = [10] := by decide +kernel

/-! ## 8. "across repeated runs": register heuristics of a bit-flip candidate -/

/-- **C13.8** `heuristics_order_free`: `nearby_registers` and `poison_registers` (hence the
    confidence shown for a bit-flip candidate) do not depend on the order in which
    `valid_registers()` yields the registers — the loop body commutes. -/
theorem heuristics_order_free (near poison : Nat → Bool) (vals vals' : List Nat) (hp : vals.Perm vals') :
    heuristics near poison vals' = heuristics near poison vals := by
  unfold heuristics
  exact (hp.foldl_eq' (fun a _ b _ s => heurStep_comm near poison s a b) (0, false)).symm

example : heuristics (· < 10) (· == 0xa5) [3, 0xa5, 20, 4] = (2, true) ∧
    heuristics (· < 10) (· == 0xa5) [4, 20, 0xa5, 3] = (2, true) := by decide +kernel

end MdModel.Det
