/-
  C17 — Symbol lookup paths derived from module names stay inside the symbol directories.

  Property text: "For every module name and identifier found in a dump — arbitrary strings using
  either path-separator style — the relative paths used to look up, download and cache its symbol
  file, binary and debug file are genuinely relative: they never start with a separator or a
  drive/UNC prefix and contain no `..` component. Joining them to a symbol directory, a cache
  directory or a server URL therefore never leaves that root."

  The theorems are about `MdModel.Paths` (the model the compiled driver executes and the `paths`
  engine compares with `breakpad_sym_lookup`, `code_info_breakpad_sym_lookup`,
  `extra_debuginfo_lookup`, `binary_lookup`, `lookup` and `moz_lookup` on every run).
  File names are arbitrary `List Char` (any length, any character incl. NUL and non-ASCII);
  identifiers are arbitrary (`DebugId` with any bytes/appendix, `CodeId` from any raw string).
-/
import MdProofs.Lemmas.Paths
namespace MdModel.Paths
open MdModel

theorem lookup_three {m : Module} {k : FileKind} {l : FileLookup} (h : lookup m k = some l) :
    Three l.cache_rel ∧ Three l.server_rel := by
  cases k <;>
    simp only [lookup, lookupWith, breakpadSymLookupWith, binaryLookupWith, extraDebuginfoLookupWith,
      Option.bind_eq_bind, Option.bind_eq_some_iff] at h
  · obtain ⟨df, _, did, _, leaf, hleaf, h⟩ := h
    cases h
    have hl := (safeLeafname_some hleaf).1
    exact ⟨hl.three_ext (breakpad_hex did), hl.three_ext (breakpad_hex did)⟩
  · obtain ⟨cid, _, df, _, did, _, bl, hbl, dl, hdl, h⟩ := h
    cases h
    have hb := (safeLeafname_some hbl).1
    have hd := (safeLeafname_some hdl).1
    exact ⟨hd.three_leaf hb (breakpad_hex did), hb.three_leaf hb (codeIdNew_hex cid)⟩
  · obtain ⟨df, _, did, _, leaf, hleaf, h⟩ := h
    cases h
    have hl := (safeLeafname_some hleaf).1
    exact ⟨hl.three_leaf hl (breakpad_hex did), hl.three_leaf hl (breakpad_hex did)⟩

theorem code_info_three {m : Module} {r : Str} (h : codeInfoBreakpadSymLookup m = some r) :
    Three r := by
  unfold codeInfoBreakpadSymLookup codeInfoLookupWith at h
  simp only [Option.bind_eq_bind, Option.bind_eq_some_iff] at h
  obtain ⟨cid, _, h⟩ := h
  split at h
  · cases h
  · simp only [Option.bind_eq_some_iff] at h
    obtain ⟨leaf, hleaf, h⟩ := h
    cases h
    exact (safeLeafname_some hleaf).1.three_ext (codeIdNew_upper_hex cid)

/-- **C17.1** — all three `FileKind`s, every module: both relative paths of a lookup are rooted.
    No hypothesis on the file names or identifiers. -/
theorem rel_is_rooted (m : Module) (k : FileKind) (l : FileLookup) (h : lookup m k = some l) :
    Rooted l.cache_rel ∧ Rooted l.server_rel :=
  ⟨(lookup_three h).1.rooted, (lookup_three h).2.rooted⟩

/-- **C17.2** — the code-info variant (`code_info_breakpad_sym_lookup`). -/
theorem code_info_rel_is_rooted (m : Module) (r : Str) (h : codeInfoBreakpadSymLookup m = some r) :
    Rooted r :=
  (code_info_three h).rooted

/-- **C17.3** — the mozilla-CAB variant: on every lookup result `moz_lookup` does not panic
    (its `pop().unwrap()` finds a character) and the mangled lookup is still rooted. -/
theorem moz_rel_is_rooted (m : Module) (k : FileKind) (l : FileLookup) (h : lookup m k = some l) :
    ∃ l', mozLookup l = .ok l' ∧ Rooted l'.cache_rel ∧ Rooted l'.server_rel := by
  have h3 := lookup_three h
  unfold mozLookup
  rw [if_neg h3.2.ne_nil]
  exact ⟨_, rfl, h3.1.rooted, h3.2.moz.rooted⟩

/-- what the clauses of `Rooted` exclude, spelled out: no leading `/` or `\`, no UNC prefix (two
    leading separators), no drive prefix `[A-Za-z]:`, no `..` component on either separator. -/
theorem Rooted.spelled_out {p : Str} (h : Rooted p) :
    (∀ rest, p ≠ '/' :: rest) ∧ (∀ rest, p ≠ '\\' :: rest) ∧
    (∀ a b rest, p = a :: b :: rest → ¬ (isSep a = true ∧ isSep b = true)) ∧
    (∀ a rest, a.isAlpha = true → p ≠ a :: ':' :: rest) ∧
    dotdot ∉ splitOnP isSep p := by
  refine ⟨?_, ?_, ?_, ?_, h.no_dotdot⟩
  · intro rest e; subst e
    have := h.no_leading_sep '/' (by simp); revert this; decide
  · intro rest e; subst e
    have := h.no_leading_sep '\\' (by simp); revert this; decide
  · intro a b rest e hab; subst e
    have := h.no_leading_sep a (by simp)
    simp [hab.1] at this
  · intro a rest ha e; subst e
    have := h.no_drive
    simp [hasDrivePrefix, ha] at this

theorem flavor_sep_isSep (f : Flavor) (c : Char) (h : f.isSep c = true) : isSep c = true := by
  cases f
  · simp [Flavor.isSep] at h; subst h; decide
  · exact h

theorem dotdot_flavor_comps {f : Flavor} {p : Str} (h : dotdot ∈ splitOnP f.isSep p) :
    dotdot ∈ comps p :=
  mem_splitOnP_refine (flavor_sep_isSep f) h (by decide)

theorem Rooted.not_replaces {rel : Str} (h : Rooted rel) (f : Flavor) : f.replaces rel = false := by
  unfold Flavor.replaces
  cases rel with
  | nil => exact absurd rfl h.nonempty
  | cons c cs =>
    have hc := h.no_leading_sep c (by simp)
    have hf : f.isSep c = false := by
      cases hfc : f.isSep c with
      | false => rfl
      | true => rw [flavor_sep_isSep f c hfc] at hc; cases hc
    cases f <;> simp [hf, h.no_drive]

theorem walkDepth_no_dotdot (ws : List Str) (h : dotdot ∉ ws) (d : Nat) :
    walkDepth d ws = some (d + ws.length) := by
  induction ws generalizing d with
  | nil => simp [walkDepth]
  | cons w ws ih =>
    have hw : w ≠ dotdot := fun e => h (by simp [e])
    have := ih (fun hm => h (by simp [hm])) (d + 1)
    simp [walkDepth, hw, this]; omega

theorem mainSep_isSep (f : Flavor) : f.isSep f.mainSep = true := by cases f <;> decide

theorem flavor_comps_append_sep (f : Flavor) (a : Str) {s : Char} (hs : f.isSep s = true) (b : Str) :
    f.comps (a ++ s :: b) = f.comps a ++ f.comps b := by
  unfold Flavor.comps
  rw [splitOnP_append_sep a hs b, List.filter_append]

/-- a root that needs no separator is empty or ends in one, so its components and those of what
    is appended just concatenate -/
private theorem flavor_comps_append_of_not_needSep (f : Flavor) (root rel : Str)
    (hn : f.needSep root = false) : f.comps (root ++ rel) = f.comps root ++ f.comps rel := by
  unfold Flavor.needSep at hn
  cases hl : root.getLast? with
  | none =>
    rw [List.getLast?_eq_none_iff.mp hl]
    simp [Flavor.comps, splitOnP]
  | some c =>
    rw [hl] at hn
    have hc : f.isSep c = true := by simpa using hn
    obtain ⟨r, rfl⟩ := List.getLast?_eq_some_iff.mp hl
    have e : f.comps (r ++ [c]) = f.comps r := by
      rw [flavor_comps_append_sep f _ hc []]
      simp [Flavor.comps, splitOnP]
    rw [List.append_assoc, List.singleton_append, flavor_comps_append_sep f _ hc rel, e]

/-- **C17.4 `join_stays_inside`** — joining a rooted relative path onto ANY root with
    `Path::join`, in the Unix flavour (`/` only) and in the Windows flavour (both separators,
    drive prefixes), never leaves that root:
    * the root is kept (the argument does not replace it): the result is `root`, possibly one
      separator, then `rel`;
    * the normalised components of the result are the root's followed by those of `rel`;
    * none of the latter is `..`, so a component walk below the root only ever descends
      (`walkDepth` — the walk the engine's oracle performs on the real `Path` — never fails). -/
theorem join_stays_inside (f : Flavor) (root rel : Str) (h : Rooted rel) :
    (∃ glue, (glue = [] ∨ glue = [f.mainSep]) ∧ pathJoin f root rel = root ++ glue ++ rel) ∧
    f.comps (pathJoin f root rel) = f.comps root ++ f.comps rel ∧
    dotdot ∉ f.comps rel ∧
    ∀ d, walkDepth d (f.comps rel) = some (d + (f.comps rel).length) := by
  have hnd : dotdot ∉ f.comps rel := fun hm =>
    h.no_dotdot (dotdot_flavor_comps (List.mem_filter.mp hm).1)
  refine ⟨?_, ?_, hnd, walkDepth_no_dotdot _ hnd⟩ <;>
    simp only [pathJoin, h.not_replaces f, Bool.false_eq_true, if_false]
  · split
    · exact ⟨[f.mainSep], Or.inr rfl, by simp⟩
    · exact ⟨[], Or.inl rfl, by simp⟩
  · cases hn : f.needSep root with
    | true => exact flavor_comps_append_sep f root (mainSep_isSep f) rel
    | false => exact flavor_comps_append_of_not_needSep f root rel hn

/-- the corollary in the form the property states it, for every lookup and both joins the
    consumers perform (`cache.join(cache_rel)`, `symbol_dir.join(cache_rel)`) -/
theorem lookup_join_stays_inside (m : Module) (k : FileKind) (l : FileLookup)
    (h : lookup m k = some l) (f : Flavor) (root : Str) :
    f.comps (pathJoin f root l.cache_rel) = f.comps root ++ f.comps l.cache_rel ∧
    dotdot ∉ f.comps l.cache_rel :=
  let j := join_stays_inside f root l.cache_rel (rel_is_rooted m k l h).1
  ⟨j.2.1, j.2.2.1⟩

/-! "Joining them to … a server URL therefore never leaves that root": `join_lookup_path`
    (http.rs:189) is the only way a lookup path reaches a URL. -/

/-- **C17.6 `join_lookup_path_inside`** — for EVERY relative string (not only lookup results) and
    every base path: if a URL is produced at all, its path is the base directory followed by the
    percent-encoded components of `rel`, where
    * no component of `rel` is `.` or `..` (such a `rel` is refused);
    * every character of an encoded segment is an ASCII letter, digit, one of
      `- . _ ~ ! $ & ' ( ) * + , ; = : @` or `%` — in particular no `/`, `\`, `?`, `#`, no
      space, control or non-ASCII character (`urlSegChars_plain`): nothing a URL parser trims,
      deletes or treats as a delimiter, so the path's segments below the base directory are
      exactly these segments;
    * percent-decoding a segment gives back the UTF-8 bytes of the component, so no segment is
      an encoded `.`/`..` either.
    Scheme, host and port are not touched by the function (only `set_path`). -/
theorem join_lookup_path_inside (bp rel p : Str) (h : joinLookupPath bp rel = some p) :
    ∃ dir, baseDir bp = some dir ∧
      p = dir ++ joinWith ['/'] ((splitOnP (· == '/') rel).map pctEncode) ∧
      splitOnP (· == '/') (joinWith ['/'] ((splitOnP (· == '/') rel).map pctEncode))
        = (splitOnP (· == '/') rel).map pctEncode ∧
      (∀ c ∈ splitOnP (· == '/') rel, c ≠ ['.'] ∧ c ≠ dotdot) ∧
      (∀ s ∈ (splitOnP (· == '/') rel).map pctEncode, ∀ ch ∈ s, ch ∈ urlSegChars) ∧
      ((splitOnP (· == '/') rel).map pctEncode).map pctDecode = (splitOnP (· == '/') rel).map utf8 := by
  unfold joinLookupPath at h
  split at h
  · cases h
  · rename_i dir hdir
    simp only at h
    split at h
    · cases h
    · rename_i hany
      cases h
      have hchars : ∀ s ∈ (splitOnP (· == '/') rel).map pctEncode, ∀ ch ∈ s, ch ∈ urlSegChars := by
        intro s hs ch hch
        obtain ⟨w, _, rfl⟩ := List.mem_map.mp hs
        exact pctEncode_chars w ch hch
      refine ⟨dir, hdir, rfl, ?_, ?_, hchars, ?_⟩
      · apply splitOnP_joinWith (by decide)
        · simpa using splitOnP_ne_nil _ rel
        · intro s hs c hc
          have := (urlSegChars_plain c (hchars s hs c hc)).1
          simpa using this
      · intro c hc
        simp only [List.any_eq_true, Bool.or_eq_true, beq_iff_eq, not_exists, not_and, not_or] at hany
        exact hany c hc
      · simp [List.map_map, Function.comp_def, pctDecode_pctEncode]

theorem Three.split_slash {p : Str} (h : Three p) :
    ∃ leaf id file, splitOnP (· == '/') p = [leaf, id, file] ∧
      leaf ≠ ['.'] ∧ leaf ≠ dotdot ∧ id ≠ ['.'] ∧ id ≠ dotdot ∧ file ≠ ['.'] ∧ file ≠ dotdot := by
  obtain ⟨leaf, id, file, rfl, hl, hi, hi2, hi3, hf, _, hf2, hf3⟩ := h
  exact ⟨leaf, id, file,
    splitOnP_three rfl (fun c hc => not_slash_of_not_sep (hl.nosep c hc))
      (fun c hc => not_slash_of_not_sep (hi c hc)) (fun c hc => not_slash_of_not_sep (hf c hc)),
    hl.not_dot, hl.not_dotdot, hi3, hi2, hf3, hf2⟩

theorem Three.join_some {p : Str} (h : Three p) {bp dir : Str} (hb : baseDir bp = some dir) :
    ∃ u, joinLookupPath bp p = some u := by
  obtain ⟨leaf, id, file, hs, h1, h2, h3, h4, h5, h6⟩ := h.split_slash
  unfold joinLookupPath
  rw [hb, hs]
  simp [h1, h2, h3, h4, h5, h6]

/-- **C17.7** — every lookup path (all three kinds, the CAB variant and the code-info variant) is
    accepted by `join_lookup_path` (the download is attempted), and by C17.6 the URL stays below
    the base directory. -/
theorem lookup_url_stays_inside (m : Module) (k : FileKind) (l : FileLookup) (h : lookup m k = some l)
    (bp dir : Str) (hb : baseDir bp = some dir) :
    (∃ u, joinLookupPath bp l.server_rel = some u) ∧
    (∀ l', mozLookup l = .ok l' → ∃ u, joinLookupPath bp l'.server_rel = some u) := by
  have h3 := (lookup_three h).2
  refine ⟨h3.join_some hb, ?_⟩
  intro l' hl'
  unfold mozLookup at hl'
  rw [if_neg h3.ne_nil] at hl'
  cases hl'
  exact h3.moz.join_some hb

theorem code_info_url_stays_inside (m : Module) (r : Str) (h : codeInfoBreakpadSymLookup m = some r)
    (bp dir : Str) (hb : baseDir bp = some dir) : ∃ u, joinLookupPath bp r = some u :=
  (code_info_three h).join_some hb

def witnessModuleC (code_file : String) : Module :=
  { code_file := code_file.toList, code_id := some [], debug_file := some ['d'],
    debug_id := some ⟨true, [1, 2, 3, 4], 1⟩ }

/-- what the pre-fix consumer (`Url::join(server_rel)`, WHATWG reference parsing — not modelled)
    was exposed to: lookup results that are `Rooted` and yet begin with a URL scheme. The engine
    replays these against `url::Url::join` (`urlref` cases: other origin / outside the base path). -/
theorem old_url_join_hazard :
    ∃ l, lookup (witnessModuleC "http:evil.com") .Binary = some l ∧ Rooted l.server_rel ∧
      hasSchemePrefix l.server_rel = true := by
  -- the kernel is slow at decoding a string literal: replace `"…".toList` by the characters first
  unfold witnessModuleC
  rw [String.toList_ofList]
  exact ⟨_, rfl, (rootedb_iff _).mp (by decide +kernel), by decide +kernel⟩

example : (joinLookupPath "/base/dir/".toList "http:evil.com/AB/a b%2e.sym".toList).map String.ofList
    = some "/base/dir/http:evil.com/AB/a%20b%252e.sym" := by
  repeat rw [String.toList_ofList]
  decide +kernel
example : joinLookupPath "/base/dir/".toList "a/../b".toList = none := by
  repeat rw [String.toList_ofList]
  decide +kernel
example : baseDir "/base/file".toList = some "/base/".toList := by
  repeat rw [String.toList_ofList]
  decide +kernel

/-! The repair is needed: the pre-fix code (`lookupOld`, `leafname` only) violates the property.
    The four witnesses of finding F17. -/

def witnessModule (debug_file : String) : Module :=
  { code_file := [], code_id := none, debug_file := some debug_file.toList,
    debug_id := some ⟨false, [0,1,2,3,4,5,6,7,8,9,10,11,12,13,14,15], 1⟩ }

/-- **C17.5** — before the repair, `debug_file = ".."` gave `../<id>/...sym`, and `""`, `"a/"`,
    `"/"` gave `/<id>/.sym` (absolute: `Path::join` then discards the cache directory). -/
theorem old_lookup_not_rooted :
    ∀ w ∈ ["..", "", "a/", "/"], ∃ l, lookupOld (witnessModule w) .BreakpadSym = some l ∧
      ¬ Rooted l.cache_rel ∧ ¬ Rooted l.server_rel := by
  intro w hw
  simp only [List.mem_cons, List.not_mem_nil, or_false] at hw
  rcases hw with rfl | rfl | rfl | rfl <;>
    refine ⟨_, rfl, ?_, ?_⟩ <;> rw [← rootedb_iff] <;> decide +kernel

/-- … and the joined path indeed leaves the root: for `".."` the walk climbs above it, for `""`
    the argument replaces the root. -/
example : (lookupOld (witnessModule "..") .BreakpadSym).map
    (fun l => walkDepth 0 (Flavor.unix.comps l.cache_rel)) = some none := by decide +kernel
example : (lookupOld (witnessModule "") .BreakpadSym).map
    (fun l => Flavor.unix.replaces l.cache_rel) = some true := by decide +kernel

/-- the repaired code refuses these names, and others of the same kinds -/
example : ∀ w ∈ ["..", "", "a/", "/", "foo/..", ".", "C:", "c:evil", "a\\.."],
    lookup (witnessModule w) .BreakpadSym = none := by decide +kernel

/-- `lookup … = some l` is satisfiable, with a Windows-style name -/
example : ∃ l, lookup (witnessModule "c:\\dir\\test.pdb") .BreakpadSym = some l ∧
    l.cache_rel = "test.pdb/000102030405060708090A0B0C0D0E0F1/test.sym".toList := by
  unfold witnessModule
  repeat rw [String.toList_ofList]
  exact ⟨_, rfl, by decide +kernel⟩

def exBin : Module :=
  ⟨"/usr/lib/libé.so".toList, some "AB cd!".toList, some "a/b\\..x".toList,
    some ⟨true, [0x5a, 0x0b, 0x1c, 0x2d], 255⟩⟩

example : ∃ l, lookup exBin .Binary = some l ∧ l.server_rel = "libé.so/abcd/libé.so".toList ∧
    l.cache_rel = "..x/5A0B1C2Dff/libé.so".toList := by
  unfold exBin
  repeat rw [String.toList_ofList]
  exact ⟨_, rfl, by decide +kernel⟩

def exCode : Module := ⟨"C:\\w\\k.DLL".toList, some "5a0b1c2d1f000".toList, none, none⟩

example : codeInfoBreakpadSymLookup exCode = some "k.DLL/5A0B1C2D1F000/k.sym".toList := by
  unfold exCode
  repeat rw [String.toList_ofList]
  decide +kernel

example : Rooted "a/b".toList := (rootedb_iff _).mp (by decide +kernel)

end MdModel.Paths
