/-
  C03 — Processing any dump with any symbols terminates, never panics, always renders.

  Property text: "For every byte string accepted as a minidump together with arbitrary bytes served
  as symbol files for its modules, full processing under every option set returns a result or an
  error without panicking and within a time and memory budget tied to the input size. No thread is
  walked for more frames than its stack memory has bytes (plus two), and the resulting state can
  always be written as full text, brief text and JSON."

  LEVEL: proof, PARTIAL. What the theorems below carry:
   (1) the walk bound and the termination of the walk loop — C05's `walk_bound` and
       `walk_fuel_enough` about `MdModel.Walk.walk`, restated here as the C03 obligation;
   (2) `no panic outcome` for every arithmetic kernel of the pipeline named in the anchors, each
       modelled in `MdModel.Process` with the CHECKED operations of the code, for ALL
       inputs (hypotheses only where the code relies on an invariant established elsewhere; each
       is named and has a non-vacuity `example`);
   (2b) the whole crashing-instruction analysis (op_analysis.rs) over an ABSTRACT decoded
       instruction (`MdModel.OpAnalysis`): no panic inside the decoder's `Shape`, `Shape` is exact,
       every reported access is the documented function of the operands, the register set;
   (2c) the whole x86 argument recovery (arg_recovery.rs) at byte level (`MdModel.ArgRecovery`):
       no panic on valid-UTF-8 names and u32 stack pointers; termination by construction;
   (2d) the remaining small sites (STACK WIN evaluator = C07's theorem, time stamp, stat counters);
   (3) `render_total`: the printers' own arithmetic is total on every state satisfying the reader
       and frame invariants, and the frame invariants are discharged for every stack the walk
       model returns (`render_walk_frames_total`, on top of C05/C08).
  What they cannot carry (SAMPLED / MEASURED by engine `process`, see propcfg/C03.json): that the
  yaxpeax-x86 decoder only produces instructions inside `Shape` (systematic sweep), panics inside
  code that is not modelled (yaxpeax-x86, procfs-core, serde_json, encoding_rs, time, debugid, the
  `format!`/`write!` machinery), real time (wall-clock budget) and memory (counting allocator
  against an explicit budget affine in dump length + symbol bytes + frames — by (1) affine in
  the input size), and the glue between the kernels.
-/
import MdProofs.C05
import MdProofs.C07
import MdProofs.Lemmas.Process
import MdProofs.Lemmas.OpAnalysis
import MdProofs.Lemmas.ArgRecovery
namespace MdModel.Process
open MdModel MdModel.Walk

/-! ## (1) "No thread is walked for more frames than its stack memory has bytes (plus two)" -/

/-- **C03, frame bound.** For every unwinding environment (arbitrary CFI / STACK WIN results,
    arbitrary symbol files), every stack memory (or none) and every register context: the call
    stack `walk_stack` returns has at most `stack bytes + 2` frames. (= C05 `walk_bound`.) -/
theorem c03_walk_bound (env : Env) (mem : Option Mem) (ctx : Ctx) :
    (walk env mem ctx).length ≤ (mem.map Mem.size).getD 0 + 2 :=
  walk_bound env mem ctx

/-- **C03, the walk loop terminates**: the loop of `walk_stack` ends by itself within
    `stack bytes + 2` iterations — giving it more fuel changes nothing. (= C05 `walk_fuel_enough`.) -/
theorem c03_walk_terminates (env : Env) (m : Mem) (ctx : Ctx) (n : Nat) (hn : m.size + 2 ≤ n) :
    walkLoop env m n (Frame.ofCtx ctx .context) none =
      walkLoop env m (m.size + 2) (Frame.ofCtx ctx .context) none :=
  walk_fuel_enough env m ctx n hn

/-- **"within a … budget tied to the input size" — the part a theorem carries.** A thread's stack
    memory is a slice of the dump (its bytes are borrowed from the file), so no thread has more
    frames than the dump has bytes, plus two; the work of unwinding is linear in the input.
    (Wall-clock time and allocator behaviour themselves are sampled, not proved.) -/
theorem c03_frames_le_input (env : Env) (m : Mem) (ctx : Ctx) (dumpLen : Nat) (h : m.size ≤ dumpLen) :
    (walk env (some m) ctx).length ≤ dumpLen + 2 :=
  Nat.le_trans (walk_bound env (some m) ctx) (Nat.add_le_add_right h 2)

/-- the bound the engine evaluates on the implementation's frame counts is this one -/
theorem boundOk_iff (frames bytes : Nat) : boundOk frames bytes = true ↔ frames ≤ bytes + 2 := by
  simp [boundOk]

/-! ## (2) "without panicking": the arithmetic kernels -/

/-- **`LinuxProcLimits::from` never panics**, whatever the `/proc/<pid>/limits` text is: the field
    vector is indexed at 0, 1, 2 (and 3) only after `.filter(|m| m.len() >= 3)`. -/
theorem limits_no_panic (text : List Char) : NoPanic (parseLimits text) := by
  unfold parseLimits
  apply mapO_ok
  intro m hm
  -- the constant read off the source must be at least 3 (it is 3)
  have h : 3 ≤ m.length :=
    Nat.le_trans (by decide : 3 ≤ LIMIT_MIN_FIELDS) (of_decide_eq_true (List.mem_filter.mp hm).2)
  unfold limitLine
  rw [cidx_ok _ m 0 (by omega), cidx_ok _ m 1 (by omega), cidx_ok _ m 2 (by omega)]
  split
  · exact ⟨_, rfl⟩
  · rw [cidx_ok _ m 3 (by omega)]
    exact ⟨_, rfl⟩

/-- the filter is what carries it: a field vector shorter than three panics in the closure (this
    was finding F9; the model of the closure is faithful to the indexing) -/
example : limitLine ["Max cpu time".toList] = .panic "limits: m[3]" := by rfl
example : limitLine ["a".toList, "b".toList, "c".toList] =
    .ok { name := "a".toList, soft := .limited 0, hard := .limited 0, unit := "n/a".toList } := by rfl

/-- **`check_for_guard_pages` never panics**: for every region list (`by_addr()`), every region
    kind and every region found at the accessed address — including regions ending at 2^64-1
    (`checked_add(1)`), empty or overflowing regions (`memory_range()` is `None`) and the
    subtraction `range.end - range.start` (ordered by construction). -/
theorem guard_no_panic (k : InfoKind) (byAddr : List RawRegion) (info : RawRegion) :
    NoPanic (guardFlag k byAddr info) := by
  obtain ⟨o, ho, hord⟩ := memRange_ok k info
  fun_cases guardFlag k byAddr info
  case case1 s hs => rw [ho] at hs; cases hs
  case case4 os oe hr _ m hm =>
    -- `range.end - range.start`: the range is ordered
    rw [ho] at hr
    cases hr
    rw [csub_ok _ _ _ (hord os oe rfl)] at hm
    cases hm
  case case5 => exact adjacentLoop_ok k _ byAddr
  all_goals exact ⟨_, rfl⟩

/-- Linux maps (end inclusive): a guard page right below the last page of the address space;
    the last page ends at 2^64-1 and `end + 1` does not exist (`checked_add` is `None`, F10) -/
example : guardFlag .maps [⟨2^64 - 8192, 2^64 - 4097, false⟩, ⟨2^64 - 4096, 2^64 - 1, true⟩]
    ⟨2^64 - 8192, 2^64 - 4097, false⟩ = .ok true := by decide +kernel
/-- the region that ends at 2^64-1 itself, as the accessed one -/
example : guardFlag .maps [⟨2^64 - 8192, 2^64 - 4097, true⟩, ⟨2^64 - 4096, 2^64 - 1, false⟩]
    ⟨2^64 - 4096, 2^64 - 1, false⟩ = .ok true := by decide +kernel
example : guardFlag .maps [⟨2^64 - 4096, 2^64 - 1, false⟩] ⟨2^64 - 4096, 2^64 - 1, false⟩ = .ok false := by decide +kernel
/-- memory-info regions: one whose `base + size` is 2^64 has no range at all and is skipped -/
example : guardFlag .info [⟨2^64 - 8192, 4096, false⟩, ⟨2^64 - 4096, 4096, true⟩] ⟨2^64 - 8192, 4096, false⟩ = .ok false := by
  decide +kernel
example : guardFlag .info [⟨4096, 4096, true⟩, ⟨8192, 4096, false⟩] ⟨8192, 4096, false⟩ = .ok true := by decide +kernel

/-- **the implicit stack access of push/call wraps** (`rsp.wrapping_sub(8)`): it is a `u64` for
    every `rsp`, equals `rsp - 8` when that exists and `rsp + 2^64 - 8` below 8 — no panic outcome
    exists in this kernel at all. -/
theorem implicit_access_total (rsp : Nat) (h : rsp ≤ U64MAX) :
    (∀ op, implicitAccess op rsp ≤ U64MAX) ∧
    (8 ≤ rsp → implicitAccess .push rsp = rsp - 8 ∧ implicitAccess .call rsp = rsp - 8) ∧
    (rsp < 8 → implicitAccess .push rsp = rsp + 2 ^ 64 - 8 ∧ implicitAccess .call rsp = rsp + 2 ^ 64 - 8) ∧
    (implicitAccess .pop rsp = rsp ∧ implicitAccess .ret rsp = rsp) := by
  refine ⟨fun op => ?_, fun h8 => ?_, fun h8 => ?_, rfl, rfl⟩
  · cases op
    case pop | ret => exact h
    all_goals exact wrappingSub64_le h (by decide)
  · exact ⟨if_pos h8, if_pos h8⟩
  · exact ⟨if_neg (Nat.not_le.mpr h8), if_neg (Nat.not_le.mpr h8)⟩

example : implicitAccess .push 0 = 2 ^ 64 - 8 := by decide +kernel
example : implicitAccess .call 7 = 2 ^ 64 - 1 := by decide +kernel

/-- **`win_frame_size` cannot overflow**: it answers exactly when the u32 sum exists. -/
theorem win_frame_size_sound (i : WinInfo) (gcps : Nat) :
    (∀ v, winFrameSize i gcps = some v → v = i.localSize + i.savedSize + gcps ∧ v ≤ U32MAX) ∧
    (winFrameSize i gcps = none → U32MAX < i.localSize + i.savedSize + gcps) := by
  refine ⟨fun v h => winFrameSize_le h, fun h => ?_⟩
  rw [winFrameSize_eq] at h
  split at h
  · cases h
  · omega

/-- F6's input: `STACK WIN 4 … ffffffff ffffffff …` has no frame size (the rule fails) -/
example : winFrameSize ⟨4294967295, 4294967295, 0, false⟩ 0 = none := by decide +kernel

/-- **`.raSearchStart` cannot overflow** (`checked_add` throughout): when it exists it is a u32 -/
theorem search_start_le (i : WinInfo) (gcps esp ebp : Nat) (aligned : Bool) (v : Nat)
    (h : searchStart i gcps esp ebp aligned = some v) : v ≤ U32MAX := by
  unfold searchStart at h
  split at h
  · exact (checkedAdd32_le h).2
  · obtain ⟨fs, _, h⟩ := Option.bind_eq_some_iff.mp h
    exact (checkedAdd32_le h).2

/-- **the FPO walk never panics** when its operands are what an x86 frame supplies: `esp` is a
    register of `CONTEXT_X86` (the only context that knows a register named `esp`; u32), the
    sizes are u32 fields of the STACK WIN record, the grand callee's parameter size is a u32.
    The `ebp` slot `esp + params + saved - 8` is `checked_sub` (F7), the frame size `checked_add` (F6). -/
theorem fpo_no_panic (i : WinInfo) (x : FpoIn)
    (hesp : ∀ e, x.esp = some e → e ≤ U32MAX) (hg : x.gcps ≤ U32MAX) (hs : i.savedSize ≤ U32MAX) :
    NoPanic (fpo i x) := by
  have hu := u64_u32
  have hw := fpo_word_eq
  fun_cases fpo i x
  -- the three branches that propagate a panic cannot be taken
  case case3 fs hf esp he s h =>
    obtain ⟨o, ho, _⟩ := fpoEip_ok x esp fs (hesp esp he) (winFrameSize_le hf).2
    rw [ho] at h
    cases h
  case case5 fs hf esp he a e hq m h =>
    obtain ⟨o, ho, hb⟩ := fpoEip_ok x esp fs (hesp esp he) (winFrameSize_le hf).2
    rw [ho] at hq
    cases hq
    have := hb a e rfl
    have := hesp esp he
    have := (winFrameSize_le hf).2
    rw [cadd64_ok _ _ _ (by omega)] at h
    cases h
  case case6 esp he _ _ _ _ _ s h =>
    obtain ⟨q, hq⟩ := fpoEbp_ok i x esp (hesp esp he) hg hs
    rw [hq] at h
    cases h
  all_goals exact ⟨_, rfl⟩

/-- F7's input: FPO record that allocates a base pointer with `esp = 4`: the slot would be below
    address 0; the walk fails instead of underflowing -/
example : fpo ⟨0, 0, 0, true⟩ ⟨some 4, some 0, some 0, none, 0, true, fun _ => some 4096⟩ = .ok none := by rfl
/-- a regular FPO frame: return address at `esp + locals + saved`, caller esp right above it -/
example : fpo ⟨8, 4, 0, false⟩ ⟨some 100, some 1, some 77, some 5, 0, true, fun a => if a = 112 then some 4096 else none⟩ =
    .ok (some { eip := 4096, esp := 116, ebp := 77, ebx := some 5 }) := by rfl
/-- the hypothesis is needed by the model (a 64-bit `esp` next to 2^64 would overflow `callee_esp +
    frame_size`) and cannot arise: only `CONTEXT_X86` has a register `esp` -/
example : fpo ⟨8, 4, 0, false⟩ ⟨some (2 ^ 64 - 4), none, none, none, 0, true, fun _ => none⟩ =
    .panic "fpo: callee_esp + frame_size" := by rfl

/-- **the unloaded-module offsets of a frame never underflow** (processor.rs:1209): the offset is
    taken only for modules whose range contains the address. -/
theorem unloaded_offsets_no_panic (instr : Nat) (unl : List ModRaw) : NoPanic (unloadedOffsets instr unl) := by
  unfold unloadedOffsets
  apply mapO_ok
  intro m hm
  have h := (List.mem_filter.mp hm).2
  simp only [decide_eq_true_eq] at h
  rw [csub_ok _ _ _ h.1]
  exact ⟨_, rfl⟩

/-- **reading the crashing instruction** (op_analysis.rs:213): inside the region
    `memory_at_address(ip)` returned, the offset exists and the slice start is in bounds. -/
theorem instruction_offset_no_panic (ip base len : Nat) (h1 : base ≤ ip) (h2 : ip - base < len) :
    NoPanic (instructionOffset ip base len) := by
  unfold instructionOffset
  rw [csub_ok _ _ _ h1, bind_ok, if_pos (Nat.le_of_lt h2)]
  exact ⟨_, rfl⟩

example : instructionOffset 4100 4096 16 = .ok 4 := by rfl

/-- **`BitFlipDetails::confidence`**: `min(nearby, 4) - 1` is an index of the 4-element table -/
theorem nearby_index_no_panic (nearby : Nat) : NoPanic (nearbyIndex nearby) := by
  unfold nearbyIndex
  split
  · rw [csub_ok _ _ _ (by omega), bind_ok, if_pos (by omega)]
    exact ⟨_, rfl⟩
  · exact ⟨_, rfl⟩

/-- **argument recovery** (arg_recovery.rs:100-120): the read head starts at an x86 stack pointer
    (u32) or at the stack's end, is advanced by 4 only while below the limit, once per argument —
    it cannot overflow while `start + 4 * pops` fits (`pops` ≤ length of the function name). -/
theorem arg_read_head_no_panic (start limit : Nat) :
    ∀ n, start + 4 * n ≤ U64MAX → ∃ h, argReadHead start limit n = .ok h ∧ h ≤ start + 4 * n := by
  intro n
  induction n with
  | zero => intro _; exact ⟨start, rfl, by omega⟩
  | succ n ih =>
    intro hb
    obtain ⟨h, hh, hle⟩ := ih (by omega)
    have hw : Consts.arg_pointer_width = 4 := rfl
    simp only [argReadHead, hh]
    split
    · rw [cadd64_ok _ _ _ (by omega)]
      exact ⟨_, rfl, by omega⟩
    · exact ⟨h, rfl, by omega⟩

example : argReadHead 4294967292 4294967295 3 = .ok 4294967296 := by rfl

/-! ## (2b) "without panicking": the crashing-instruction analysis (op_analysis.rs, amd64; `MdModel.OpAnalysis`) -/

section OpAnalysisTheorems
open MdModel.OpAnalysis

/-- **no panic arm is reachable from an instruction of the decoder's shape**, whatever the register
    file, the memory list and the stack memory are: at most four operands, exactly one for
    CALL/CALLF/JMP/JMPF/JMPE, and memory operands of an access-derivable opcode only where the
    `match idx` arms expect them (`Shape`). -/
theorem op_analysis_no_panic (i : Instr) (env : OpAnalysis.Env) (h : Shape i = true) : NoPanic (analyze i env) :=
  noPanic_iff_isOk.mpr (analyze_isOk_of_shape i env h)

/-- **`Shape` is exact**: with every register valid, an abstract instruction reaches a `panic!` /
    `assert_eq!` / `assert!` if and only if it is outside `Shape`. So the abstract instructions that
    panic are precisely: more than four operands; a CALL/CALLF/JMP/JMPF/JMPE without exactly one
    operand; a memory-accessing ADD/SUB/CMP/UCOMISS/MOV/MOVAPS/MOVUPS/LEA with a memory operand at
    position ≥ 2, CALL/JMP/JMPF/PUSH/DEC/INC/POP with one at position ≥ 1, RETURN/RETF/Jcc with
    any memory operand. (No byte sequence yaxpeax-x86 2.0 decodes was found to produce one — sampled.) -/
theorem op_analysis_panic_iff (i : Instr) (readMem : Nat → Option Nat) (readStack : Option (Nat → Option Nat)) :
    IsPanic (analyze i ⟨allValid, readMem, readStack⟩) ↔ Shape i = false := by
  rw [isPanic_iff_isOk, analyze_valid_isOk _ _ fun _ => Option.some_ne_none 1]

/-- opcodes that are neither access-derivable nor CALL/JMP-like never reach a panic arm (≤ 4 operands) -/
theorem op_analysis_other_opcodes (i : Instr) (env : OpAnalysis.Env) (h4 : i.operands.length ≤ 4)
    (hd : derivable i.opc = none) (hc : ipClass i.opc ≠ .callLike) : NoPanic (analyze i env) := by
  apply op_analysis_no_panic
  simp only [Shape, h4, decide_true, Bool.true_and, hd, Bool.and_eq_true, Bool.or_eq_true, bne_iff_ne, ne_eq]
  refine ⟨Or.inl hc, ?_⟩
  cases i.memSize <;> rfl

/-- **"every reported memory access address is the documented function of the operands".**
    Every access `memory_access_list` reports is
    * an explicit one: it belongs to a memory operand `operands[k]` whose `MemoryOperandInfo` is
      `(base, index, scale, disp)`, its address is
      `(B + I * scale + disp) mod 2^64` — `B`, `I` the values of the base / index registers (0 when
      absent), `scale` defaulting to 1, `disp` the sign-extended displacement (`i32`, or the
      `u32`/`u64` absolute address reinterpreted as `i32`/`i64`) —, flagged as a null-pointer
      dereference exactly when there is a base register holding 0, with the instruction's `mem_size`; or
    * the implicit stack slot of an access-derivable CALL/PUSH/POP/RETF/RETURN. -/
theorem op_access_documented (i : Instr) (rf : Reg → Option Nat) (l : List MemAccess)
    (h : memAccesses i rf = .ok (.ok l)) :
    ∀ m ∈ l,
      (∃ (k : Nat) (op : Operand) (inf : OpInfo) (B I : Nat), i.operands[k]? = some op ∧ op.isMemory = true ∧ opInfo op = some inf ∧
          regVal rf inf.base = some B ∧ regVal rf inf.index = some I ∧
          (m.info.address : Int) =
            ((B : Int) + (I : Int) * ((inf.scale.getD 1 : Nat) : Int) + inf.disp.getD 0) % 18446744073709551616 ∧
          m.info.null = (inf.base.isSome && B == 0) ∧ i.memSize = some m.size) ∨
      (∃ ad ms, derivable i.opc = some ad ∧ i.memSize = some ms ∧ m ∈ implicitAccesses ad rf ms) := by
  intro m hm
  revert l
  fun_cases memAccesses i rf <;> intro l h hm
  case case1 => cases h; cases hm
  case case2 | case3 => cases h
  case case4 ms hms ad had l1 hl =>
    cases h
    rcases List.mem_append.mp hm with h1 | h2
    · obtain ⟨k, op, l', hk, hf, hml⟩ := operandLoop_mem _ i.operands 0 l1 hl m h1
      obtain ⟨hmem, _, hsz, inf, hinf, haddr⟩ := explicitDerivable_mem ad rf ms (0 + k) op l' hf m hml
      obtain ⟨B, I, hB, hI, hform, hnull⟩ := addrOfInfo_spec rf inf m.info haddr
      exact Or.inl ⟨k, op, inf, B, I, hk, hmem, hinf, hB, hI, hform, hnull, by rw [hms, hsz]⟩
    · exact Or.inr ⟨ad, ms, had, hms, h2⟩
  case case5 ms hms had =>
    obtain ⟨k, op, l', hk, hf, hml⟩ := operandLoop_mem _ i.operands 0 l h m hm
    obtain ⟨hmem, _, hsz, inf, hinf, haddr⟩ := explicitUnderivable_mem rf ms op l' hf m hml
    obtain ⟨B, I, hB, hI, hform, hnull⟩ := addrOfInfo_spec rf inf m.info haddr
    exact Or.inl ⟨k, op, inf, B, I, hk, hmem, hinf, hB, hI, hform, hnull, by rw [hms, hsz]⟩

/-- the implicit stack slot: CALL/PUSH write `rsp.wrapping_sub(8)` (the kernel `implicitAccess` of
    `implicit_access_total`), POP/RETF/RETURN read `rsp`; nothing when `rsp` is invalid or for
    another opcode -/
theorem op_implicit_access (ad : AD) (rf : Reg → Option Nat) (ms : Option Nat) :
    implicitAccesses ad rf ms =
      match rf "rsp" with
      | none => []
      | some rsp =>
        if ad = .CALL ∨ ad = .PUSH then
          [{ info := { address := implicitAccess .push rsp, null := implicitAccess .push rsp == 0 }, size := ms, ty := .write }]
        else if ad = .POP ∨ ad = .RETF ∨ ad = .RETURN then
          [{ info := { address := implicitAccess .pop rsp, null := rsp == 0 }, size := ms, ty := .read }]
        else [] := by
  unfold implicitAccesses
  cases ad <;> cases rf "rsp" <;> rfl

/-- **an explicit access fails (the whole list is `None`) exactly on an invalid base or index
    register** — there is no other error path in the address derivation -/
theorem op_address_total (rf : Reg → Option Nat) (inf : OpInfo) :
    (∃ a, addrOfInfo rf inf = .ok a) ∨ (regVal rf inf.base = none ∨ regVal rf inf.index = none) := by
  cases h : addrOfInfo rf inf with
  | ok a => exact Or.inl ⟨a, rfl⟩
  | regInvalid => exact Or.inr ((addrOfInfo_invalid rf inf).mp h)

/-- **the register set** (`get_registers`): exactly the base and index registers of the operands
    that have a `MemoryOperandInfo` (the masked AVX-512 memory operands have none) -/
theorem op_registers_spec (i : Instr) (env : OpAnalysis.Env) (a : Analysis) (h : analyze i env = .ok a) :
    ∀ r, r ∈ a.registers ↔ ∃ op ∈ i.operands, ∃ inf, opInfo op = some inf ∧ (inf.base = some r ∨ inf.index = some r) := by
  intro r
  revert a
  fun_cases analyze i env <;> intro a h <;> cases h
  case case4 regs h3 =>
    rw [mem_getRegisters i.operands 0 [] regs h3 r]
    simp

/-- the classification of an opcode name by the lists read off op_analysis.rs (generated tables) -/
def ipClassOfName (n : String) : IpClass :=
  if Tables.calllike_names.contains n then .callLike
  else if Tables.retlike_names.contains n then .retLike
  else if Tables.jcc_names.contains n then .jcc
  else .other

/-- **the model's opcode classification is the source's**: for every opcode the model knows,
    `AccessDerivableOpcode::from_opcode`, `is_privileged`, `is_division` and the three opcode lists
    of `InstructionPointerUpdate::from_instruction` — as regenerated from op_analysis.rs on every
    run (`MdModel.Gen.OpAnalysisTables`) — say what `derivable`, `isPrivileged`, `isDivision`,
    `ipClass` say; and every name in those lists is an opcode the model knows. -/
theorem op_tables_agree :
    (∀ o : Opc, (derivable o).isSome = Tables.derivable_names.contains o.name ∧
      isPrivileged o = Tables.privileged_names.contains o.name ∧
      isDivision o = Tables.division_names.contains o.name ∧
      ipClass o = ipClassOfName o.name ∧ (o ≠ .other → opcOfName o.name = o)) ∧
    (∀ n ∈ Tables.derivable_names ++ Tables.privileged_names ++ Tables.division_names ++
        Tables.calllike_names ++ Tables.retlike_names ++ Tables.jcc_names, opcOfName n ≠ .other) := by
  unfold ipClassOfName
  rw [derivable_names_eq, privileged_names_eq, division_names_eq, calllike_names_eq, retlike_names_eq, jcc_names_eq]
  simp only [List.contains_map_of_injective Opc.name_inj, opcOfName_name, implies_true, and_true, List.mem_append]
  refine ⟨(Opc.forall_iff _).mpr (by decide +kernel), fun n hn => ?_⟩
  rcases hn with ((((h | h) | h) | h) | h) | h <;> exact opcOfName_ne_other rfl h

/-- `mov rax, [rbx + rcx*8 + 16]`: one read of 8 bytes at `rbx + 8*rcx + 16`, registers `{rbx, rcx}` -/
example : analyze ⟨.MOV, some (some 8), [.reg "rax", .baseIndexScaleDisp "rbx" "rcx" 8 16]⟩
    ⟨fun r => if r = "rbx" then some 4096 else if r = "rcx" then some 2 else none, fun _ => none, none⟩ =
    .ok { props := ⟨true, false, true, true⟩,
          accesses := some [⟨⟨4128, false⟩, some 8, .read⟩], ipUpdate := some .noUpdate, registers := ["rbx", "rcx"] } := by
  decide +kernel
/-- the arithmetic wraps: `[rbx + rcx*8 - 16]` with `rbx = 8`, `rcx = 2^61` -/
example : addrOfInfo (fun r => if r = "rbx" then some 8 else some (2 ^ 61)) ⟨some "rbx", some "rcx", some 8, some (-16)⟩ =
    .ok ⟨2 ^ 64 - 8, false⟩ := by decide +kernel
/-- `AbsoluteU32 { addr: 0xfffffff0 }` is sign-extended (`addr as i32 as i64`) -/
example : addrOf (fun _ => none) (.absU32 0xfffffff0) = .ok (some ⟨2 ^ 64 - 16, false⟩) := by decide +kernel
/-- a 32-bit base register (address-size override) names no amd64 context register: no access list -/
example : memAccesses ⟨.MOV, some (some 4), [.reg "eax", .deref "ebx"]⟩ (fun r => if r = "rbx" then some 1 else none) =
    .ok .regInvalid := by decide +kernel
/-- abstract instructions outside `Shape` reach the panic arms: a `ret` with a memory operand, a
    `call` with two operands, an `add` with a memory operand in third place, five operands -/
example : analyze ⟨.RETURN, some (some 8), [.deref "rax"]⟩ ⟨allValid, fun _ => none, none⟩ =
    .panic "ret/iret instruction had unexpected memory operand" := by decide +kernel
example : analyze ⟨.CALL, none, [.reg "rax", .imm]⟩ ⟨allValid, fun _ => none, none⟩ =
    .panic "call/jmp instruction had incorrect operand count" := by decide +kernel
example : Shape ⟨.ADD, some (some 4), [.reg "eax", .imm, .deref "rax"]⟩ = false ∧
    Shape ⟨.other, none, [.imm, .imm, .imm, .imm, .imm]⟩ = false ∧
    Shape ⟨.ADD, some (some 4), [.deref "rax", .imm]⟩ = true ∧ Shape ⟨.JMPF, some (some 10), [.deref "rax"]⟩ = true := by decide +kernel
/-- an invalid register at position 0 ends the loop before a later panic arm (the order of evaluation is modelled) -/
example : memAccesses ⟨.ADD, some (some 4), [.deref "eax", .imm, .deref "rax"]⟩ (fun r => if r = "rax" then some 1 else none) =
    .ok .regInvalid := by decide +kernel

end OpAnalysisTheorems

/-! ## (2c) "without panicking": x86 argument recovery (arg_recovery.rs, `recover_function_args`)

Every loop of `MdModel.ArgRecovery` is structural recursion over the bytes of the function name, the
argument list or the frame list: termination is by construction. -/

section ArgRecoveryTheorems
open MdModel.ArgRecovery

/-- **the function-signature parser never panics** on a function name that is a Rust `String`
    (valid UTF-8) shorter than 2 GiB: the `&str` slices `arg_list[arg_start..idx]` are taken at an
    ASCII comma and right behind it (character boundaries — a continuation byte never follows an
    ASCII byte, `valid_nca`), `arg_start ≤ idx` always, and the two `i32` nesting depths count
    bytes of the name. It yields at most as many arguments as the name has bytes. -/
theorem arg_list_parse_no_panic (name : Bytes) (hv : validUtf8 name = true) (hl : name.length ≤ I32MAX) :
    ∃ r, parseArgList name = .ok r ∧ ∀ cc l, r = some (cc, l) → l.length ≤ name.length :=
  parseArgList_ok name (valid_nca name hv).2 hl

/-- **`fill_arguments` never panics** on the frames of an x86 thread: every frame's stack pointer
    is a `u32` (`CONTEXT_X86.esp`; the unwinders build caller contexts of the callee's type), every
    function name is valid UTF-8 below 2 GiB (a symbol-file line, C09). The read head starts at a
    caller's `esp` — or at the saturated end of the stack memory, where it can never move —, is
    advanced by 4 only while below the limit and at most once per argument (+ `this`):
    `read_head += POINTER_WIDTH` stays below `2^32 + 4·(2^31 + 1)`. Whatever the stack memory
    holds (any base, any bytes, also ending at 2^64-1) and whatever `eax` is. -/
theorem arg_recovery_no_panic (frames : List ArgRecovery.Frame) (mem : Option StackMem)
    (hsp : ∀ g ∈ frames, g.sp ≤ U32MAX)
    (hname : ∀ f ∈ frames, ∀ n, f.name = some n → validUtf8 n = true ∧ n.length ≤ I32MAX) :
    NoPanic (fillArguments frames mem) :=
  fillFrom_ok frames mem hsp frames 0 hname

def asc (s : String) : Bytes := s.toList.map fun c => UInt8.ofNat c.toNat

/-- nested templates and parentheses hide commas; the pieces are trimmed -/
example : parseArgList (asc "ns::f(int a, std::map<int, char> , void (*)(int, int))") =
    .ok (some (.windowsThisCall, [asc "int a", asc "std::map<int, char>", asc "void (*)(int, int)"])) := by
  unfold asc
  repeat rw [String.toList_ofList]
  decide +kernel
/-- unbalanced nesting: the parser is lost / the result is rejected -/
example : ∀ n ∈ [asc "f(a>b)", asc "g(a<b)", asc "h(", asc "k(a))(b"],
    (match parseArgList n with | .ok none => true | _ => false) = true := by decide +kernel
/-- everything between the FIRST `(` and the LAST `)`; multi-byte white space is trimmed:
    `m(<U+00A0>é ,<U+3000>ü<U+2003>) const` -/
example : parseArgList ([0x6D, 0x28, 0xC2, 0xA0, 0xC3, 0xA9, 0x20, 0x2C, 0xE3, 0x80, 0x80, 0xC3, 0xBC, 0xE2, 0x80, 0x83, 0x29] ++ asc " const") =
    .ok (some (.cdecl, [[0xC3, 0xA9], [0xC3, 0xBC]])) := by decide +kernel
/-- the UTF-8 hypothesis is needed by the model: a continuation byte right behind a comma makes
    `arg_list[arg_start..]` start inside a character (Rust's slice would panic); a `String` never holds that -/
example : parseArgList [102, 40, 97, 44, 0x80, 41] = .panic "arg_list[arg_start..]" ∧ validUtf8 [102, 40, 97, 44, 0x80, 41] = false := by
  decide +kernel
/-- two cdecl arguments read from the caller's frame; the third lies beyond the caller's frame pointer -/
example : fillArguments
    [⟨100, some (asc "f(a, b, c)"), true, some 7⟩, ⟨104, none, true, none⟩, ⟨112, none, true, none⟩]
    (some ⟨100, [0,0,0,0, 1,0,0,0, 2,1,0,0, 3,0,0,0]⟩) =
    .ok [some ⟨.cdecl, [(asc "a", some 1), (asc "b", some 258), (asc "c", none)]⟩, none, none] := by
  decide +kernel
/-- the `u32` hypothesis is needed by the model (a 64-bit stack pointer next to 2^64 overflows the
    read head) and cannot arise for `MinidumpRawContext::X86` frames -/
example : fillArguments [⟨0, some (asc "f(a)"), true, none⟩, ⟨2 ^ 64 - 2, none, true, none⟩, ⟨2 ^ 64 - 1, none, true, none⟩] (some ⟨0, []⟩) =
    .panic "read_head += POINTER_WIDTH" := by decide +kernel
/-- without a caller frame both limits are the (saturated) end of the stack: nothing is read, nothing moves -/
example : fillArguments [⟨5, some (asc "A::f(a, b)"), true, some 9⟩] (some ⟨2 ^ 64 - 4, [1, 2, 3, 4, 5, 6, 7, 8]⟩) =
    .ok [some ⟨.windowsThisCall, [(thisName, some 9), (asc "a", none), (asc "b", none)]⟩] := by decide +kernel

end ArgRecoveryTheorems

/-! ## (2d) the remaining sites of the site review (notes/C03.md) -/

/-- **the STACK WIN program evaluator never panics** (walker.rs:800-890: `wrapping_*`, `/` and `%`
    behind the `rhs == 0` tests, `rhs - 1` of the alignment operator behind `rhs == 0 ||`): for every
    program text, size fields, register file, grand callee and memory. (= C07 `evalWin_ok` about
    `MdModel.Win.evalWin`, tied by C07's engine `win`; restated here as the C03 obligation.) -/
theorem c03_win_program_no_panic (expr : List Char) (info : MdModel.Win.Info) (w : MdModel.Win.Walker) :
    ∃ p, MdModel.Win.evalWin expr info w = .ok p :=
  MdModel.Win.evalWin_ok expr info w

/-- processor.rs:1125 `SystemTime::UNIX_EPOCH + Duration::from_secs(dump.header.time_date_stamp as u64)`:
    `SystemTime + Duration` panics only when the sum leaves the platform's range (i64 seconds on
    every supported target); a `u32` of seconds after 1970 never does. -/
theorem dump_time_no_panic (stamp : Nat) (h : stamp ≤ U32MAX) : NoPanic (dumpTime stamp) := by
  unfold dumpTime
  rw [Nat.zero_add, if_pos (Nat.le_trans h (by decide))]
  exact ⟨_, rfl⟩

/-- processor.rs:245/255 `num_threads_processed += 1`, `num_frames_processed += 1` (u64, under the
    stats mutex): after `n` increments from 0 the counter is `n`; it cannot overflow while `n ≤ 2^64-1`,
    and `n` is the number of threads (a u32 count) resp. of frames (`c03_walk_bound`: at most
    stack bytes + 2 per thread). No other statement runs while the mutex is held, so it is never poisoned. -/
theorem stat_counter_no_panic (n : Nat) (h : n ≤ U64MAX) : statCounter n = .ok n := by
  induction n with
  | zero => rfl
  | succ k ih =>
    simp only [statCounter, ih (by omega)]
    exact cadd64_ok _ k 1 (by omega)

example : dumpTime 4294967295 = .ok 4294967295 := by decide +kernel
example : statCounter 3 = .ok 3 := by decide +kernel

/-! ## (3) "the resulting state can always be written as full text, brief text and JSON" -/

/-- the invariants of a frame the printers rely on: its module, function and source-line bases
    are at or below its lookup address (module: C08 lookup soundness via C05 `walk_covered`;
    function and line: `fill_symbol` adds the module base to an address at or below the offset, C11) -/
def FrameInv (f : FrameIn) : Prop :=
  (∀ b, f.mbase = some b → b ≤ f.instr) ∧ (∀ b, f.fbase = some b → b ≤ f.instr) ∧ (∀ b, f.lbase = some b → b ≤ f.instr)

theorem frameOffsets_ok (f : FrameIn) (h : FrameInv f) : NoPanic (frameOffsets f) :=
  noPanic_bind (optSub_ok _ _ _ h.1) fun _ => noPanic_bind (optSub_ok _ _ _ h.2.1) fun _ =>
    noPanic_bind (optSub_ok _ _ _ h.2.2) fun _ => noPanic_ok _

/-- **render_total.** On every state whose module lists are what the readers keep
    (`size_of_image ≠ 0 ∧ size_of_image ≤ u64::MAX - base_of_image`, minidump.rs:1555/1662) and whose
    frames satisfy the frame invariants, all the arithmetic of `print`, `print_brief` and
    `print_json` — `base + size` (JSON `end_addr`), `base + size - 1` (text), `instruction - module
    base`, `instruction - function_base`, `instruction - source_line_base` — has no panic outcome. -/
theorem render_total (r : RenderIn)
    (hm : ∀ m ∈ r.mods, readerKeeps m = true) (hmt : ∀ m ∈ r.modsText, readerKeeps m = true)
    (hu : ∀ m ∈ r.unl, readerKeeps m = true) (hut : ∀ m ∈ r.unlText, readerKeeps m = true)
    (hf : ∀ f ∈ r.frames, FrameInv f) : NoPanic (render r) :=
  noPanic_bind (mapO_ok _ _ fun m h => jsonEnd_ok m (hm m h)) fun _ =>
  noPanic_bind (mapO_ok _ _ fun m h => textEnd_ok m (hmt m h)) fun _ =>
  noPanic_bind (mapO_ok _ _ fun m h => jsonEnd_ok m (hu m h)) fun _ =>
  noPanic_bind (mapO_ok _ _ fun m h => textEnd_ok m (hut m h)) fun _ =>
  noPanic_bind (mapO_ok _ _ fun f h => frameOffsets_ok f (hf f h)) fun _ => noPanic_ok _

/-- a non-trivial state: a module ending exactly at 2^64-1 and a frame at its last byte -/
example : ∃ o, render ⟨[⟨2^64 - 4096, 4095⟩], [⟨2^64 - 4096, 4095⟩], [⟨4096, 1⟩], [⟨4096, 1⟩],
    [⟨2^64 - 2, some (2^64 - 4096), some (2^64 - 100), some (2^64 - 2)⟩]⟩ = .ok o ∧
    o.modEnds = [2^64 - 1] ∧ o.modTextEnds = [2^64 - 2] ∧ o.unlTextEnds = [4096] ∧
    o.frames = [(some 4094, some 98, some 0)] := by
  refine ⟨_, rfl, ?_, ?_, ?_, ?_⟩ <;> decide
/-- the reader invariant is needed: a module the readers would have dropped overflows `end_addr` -/
example : render ⟨[⟨2^64 - 1, 1⟩], [], [], [], []⟩ =
    .panic "print_json: base_of_image + size_of_image" := by rfl
example : readerKeeps ⟨2^64 - 1, 1⟩ = false ∧ readerKeeps ⟨5, 0⟩ = false ∧ readerKeeps ⟨2^64 - 2, 1⟩ = true := by decide +kernel

/-- how a frame of the walk model is seen by the printers -/
def frameIn (w : World) (f : Frame) : FrameIn :=
  { instr := f.instruction,
    mbase := f.module.bind fun i => (w.mods[i]?).map (·.base),
    fbase := f.func.map (·.base),
    lbase := none }

/-- **render_walk_frames_total.** The frame invariants hold for every frame of every call stack
    the walk model returns for a module list and symbol records (C05 `walk_covered`, on top of C08's
    lookup soundness): so the printers' frame arithmetic is total on everything `walk_stack`
    produces, whatever the context, the stack bytes and the symbol files are. -/
theorem render_walk_frames_total (arch : Arch) (os : Os) (w : World) (mem0 : Mem) (mem : Option Mem) (ctx : Ctx) :
    ∀ f ∈ walk (mkEnv arch os w mem0) mem ctx, NoPanic (frameOffsets (frameIn w f)) := by
  intro f hf
  obtain ⟨hmod, hfun⟩ := walk_covered arch os w mem0 mem ctx f hf
  refine frameOffsets_ok _ ⟨fun b hb => ?_, fun b hb => ?_, nofun⟩
  · obtain ⟨i, hi, hb⟩ := Option.bind_eq_some_iff.mp hb
    obtain ⟨m, hm, hle, _⟩ := hmod i hi
    rw [hm] at hb
    cases hb
    exact hle
  · obtain ⟨g, hg, rfl⟩ := Option.map_eq_some_iff.mp hb
    obtain ⟨i, m, sf, _, _, _, hc⟩ := hfun g hg
    exact hc.2.1

end MdModel.Process
