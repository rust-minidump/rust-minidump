/-
  C14 — The process state is a faithful index of the dump.

  Property text: "For every processable dump, the result has exactly one call stack per entry of the
  thread list, in order, with the same thread ids and names, and the requesting thread is the
  non-dump-writer thread named by the exception record, else by the Breakpad info, whose walk starts
  from the exception's context when one can be read. Crash reason and crash address are the
  documented functions of the exception record, operating system and CPU (32-bit addresses
  zero-extended). Modules, unloaded modules with per-frame offsets, process id and times are those
  of the corresponding streams."

  The theorems are about `MdModel.Index.index` / `MdModel.Reason` — the model the compiled driver
  executes and the `index` engine compares with the real `process_minidump` on every run — for dumps
  with ANY number of threads, names, modules, memory regions and any field values. "Processable" =
  the dump has a thread list (`d.threads = some ts`); `index_total` shows the model then never
  panics and yields a state — in either byte order: the stack memory of a big-endian dump is read
  big-endian (`walk_mem_endian`), as `MinidumpMemoryBase::get_memory_at_address` does.

  `index` CALLS the walker model `MdModel.Walk.walk` (C05/C04) on the stack memory it selects with
  the start context it chooses: `stacks_are_walks` states this for every call stack of the state, so
  C05's well-formedness (`walk_wf`), C03's frame bound (`walk_bound`) and C05's module cover
  (`walk_covered`) hold for every stack of the process state (`stacks_wf`, `stacks_frame_bound`,
  `frame_module_sound`). The symbol files the supplier has are part of the dump description
  (`Dump.syms`), so these walks include CFI / STACK WIN frames and the frames carry the functions
  `fill_symbol` finds; contexts carry all their registers.
  `own_stack_by_start_redundant`: the fallback lookup of `MinidumpThread::stack_memory` by
  `start_of_memory_range` never changes a call stack (on top of C08: index-valued tables are never
  merged, `RangeMap.safeVec_mem_of_distinct`).

  Reading of the text (DESIGN.md §6.0): with duplicate thread ids the LAST matching thread is the
  requesting thread and the LAST readable duplicate name wins.
  Finding C14-dump-thread-name: the dump-writer thread's call stack lost its name; /repo commit
  1dec95b repaired it, the model follows the repaired code and
  `stacks_match_threads` states the names of ALL threads, the dump-writer thread included.
-/
import MdProofs.Lemmas.Index
import MdProofs.Lemmas.IndexReason
import MdProofs.Lemmas.IndexUnloaded
import MdProofs.Lemmas.IndexWalk
import MdProofs.C05
namespace MdModel.Index
open MdModel
open MdModel.Reason (Exc Reason Os Cpu)
open MdModel.Walk (Mem)

/-- **C14.1** one call stack per thread-list entry, in order, with the thread's id and the name
    the names stream gives that id — for EVERY thread, the skipped dump-writer thread included. -/
theorem stacks_match_threads (d : Dump) (ts : List Thread) (s : State)
    (hth : d.threads = some ts) (h : index d = .state s) :
    s.stacks.length = ts.length ∧
    ∀ i (h1 : i < ts.length) (h2 : i < s.stacks.length),
      s.stacks[i].id = ts[i].id ∧ s.stacks[i].name = nameOf d.names ts[i].id := by
  obtain ⟨hlen, hat⟩ := stack_at d ts s hth h
  refine ⟨hlen, ?_⟩
  intro i h1 h2
  obtain ⟨hid, hname, -⟩ := attachStack_core _ _ _ (hat i h1 h2)
  exact ⟨by rw [hid, stackOf_eq], by rw [hname, stackOf_eq]⟩

private theorem nameStep_skip (id : Nat) (b : Option String) (e : Nat × Option String) (h : e.1 = id → e.2 = none) :
    (if e.1 = id then (match e.2 with | some n => some n | none => b) else b) = b := by
  by_cases hid : e.1 = id
  · rw [if_pos hid, h hid]
  · exact if_neg hid

/-- the names stream is an id-keyed map filled in stream order in which unreadable strings are
    skipped: the LAST readable entry for an id wins … -/
theorem nameOf_last_readable (pre post : List (Nat × Option String)) (id : Nat) (n : String)
    (hpost : ∀ e ∈ post, e.1 = id → e.2 = none) :
    nameOf (pre ++ (id, some n) :: post) id = some n :=
  (foldl_last_wins _ (fun o => o) pre post (id, some n) none fun b e he => nameStep_skip id b e (hpost e he)).trans
    (if_pos rfl)

/-- … and an id without a readable entry has no name. -/
theorem nameOf_none (names : List (Nat × Option String)) (id : Nat)
    (h : ∀ e ∈ names, e.1 = id → e.2 = none) : nameOf names id = none :=
  foldl_keep _ (fun o => o) names none fun b e he => nameStep_skip id b e (h e he)

/-- the dump-writer thread is skipped — no frame, `DumpThreadSkipped` — but keeps its name
    (processor.rs:1056-1063 after /repo commit 1dec95b) -/
theorem dump_thread_skipped (d : Dump) (t : Thread) (h : isDumpThread d t = true) :
    (stackOf d t).name = nameOf d.names t.id ∧ (stackOf d t).info = .dumpThreadSkipped ∧
    (stackOf d t).frames = [] := by
  unfold stackOf; rw [if_pos h]; exact ⟨rfl, rfl, rfl⟩

/-- which id is asked for: the exception stream's thread id whenever an exception stream exists
    (Breakpad's requesting id is then not consulted at all), else Breakpad's requesting id, which
    counts only when validity bit 1 is set. -/
theorem requestingId_spec (d : Dump) :
    (∀ e c, d.exc = some (e, c) → requestingId d = some e.tid) ∧
    (d.exc = none → ∀ b, d.breakpad = some b →
        requestingId d = if b.validity.testBit 1 then some b.reqId else none) ∧
    (d.exc = none → d.breakpad = none → requestingId d = none) := by
  refine ⟨?_, ?_, ?_⟩
  · intro e c h; simp [requestingId, h]
  · intro h b hb; simp only [requestingId, h, bpRequestingId, hb, bit1_eq]
  · intro h hb; simp [requestingId, h, bpRequestingId, hb]

/-- a thread is marked as requesting iff it is not the dump-writer thread (Breakpad validity bit 0)
    and carries the requested id -/
theorem isRequesting_iff (d : Dump) (t : Thread) :
    isRequesting d t = true ↔ dumpThreadId d.breakpad ≠ some t.id ∧ requestingId d = some t.id := by
  simp [isRequesting, isDumpThread]

theorem dumpThreadId_spec (b : Breakpad) :
    dumpThreadId (some b) = if b.validity.testBit 0 then some b.dumpId else none := by
  simp only [dumpThreadId, bit0_eq]

/-- **C14.2** `requesting_thread = Some(i)` exactly for the LAST thread-list position `i` whose
    thread is marked (non-dump-writer, requested id); `None` exactly when no thread is marked.
    In particular the dump-writer thread is never the requesting thread, even when the exception
    record names it. -/
theorem requesting_thread_rule (d : Dump) (ts : List Thread) (s : State)
    (hth : d.threads = some ts) (h : index d = .state s) :
    (∀ i, s.requesting = some i ↔
        ∃ hi : i < ts.length, isRequesting d ts[i] = true ∧
          ∀ j (hj : j < ts.length), i < j → isRequesting d ts[j] = false) ∧
    (s.requesting = none ↔ ∀ t ∈ ts, isRequesting d t = false) := by
  obtain ⟨-, hreq, -⟩ := index_state_inv d ts s hth h
  rw [hreq]
  have last := fun i hi hp hl => (loop_req_last d 0 ts none i hi hp hl).trans (congrArg some (Nat.zero_add i))
  rcases exists_last_or_none (isRequesting d) ts with ⟨i₀, hi₀, hp₀, hl₀⟩ | hnone
  · rw [last i₀ hi₀ hp₀ hl₀]
    refine ⟨fun i => ⟨?_, fun ⟨hi, hp, hl⟩ => (last i₀ hi₀ hp₀ hl₀).symm.trans (last i hi hp hl)⟩, ?_⟩
    · rintro ⟨⟩
      exact ⟨hi₀, hp₀, hl₀⟩
    · exact ⟨nofun, fun hn => absurd hp₀ (by rw [hn _ (List.getElem_mem hi₀)]; decide)⟩
  · rw [loop_req_none d 0 ts none hnone]
    refine ⟨fun i => ⟨nofun, fun ⟨hi, hp, _⟩ => ?_⟩, fun _ => hnone, fun _ => rfl⟩
    exact absurd hp (by rw [hnone _ (List.getElem_mem hi)]; decide)

theorem requesting_never_dump_thread (d : Dump) (ts : List Thread) (s : State)
    (hth : d.threads = some ts) (h : index d = .state s) (i : Nat) (hreq : s.requesting = some i) :
    ∃ hi : i < ts.length, isDumpThread d ts[i] = false := by
  obtain ⟨hi, hq, -⟩ := ((requesting_thread_rule d ts s hth h).1 i).mp hreq
  refine ⟨hi, ?_⟩
  simp only [isRequesting, Bool.and_eq_true, Bool.not_eq_eq_eq_not, Bool.not_true] at hq
  exact hq.1

/-- which context a thread's walk starts from: none for the skipped dump-writer thread; for the
    requesting thread(s) the exception's context when it is readable and only otherwise the
    thread's own; for every other thread its own -/
theorem start_context_rule (d : Dump) (t : Thread) :
    (isDumpThread d t = true → startCtx d t = none) ∧
    (isDumpThread d t = false →
        (isRequesting d t = true → ∀ r, excCtx d = some r → startCtx d t = some r) ∧
        (isRequesting d t = true → excCtx d = none → startCtx d t = readCtx d t.ctx) ∧
        (isRequesting d t = false → startCtx d t = readCtx d t.ctx)) := by
  refine ⟨fun hd => by simp [startCtx, hd], fun hd => ⟨?_, ?_, ?_⟩⟩
  · intro hq r hr; simp [startCtx, hd, hq, hr]
  · intro hq hr; simp [startCtx, hd, hq, hr]
  · intro hq; simp [startCtx, hd, hq]

/-- **C14.3** the call stack of thread `i`: `DumpThreadSkipped` without frames for the dump-writer
    thread; `MissingContext` without frames exactly when there is no start context; otherwise `Ok`
    and the FIRST FRAME IS the start context (`start_context_rule`): trust `context`, all its
    registers, instruction = its instruction pointer. -/
theorem context_preference (d : Dump) (ts : List Thread) (s : State)
    (hth : d.threads = some ts) (h : index d = .state s)
    (i : Nat) (h1 : i < ts.length) (h2 : i < s.stacks.length) :
    (isDumpThread d ts[i] = true →
        s.stacks[i].info = .dumpThreadSkipped ∧ s.stacks[i].frames = []) ∧
    (isDumpThread d ts[i] = false →
        (s.stacks[i].info = .missingContext ↔ startCtx d ts[i] = none) ∧
        (s.stacks[i].info = .ok ↔ ∃ r, startCtx d ts[i] = some r) ∧
        (startCtx d ts[i] = none → s.stacks[i].frames = []) ∧
        (∀ r, startCtx d ts[i] = some r →
          ∃ f0 rest, s.stacks[i].frames = f0 :: rest ∧ f0.f.trust = .context ∧
            f0.f.ctx = toCtx d.arch r ∧ f0.f.instruction = r.ip)) := by
  obtain ⟨-, -, hinfo, -⟩ := attachStack_core _ _ _ ((stack_at d ts s hth h).2 i h1 h2)
  rw [hinfo, stackOf_eq]
  constructor
  · intro hd
    exact ⟨if_pos hd, stack_no_ctx d ts s hth h i h1 h2 ((start_context_rule d ts[i]).1 hd)⟩
  · intro hd
    rw [if_neg (by simp [hd])]
    refine ⟨?_, ?_, stack_no_ctx d ts s hth h i h1 h2, fun r hs => ?_⟩
    · cases hs : startCtx d ts[i] <;> simp
    · cases hs : startCtx d ts[i] <;> simp
    · obtain ⟨g0, grest, hg, htrust, hctx, hin⟩ :=
        (Walk.walk_wf (envOf d (selectMem (memoryList d) ts[i] (some r.sp)))
          (walkMem d (selectMem (memoryList d) ts[i] (some r.sp))) (toCtx d.arch r)).head
      have hw := stack_walk d ts s hth h i h1 h2 hs
      rw [hg] at hw
      obtain ⟨f0, rest, hfs, rfl, -⟩ := List.map_eq_cons_iff.mp hw
      exact ⟨f0, rest, hfs, htrust, hctx, hin⟩

/-- a context is readable only on an architecture for which `MinidumpContext::read` has a format -/
theorem readCtx_spec (d : Dump) (c : Option Regs) :
    readCtx d c = if Reason.archHasContext d.arch then c else none := rfl

end MdModel.Index
namespace MdModel.Reason
open MdModel MdModel.Gen

/-- `ExceptionCodeWindows::from_u32(code) == Some(EXCEPTION_ACCESS_VIOLATION)` iff `code = 0xc0000005`
    (proved against the table translated from windows.rs on this run) -/
theorem access_violation_code (v : Nat) :
    lookup Enums.ExceptionCodeWindows v = some "EXCEPTION_ACCESS_VIOLATION" ↔ v = 0xc0000005 :=
  lookup_name_iff (by decide +kernel) (by decide +kernel)

theorem in_page_error_code (v : Nat) :
    lookup Enums.ExceptionCodeWindows v = some "EXCEPTION_IN_PAGE_ERROR" ↔ v = 0xc0000006 :=
  lookup_name_iff (by decide +kernel) (by decide +kernel)

/-- **C14.4** the crash address: exception parameter 1 exactly when the OS is Windows, the code is
    access-violation (0xc0000005) or in-page-error (0xc0000006) AND at least two parameters are
    present; the exception address otherwise; and on a 32-bit CPU the low 32 bits of that,
    zero-extended. -/
theorem crash_address_spec (e : Exc) (os : Os) (cpu : Cpu) :
    crashAddress e os cpu =
      (if cpu.is32 then
        (if os = .windows ∧ (e.code = 0xc0000005 ∨ e.code = 0xc0000006) ∧ 2 ≤ e.nparams then e.p1 else e.addr) % 2^32
      else
        (if os = .windows ∧ (e.code = 0xc0000005 ∨ e.code = 0xc0000006) ∧ 2 ≤ e.nparams then e.p1 else e.addr)) := by
  unfold crashAddress
  simp only [access_violation_code, in_page_error_code, ge_iff_le]

/-- zero-extension: on a 32-bit CPU the crash address fits 32 bits, whatever the (possibly
    sign-extended) 64-bit fields of the record hold -/
theorem crash_address_zero_extended (e : Exc) (os : Os) (cpu : Cpu) (h : cpu.is32 = true) :
    crashAddress e os cpu < 2^32 := by
  rw [crash_address_spec, if_pos h]
  exact Nat.mod_lt _ (by decide)

/-- the parameter-count gate: with fewer than two parameters parameter 1 is never used -/
theorem crash_address_param_gate (e : Exc) (os : Os) (cpu : Cpu) (h : e.nparams < 2) :
    crashAddress e os cpu = if cpu.is32 then e.addr % 2^32 else e.addr := by
  rw [crash_address_spec]
  have : ¬ (os = .windows ∧ (e.code = 0xc0000005 ∨ e.code = 0xc0000006) ∧ 2 ≤ e.nparams) := by omega
  simp only [if_neg this]

/-- on a 64-bit (or unknown-width) CPU nothing is masked -/
theorem crash_address_64 (e : Exc) (os : Os) (cpu : Cpu) (h : cpu.is32 = false) (hos : os ≠ .windows) :
    crashAddress e os cpu = e.addr := by
  rw [crash_address_spec]
  simp [h, hos]

/-- which raw `processor_architecture` values are 32-bit CPUs (x86, WoW64, MIPS, PPC, ARM, SPARC) -/
theorem is32_archs :
    [0, 10, 1, 3, 5, 0x8001].all (fun a => (Cpu.ofArch a).is32) = true ∧
    [9, 12, 0x8002, 0x8003, 0x8004, 6, 0xffff, 77].all (fun a => !(Cpu.ofArch a).is32) = true := by
  decide +kernel

def windowsFamilies : List Family :=
  [.WindowsGeneral, .WindowsWinError, .WindowsWinErrorWithFacility, .WindowsNtStatus,
   .WindowsAccessViolation, .WindowsInPageError, .WindowsStackBufferOverrun, .WindowsUnknown]

def linuxFamilies : List Family :=
  [.LinuxGeneral, .LinuxSigill, .LinuxSigtrap, .LinuxSigbus, .LinuxSigfpe, .LinuxSigsegv, .LinuxSigsys]

def macFamilies : List Family :=
  [.MacGeneral, .MacBadAccessKern, .MacBadAccessArm, .MacBadAccessPpc, .MacBadAccessX86,
   .MacBadInstructionArm, .MacBadInstructionPpc, .MacBadInstructionX86,
   .MacArithmeticArm, .MacArithmeticPpc, .MacArithmeticX86, .MacSoftware,
   .MacBreakpointArm, .MacBreakpointPpc, .MacBreakpointX86, .MacResource, .MacGuard]

theorem windowsError_family (code : Nat) :
    (windowsError code).family ∈
      [Family.WindowsWinError, .WindowsNtStatus, .WindowsWinErrorWithFacility, .WindowsUnknown] := by
  fun_cases windowsError code
  · exact List.mem_cons_self
  · exact List.mem_cons_of_mem _ List.mem_cons_self
  · rename_i r hr; rw [windowsWithFacility_family hr]; decide
  · show Family.WindowsUnknown ∈ _; decide

theorem windowsCode_family (code : Nat) :
    (windowsCode code).family ∈
      [Family.WindowsGeneral, .WindowsWinError, .WindowsNtStatus, .WindowsWinErrorWithFacility, .WindowsUnknown] := by
  fun_cases windowsCode code
  · exact List.mem_cons_self
  · exact List.mem_cons_of_mem _ (windowsError_family code)

theorem windowsException_family (e : Exc) : (windowsException e).family ∈ windowsFamilies := by
  have hbase : (windowsCode e.code).family ∈ windowsFamilies :=
    (by decide : ∀ f ∈ [Family.WindowsGeneral, .WindowsWinError, .WindowsNtStatus, .WindowsWinErrorWithFacility,
      .WindowsUnknown], f ∈ windowsFamilies) _ (windowsCode_family e.code)
  -- every branch is `windowsCode e.code` or one of the three refinements
  fun_cases windowsException e <;> first | exact hbase | simp [windowsFamilies, Reason.mk1]

/-- `from_windows_code` yields `WindowsGeneral(name)` exactly for the codes of `ExceptionCodeWindows` -/
theorem windowsCode_general_iff (code : Nat) (n : String) :
    windowsCode code = .mk1 .WindowsGeneral n ↔ lookup Enums.ExceptionCodeWindows code = some n := by
  unfold windowsCode
  cases h : lookup Enums.ExceptionCodeWindows code with
  | some m => simp [Reason.mk1]
  | none =>
    simp only [reduceCtorEq, iff_false]
    intro heq
    have hf := windowsError_family code
    rw [heq] at hf
    simp [Reason.mk1] at hf

/-- `ExceptionCodeWindowsAccessType::from_u64` knows exactly 0 (READ), 1 (WRITE) and 8 (EXEC) -/
private theorem accessType_known (v : Nat) :
    lookup Enums.ExceptionCodeWindowsAccessType v ≠ none ↔ v = 0 ∨ v = 1 ∨ v = 8 := by
  rw [Ne, lookup_eq_lookup, List.lookup_eq_none_iff_not_mem_keys, Classical.not_not]
  show v ∈ [0, 1, 8] ↔ _
  simp

/-- the access-violation refinement of the Windows reason and ITS parameter-count gate (one
    parameter suffices for the access type, while the address needs two — `crash_address_spec`) -/
theorem windows_access_violation_iff (e : Exc) :
    (windowsException e).family = .WindowsAccessViolation ↔
      e.code = 0xc0000005 ∧ 1 ≤ e.nparams ∧ (e.p0 = 0 ∨ e.p0 = 1 ∨ e.p0 = 8) := by
  have hfam := windowsCode_family e.code
  have hne : ∀ f, f ∈ [Family.WindowsGeneral, .WindowsWinError, .WindowsNtStatus,
      .WindowsWinErrorWithFacility, .WindowsUnknown] → f ≠ .WindowsAccessViolation := by decide
  have hbase := hne _ hfam
  unfold windowsException
  simp only [windowsCode_general_iff, access_violation_code, in_page_error_code, ge_iff_le]
  by_cases hc : e.code = 0xc0000005
  · rw [if_pos hc]
    by_cases hn : 1 ≤ e.nparams
    · rw [if_pos hn]
      cases hl : lookup Enums.ExceptionCodeWindowsAccessType e.p0 with
      | some ty => exact ⟨fun _ => ⟨hc, hn, (accessType_known _).mp (hl ▸ nofun)⟩, fun _ => rfl⟩
      | none => exact ⟨fun h => absurd h hbase, fun h => absurd hl ((accessType_known _).mpr h.2.2)⟩
    · rw [if_neg hn]
      constructor
      · intro h; exact absurd h hbase
      · rintro ⟨-, h, -⟩; exact absurd h hn
  · rw [if_neg hc]
    refine ⟨fun h => absurd h ?_, fun h => absurd h.1 hc⟩
    -- the other branches end in `windowsCode e.code` or in one of the two other refinements
    have nav : ∀ {c : Prop} [Decidable c] {a b : Reason}, a.family ≠ .WindowsAccessViolation →
        b.family ≠ .WindowsAccessViolation → (if c then a else b).family ≠ .WindowsAccessViolation :=
      ite_of (P := fun r : Reason => r.family ≠ .WindowsAccessViolation)
    refine nav (nav ?_ hbase) (nav (nav ?_ hbase) hbase)
    · cases lookup Enums.ExceptionCodeWindowsInPageErrorType e.p0 with
      | some ty => intro h; cases h
      | none => exact hbase
    · intro h; cases h

/-- the small sub-code tables, as documented by the platform ABIs (asm-generic/siginfo.h,
    WinNT.h): a change of any of these values in the Rust source breaks this obligation -/
theorem documented_small_tables :
    Enums.ExceptionCodeLinuxSigsegvKind = [(1, "SEGV_MAPERR"), (2, "SEGV_ACCERR"), (3, "SEGV_BNDERR"), (4, "SEGV_PKUERR")] ∧
    Enums.ExceptionCodeLinuxSigbusKind =
      [(1, "BUS_ADRALN"), (2, "BUS_ADRERR"), (3, "BUS_OBJERR"), (4, "BUS_MCEERR_AR"), (5, "BUS_MCEERR_AO")] ∧
    Enums.ExceptionCodeLinuxSigsysKind = [(1, "SYS_SECCOMP"), (2, "SYS_USER_DISPATCH")] ∧
    Enums.ExceptionCodeWindowsAccessType = [(0, "READ"), (1, "WRITE"), (8, "EXEC")] ∧
    Enums.ExceptionCodeWindowsInPageErrorType = [(0, "READ"), (1, "WRITE"), (8, "EXEC")] ∧
    lookup Enums.ExceptionCodeLinux 11 = some "SIGSEGV" ∧ lookup Enums.ExceptionCodeLinux 7 = some "SIGBUS" ∧
    lookup Enums.ExceptionCodeLinux 4 = some "SIGILL" ∧ lookup Enums.ExceptionCodeLinux 8 = some "SIGFPE" ∧
    lookup Enums.ExceptionCodeLinux 5 = some "SIGTRAP" ∧ lookup Enums.ExceptionCodeLinux 31 = some "SIGSYS" ∧
    lookup Enums.ExceptionCodeLinux 6 = some "SIGABRT" ∧
    lookup Enums.ExceptionCodeMac 1 = some "EXC_BAD_ACCESS" ∧ lookup Enums.ExceptionCodeMac 2 = some "EXC_BAD_INSTRUCTION" ∧
    lookup Enums.ExceptionCodeMac 3 = some "EXC_ARITHMETIC" ∧ lookup Enums.ExceptionCodeMac 5 = some "EXC_SOFTWARE" ∧
    lookup Enums.ExceptionCodeMac 6 = some "EXC_BREAKPOINT" ∧ lookup Enums.ExceptionCodeMac 11 = some "EXC_RESOURCE" ∧
    lookup Enums.ExceptionCodeMac 12 = some "EXC_GUARD" ∧
    lookup Enums.NtStatusWindows 0xc0000409 = some "STATUS_STACK_BUFFER_OVERRUN" := by
  decide +kernel

/-- what holds of every reason `from_linux_exception` can return for a known signal `n`, as a
    predicate so that it can be carried through the branches (`ite_of`, `refine_of`) -/
def LinuxOk (n : String) (e : Exc) (r : Reason) : Prop :=
  r.family ∈ linuxFamilies ∧ (r.family = .LinuxGeneral → r = ⟨.LinuxGeneral, [n], [e.flags]⟩)

theorem linuxException_cases (e : Exc) :
    (lookup Enums.ExceptionCodeLinux e.code = none ∧ linuxException e = none) ∨
    (∃ n r, lookup Enums.ExceptionCodeLinux e.code = some n ∧ linuxException e = some r ∧
        (r.family ∈ linuxFamilies) ∧ (r.family = .LinuxGeneral → r = ⟨.LinuxGeneral, [n], [e.flags]⟩)) := by
  unfold linuxException
  cases h : lookup Enums.ExceptionCodeLinux e.code with
  | none => exact .inl ⟨rfl, rfl⟩
  | some n =>
    refine .inr ⟨n, _, rfl, rfl, ?_⟩
    show LinuxOk n e _
    have dflt : LinuxOk n e ⟨.LinuxGeneral, [n], [e.flags]⟩ :=
      ⟨(by decide : Family.LinuxGeneral ∈ linuxFamilies), fun _ => rfl⟩
    have sub : ∀ t f, f ∈ linuxFamilies → f ≠ .LinuxGeneral →
        LinuxOk n e (refine t f e.flags ⟨.LinuxGeneral, [n], [e.flags]⟩) :=
      fun t f hf hne => refine_of t f _ _ (fun _ => ⟨hf, fun h => absurd h hne⟩) dflt
    exact ite_of (sub _ _ (by decide) (by decide)) (ite_of (sub _ _ (by decide) (by decide))
      (ite_of (sub _ _ (by decide) (by decide)) (ite_of (sub _ _ (by decide) (by decide))
      (ite_of (sub _ _ (by decide) (by decide)) (ite_of (sub _ _ (by decide) (by decide)) dflt)))))

def macArmFamilies : List Family := [.MacBadAccessArm, .MacBadInstructionArm, .MacArithmeticArm, .MacBreakpointArm]
def macPpcFamilies : List Family := [.MacBadAccessPpc, .MacBadInstructionPpc, .MacArithmeticPpc, .MacBreakpointPpc]
def macX86Families : List Family := [.MacBadAccessX86, .MacBadInstructionX86, .MacArithmeticX86, .MacBreakpointX86]

def MacOk (n : String) (e : Exc) (cpu : Cpu) (r : Reason) : Prop :=
  r.family ∈ macFamilies ∧
  (r.family ∈ macArmFamilies → MacCpu.of cpu = .arm) ∧
  (r.family ∈ macPpcFamilies → MacCpu.of cpu = .ppc) ∧
  (r.family ∈ macX86Families → MacCpu.of cpu = .x86) ∧
  (r.family = .MacGeneral → r = ⟨.MacGeneral, [n], [e.flags]⟩)

theorem macOk_dflt (n : String) (e : Exc) (cpu : Cpu) : MacOk n e cpu ⟨.MacGeneral, [n], [e.flags]⟩ :=
  ⟨(by decide : Family.MacGeneral ∈ macFamilies),
   fun h => absurd h (by decide : Family.MacGeneral ∉ macArmFamilies),
   fun h => absurd h (by decide : Family.MacGeneral ∉ macPpcFamilies),
   fun h => absurd h (by decide : Family.MacGeneral ∉ macX86Families),
   fun _ => rfl⟩

private def macClass : MacCpu → List Family
  | .arm => macArmFamilies
  | .ppc => macPpcFamilies
  | .x86 => macX86Families
  | .other => [.MacBadAccessKern, .MacSoftware, .MacResource, .MacGuard]

private theorem macClass_apart : ∀ c ∈ [MacCpu.arm, .ppc, .x86, .other], ∀ f ∈ macClass c,
    f ∈ macFamilies ∧ f ≠ .MacGeneral ∧ ∀ c' ∈ [MacCpu.arm, .ppc, .x86, .other], f ∈ macClass c' → c' = c := by
  decide

private theorem macOk_class (n : String) (e : Exc) (cpu : Cpu) {c : MacCpu} (hc : c = .other ∨ MacCpu.of cpu = c)
    {f : Family} (h : f ∈ macClass c) {r : Reason} (hr : r.family = f) : MacOk n e cpu r := by
  have hall : ∀ c : MacCpu, c ∈ [MacCpu.arm, .ppc, .x86, .other] := fun c => by cases c <;> decide
  obtain ⟨h1, h2, h3⟩ := macClass_apart c (hall c) _ (hr ▸ h)
  have own : ∀ c', c' ≠ .other → r.family ∈ macClass c' → MacCpu.of cpu = c' := by
    intro c' hne hf
    cases h3 c' (hall c') hf
    exact hc.resolve_left hne
  exact ⟨h1, own .arm (by decide), own .ppc (by decide), own .x86 (by decide), fun h => absurd h h2⟩

theorem macException_cases (e : Exc) (cpu : Cpu) :
    (lookup Enums.ExceptionCodeMac e.code = none ∧ macException e cpu = none) ∨
    (∃ n r, lookup Enums.ExceptionCodeMac e.code = some n ∧ macException e cpu = some r ∧ MacOk n e cpu r) := by
  unfold macException
  cases h : lookup Enums.ExceptionCodeMac e.code with
  | none => exact .inl ⟨rfl, rfl⟩
  | some n =>
    refine .inr ⟨n, _, rfl, rfl, ?_⟩
    have dflt := macOk_dflt n e cpu
    -- a CPU-specific refinement is made in the arm of `MacCpu.of cpu` for the family's own class
    have byCpu : ∀ ta fa tp fp tx fx, fa ∈ macArmFamilies → fp ∈ macPpcFamilies → fx ∈ macX86Families →
        MacOk n e cpu (match MacCpu.of cpu with
          | .arm => refine ta fa e.flags ⟨.MacGeneral, [n], [e.flags]⟩
          | .ppc => refine tp fp e.flags ⟨.MacGeneral, [n], [e.flags]⟩
          | .x86 => refine tx fx e.flags ⟨.MacGeneral, [n], [e.flags]⟩
          | .other => ⟨.MacGeneral, [n], [e.flags]⟩) := by
      intro ta fa tp fp tx fx ha hp hx
      cases hc : MacCpu.of cpu with
      | arm => exact refine_of _ _ _ _ (fun _ => macOk_class n e cpu (.inr hc) ha rfl) dflt
      | ppc => exact refine_of _ _ _ _ (fun _ => macOk_class n e cpu (.inr hc) hp rfl) dflt
      | x86 => exact refine_of _ _ _ _ (fun _ => macOk_class n e cpu (.inr hc) hx rfl) dflt
      | other => exact dflt
    refine ite_of ?access (ite_of ?instr (ite_of ?arith (ite_of ?soft (ite_of ?brk (ite_of ?res
      (ite_of ?guard dflt))))))
    case access =>
      cases lookup Enums.ExceptionCodeMacBadAccessKernType e.flags with
      | some ty => exact macOk_class n e cpu (c := .other) (.inl rfl) (f := .MacBadAccessKern) (by decide) rfl
      | none => exact byCpu _ _ _ _ _ _ (by decide) (by decide) (by decide)
    case instr => exact byCpu _ _ _ _ _ _ (by decide) (by decide) (by decide)
    case arith => exact byCpu _ _ _ _ _ _ (by decide) (by decide) (by decide)
    case soft => exact refine_of _ _ _ _ (fun _ => macOk_class n e cpu (c := .other) (.inl rfl) (f := .MacSoftware) (by decide) rfl) dflt
    case brk => exact byCpu _ _ _ _ _ _ (by decide) (by decide) (by decide)
    case res =>
      cases lookup Enums.ExceptionCodeMacResourceType ((e.flags >>> 29) &&& 0x7) with
      | some ty => exact macOk_class n e cpu (c := .other) (.inl rfl) (f := .MacResource) (by decide) rfl
      | none => exact dflt
    case guard =>
      cases lookup Enums.ExceptionCodeMacGuardType ((e.flags >>> 29) &&& 0x7) with
      | some ty => exact macOk_class n e cpu (c := .other) (.inl rfl) (f := .MacGuard) (by decide) rfl
      | none => exact dflt

/-- **C14.5** which enum family is consulted for which OS and CPU:
    * Windows: always one of the eight Windows families (never `Unknown`), CPU-independent;
    * Linux / Android: signal in `ExceptionCodeLinux` ⇒ one of the seven Linux families
      (`LinuxGeneral(signal, flags)` when no sub-code table matches), CPU-independent;
      signal not in the table ⇒ `Unknown(code, flags)`;
    * macOS / iOS: exception in `ExceptionCodeMac` ⇒ one of the seventeen Mac families, where an
      ARM / PPC / X86 family is only ever produced for an arm64 / ppc / x86-or-amd64 CPU;
      exception not in the table ⇒ `Unknown(code, flags)`;
    * every other OS ⇒ `Unknown(code, flags)`. -/
theorem reason_family (e : Exc) (os : Os) (cpu : Cpu) :
    (os = .windows →
        fromException e os cpu = windowsException e ∧ (fromException e os cpu).family ∈ windowsFamilies) ∧
    (os = .linux ∨ os = .android →
        (lookup Enums.ExceptionCodeLinux e.code = none ∧ fromException e os cpu = unknownReason e) ∨
        (∃ n, lookup Enums.ExceptionCodeLinux e.code = some n ∧
            (fromException e os cpu).family ∈ linuxFamilies ∧
            ((fromException e os cpu).family = .LinuxGeneral →
                fromException e os cpu = ⟨.LinuxGeneral, [n], [e.flags]⟩))) ∧
    (os = .macos ∨ os = .ios →
        (lookup Enums.ExceptionCodeMac e.code = none ∧ fromException e os cpu = unknownReason e) ∨
        (∃ n, lookup Enums.ExceptionCodeMac e.code = some n ∧ MacOk n e cpu (fromException e os cpu))) ∧
    (os ≠ .windows → os ≠ .linux → os ≠ .android → os ≠ .macos → os ≠ .ios →
        fromException e os cpu = unknownReason e) := by
  refine ⟨?_, ?_, ?_, ?_⟩
  · rintro rfl
    have : fromException e .windows cpu = windowsException e := rfl
    exact ⟨this, by rw [this]; exact windowsException_family e⟩
  · intro hos
    have : fromException e os cpu = (linuxException e).getD (unknownReason e) := by
      rcases hos with rfl | rfl <;> rfl
    rw [this]
    rcases linuxException_cases e with ⟨h1, h2⟩ | ⟨n, r, h1, h2, h3, h4⟩
    · left; exact ⟨h1, by rw [h2]; rfl⟩
    · right; refine ⟨n, h1, ?_⟩; rw [h2]; exact ⟨h3, h4⟩
  · intro hos
    have : fromException e os cpu = (macException e cpu).getD (unknownReason e) := by
      rcases hos with rfl | rfl <;> rfl
    rw [this]
    rcases macException_cases e cpu with ⟨h1, h2⟩ | ⟨n, r, h1, h2, h3⟩
    · left; exact ⟨h1, by rw [h2]; rfl⟩
    · right; refine ⟨n, h1, ?_⟩; rw [h2]; exact h3
  · intro h1 h2 h3 h4 h5
    cases os <;> first | rfl | contradiction

/-- the `Unknown` fallback carries exactly the raw code and flags -/
theorem unknownReason_spec (e : Exc) : unknownReason e = ⟨.Unknown, [], [e.code, e.flags]⟩ := rfl

/-- the CPU classes of `from_mac_exception`: arm64 only (not 32-bit ARM), ppc only (not ppc64),
    x86 and amd64 -/
theorem macCpu_spec (cpu : Cpu) :
    (MacCpu.of cpu = .arm ↔ cpu = .arm64) ∧ (MacCpu.of cpu = .ppc ↔ cpu = .ppc) ∧
    (MacCpu.of cpu = .x86 ↔ cpu = .x86 ∨ cpu = .x86_64) := by
  cases cpu <;> simp [MacCpu.of]

end MdModel.Reason
namespace MdModel.Index
open MdModel
open MdModel.Reason (Exc Reason Os Cpu)
open MdModel.Walk (Mem)

/-- **C14.6** dump time from the header; process id and create time from the misc-info stream when
    that stream exists — each only under its own flag bit, with NO fallback to the Linux status —
    and otherwise the process id of the Linux status stream and no create time. -/
theorem pid_times_spec (d : Dump) (ts : List Thread) (s : State)
    (hth : d.threads = some ts) (h : index d = .state s) :
    s.time = d.timestamp ∧
    (∀ m, d.misc = some m →
        s.pid = (if m.flags.testBit 0 then some m.pid else none) ∧
        s.ctime = (if m.flags.testBit 1 then some m.ctime else none)) ∧
    (d.misc = none → s.ctime = none ∧ s.pid = d.status.map statusPid) := by
  obtain ⟨-, -, -, hpid, hct, htime, -⟩ := index_state_inv d ts s hth h
  refine ⟨htime, ?_, ?_⟩
  · intro m hm
    rw [hpid, hct]
    simp only [processId, createTime, hm]
    exact ⟨ite_cond_congr (bit0_eq _), ite_cond_congr (bit1_eq _)⟩
  · intro hm
    rw [hpid, hct]
    simp [processId, createTime, hm]

private theorem find_pid_none {kv : List (String × String)} (h : ∀ e ∈ kv, e.1 ≠ "Pid") :
    kv.find? (fun e => e.1 == "Pid") = none :=
  List.find?_eq_none.mpr fun e he => by simpa using h e he

/-- the Linux status pid: the FIRST `Pid` line, 0 when it does not parse as a `u32` -/
theorem statusPid_spec (pre post : List (String × String)) (v : String)
    (hpre : ∀ e ∈ pre, e.1 ≠ "Pid") :
    statusPid (pre ++ ("Pid", v) :: post) = (parseU32 v).getD 0 := by
  unfold statusPid
  rw [List.find?_append, find_pid_none hpre, Option.none_or, List.find?_cons_of_pos (by rfl)]

theorem statusPid_none (kv : List (String × String)) (h : ∀ e ∈ kv, e.1 ≠ "Pid") : statusPid kv = 0 := by
  unfold statusPid
  rw [find_pid_none h]

/-- **C14.0** a dump with a thread list is always processed, in either byte order: no panic
    outcome — neither the `unwrap` inside the loaded-module and memory range tables (C08 `safe_ok`)
    nor the checked subtraction `frame.instruction - base_of_image` (every module returned by the
    lookup covers the address: C08.5b in its membership form `RangeMap.mem_unloadedAt_map`) can fire —
    and the model yields a state. -/
theorem index_total (d : Dump) (ts : List Thread) (hth : d.threads = some ts) :
    ∃ s, index d = .state s := by
  have hatt : ∃ ss, optMap (attachStack (unloadedModules d)) (ts.map (stackOf d)) = some ss := by
    apply optMap_some_of
    intro p _
    obtain ⟨fs, hfs⟩ := optMap_some_of (attachFrame (unloadedModules d)) p.frames
      (fun f _ => attachFrame_some _ f)
    exact ⟨{ id := p.id, name := p.name, info := p.info, frames := fs }, by simp [attachStack, hfs]⟩
  obtain ⟨ss, hss⟩ := hatt
  unfold index
  rw [hth]
  simp only [tableOk_modEntries, tableOk_memEntries, Bool.and_self, Bool.not_true, Bool.false_eq_true,
    if_false]
  rw [loop_stacks, hss]
  exact ⟨_, rfl⟩

/-- without a thread list nothing is produced (`ProcessError::MissingThreadList`) -/
theorem index_no_thread_list (d : Dump) (hth : d.threads = none) : index d = .missingThreadList := by
  unfold index; rw [hth]

/-- **C14.7** per-frame unloaded-module offsets, for EVERY frame of every call stack (the context
    frame and every frame the walk recovered): a frame inside a loaded module gets none; otherwise
    it gets `(name, instruction − base)` for exactly the unloaded modules whose range covers the
    instruction (all of them, possibly several per name), and nothing else. -/
theorem unloaded_offsets (d : Dump) (ts : List Thread) (s : State)
    (hth : d.threads = some ts) (h : index d = .state s)
    (i : Nat) (h1 : i < ts.length) (h2 : i < s.stacks.length)
    (j : Nat) (hj : j < s.stacks[i].frames.length) :
    (∀ k, s.stacks[i].frames[j].f.module = some k → s.stacks[i].frames[j].unloaded = []) ∧
    (s.stacks[i].frames[j].f.module = none →
      ∀ name off, (name, off) ∈ s.stacks[i].frames[j].unloaded ↔
        ∃ m ∈ unloadedModules d, covers m s.stacks[i].frames[j].f.instruction = true ∧
          name = m.name ∧ off = s.stacks[i].frames[j].f.instruction - m.base) := by
  obtain ⟨-, hat⟩ := stack_at d ts s hth h
  obtain ⟨-, -, -, -, hfr⟩ := attachStack_core _ _ _ (hat i h1 h2)
  have hlen := optMap_length _ _ _ hfr
  have hx := optMap_getElem _ _ _ hfr j (by omega) hj
  obtain ⟨hf, hsome, hnone⟩ := attachFrame_spec _ _ _ hx
  rw [hf]
  exact ⟨hsome, hnone⟩

/-- **C14.8** the module lists are those of the streams: loaded modules in stream order minus the
    entries with an impossible size (0, or overflowing the address space) — nothing at all if the
    name of a remaining entry cannot be read; the unloaded-module stream as a whole, or nothing if
    any of its entries has an impossible size or an unreadable name. -/
theorem modules_mirror (d : Dump) (ts : List Thread) (s : State)
    (hth : d.threads = some ts) (h : index d = .state s) :
    s.modules = (if (d.modules.filter (fun m => !badSize m)).any (fun m => m.name.isNone) then []
                 else (d.modules.filter (fun m => !badSize m)).map RawMod.toMod) ∧
    s.unloaded = (if d.unloaded.any badSize || d.unloaded.any (fun m => m.name.isNone) then []
                  else d.unloaded.map RawMod.toMod) := by
  obtain ⟨-, -, -, -, -, -, hm, hu, -⟩ := index_state_inv d ts s hth h
  exact ⟨hm, hu⟩

theorem badSize_iff (m : RawMod) : badSize m = true ↔ m.size = 0 ∨ m.base + m.size > U64MAX := by
  unfold badSize
  simp only [Bool.or_eq_true, decide_eq_true_eq]
  omega

/-- a module of the state keeps base, size and (readable) name of its stream entry -/
theorem toMod_spec (m : RawMod) (n : String) (h : m.name = some n) : m.toMod = ⟨m.base, m.size, n⟩ := by
  simp [RawMod.toMod, h]

/-- the thread's own stack memory (`thread.stack_memory(memory_list)`): the bytes its stack
    descriptor cites when that can be read (non-zero rva inside the file, non-zero size) — placed
    at `stack.start_of_memory_range` —, else the region of the memory list that contains
    `stack.start_of_memory_range` -/
theorem own_stack_spec (mem : List Mem) (t : Thread) :
    (∀ b, t.stack = .bytes b → b.size ≠ 0 → ownStack mem t = some { base := t.stackStart, bytes := b }) ∧
    (∀ b, t.stack = .bytes b → b.size = 0 → ownStack mem t = memAt mem t.stackStart) ∧
    (t.stack = .unreadable → ownStack mem t = memAt mem t.stackStart) := by
  refine ⟨?_, ?_, ?_⟩
  · intro b hb hs; simp [ownStack, ownDesc, hb, hs]
  · intro b hb hs; simp [ownStack, ownDesc, hb, hs]
  · intro hb; simp [ownStack, ownDesc, hb]

/-- **C14.9 (stack_memory_rule)** the memory handed to `walk_stack` for a thread whose walk starts
    with stack pointer `sp` (processor.rs:1166-1183):
    (1) the thread's own stack memory when EIGHT bytes at `sp` lie inside it (the test is
        `get_memory_at_address::<u64>`, also on 32-bit CPUs);
    (2) otherwise the region `memory_list.memory_at_address(sp)` returns, when it returns one —
        possibly the thread's own region again, when `sp` is within its last seven bytes;
    (3) otherwise the thread's own stack memory after all (possibly none);
    and without a start context (no frame), the thread's own stack memory. -/
theorem stack_memory_rule (mem : List Mem) (t : Thread) (sp : Nat) :
    (hasWord (ownStack mem t) sp = true → selectMem mem t (some sp) = ownStack mem t) ∧
    (hasWord (ownStack mem t) sp = false → ∀ r, memAt mem sp = some r → selectMem mem t (some sp) = some r) ∧
    (hasWord (ownStack mem t) sp = false → memAt mem sp = none → selectMem mem t (some sp) = ownStack mem t) ∧
    selectMem mem t none = ownStack mem t := by
  refine ⟨?_, ?_, ?_, rfl⟩
  · intro h; simp [selectMem, h]
  · intro h r hr; simp [selectMem, h, hr]
  · intro h hr; simp [selectMem, h, hr]

/-- "holds eight bytes at sp": `base ≤ sp` and `sp + 8 ≤ base + size` -/
theorem has_word_iff (m : Mem) (sp : Nat) :
    hasWord (some m) sp = true ↔ m.base ≤ sp ∧ sp + 8 ≤ m.base + m.size := by
  simp only [hasWord, Option.bind_some, Option.isSome_iff_exists, Walk.Mem.read_eq_some_iff]
  exact ⟨fun ⟨_, h1, h2, _⟩ => by omega, fun h => ⟨_, h.1, by omega, rfl⟩⟩

/-- the lookup of case (2) is SOUND: the region it returns is a region of the memory list whose own
    address range `[base, base + size)` contains the stack pointer (C08 `get_sound`) … -/
theorem stack_memory_lookup_sound (mem : List Mem) (sp : Nat) (r : Mem) (h : memAt mem sp = some r) :
    r ∈ mem ∧ r.size ≠ 0 ∧ r.base + r.size ≤ U64MAX ∧ r.base ≤ sp ∧ sp < r.base + r.size := by
  obtain ⟨i, hget, hr⟩ := memAt_eq_some.mp h
  obtain ⟨x, hx, h0, hmax, hlo, hhi⟩ := RangeMap.get_idx_mkRange_sound (base := Mem.base) (size := Mem.size) hget
  cases hr.symm.trans hx
  exact ⟨List.mem_of_getElem? hr, Nat.ne_of_gt h0, hmax, hlo, hhi⟩

/-- … and COMPLETE for a region whose range meets no other region's range: "if such a region
    exists" it is the one found (C08 `get_complete`; with overlapping regions the table keeps one
    of them, which `stack_memory_lookup_sound` still covers). -/
theorem stack_memory_lookup_complete (pre post : List Mem) (r : Mem) (sp : Nat)
    (hr : r.size ≠ 0 ∧ r.base + r.size ≤ U64MAX)
    (hiso : ∀ x ∈ pre ++ post,
      x.size = 0 ∨ x.base + x.size > U64MAX ∨ x.base + x.size ≤ r.base ∨ r.base + r.size ≤ x.base)
    (hsp : r.base ≤ sp ∧ sp < r.base + r.size) :
    memAt (pre ++ r :: post) sp = some r := by
  have hrng := RangeMap.mkRange_eq_some.mpr ⟨Nat.pos_of_ne_zero hr.1, hr.2, rfl⟩
  refine memAt_eq_some.mpr ⟨pre.length, ?_, by simp⟩
  refine RangeMap.get_idx_complete_split (RangeMap.idx_mkRange_wf _ _ _) hrng ?_ ⟨hsp.1, by simp only; omega⟩
  intro y hy s hs
  obtain ⟨hy0, hymax, rfl⟩ := RangeMap.mkRange_eq_some.mp hs
  have := hiso y hy
  simp only [RangeMap.Rng.intersects, Bool.and_eq_false_iff, decide_eq_false_iff_not]
  omega

/-- so the selected memory, when the thread's own does not hold the stack pointer, contains it or
    is the thread's own -/
theorem selected_contains_sp (mem : List Mem) (t : Thread) (sp : Nat) (r : Mem)
    (h : selectMem mem t (some sp) = some r) :
    (r.base ≤ sp ∧ sp < r.base + r.size) ∨ ownStack mem t = some r := by
  unfold selectMem at h
  simp only at h
  split at h
  · exact Or.inr h
  · split at h
    · rename_i r' hr'
      cases h
      exact Or.inl (stack_memory_lookup_sound mem sp _ hr').2.2.2
    · exact Or.inr h

/-- which memory list is consulted: the memory-64 list when that stream can be read, else the
    memory list without its unreadable or empty descriptors, else nothing -/
theorem memory_list_rule (d : Dump) :
    (∀ rs, d.mem64 = some (some rs) → memoryList d = rs) ∧
    (d.mem64 = none ∨ d.mem64 = some none → ∀ l, d.memList = some l → memoryList d = memoryOfList l) ∧
    (d.mem64 = none ∨ d.mem64 = some none → d.memList = none → memoryList d = []) := by
  refine ⟨?_, ?_, ?_⟩
  · intro rs h; simp [memoryList, h]
  · rintro (h | h) l hl <;> simp [memoryList, h, hl]
  · rintro (h | h) hl <;> simp [memoryList, h, hl]

/-- **C14.10 (stacks_are_walks)** the frames of the call stack of thread `i` are — frame by frame,
    before the unloaded-module attribution which leaves them alone — `Walk.walk` (the model of
    `walk_stack` that C05's and C04's theorems are about) run
      * from the start context `start_context_rule` names, all registers valid,
      * on the stack memory `stack_memory_rule` selects for that context's stack pointer, read in
        the dump's byte order (`walk_mem_endian`; no memory on a CPU whose contexts have no
        unwinder: PPC, PPC64, SPARC),
      * in the environment made of the state's loaded modules and the symbol files the supplier
        has for them (`env_spec`) — so the frames are found by STACK CFI / STACK WIN where records
        cover them, by frame pointer or scanning otherwise, and carry the function of `fill_symbol`;
    and a thread without start context (dump-writer thread, unreadable contexts) has no frame. -/
theorem stacks_are_walks (d : Dump) (ts : List Thread) (s : State)
    (hth : d.threads = some ts) (h : index d = .state s)
    (i : Nat) (h1 : i < ts.length) (h2 : i < s.stacks.length) :
    s.stacks[i].frames.map (·.f) =
      match startCtx d ts[i] with
      | some r =>
        Walk.walk (envOf d (selectMem (memoryList d) ts[i] (some r.sp)))
          (walkMem d (selectMem (memoryList d) ts[i] (some r.sp))) (toCtx d.arch r)
      | none => [] := by
  cases hs : startCtx d ts[i] with
  | none => rw [stack_no_ctx d ts s hth h i h1 h2 hs]; rfl
  | some r => exact stack_walk d ts s hth h i h1 h2 hs

/-- the walker's architecture and OS class; the environment is `Walk.mkEnv` (engine `walk`'s, C05's
    and C04's single-technique theorems') when no symbol file of a loaded module has STACK WIN
    records, `Walk.mkEnvW` (engine `chain`'s, C04's STACK WIN / mixed theorems') otherwise; its
    modules are the state's loaded modules, each with the symbol file the supplier has under the
    module's name -/
theorem env_spec (d : Dump) (sel : Option Mem) :
    (envOf d sel).arch = (unwinderOf d.arch).getD .x86 ∧
    (envOf d sel).os = walkOs (Os.ofPlatformId d.platformId) ∧
    (Walk.noWins (winsOf d) = true →
      envOf d sel = Walk.mkEnv ((unwinderOf d.arch).getD .x86) (walkOs (Os.ofPlatformId d.platformId))
        (worldOf d) ((walkMem d sel).getD { base := 0, bytes := #[] })) ∧
    (Walk.noWins (winsOf d) = false →
      envOf d sel = Walk.mkEnvW ((unwinderOf d.arch).getD .x86) (walkOs (Os.ofPlatformId d.platformId))
        (worldOf d) (winsOf d) ((walkMem d sel).getD { base := 0, bytes := #[] })) ∧
    (worldOf d).mods = (loadedModules d).map toModule ∧
    (worldOf d).syms = (loadedModules d).map (fun m => (d.syms.lookup m.name).map (·.1)) ∧
    winsOf d = (loadedModules d).map (fun m => ((d.syms.lookup m.name).map (·.2)).getD []) := by
  refine ⟨?_, ?_, ?_, ?_, rfl, rfl, rfl⟩
  · unfold envOf; simp only; split <;> rfl
  · unfold envOf; simp only; split <;> rfl
  · intro h; unfold envOf; simp only; rw [if_pos h]
  · intro h; unfold envOf; simp only; rw [if_neg (by simp [h])]

/-- **byte order**: the memory a walk reads is the selected region with the DUMP's byte order — a
    big-endian dump's stack words are read big-endian (`Mem.read` on `be := true` is `beAt`) —
    and nothing at all on a CPU without an unwinder -/
theorem walk_mem_endian (d : Dump) (sel : Option Mem) :
    ((unwinderOf d.arch).isSome = false → walkMem d sel = none) ∧
    ((unwinderOf d.arch).isSome = true →
      walkMem d sel = sel.map fun m => { base := m.base, bytes := m.bytes, be := d.bigEndian }) := by
  constructor
  · intro h; simp [walkMem, h]
  · intro h; simp [walkMem, h]

/-- what "read in the memory's byte order" means: most significant byte first iff `be` -/
theorem mem_read_endian (m : Mem) (addr w : Nat) (h : m.base ≤ addr) (hfit : addr - m.base + w ≤ m.size) :
    m.read addr w = some (if m.be then m.beAt (addr - m.base) w else m.leAt (addr - m.base) w) :=
  Walk.Mem.read_eq_some_iff.mpr ⟨h, hfit, rfl⟩

/-- **C05 for the process state**: every call stack that has a start context satisfies C05's
    well-formedness invariant `Walk.WF` (context frame first; later frames with return address
    ≥ 4096, lookup address = return address − call adjustment, trust cfi / frame pointer / scan,
    strictly increasing stack pointers with the leaf exception, scanned return addresses read from
    the selected stack memory just below the frame's stack pointer). -/
theorem stacks_wf (d : Dump) (ts : List Thread) (s : State)
    (hth : d.threads = some ts) (h : index d = .state s)
    (i : Nat) (h1 : i < ts.length) (h2 : i < s.stacks.length) (r : Regs) (hr : startCtx d ts[i] = some r) :
    Walk.WF ((unwinderOf d.arch).getD .x86)
      (Walk.usedMem (walkMem d (selectMem (memoryList d) ts[i] (some r.sp))))
      (toCtx d.arch r) (s.stacks[i].frames.map (·.f)) := by
  rw [stacks_are_walks d ts s hth h i h1 h2, hr]
  have := Walk.walk_wf (envOf d (selectMem (memoryList d) ts[i] (some r.sp)))
    (walkMem d (selectMem (memoryList d) ts[i] (some r.sp))) (toCtx d.arch r)
  rw [(env_spec d _).1] at this
  exact this

/-- **C03's frame bound for the process state**: no call stack has more frames than the stack
    memory selected for it has bytes, plus two (a thread without stack memory: at most two — in
    fact one). -/
theorem stacks_frame_bound (d : Dump) (ts : List Thread) (s : State)
    (hth : d.threads = some ts) (h : index d = .state s)
    (i : Nat) (h1 : i < ts.length) (h2 : i < s.stacks.length) :
    s.stacks[i].frames.length ≤
      ((selectMem (memoryList d) ts[i] ((startCtx d ts[i]).map (·.sp))).map Mem.size).getD 0 + 2 := by
  cases hs : startCtx d ts[i] with
  | none => rw [stack_no_ctx d ts s hth h i h1 h2 hs]; exact Nat.zero_le _
  | some r =>
    rw [← List.length_map (f := (·.f)), stack_walk d ts s hth h i h1 h2 hs, Option.map_some]
    refine Nat.le_trans (Walk.walk_bound _ _ _) ?_
    unfold walkMem
    split
    · cases selectMem (memoryList d) ts[i] (some r.sp) with
      | none => exact Nat.le_refl _
      | some m => exact Nat.le_refl _
    · simp

/-- a thread whose selected memory is absent (or whose CPU has no unwinder) has the context frame only -/
theorem no_memory_one_frame (d : Dump) (sel : Option Mem) (c : Walk.Ctx) (h : walkMem d sel = none) :
    (framesOf d sel c).length = 1 := by
  unfold framesOf
  rw [h, Walk.walk_none]
  rfl

/-- **C05's module cover for the process state**: the loaded module a frame is attributed to
    (by its position in the state's module list) contains the frame's lookup address -/
theorem frame_module_sound (d : Dump) (ts : List Thread) (s : State)
    (hth : d.threads = some ts) (h : index d = .state s)
    (i : Nat) (h1 : i < ts.length) (h2 : i < s.stacks.length)
    (x : IFrame) (hx : x ∈ s.stacks[i].frames) (k : Nat) (hk : x.f.module = some k) :
    ∃ m, s.modules[k]? = some m ∧ m.base ≤ x.f.instruction ∧ x.f.instruction < m.base + m.size := by
  obtain ⟨r, -, hmem⟩ := frame_of_walk d ts s hth h i h1 h2 x hx
  obtain ⟨-, -, -, -, -, -, hm, -⟩ := index_state_inv d ts s hth h
  obtain ⟨hmod, -⟩ := Walk.walk_symbolised _ _ _ _ hmem
  rw [hk, envOf_symb_fst] at hmod
  obtain ⟨wm, hwm, hlo, hhi⟩ := Walk.moduleAt_sound _ _ _ hmod.symm
  simp only [worldOf, List.getElem?_map, Option.map_eq_some_iff] at hwm
  obtain ⟨m, hmk, rfl⟩ := hwm
  exact ⟨m, by rw [hm]; exact hmk, hlo, hhi⟩

/-- the memory handed to `walk_stack` if `MinidumpThread::stack_memory` did NOT fall back to
    `memory_list.memory_at_address(stack.start_of_memory_range)` when the thread's own stack
    descriptor cannot be read (`selectMem` with `ownDesc t` in place of `ownStack mem t`) -/
def selectMemDirect (mem : List Mem) (t : Thread) (sp : Option Nat) : Option Mem :=
  match sp with
  | none => ownDesc t
  | some sp =>
    if hasWord (ownDesc t) sp then ownDesc t
    else
      match memAt mem sp with
      | some r => some r
      | none => ownDesc t

/-- a region the memory list serves at one address is served at every address of its own range
    (the list's table is index-valued: no two regions are merged — `RangeMap.get_same_entry`) -/
theorem stack_memory_lookup_same_region (mem : List Mem) (a b : Nat) (r : Mem) (h : memAt mem a = some r)
    (hb : r.base ≤ b ∧ b < r.base + r.size) : memAt mem b = some r := by
  obtain ⟨i, hget, hr⟩ := memAt_eq_some.mp h
  obtain ⟨x, rng, hx, hrng, -, -, hall⟩ := RangeMap.get_idx_same (RangeMap.idx_mkRange_wf _ _ _) hget
  cases hr.symm.trans hx
  obtain ⟨h0, hmax, rfl⟩ := RangeMap.mkRange_eq_some.mp hrng
  exact memAt_eq_some.mpr ⟨i, hall b hb.1 (by simp only; omega), hr⟩

/-- with and without the fallback the selected memories are the same, or neither contains the
    start stack pointer -/
theorem selectMem_direct_cases (mem : List Mem) (t : Thread) (sp : Nat) :
    selectMem mem t (some sp) = selectMemDirect mem t (some sp) ∨
    (selectMemDirect mem t (some sp) = none ∧
      ∃ r, selectMem mem t (some sp) = some r ∧ ¬ (r.base ≤ sp ∧ sp < r.base + r.size)) := by
  unfold selectMem selectMemDirect ownStack
  simp only
  cases hd : ownDesc t with
  | some m => left; rfl
  | none =>
    simp only [hasWord_none, Bool.false_eq_true, if_false]
    cases ho : memAt mem t.stackStart with
    | none =>
      left
      simp only [hasWord_none, Bool.false_eq_true, if_false]
      rfl
    | some r0 =>
      by_cases hw : hasWord (some r0) sp = true
      · -- the region found by the start address holds eight bytes at sp: the lookup by sp finds it too
        left
        rw [if_pos hw]
        have hin := (has_word_iff r0 sp).mp hw
        rw [stack_memory_lookup_same_region mem t.stackStart sp r0 ho ⟨hin.1, by omega⟩]
      · rw [if_neg hw]
        cases hs : memAt mem sp with
        | some r => left; rfl
        | none =>
          right
          refine ⟨rfl, r0, rfl, ?_⟩
          intro hin
          have := stack_memory_lookup_same_region mem t.stackStart sp r0 ho hin
          rw [hs] at this
          cases this

/-- **C14.10b (own_stack_by_start_redundant)** the fallback of `MinidumpThread::stack_memory` — "when
    the thread's own stack descriptor cannot be read, use the region of the memory list that contains
    `stack.start_of_memory_range`" — never changes a call stack: the region it finds is handed to the
    walker only if it holds a word at the start stack pointer, and then the lookup by the stack
    pointer finds the same region (`stack_memory_lookup_same_region`); if it does not contain the
    stack pointer, the walk stops at the context frame with it as without it
    (`Walk.walk_sp_outside`). So the frames of every call stack are the walk on `selectMemDirect`. -/
theorem own_stack_by_start_redundant (d : Dump) (t : Thread) (r : Regs) :
    framesOf d (selectMem (memoryList d) t (some r.sp)) (toCtx d.arch r) =
      framesOf d (selectMemDirect (memoryList d) t (some r.sp)) (toCtx d.arch r) := by
  rcases selectMem_direct_cases (memoryList d) t r.sp with h | ⟨hnone, r0, hsome, hout⟩
  · rw [h]
  · rw [hnone, hsome]
    exact framesOf_sp_outside d r0 (toCtx d.arch r) hout

/-- … stated for the process state: every call stack is the walk on the memory selected WITHOUT the
    fallback -/
theorem stacks_are_walks_direct (d : Dump) (ts : List Thread) (s : State)
    (hth : d.threads = some ts) (h : index d = .state s)
    (i : Nat) (h1 : i < ts.length) (h2 : i < s.stacks.length) :
    s.stacks[i].frames.map (·.f) =
      match startCtx d ts[i] with
      | some r =>
        Walk.walk (envOf d (selectMemDirect (memoryList d) ts[i] (some r.sp)))
          (walkMem d (selectMemDirect (memoryList d) ts[i] (some r.sp))) (toCtx d.arch r)
      | none => [] := by
  rw [stacks_are_walks d ts s hth h i h1 h2]
  cases hs : startCtx d ts[i] with
  | none => rfl
  | some r => exact own_stack_by_start_redundant d ts[i] r

/-- **C14.11** what `process_minidump` copies: system info composed by `sysInfo`, the LSB stream
    folded by `lsbOf`, the macOS crash-info records, the boot-args stream and the handle stream as
    they were read; `assertion` is ALWAYS `None` (the assertion stream is not consulted) and
    `cert_info` is empty (it comes from the `evil_json` option, which `process_minidump` does not pass). -/
theorem copy_rules (d : Dump) (ts : List Thread) (s : State)
    (hth : d.threads = some ts) (h : index d = .state s) :
    s.sys = sysInfo d.platformId d.arch d.sys ∧ s.lsb = d.lsb.map lsbOf ∧
    s.macCrash = macCrashInfo d.macCrash ∧ s.bootArgs = d.bootArgs ∧ s.handles = d.handles ∧
    s.assertion = none ∧ s.certs = [] := by
  obtain ⟨-, -, -, -, -, -, -, -, h1, h2, h3, h4, h5, h6, h7⟩ := index_state_inv d ts s hth h
  exact ⟨h1, h2, h3, h4, h7, h5, h6⟩

/-- `system_info.cpu_count` is `number_of_processors`; `os_version` is always present -/
theorem cpu_count_spec (p a : Nat) (r : SysRaw) : (sysInfo p a r).cpuCount = r.ncpu := rfl

/-- `os_version` / `os_build`: `major.minor.build` and the trimmed, non-empty CSD string — except
    on Linux with version `0.0.0`, where the second blank-separated piece of the CSD string
    (`uname -srvmo`) is the version and the pieces after it, without the last one (two, when the
    last is `Linux/GNU`), are the build; a CSD string whose second piece is missing or `0.0.0`
    falls back to the first rule. -/
theorem os_parts_spec (p : Nat) (r : SysRaw) :
    (Reason.lookup Gen.Enums.PlatformId p ≠ some "Linux" ∨ versionString r ≠ "0.0.0" →
        osParts p r = (versionString r, csdBuild r)) ∧
    (Reason.lookup Gen.Enums.PlatformId p = some "Linux" → versionString r = "0.0.0" →
        osParts p r =
          (if (linuxBuildPieces ((r.csd.getD "").splitOn " ")).1 = "0.0.0" then (versionString r, csdBuild r)
           else ((linuxBuildPieces ((r.csd.getD "").splitOn " ")).1,
                 some (" ".intercalate (linuxBuildPieces ((r.csd.getD "").splitOn " ")).2)))) := by
  constructor
  · intro h
    unfold osParts
    simp only
    rw [if_pos h]
  · intro h1 h2
    unfold osParts
    simp only
    rw [if_neg (by simp [h1, h2])]

/-- the version-string pieces: fewer than two pieces ⇒ `0.0.0`; otherwise the second piece, and of
    the pieces after it all but the last — all but the last two when the last is `Linux/GNU` -/
theorem linuxBuildPieces_spec :
    linuxBuildPieces [] = ("0.0.0", []) ∧ (∀ a, linuxBuildPieces [a] = ("0.0.0", [])) ∧
    (∀ a v, linuxBuildPieces [a, v] = (v, [])) ∧
    (∀ a v mid last, last ≠ "Linux/GNU" → linuxBuildPieces (a :: v :: (mid ++ [last])) = (v, mid)) ∧
    (∀ a v mid, linuxBuildPieces (a :: v :: (mid ++ ["Linux/GNU"])) = (v, mid.dropLast)) := by
  refine ⟨rfl, fun _ => rfl, fun _ _ => rfl, ?_, ?_⟩
  · intro a v mid last hl
    simp [linuxBuildPieces, List.reverse_append, hl]
  · intro a v mid
    simp [linuxBuildPieces, List.reverse_append]

/-- `cpu_info`: x86 ⇒ the twelve vendor-id bytes as characters, a blank, and
    `family L model M stepping S` (model / stepping = high / low byte of `processor_revision`);
    x86-64 ⇒ the same without vendor id; ARM ⇒ `armCpuInfo`; every other CPU ⇒ none -/
theorem cpu_info_spec (r : SysRaw) :
    cpuInfo .x86_64 r = some s!"family {r.level} model {(r.revision / 256) % 256} stepping {r.revision % 256}" ∧
    cpuInfo .x86 r = some (String.ofList (leChars r.d0 ++ leChars r.d1 ++ leChars r.d2) ++ " " ++
        s!"family {r.level} model {(r.revision / 256) % 256} stepping {r.revision % 256}") ∧
    cpuInfo .arm r = some (armCpuInfo r) ∧
    (∀ c, c ≠ .x86 → c ≠ .x86_64 → c ≠ .arm → cpuInfo c r = none) := by
  refine ⟨rfl, rfl, rfl, ?_⟩
  intro c h1 h2 h3
  cases c <;> first | rfl | contradiction

def lsbKeys : List (String × String) :=
  [("DISTRIB_ID", "ID"), ("DISTRIB_RELEASE", "VERSION_ID"), ("DISTRIB_CODENAME", "VERSION_CODENAME"),
   ("DISTRIB_DESCRIPTION", "PRETTY_NAME")]

theorem lsbStep_id_keep (l : Lsb) (e : String × String) (h : e.1 ≠ "DISTRIB_ID" ∧ e.1 ≠ "ID") :
    (lsbStep l e).id = l.id := by
  unfold lsbStep
  rw [if_neg (by simp [h.1, h.2])]
  split
  · rfl
  · split
    · rfl
    · split <;> rfl

/-- `LinuxStandardBase.id`: the value of the LAST entry keyed `DISTRIB_ID` or `ID` (either
    spelling overwrites the other); empty when there is none. The other three fields follow the
    same rule with their own pair of keys (`lsbOf` is one fold of `lsbStep`). -/
theorem lsb_id_last_wins (pre post : List (String × String)) (k v : String)
    (hk : k = "DISTRIB_ID" ∨ k = "ID") (hpost : ∀ e ∈ post, e.1 ≠ "DISTRIB_ID" ∧ e.1 ≠ "ID") :
    (lsbOf (pre ++ (k, v) :: post)).id = v := by
  refine (foldl_last_wins lsbStep (·.id) pre post (k, v) {} fun l e he => lsbStep_id_keep l e (hpost e he)).trans ?_
  unfold lsbStep
  rw [if_pos hk]

theorem lsb_id_none (kv : List (String × String)) (h : ∀ e ∈ kv, e.1 ≠ "DISTRIB_ID" ∧ e.1 ≠ "ID") :
    (lsbOf kv).id = "" :=
  foldl_keep lsbStep (·.id) kv {} fun l e he => lsbStep_id_keep l e (h e he)

/-- the step function, field by field: a key of a group sets that group's field to the value and
    leaves the other fields alone; any other key changes nothing -/
theorem lsbStep_spec (l : Lsb) (k v : String) :
    (k = "DISTRIB_ID" ∨ k = "ID" → lsbStep l (k, v) = { l with id := v }) ∧
    (k = "DISTRIB_RELEASE" ∨ k = "VERSION_ID" → lsbStep l (k, v) = { l with release := v }) ∧
    (k = "DISTRIB_CODENAME" ∨ k = "VERSION_CODENAME" → lsbStep l (k, v) = { l with codename := v }) ∧
    (k = "DISTRIB_DESCRIPTION" ∨ k = "PRETTY_NAME" → lsbStep l (k, v) = { l with description := v }) ∧
    ((∀ p ∈ lsbKeys, k ≠ p.1 ∧ k ≠ p.2) → lsbStep l (k, v) = l) := by
  refine ⟨?_, ?_, ?_, ?_, ?_⟩
  · intro h; unfold lsbStep; rw [if_pos h]
  · intro h; unfold lsbStep
    rw [if_neg (by rcases h with rfl | rfl <;> simp), if_pos h]
  · intro h; unfold lsbStep
    rw [if_neg (by rcases h with rfl | rfl <;> simp), if_neg (by rcases h with rfl | rfl <;> simp), if_pos h]
  · intro h; unfold lsbStep
    rw [if_neg (by rcases h with rfl | rfl <;> simp), if_neg (by rcases h with rfl | rfl <;> simp),
      if_neg (by rcases h with rfl | rfl <;> simp), if_pos h]
  · intro h
    have h1 := h ("DISTRIB_ID", "ID") (by simp [lsbKeys])
    have h2 := h ("DISTRIB_RELEASE", "VERSION_ID") (by simp [lsbKeys])
    have h3 := h ("DISTRIB_CODENAME", "VERSION_CODENAME") (by simp [lsbKeys])
    have h4 := h ("DISTRIB_DESCRIPTION", "PRETTY_NAME") (by simp [lsbKeys])
    unfold lsbStep
    rw [if_neg (by simp [h1.1, h1.2]), if_neg (by simp [h2.1, h2.2]), if_neg (by simp [h3.1, h3.2]),
      if_neg (by simp [h4.1, h4.2])]

/-- `mac_crash_info`: nothing without the stream or when a record's version differs from the first
    record's; otherwise one entry per record of version ≥ 1, in order: V5 (all fields) for version
    ≥ 5, V4 (no abort cause) for version 4, V1 (no fields, no strings) for versions 1–3 -/
theorem mac_crash_spec (rs : List MacRec) :
    macCrashInfo none = none ∧
    (macVersionsAgree rs = false → macCrashInfo (some rs) = none) ∧
    (macVersionsAgree rs = true → macCrashInfo (some rs) = some (rs.filterMap macOut)) ∧
    (∀ r : MacRec, 5 ≤ r.version →
        macOut r = some ⟨5, r.version, some r.thread, some r.dialogMode, some r.abortCause, r.strs⟩) ∧
    (∀ r : MacRec, r.version = 4 → macOut r = some ⟨4, 4, some r.thread, some r.dialogMode, none, r.strs⟩) ∧
    (∀ r : MacRec, 1 ≤ r.version → r.version ≤ 3 → macOut r = some ⟨1, r.version, none, none, none, []⟩) ∧
    (∀ r : MacRec, r.version = 0 → macOut r = none) := by
  refine ⟨rfl, ?_, ?_, ?_, ?_, ?_, ?_⟩
  · intro h; simp [macCrashInfo, h]
  · intro h; simp [macCrashInfo, h]
  · intro r h; simp [macOut, h]
  · intro r h; simp [macOut, h]
  · intro r h1 h2
    have h5 : ¬ r.version ≥ 5 := by omega
    have h4 : ¬ r.version ≥ 4 := by omega
    simp [macOut, h5, h4, h1]
  · intro r h; simp [macOut, h]

/-- three threads (ids 5, 7, 5), Breakpad says thread 7 wrote the dump, the exception names
    thread 5: both threads with id 5 start from the exception context, the last one is the
    requesting thread, thread 7 is skipped and keeps its name -/
def exampleDump : Dump :=
  { platformId := 3, arch := 0, timestamp := 42,
    threads := some [⟨5, some ⟨0x1000, 0, 0, []⟩, 0, .unreadable⟩, ⟨7, some ⟨0x2000, 0, 0, []⟩, 0, .unreadable⟩,
                     ⟨5, none, 0, .unreadable⟩],
    names := [(5, some "a"), (7, some "writer"), (5, none), (5, some "b"), (5, none)],
    breakpad := some ⟨3, 7, 5⟩,
    exc := some (⟨5, 0xc0000005, 0, 0xffffffff80001234, 2, 1, 0xffffffff00000010, 0⟩, some ⟨0x3000, 0, 0, []⟩),
    misc := some ⟨1, 99, 1000⟩, status := some [("Pid", "7")],
    modules := [⟨0x2f00, 0x200, some "m"⟩],
    unloaded := [⟨0x2000, 0x2000, some "u"⟩, ⟨0x3000, 1, some "v"⟩, ⟨0x3001, 5, some "w"⟩] }

def exampleThreads : List Thread :=
  [⟨5, some ⟨0x1000, 0, 0, []⟩, 0, .unreadable⟩, ⟨7, some ⟨0x2000, 0, 0, []⟩, 0, .unreadable⟩, ⟨5, none, 0, .unreadable⟩]

/-- the hypotheses of the theorems above are inhabited by `exampleDump` … -/
example : ∃ s, exampleDump.threads = some exampleThreads ∧ index exampleDump = .state s := by
  obtain ⟨s, hs⟩ := index_total exampleDump exampleThreads rfl
  exact ⟨s, rfl, hs⟩

/-- … and this is what they say about it (the sort-free parts evaluated by the kernel) -/
example :
    exampleThreads.map (fun t => ((stackOf exampleDump t).id, (stackOf exampleDump t).name,
        (stackOf exampleDump t).info, startCtx exampleDump t)) =
      [(5, some "b", .ok, some ⟨0x3000, 0, 0, []⟩), (7, some "writer", .dumpThreadSkipped, none),
       (5, some "b", .ok, some ⟨0x3000, 0, 0, []⟩)] ∧
    (loop exampleDump 0 exampleThreads none).2 = some 2 ∧
    requestingId exampleDump = some 5 ∧ dumpThreadId exampleDump.breakpad = some 7 ∧
    processId exampleDump = some 99 ∧ createTime exampleDump = none := by decide +kernel

example : isDumpThread exampleDump ⟨7, some ⟨0x2000, 0, 0, []⟩, 0, .unreadable⟩ = true ∧
    nameOf exampleDump.names 7 = some "writer" ∧
    (stackOf exampleDump ⟨7, some ⟨0x2000, 0, 0, []⟩, 0, .unreadable⟩).name = some "writer" := by decide +kernel

example : isRequesting exampleDump ⟨5, none, 0, .unreadable⟩ = true ∧
    isRequesting exampleDump ⟨7, some ⟨0x2000, 0, 0, []⟩, 0, .unreadable⟩ = false ∧
    excCtx exampleDump = some ⟨0x3000, 0, 0, []⟩ := by decide +kernel

/-- the frame at 0x3000 is covered by the unloaded modules `u` (offset 0x1000) and `v` (offset 0),
    not by `w` -/
example : ∃ l, offsetsAt (unloadedModules exampleDump) 0x3000 = some l ∧
    ("u", 0x1000) ∈ l ∧ ("v", 0) ∈ l ∧ ∀ off, ("w", off) ∉ l := by
  have hum : unloadedModules exampleDump = [⟨0x2000, 0x2000, "u"⟩, ⟨0x3000, 1, "v"⟩, ⟨0x3001, 5, "w"⟩] := by decide +kernel
  rw [hum]
  obtain ⟨l, hl, hspec⟩ := offsetsAt_spec [⟨0x2000, 0x2000, "u"⟩, ⟨0x3000, 1, "v"⟩, ⟨0x3001, 5, "w"⟩] 0x3000
  refine ⟨l, hl, ?_, ?_, ?_⟩
  · exact (hspec _ _).mpr ⟨⟨0x2000, 0x2000, "u"⟩, by decide +kernel, by decide +kernel, rfl, by decide +kernel⟩
  · exact (hspec _ _).mpr ⟨⟨0x3000, 1, "v"⟩, by decide +kernel, by decide +kernel, rfl, by decide +kernel⟩
  · intro off hmem
    obtain ⟨m, hm, hc, hn, -⟩ := (hspec _ _).mp hmem
    simp only [List.mem_cons, List.mem_nil_iff, or_false] at hm
    rcases hm with rfl | rfl | rfl
    · exact absurd hn (by decide +kernel)
    · exact absurd hn (by decide +kernel)
    · exact absurd hc (by decide +kernel)

/-- `nameOf_last_readable` instantiated: entries after the last readable one for id 5 are unreadable -/
example : nameOf ([(5, some "a"), (7, some "writer"), (5, none)] ++ (5, some "b") :: [(5, none)]) 5 = some "b" :=
  nameOf_last_readable _ _ 5 "b" (by decide +kernel)

/-- `statusPid_spec` instantiated: the first `Pid` line counts, `+12` parses, `4294967296` does not -/
example : statusPid ([("Name", "x")] ++ ("Pid", "+12") :: [("Pid", "13")]) = 12 := by
  rw [statusPid_spec _ _ _ (by decide +kernel)]; decide
example : statusPid ([] ++ ("Pid", "4294967296") :: []) = 0 := by
  rw [statusPid_spec _ _ _ (by decide +kernel)]; decide

/-- `requesting_never_dump_thread`'s hypothesis is inhabited: position 2 of `exampleDump` -/
example : (loop exampleDump 0 exampleThreads none).2 = some 2 ∧
    isDumpThread exampleDump ⟨5, none, 0, .unreadable⟩ = false := by decide +kernel

/-- a module list with an unreadable name is dropped as a whole; impossible sizes go first -/
example : loadedModules { exampleDump with modules := [⟨1, 0, none⟩, ⟨0x2f00, 0x200, some "m"⟩] } = [⟨0x2f00, 0x200, "m"⟩] ∧
    loadedModules { exampleDump with modules := [⟨1, 5, none⟩, ⟨0x2f00, 0x200, some "m"⟩] } = [] := by decide +kernel

/-- region A = [0x10000, +0x40): a frame-pointer record at 0x10010 (saved rbp 0x10030, return
    address 0x400310); region B = [0x20000, +0x40) with a return address at 0x20008 -/
def regionA : Mem :=
  { base := 0x10000, bytes := #[0,0,0,0,0,0,0,0, 0,0,0,0,0,0,0,0,
                                 0x30,0,1,0,0,0,0,0, 0x10,3,0x40,0,0,0,0,0,
                                 0,0,0,0,0,0,0,0, 0,0,0,0,0,0,0,0,
                                 0,0,0,0,0,0,0,0, 0,0,0,0,0,0,0,0] }
def regionB : Mem :=
  { base := 0x20000, bytes := #[0,0,0,0,0,0,0,0, 0x20,3,0x40,0,0,0,0,0,
                                 0,0,0,0,0,0,0,0, 0,0,0,0,0,0,0,0,
                                 0,0,0,0,0,0,0,0, 0,0,0,0,0,0,0,0,
                                 0,0,0,0,0,0,0,0, 0,0,0,0,0,0,0,0] }

/-- thread 1 owns region A; its own context has sp in A, the exception context has sp in B -/
def walkThread : Thread := ⟨1, some ⟨0x400100, 0x10008, 0x10010, []⟩, 0x10000, .bytes regionA.bytes⟩

def walkDump : Dump :=
  { platformId := 0x8201, arch := 9, timestamp := 1,
    threads := some [walkThread], names := [], breakpad := none,
    exc := some (⟨1, 11, 1, 0x1234, 0, 0, 0, 0⟩, some ⟨0x400200, 0x20000, 0, []⟩),
    misc := none, status := none,
    modules := [⟨0x400000, 0x1000, some "mod"⟩], unloaded := [],
    memList := some [⟨0x10000, some regionA.bytes⟩, ⟨0x20000, some regionB.bytes⟩] }

/-- `stack_memory_rule` (1): the thread's own memory holds eight bytes at its own sp … -/
example : hasWord (ownStack [regionA, regionB] walkThread) 0x10008 = true := by decide +kernel
/-- … `has_word_iff` at the boundary: 0x10038 is the last address with eight bytes, 0x10039 is not -/
example : hasWord (some regionA) 0x10038 = true ∧ hasWord (some regionA) 0x10039 = false := by decide +kernel
/-- (2)/(3): the exception context's sp 0x20000 is not in A (`hasWord … = false`), region B is
    isolated and contains it (`stack_memory_lookup_complete` applies), so B is selected -/
example : hasWord (ownStack [regionA, regionB] walkThread) 0x20000 = false := by decide +kernel
private theorem memAt_regionB : memAt ([regionA] ++ regionB :: []) 0x20000 = some regionB :=
  stack_memory_lookup_complete [regionA] [] regionB 0x20000 (by decide +kernel)
    (by intro x hx; simp at hx; subst hx; right; right; left; decide) (by decide +kernel)

example : memAt ([regionA] ++ regionB :: []) 0x20000 = some regionB := memAt_regionB

/-- `stacks_are_walks` / `stacks_wf` / `stacks_frame_bound` have inhabited hypotheses: the dump is
    processed, thread 0 is the requesting thread and starts from the exception context -/
example : ∃ s, walkDump.threads = some [walkThread] ∧ index walkDump = .state s ∧
    startCtx walkDump walkThread = some ⟨0x400200, 0x20000, 0, []⟩ := by
  obtain ⟨s, hs⟩ := index_total walkDump [walkThread] rfl
  exact ⟨s, rfl, hs, by decide +kernel⟩

/-- … and `stack_memory_rule` (2) gives region B for that thread's walk -/
example : selectMem [regionA, regionB] walkThread (some 0x20000) = some regionB :=
  (stack_memory_rule [regionA, regionB] walkThread 0x20000).2.1 (by decide +kernel) regionB memAt_regionB

/-- region A / B of `walkDump` as a big-endian writer stores them (most significant byte first) -/
def regionAbe : Mem :=
  { base := 0x10000, bytes := #[0,0,0,0,0,0,0,0, 0,0,0,0,0,0,0,0,
                                 0,0,0,0,0,1,0,0x30, 0,0,0,0,0,0x40,3,0x10,
                                 0,0,0,0,0,0,0,0, 0,0,0,0,0,0,0,0,
                                 0,0,0,0,0,0,0,0, 0,0,0,0,0,0,0,0] }
def regionBbe : Mem :=
  { base := 0x20000, bytes := #[0,0,0,0,0,0,0,0, 0,0,0,0,0,0x40,3,0x20,
                                 0,0,0,0,0,0,0,0, 0,0,0,0,0,0,0,0,
                                 0,0,0,0,0,0,0,0, 0,0,0,0,0,0,0,0,
                                 0,0,0,0,0,0,0,0, 0,0,0,0,0,0,0,0] }

def walkDumpBE : Dump :=
  { walkDump with
    bigEndian := true,
    threads := some [{ walkThread with stack := .bytes regionAbe.bytes }],
    memList := some [⟨0x10000, some regionAbe.bytes⟩, ⟨0x20000, some regionBbe.bytes⟩] }

/-- `index_total` on a BIG-endian dump whose walk reads stack memory: a state, no exception -/
example : ∃ s, index walkDumpBE = .state s ∧ walkDumpBE.bigEndian = true :=
  let ⟨s, hs⟩ := index_total walkDumpBE [{ walkThread with stack := .bytes regionAbe.bytes }] rfl
  ⟨s, hs, rfl⟩

/-- `walk_mem_endian`: amd64 has an unwinder, so the walk gets region B with `be := true` … -/
example : walkMem walkDumpBE (some regionBbe) = some { regionBbe with be := true } :=
  ((walk_mem_endian walkDumpBE (some regionBbe)).2 (by decide +kernel))

/-- … and reads its words big-endian (`mem_read_endian`): the return address 0x400320 at 0x20008,
    which the same bytes read little-endian are not; the little-endian image gives the same word -/
example : ({ regionBbe with be := true } : Mem).read 0x20008 8 = some 0x400320 ∧
    regionBbe.read 0x20008 8 = some 0x2003400000000000 ∧ regionB.read 0x20008 8 = some 0x400320 := by decide +kernel

/-- the frame-pointer unwinder on the big-endian image of region A recovers the same caller
    (return address 0x400310, saved rbp 0x10030, sp = rbp + 16) as on the little-endian image -/
example :
    (Walk.fpAmd64 .other { regionAbe with be := true } (toCtx 9 ⟨0x400100, 0x10008, 0x10010, []⟩)).map
        (fun c => (c.ip, c.sp, c.rest)) = some (0x400310, 0x10020, [("rbp", 0x10030)]) ∧
    (Walk.fpAmd64 .other regionA (toCtx 9 ⟨0x400100, 0x10008, 0x10010, []⟩)).map
        (fun c => (c.ip, c.sp, c.rest)) = some (0x400310, 0x10020, [("rbp", 0x10030)]) := by decide +kernel

/-- `walkDump` with a symbol file for module `mod`: one FUNC and its canonical STACK CFI record;
    the context carries the callee-saved registers rbx and r12 -/
def cfiDump : Dump :=
  { walkDump with
    threads := some [{ walkThread with ctx := some ⟨0x400100, 0x10008, 0x10010, [("rbx", 7), ("r12", 9)]⟩ }],
    exc := none,
    syms := [("mod", { funcs := [⟨0x100, 0x300, 0, "f"⟩],
                        cfis := [⟨0x100, 0x300, ".cfa: $rsp 16 + .ra: .cfa -8 + ^", []⟩] }, [])] }

/-- `env_spec` on it: the module gets the supplier's file (its CFI record included), no STACK WIN
    record exists, so the environment is `Walk.mkEnv` — the one C04's `walk_layout_cfi` is about;
    and the start context hands the walker rbx / r12 (all registers valid) -/
example : (worldOf cfiDump).syms.map (fun o => o.map fun sf => (sf.funcs.length, sf.cfis.length)) = [some (1, 1)] ∧
    Walk.noWins (winsOf cfiDump) = true ∧
    ((toCtx 9 ⟨0x400100, 0x10008, 0x10010, [("rbx", 7), ("r12", 9)]⟩).raw .amd64 "r12" = 9) ∧
    ((toCtx 9 ⟨0x400100, 0x10008, 0x10010, [("rbx", 7), ("r12", 9)]⟩).raw .amd64 "rbp" = 0x10010) ∧
    (toCtx 9 ⟨0x400100, 0x10008, 0x10010, [("rbx", 7), ("r12", 9)]⟩).valid = none := by decide +kernel

/-- an x86 dump whose module has a STACK WIN record: the environment is `Walk.mkEnvW` -/
def winDump : Dump :=
  { walkDump with
    arch := 0,
    syms := [("mod", ({} : Walk.SymFile),
              [({ ty := '4', addr := 0x100, size := 0x300, par := 0, sav := 0, loc := 0, hp := '1',
                  rest := "$T0 $ebp = $eip $T0 4 + ^ = $ebp $T0 ^ = $esp $T0 8 + =".toList } : Win.Rec)])] }

example : Walk.noWins (winsOf winDump) = false ∧ (winsOf winDump).map List.length = [1] ∧
    (worldOf winDump).syms.map Option.isSome = [true] := by decide +kernel

/-- a thread whose stack descriptor cannot be read and starts at region A's base -/
def bareThread : Thread := ⟨1, some ⟨0x400100, 0x10008, 0x10010, []⟩, 0x10000, .unreadable⟩

private theorem memAt_regionA : memAt ([] ++ regionA :: [regionB]) 0x10000 = some regionA :=
  stack_memory_lookup_complete [] [regionB] regionA 0x10000 (by decide +kernel)
    (by intro x hx; simp at hx; subst hx; right; right; right; decide) (by decide +kernel)

/-- the fallback finds region A by the start address (it is isolated: `stack_memory_lookup_complete`) -/
example : ownDesc bareThread = none ∧ ownStack [regionA, regionB] bareThread = some regionA := by
  refine ⟨rfl, ?_⟩
  rw [(own_stack_spec _ bareThread).2.2 rfl]
  exact memAt_regionA

/-- case 1: sp = 0x10008 has eight bytes in region A — WITHOUT the fallback the lookup by sp finds
    the same region (`stack_memory_lookup_same_region`) -/
example : selectMemDirect [regionA, regionB] bareThread (some 0x10008) = some regionA := by
  have := stack_memory_lookup_same_region _ 0x10000 0x10008 regionA memAt_regionA (by decide +kernel)
  simp only [List.nil_append] at this
  simp [selectMemDirect, ownDesc, bareThread, hasWord_none, this]

/-- case 2: sp = 0x30000 lies in no region — with the fallback the walk gets region A, without it
    nothing; `own_stack_by_start_redundant` says the frames are the same (the context frame) -/
example : memAt [regionA, regionB] 0x30000 = none := by
  cases h : memAt [regionA, regionB] 0x30000 with
  | none => rfl
  | some r =>
    obtain ⟨hm, -, -, -, hhi⟩ := stack_memory_lookup_sound _ _ _ h
    simp only [List.mem_cons, List.not_mem_nil, or_false] at hm
    rcases hm with rfl | rfl
    · exact absurd hhi (by decide +kernel)
    · exact absurd hhi (by decide +kernel)

example (d : Dump) :
    framesOf d (selectMem (memoryList d) bareThread (some 0x30000)) (toCtx d.arch ⟨0x400100, 0x30000, 0, []⟩) =
    framesOf d (selectMemDirect (memoryList d) bareThread (some 0x30000)) (toCtx d.arch ⟨0x400100, 0x30000, 0, []⟩) :=
  own_stack_by_start_redundant d bareThread ⟨0x400100, 0x30000, 0, []⟩

/-- copy rules: Windows keeps version and service pack (`os_parts_spec`, first rule), Linux 0.0.0
    takes the `uname` text apart (`linuxBuildPieces_spec`) -/
example (r : SysRaw) : osParts 2 r = (versionString r, csdBuild r) :=
  (os_parts_spec 2 r).1 (Or.inl (by decide +kernel))
example : linuxBuildPieces ["Linux", "5.4.0-42", "#46-Ubuntu", "SMP", "x86_64", "Linux/GNU"] =
    ("5.4.0-42", ["#46-Ubuntu", "SMP"]) :=
  linuxBuildPieces_spec.2.2.2.2 "Linux" "5.4.0-42" ["#46-Ubuntu", "SMP", "x86_64"]
example : Reason.lookup Gen.Enums.PlatformId 0x8201 = some "Linux" := by decide +kernel
example : (lsbOf [("DISTRIB_ID", "Ubuntu"), ("FOO", "x"), ("ID", "ubuntu"), ("VERSION_ID", "20.04")]).id = "ubuntu" :=
  lsb_id_last_wins [("DISTRIB_ID", "Ubuntu"), ("FOO", "x")] [("VERSION_ID", "20.04")] "ID" "ubuntu" (Or.inr rfl)
    (by decide +kernel)
example : macCrashInfo (some [⟨5, 1, 2, 3, ["a", "b", "c", "d", "e"]⟩, ⟨4, 0, 0, 0, []⟩]) = none ∧
    macCrashInfo (some [⟨4, 1, 2, 3, ["a"]⟩, ⟨4, 0, 0, 0, []⟩]) =
      some [⟨4, 4, some 1, some 2, none, ["a"]⟩, ⟨4, 4, some 0, some 0, none, []⟩] := by decide +kernel

end MdModel.Index
namespace MdModel.Reason
open MdModel MdModel.Gen

example : crashAddress ⟨1, 0xc0000005, 0, 0xffffffff80001234, 2, 1, 0xffffffff00000010, 0⟩ .windows .x86 = 0x10 := by decide +kernel
example : crashAddress ⟨1, 0xc0000005, 0, 0xffffffff80001234, 1, 1, 0xffffffff00000010, 0⟩ .windows .x86 = 0x80001234 := by decide +kernel
example : crashAddress ⟨1, 0xc0000005, 0, 0xffffffff80001234, 2, 1, 0xffffffff00000010, 0⟩ .linux .x86_64 = 0xffffffff80001234 := by decide +kernel
example : (fromException ⟨1, 0xc0000006, 0, 0, 3, 8, 0, 0x1c000000e⟩ .windows .x86_64).render =
    "WindowsInPageError(EXEC,3221225486)" := by decide +kernel
example : (fromException ⟨1, 1, 0x101, 0, 0, 0, 0, 0⟩ .macos .arm64).family = .MacBadAccessArm ∧
    (fromException ⟨1, 1, 0x101, 0, 0, 0, 0, 0⟩ .macos .x86_64).family = .MacGeneral ∧
    (fromException ⟨1, 1, 1, 0, 0, 0, 0, 0⟩ .macos .arm64).family = .MacBadAccessKern := by decide +kernel
example : fromException ⟨1, 11, 1, 0, 0, 0, 0, 0⟩ .linux .arm = ⟨.LinuxSigsegv, ["SEGV_MAPERR"], []⟩ ∧
    fromException ⟨1, 11, 99, 0, 0, 0, 0, 0⟩ .android .arm = ⟨.LinuxGeneral, ["SIGSEGV"], [99]⟩ ∧
    fromException ⟨1, 99, 7, 0, 0, 0, 0, 0⟩ .linux .arm = ⟨.Unknown, [], [99, 7]⟩ ∧
    fromException ⟨1, 11, 1, 0, 0, 0, 0, 0⟩ .solaris .arm = ⟨.Unknown, [], [11, 1]⟩ := by decide +kernel
example : Os.ofPlatformId 0x8101 = .macos ∧ Os.ofPlatformId 3 = .windows ∧ Os.ofPlatformId 0 = .unknown 0 ∧
    Cpu.ofArch 0x8003 = .arm64 ∧ Cpu.ofArch 0x8004 = .mips64 ∧ archHasContext 0x8004 = false := by decide +kernel

end MdModel.Reason
