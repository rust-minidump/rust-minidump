/-
  C14, composition: END-TO-END statements about `MdModel.Index.index` (the model of
  `process_minidump`) obtained by putting C14's `stacks_are_walks` / `env_spec` under the per-walk
  theorems of the other properties. Nothing here is about a new model: every proof reads the call
  stack as `Walk.walk …` (`stacks_are_walks`, in the forms `stack_walk`, `frame_of_walk`,
  `stack_pair_of_walk` of `Lemmas/Index`), picks the branch of `env_spec`
  (`Walk.mkEnv` / `Walk.mkEnvW`), and applies

    * C11's bridge (`SymbEnv.follows_c11`, `SymbEnv.func_is_c11` — the environment-free form of
      `walk_frames_follow_c11[W]`, `walk_func_frames_follow_c11[W]`: both branches of `env_spec`
      symbolise alike, `envOf_symb` —, `instr_ok_follows_c11`)  → §1, §4
    * C06's bridge (`walk_frames_follow_c06`; with STACK WIN records `walk_frames_follow_c06W`
      off x86, `walk_cfi_frames_x86W` on x86 — MdProofs/C06EnvW.lean)   → §2
    * C05 `walk_wf` / C03 `c03_walk_bound` (= `stacks_wf`, `stacks_frame_bound`) → §3

  Adapter lemmas: `MdProofs/Lemmas/IndexCompose.lean` (among them a walker fact: a frame of trust
  `scan` has a return address the by-symbols validation accepted).

  What the statements quantify over: EVERY dump `d` (any threads / modules / memory regions / symbol
  records, either byte order) that yields a state, EVERY thread position `i`, EVERY frame.
  Hypotheses that remain (each is named where it appears):
    * §1: the STACK WIN records of the frame's module have `u32` sizes and there are at most 2^64 of
      them (what C11's table construction needs; true of every parsed file) — vacuous in the
      `mkEnv` branch; `state_function_is_c11` also needs the frame's lookup address ≤ u64::MAX
      (C11's `fill_symbol` panics above it in the model).
    * §2: `state_cfi_frames_follow_c06`: `Walk.noWins (winsOf d) = true` (the `mkEnv` branch);
      `state_cfi_frames_follow_c06W`: `noWins = false` and CPU ≠ x86 (the `mkEnvW` branch);
      `state_cfi_frames_follow_c06_nonx86`: CPU ≠ x86 only; `state_cfi_frames_x86W`: x86 with STACK
      WIN records, a weaker conclusion (`CfiFrameX86`), no register hypothesis. For `FollowsC06` the registers
      of the dump's context records are below 2^64 (`DumpRegsOk`, from which C06's `CtxOk` of every
      start context is PROVED: `startCtx_regsOk`, `toCtx_ok`). Both byte orders: the stack memory of
      the statement is `walkMem d …`, which carries `be := d.bigEndian`.
-/
import MdProofs.Lemmas.IndexCompose
import MdProofs.C03
import MdProofs.C06EnvW
namespace MdModel.Index
open MdModel
open MdModel.Walk (Mem)
open MdModel.Reason (Os)
open MdModel.SymBridge (FileRel WinRel winsAt recsOfW nm projW C11Named ftblsOf)
open MdModel.CfiBridge (FollowsC06 CtxOk)

/-! ## 1. the function of every frame is what C11's `fill_symbol` reports -/

/-- **state_stacks_follow_c11** — "the function name / base / parameter size of a frame is what the
    symbol file of the frame's module says for the frame's lookup address", end to end: for every
    dump that yields a state, every call stack, every frame `x` attributed to module `k` (by
    position in the state's module list = `worldOf d`'s) whose symbol file the supplier has (`sf`):
    `x`'s function — name, base, parameter size; none iff none — is EXACTLY `fr.fn` of C11's
    `Symbolize.fillSymbol` at the module's base and the frame's lookup address, for EVERY C11 record
    list `r` describing `sf`'s FUNC / PUBLIC records (`FileRel`: any line / INLINE sub-records) and
    the module's STACK WIN records (`WinRel` with `winsAt (winsOf d) k`).
    Both branches of `env_spec` are covered (`envOf_symb`: they symbolise alike): without STACK WIN
    records anywhere the walk runs in `mkEnv`, `winsAt (winsOf d) k = []` and `WinRel [] r` forces
    `r.win4 = r.win0 = []` (the case of `walk_frames_follow_c11`); otherwise it runs in `mkEnvW`
    (the case of `walk_frames_follow_c11W`). The two size hypotheses are what C11's STACK WIN table
    construction needs (`u32` sizes, at most 2^64 records); they are vacuous in the first branch. -/
theorem state_stacks_follow_c11 (d : Dump) (ts : List Thread) (s : State)
    (hth : d.threads = some ts) (h : index d = .state s)
    (i : Nat) (h1 : i < ts.length) (h2 : i < s.stacks.length)
    (x : IFrame) (hx : x ∈ s.stacks[i].frames) :
    ∀ k m sf, x.f.module = some k → (worldOf d).mods[k]? = some m →
      (worldOf d).syms[k]? = some (some sf) →
      ∀ (r : Symbolize.Recs) (csf : Symbolize.SymFile) (fr : Symbolize.Frame),
        FileRel sf r → WinRel (winsAt (winsOf d) k) r →
        (∀ w ∈ winsAt (winsOf d) k, w.size < 2 ^ 32) → (winsAt (winsOf d) k).length ≤ 2 ^ 64 →
        Symbolize.build r = .ok csf →
        Symbolize.fillSymbol csf m.base x.f.instruction = .ok fr →
        x.f.func.map projW = fr.fn := by
  intro k m sf hk hm hsf r csf fr hrel hwin hsz hlen hb hfr
  obtain ⟨c, -, hmem⟩ := frame_of_walk d ts s hth h i h1 h2 x hx
  exact (envOf_symb d _).follows_c11 hmem hk hm hsf hrel hwin hsz hlen hb hfr

/-- what `worldOf` / `winsOf` put at position `k`, in terms of the STATE's module list and the
    supplier (`d.syms.lookup` by module name) -/
theorem world_at (d : Dump) (ts : List Thread) (s : State)
    (hth : d.threads = some ts) (h : index d = .state s) (k : Nat) (wm : Walk.Module) (sf : Walk.SymFile)
    (hm : (worldOf d).mods[k]? = some wm) (hsf : (worldOf d).syms[k]? = some (some sf)) :
    ∃ m wins, s.modules[k]? = some m ∧ wm = toModule m ∧ d.syms.lookup m.name = some (sf, wins) ∧
      winsAt (winsOf d) k = wins := by
  obtain ⟨-, -, -, -, -, -, hmods, -⟩ := index_state_inv d ts s hth h
  simp only [worldOf, List.getElem?_map, Option.map_eq_some_iff] at hm hsf
  obtain ⟨m, hmk, rfl⟩ := hm
  obtain ⟨m', hmk', hl⟩ := hsf
  rw [hmk] at hmk'
  cases hmk'
  obtain ⟨⟨sf', wins⟩, hl1, hl2⟩ := hl
  simp only at hl2
  subst hl2
  refine ⟨m, wins, by rw [hmods]; exact hmk, rfl, hl1, ?_⟩
  simp only [winsAt, winsOf, List.getElem?_map, hmk, Option.map_some, hl1, Option.getD_some]

/-- **state_function_is_c11** — the same starting from a frame that CARRIES a function, with every
    C11-side object constructed and everything phrased over the state and the supplier: the frame
    lies in module `m = s.modules[k]`, the supplier has a symbol file `(sf, wins)` under `m`'s name,
    C11's `SymbolParser::finish` builds the canonical record list of that file
    (`recsOfW sf wins`: its FUNC / PUBLIC records, its frame-data / FPO STACK WIN records), C11's
    `fill_symbol` answers at `m.base` and the frame's lookup address, and the answer is the frame's
    function: name (as bytes), base, parameter size.
    Hypotheses: the STACK WIN records of the supplier's files have `u32` sizes and each file has at
    most 2^64 of them (the parser's `u32` fields / any real file), and the frame's lookup address
    fits `u64`. -/
theorem state_function_is_c11 (d : Dump) (ts : List Thread) (s : State)
    (hth : d.threads = some ts) (h : index d = .state s)
    (hsz : ∀ e ∈ d.syms, ∀ w ∈ e.2.2, w.size < 2 ^ 32) (hlen : ∀ e ∈ d.syms, e.2.2.length ≤ 2 ^ 64)
    (i : Nat) (h1 : i < ts.length) (h2 : i < s.stacks.length)
    (x : IFrame) (hx : x ∈ s.stacks[i].frames) (g : Walk.FuncInfo) (hg : x.f.func = some g)
    (hi : x.f.instruction ≤ U64MAX) :
    ∃ k m sf wins csf fr, x.f.module = some k ∧ s.modules[k]? = some m ∧
      d.syms.lookup m.name = some (sf, wins) ∧
      Symbolize.build (recsOfW sf wins) = .ok csf ∧
      Symbolize.fillSymbol csf m.base x.f.instruction = .ok fr ∧
      fr.fn = some (nm g.name, g.base, g.psize) := by
  obtain ⟨c, -, hmem⟩ := frame_of_walk d ts s hth h i h1 h2 x hx
  -- a module's STACK WIN records are those of a symbol file of the supplier, or there are none
  have hwins : ∀ ws ∈ winsOf d, ws = [] ∨ ∃ e ∈ d.syms, ws = e.2.2 := by
    intro ws hws
    simp only [winsOf, List.mem_map] at hws
    obtain ⟨m, -, rfl⟩ := hws
    cases hl : d.syms.lookup m.name with
    | none => exact .inl rfl
    | some p =>
      exact .inr ⟨_, List.mem_of_lookup_eq_some hl, rfl⟩
  have hszW : ∀ ws ∈ winsOf d, ∀ w ∈ ws, w.size < 2 ^ 32 := by
    intro ws hws w hw
    rcases hwins ws hws with rfl | ⟨e, he, rfl⟩
    · cases hw
    · exact hsz e he w hw
  have hlenW : ∀ ws ∈ winsOf d, ws.length ≤ 2 ^ 64 := by
    intro ws hws
    rcases hwins ws hws with rfl | ⟨e, he, rfl⟩
    · exact Nat.zero_le _
    · exact hlen e he
  obtain ⟨k, wm, sf, csf, fr, a1, a2, a3, a4, a5, a6⟩ :=
    (envOf_symb d _).func_is_c11 hszW hlenW hmem hg hi
  obtain ⟨m, wins, b1, b2, b3, b4⟩ := world_at d ts s hth h k wm sf a2 a3
  subst b2
  rw [b4] at a4
  exact ⟨k, m, sf, wins, csf, fr, a1, b1, b3, a4, a5, a6⟩

/-! ## 2. every frame of trust `cfi` is what C06's evaluator prescribes -/

/-- **state_cfi_frames_follow_c06** — for every dump that yields a state and whose loaded modules'
    symbol files carry no STACK WIN record (`noWins`: the `mkEnv` branch of `env_spec`, the
    environment `walk_frames_follow_c06` is about), in EITHER byte order (the memory of the
    statement is `walkMem d …`: the selected region with `be := d.bigEndian`): every frame of trust
    `cfi` of every call stack satisfies `FollowsC06` w.r.t. the frame below it — a loaded module
    covers the callee's lookup address, its symbol file has a STACK CFI INIT record covering the
    module-relative address, C06's `walkFrame` on the callee's `Walker` succeeds, the frame's
    validity set and register values are C06's output (ARM64 pointer-authentication mask applied),
    raw sp / ip as `mkEnv_cfi_spec` says, and the epilogue facts.
    The hypothesis on the start context is `CtxOk` (`walk_frames_follow_c06`'s `hctx`); it is
    DISCHARGED here from `DumpRegsOk d`: the registers of the dump's context records (the
    exception's, the threads') are below 2^64 — true of any context read from dump bytes, not
    enforced by the abstract `Dump` type (its registers are naturals). The validity-set part of
    `CtxOk` holds outright: `index` starts every walk with all registers valid (`toCtx`). -/
theorem state_cfi_frames_follow_c06 (d : Dump) (ts : List Thread) (s : State)
    (hth : d.threads = some ts) (h : index d = .state s)
    (hn : Walk.noWins (winsOf d) = true) (hregs : DumpRegsOk d)
    (i : Nat) (h1 : i < ts.length) (h2 : i < s.stacks.length)
    (r : Regs) (hr : startCtx d ts[i] = some r)
    (j : Nat) (hj : j + 1 < s.stacks[i].frames.length)
    (hcfi : s.stacks[i].frames[j + 1].f.trust = .cfi) :
    FollowsC06 ((unwinderOf d.arch).getD .x86) (walkOs (Os.ofPlatformId d.platformId)) (worldOf d)
      ((walkMem d (selectMem (memoryList d) ts[i] (some r.sp))).getD { base := 0, bytes := #[] })
      s.stacks[i].frames[j].f s.stacks[i].frames[j + 1].f := by
  have hok : CtxOk ((unwinderOf d.arch).getD .x86) (toCtx d.arch r) :=
    toCtx_ok _ _ _ (startCtx_regsOk d ts hth hregs ts[i] (List.getElem_mem h1) r hr)
  exact stack_pair_of_walk d ts s hth h i h1 h2 r hr _ ((env_spec d _).2.2.1 hn) j hj
    (Q := fun a b => b.trust = .cfi → FollowsC06 _ _ _ _ a b)
    (fun hj1 => CfiBridge.walk_frames_follow_c06 _ _ _ _ _ _ hok j hj1) hcfi

/-- **state_cfi_frames_follow_c06W** — the `mkEnvW` branch of `env_spec`, off x86: for every dump
    that yields a state, whose loaded modules' symbol files DO carry STACK WIN records somewhere
    (`noWins = false`) and whose CPU is not x86 (amd64, arm, arm64, arm64old, mips32, mips64): every
    frame of trust `cfi` of every call stack satisfies `FollowsC06` w.r.t. the frame below it — the
    very conclusion of `state_cfi_frames_follow_c06`. The walk runs in `Walk.mkEnvW`, whose
    symbolication differs from `mkEnv`'s (parameter sizes from STACK WIN) but whose
    `get_caller_by_cfi` off x86 is STACK CFI evaluation (`CfiBridge.walk_frames_follow_c06W`, by
    `walk_frames_follow_c06_env` over the abstract `CfiEnv`). -/
theorem state_cfi_frames_follow_c06W (d : Dump) (ts : List Thread) (s : State)
    (hth : d.threads = some ts) (h : index d = .state s)
    (hn : Walk.noWins (winsOf d) = false) (hx86 : (unwinderOf d.arch).getD .x86 ≠ .x86)
    (hregs : DumpRegsOk d)
    (i : Nat) (h1 : i < ts.length) (h2 : i < s.stacks.length)
    (r : Regs) (hr : startCtx d ts[i] = some r)
    (j : Nat) (hj : j + 1 < s.stacks[i].frames.length)
    (hcfi : s.stacks[i].frames[j + 1].f.trust = .cfi) :
    FollowsC06 ((unwinderOf d.arch).getD .x86) (walkOs (Os.ofPlatformId d.platformId)) (worldOf d)
      ((walkMem d (selectMem (memoryList d) ts[i] (some r.sp))).getD { base := 0, bytes := #[] })
      s.stacks[i].frames[j].f s.stacks[i].frames[j + 1].f := by
  have hok : CtxOk ((unwinderOf d.arch).getD .x86) (toCtx d.arch r) :=
    toCtx_ok _ _ _ (startCtx_regsOk d ts hth hregs ts[i] (List.getElem_mem h1) r hr)
  exact stack_pair_of_walk d ts s hth h i h1 h2 r hr _ ((env_spec d _).2.2.2.1 hn) j hj
    (Q := fun a b => b.trust = .cfi → FollowsC06 _ _ _ _ a b)
    (fun hj1 => CfiBridge.walk_frames_follow_c06W hx86 _ _ _ _ _ _ hok j hj1) hcfi

/-- **state_cfi_frames_follow_c06_nonx86** — both branches of `env_spec` at once: on every CPU but
    x86, with or without STACK WIN records in the symbol files, every frame of trust `cfi` of every
    call stack of the state satisfies `FollowsC06`. The only hypotheses left are "the dump yields a
    state", "its CPU is not x86" and `DumpRegsOk`. -/
theorem state_cfi_frames_follow_c06_nonx86 (d : Dump) (ts : List Thread) (s : State)
    (hth : d.threads = some ts) (h : index d = .state s)
    (hx86 : (unwinderOf d.arch).getD .x86 ≠ .x86) (hregs : DumpRegsOk d)
    (i : Nat) (h1 : i < ts.length) (h2 : i < s.stacks.length)
    (r : Regs) (hr : startCtx d ts[i] = some r)
    (j : Nat) (hj : j + 1 < s.stacks[i].frames.length)
    (hcfi : s.stacks[i].frames[j + 1].f.trust = .cfi) :
    FollowsC06 ((unwinderOf d.arch).getD .x86) (walkOs (Os.ofPlatformId d.platformId)) (worldOf d)
      ((walkMem d (selectMem (memoryList d) ts[i] (some r.sp))).getD { base := 0, bytes := #[] })
      s.stacks[i].frames[j].f s.stacks[i].frames[j + 1].f := by
  cases hn : Walk.noWins (winsOf d) with
  | true => exact state_cfi_frames_follow_c06 d ts s hth h hn hregs i h1 h2 r hr j hj hcfi
  | false => exact state_cfi_frames_follow_c06W d ts s hth h hn hx86 hregs i h1 h2 r hr j hj hcfi

/-- **state_cfi_frames_x86W** — the remaining branch: an x86 dump whose symbol files carry STACK WIN
    records. There a frame of trust `cfi` is NOT in general a STACK CFI frame: `get_caller_by_cfi`
    is `SymbolFile::walk_frame`, which evaluates the STACK WIN record of the lookup address first
    (C07). What holds, for every such frame of every call stack (`CfiBridge.CfiFrameX86`): the
    callee's `esp` is valid, a loaded module with a symbol file covers its lookup address, and the
    frame's context is EITHER the successful result of C07's `Win.winResult` on the callee's walker
    (the function `MdProofs.C07` / `MdProofs.C04Win` are about) OR — no STACK WIN record evaluated —
    STACK CFI evaluation (`Walk.walkFrameCfi`, C06's evaluator by `walkFrame_eq_c06`) on that walker;
    plus the epilogue (`ip ≥ 4096`, lookup address `ip − 1`, stack pointer strictly increasing).
    No hypothesis on the registers is needed. -/
theorem state_cfi_frames_x86W (d : Dump) (ts : List Thread) (s : State)
    (hth : d.threads = some ts) (h : index d = .state s)
    (hn : Walk.noWins (winsOf d) = false) (hx86 : (unwinderOf d.arch).getD .x86 = .x86)
    (i : Nat) (h1 : i < ts.length) (h2 : i < s.stacks.length)
    (r : Regs) (hr : startCtx d ts[i] = some r)
    (j : Nat) (hj : j + 1 < s.stacks[i].frames.length)
    (hcfi : s.stacks[i].frames[j + 1].f.trust = .cfi) :
    CfiBridge.CfiFrameX86 (worldOf d) (winsOf d)
      ((walkMem d (selectMem (memoryList d) ts[i] (some r.sp))).getD { base := 0, bytes := #[] })
      s.stacks[i].frames[j].f s.stacks[i].frames[j + 1].f := by
  exact stack_pair_of_walk d ts s hth h i h1 h2 r hr _ (by rw [(env_spec d _).2.2.2.1 hn, hx86]) j hj
    (Q := fun a b => b.trust = .cfi → CfiBridge.CfiFrameX86 _ _ _ a b)
    (fun hj1 => CfiBridge.walk_cfi_frames_x86W _ _ _ _ _ _ j hj1) hcfi

/-! ## 3. C05's invariant and C03's frame bound, side by side -/

/-- **state_stacks_wf_bound** — `stacks_wf` and `stacks_frame_bound` restated together: every call
    stack of the state that has a start context satisfies C05's `Walk.WF` (context frame first;
    later frames: trust cfi / frame pointer / scan, return address ≥ 4096, lookup address = return
    address − call adjustment, strictly increasing stack pointers with the leaf exception, scanned
    return addresses read from the selected memory in the dump's byte order) AND has at most
    `selected stack bytes + 2` frames (C03 `c03_walk_bound`). -/
theorem state_stacks_wf_bound (d : Dump) (ts : List Thread) (s : State)
    (hth : d.threads = some ts) (h : index d = .state s)
    (i : Nat) (h1 : i < ts.length) (h2 : i < s.stacks.length) (r : Regs) (hr : startCtx d ts[i] = some r) :
    Walk.WF ((unwinderOf d.arch).getD .x86)
      (Walk.usedMem (walkMem d (selectMem (memoryList d) ts[i] (some r.sp))))
      (toCtx d.arch r) (s.stacks[i].frames.map (·.f)) ∧
    s.stacks[i].frames.length ≤
      ((selectMem (memoryList d) ts[i] (some r.sp)).map Mem.size).getD 0 + 2 := by
  refine ⟨stacks_wf d ts s hth h i h1 h2 r hr, ?_⟩
  have := stacks_frame_bound d ts s hth h i h1 h2
  rw [hr] at this
  exact this

/-- the bound as an instance of C03's own theorem (`c03_walk_bound`), on the memory the walk reads -/
theorem state_frame_bound_c03 (d : Dump) (ts : List Thread) (s : State)
    (hth : d.threads = some ts) (h : index d = .state s)
    (i : Nat) (h1 : i < ts.length) (h2 : i < s.stacks.length) (r : Regs) (hr : startCtx d ts[i] = some r) :
    s.stacks[i].frames.length ≤
      ((walkMem d (selectMem (memoryList d) ts[i] (some r.sp))).map Mem.size).getD 0 + 2 := by
  rw [← List.length_map (f := (·.f)), stack_walk d ts s hth h i h1 h2 hr]
  exact Process.c03_walk_bound _ _ _

/-! ## 4. scanned frames: the return address passed C11's rule -/

/-- **state_scanned_words_follow_c11** — every frame of trust `scan` of every call stack of the
    state has a return address `ip` that `instruction_seems_valid_by_symbols` accepted
    (`walk_scan_instrOk`: by `scanFrom_spec` through all seven scanners), which by
    `instr_ok_follows_c11` means: `ip - 1 ≠ 0`, a loaded module `m` (position `k`) covers `ip - 1`,
    and if the supplier has a symbol file `sf` for it, then C11's `fill_symbol` — on ANY C11 record
    list describing `sf`'s FUNC / PUBLIC records, at `m.base` and `ip - 1` — reports a function
    with a non-empty name (`C11Named`). Both branches of `env_spec` (`envOf_instrOk`); no
    hypothesis beyond "the dump yields a state". -/
theorem state_scanned_words_follow_c11 (d : Dump) (ts : List Thread) (s : State)
    (hth : d.threads = some ts) (h : index d = .state s)
    (i : Nat) (h1 : i < ts.length) (h2 : i < s.stacks.length)
    (x : IFrame) (hx : x ∈ s.stacks[i].frames) (hscan : x.f.trust = .scan) :
    x.f.ctx.ip - 1 ≠ 0 ∧
    ∃ k m, Walk.moduleAt (Walk.modTable (worldOf d).mods) (x.f.ctx.ip - 1) = some k ∧
      (worldOf d).mods[k]? = some m ∧ m.base ≤ x.f.ctx.ip - 1 ∧ x.f.ctx.ip - 1 < m.base + m.size ∧
      ∀ sf, (worldOf d).syms[k]? = some (some sf) →
        ∀ (r : Symbolize.Recs) (csf : Symbolize.SymFile) (fr : Symbolize.Frame),
          FileRel sf r → Symbolize.build r = .ok csf →
          Symbolize.fillSymbol csf m.base (x.f.ctx.ip - 1) = .ok fr → C11Named fr := by
  obtain ⟨c, -, hmem⟩ := frame_of_walk d ts s hth h i h1 h2 x hx
  have hok := Walk.walk_scan_instrOk _ _ _ x.f hmem hscan
  rw [envOf_instrOk] at hok
  obtain ⟨hacc, hiff⟩ := SymBridge.instr_ok_follows_c11 (worldOf d) x.f.ctx.ip
  obtain ⟨h0, k, m, hk, hm, hlo, hhi⟩ := hacc hok
  refine ⟨h0, k, m, hk, hm, hlo, hhi, ?_⟩
  intro sf hsf r csf fr hrel hb hfr
  exact ((hiff k h0 hk).2 m sf hm hsf r csf fr hrel hb hfr).mp hok

/-! ## 5. non-vacuity: `cfiDump` (C14.lean) — an amd64 Linux dump, one thread, module `mod` at
    0x400000 with a symbol file (FUNC `f` @ 0x100 +0x300, its STACK CFI record), stack region A -/

def cfiSf : Walk.SymFile :=
  { funcs := [⟨0x100, 0x300, 0, "f"⟩],
    cfis := [⟨0x100, 0x300, ".cfa: $rsp 16 + .ra: .cfa -8 + ^", []⟩] }

def cfiThread : Thread :=
  { walkThread with ctx := some ⟨0x400100, 0x10008, 0x10010, [("rbx", 7), ("r12", 9)]⟩ }

theorem cfi_world : worldOf cfiDump = { mods := [⟨0x400000, 0x1000, "mod"⟩], syms := [some cfiSf] } := by
  rfl

theorem cfi_modTable : Walk.modTable (worldOf cfiDump).mods = [(⟨0x400000, 0x400fff⟩, 0)] := by
  rw [cfi_world]
  exact Walk.modTable_singleton (by decide)

theorem cfi_funcTable : Walk.funcTable cfiSf = [(⟨0x100, 0x3ff⟩, 0)] := by
  unfold Walk.funcTable RangeMap.safeVecP RangeMap.sortEntries
  simp [cfiSf, RangeMap.mkRange, U64MAX, RangeMap.pass, RangeMap.keep]

theorem cfi_fill : Walk.fillSymbol cfiSf (Walk.funcTable cfiSf) 0x400000 0x400100 = some ⟨"f", 0x400100, 0⟩ := by
  rw [cfi_funcTable]
  decide

/-- every hypothesis set of §1–§4 is inhabited by `cfiDump`: it yields a state, has no STACK WIN
    record (`mkEnv` branch), its context records have `u64` registers, thread 0 starts from its own
    context with region A selected -/
theorem cfi_hyps :
    cfiDump.threads = some [cfiThread] ∧ Walk.noWins (winsOf cfiDump) = true ∧ DumpRegsOk cfiDump ∧
    startCtx cfiDump cfiThread = some ⟨0x400100, 0x10008, 0x10010, [("rbx", 7), ("r12", 9)]⟩ ∧
    selectMem (memoryList cfiDump) cfiThread (some 0x10008) = some regionA ∧
    (∀ e ∈ cfiDump.syms, ∀ w ∈ e.2.2, w.size < 2 ^ 32) ∧ (∀ e ∈ cfiDump.syms, e.2.2.length ≤ 2 ^ 64) := by
  refine ⟨rfl, by decide +kernel, dumpRegsOk_single _ cfiThread rfl rfl ?_, by decide +kernel, by rfl, ?_, ?_⟩
  · intro c hc
    cases hc
    exact ⟨by decide, by decide, by decide, by decide⟩
  · intro e he w hw
    simp only [cfiDump, List.mem_singleton] at he
    subst he
    cases hw
  · intro e he
    simp only [cfiDump, List.mem_singleton] at he
    subst he
    decide

/-- **the composition theorems instantiated on `cfiDump`**: the state exists; call stack 0
    satisfies C05's `WF` on region A and has at most 0x40 + 2 frames (`state_stacks_wf_bound`); its
    first frame is the context frame at 0x400100, lies in module 0 and carries `f @ 0x400100 / 0`
    (computed on the walker model's tables); and `state_function_is_c11` yields C11's side: the
    canonical record list of the supplier's file builds, C11's `fill_symbol` answers at
    (0x400000, 0x400100), and its function is name `[102]` (= "f"), base 0x400100, parameter size 0 -/
example : ∃ s, index cfiDump = .state s ∧ ∃ (h2 : 0 < s.stacks.length),
    Walk.WF .amd64 (Walk.usedMem (walkMem cfiDump (some regionA)))
      (toCtx 9 ⟨0x400100, 0x10008, 0x10010, [("rbx", 7), ("r12", 9)]⟩) (s.stacks[0].frames.map (·.f)) ∧
    s.stacks[0].frames.length ≤ 0x40 + 2 ∧
    ∃ x, x ∈ s.stacks[0].frames ∧ x.f.trust = .context ∧ x.f.instruction = 0x400100 ∧
      x.f.module = some 0 ∧ x.f.func = some ⟨"f", 0x400100, 0⟩ ∧
      ∃ csf fr, Symbolize.build (recsOfW cfiSf []) = .ok csf ∧
        Symbolize.fillSymbol csf 0x400000 0x400100 = .ok fr ∧ fr.fn = some ([102], 0x400100, 0) := by
  obtain ⟨hth, hn, hregs, hstart, hsel, hsz, hlen⟩ := cfi_hyps
  obtain ⟨s, hs⟩ := index_total cfiDump [cfiThread] hth
  have hl := (stack_at cfiDump [cfiThread] s hth hs).1
  have h2 : 0 < s.stacks.length := by rw [hl]; decide
  have h1 : 0 < [cfiThread].length := by decide +kernel
  refine ⟨s, hs, h2, ?_⟩
  obtain ⟨hwf, hb⟩ := state_stacks_wf_bound cfiDump [cfiThread] s hth hs 0 h1 h2 _ hstart
  simp only [List.getElem_cons_zero, hsel] at hwf hb
  refine ⟨hwf, hb, ?_⟩
  obtain ⟨f0, rest, hfs, ht, hc, hi⟩ := hwf.head
  have hx0 : f0 ∈ s.stacks[0].frames.map (·.f) := by rw [hfs]; exact List.mem_cons_self
  obtain ⟨x, hx, rfl⟩ := List.mem_map.mp hx0
  have hi' : x.f.instruction = 0x400100 := hi
  -- it is symbolised in the environment of the walk
  have hmem := stack_walk cfiDump [cfiThread] s hth hs 0 h1 h2 hstart ▸ List.mem_map_of_mem hx
  obtain ⟨s1, s2⟩ := Walk.walk_symbolised _ _ _ x.f hmem
  rw [(env_spec cfiDump _).2.2.1 hn] at s1 s2
  have e : ∀ mem0, (Walk.mkEnv .amd64 .other (worldOf cfiDump) mem0).symb 0x400100 =
      (some 0, Walk.fillSymbol cfiSf (Walk.funcTable cfiSf) 0x400000 0x400100) := by
    intro mem0
    show Walk.symbOf (worldOf cfiDump) (Walk.modTable (worldOf cfiDump).mods) _ 0x400100 = _
    rw [cfi_modTable, cfi_world]
    rfl
  have ea : (unwinderOf cfiDump.arch).getD .x86 = .amd64 := by decide +kernel
  have eo : walkOs (Os.ofPlatformId cfiDump.platformId) = .other := by decide +kernel
  rw [ea, eo, hi', e] at s1 s2
  simp only [Option.isSome_some, if_true, cfi_fill] at s2
  refine ⟨x, hx, ht, hi', s1, s2, ?_⟩
  obtain ⟨k, m, sf, wins, csf, fr, a1, a2, a3, a4, a5, a6⟩ :=
    state_function_is_c11 cfiDump [cfiThread] s hth hs hsz hlen 0 h1 h2 x hx _ s2 (by rw [hi']; decide)
  rw [s1] at a1
  cases a1
  have hm0 : s.modules[0]? = some ⟨0x400000, 0x1000, "mod"⟩ := by
    rw [(modules_mirror cfiDump [cfiThread] s hth hs).1]
    decide
  rw [hm0] at a2
  cases a2
  have hl0 : cfiDump.syms.lookup "mod" = some (cfiSf, []) := by rfl
  rw [hl0] at a3
  cases a3
  rw [hi'] at a5
  exact ⟨csf, fr, a4, a5, a6⟩

/-- §2's hypotheses on the same dump: `CtxOk` of the start context is derived, not assumed -/
example : CtxOk .amd64 (toCtx cfiDump.arch ⟨0x400100, 0x10008, 0x10010, [("rbx", 7), ("r12", 9)]⟩) :=
  toCtx_ok _ _ _ (startCtx_regsOk cfiDump [cfiThread] cfi_hyps.1 cfi_hyps.2.2.1 cfiThread
    List.mem_cons_self _ cfi_hyps.2.2.2.1)

/-! ### an actual `cfi` frame on `cfiDump`

  The model of `index` is not kernel-reducible as a whole (range tables are built by a sort), so the
  second frame is obtained in steps: the two tables by C08's lemmas (`cfi_modTable`,
  `cfi_cfiTable`), the walker's own STACK CFI evaluation on the record by the kernel
  (`cfi_caller`), `walk_second_cfi` for the walk, `stacks_are_walks` for the state. -/
section CfiFrame
open MdModel.CfiBridge

def cfiRegs : Regs := ⟨0x400100, 0x10008, 0x10010, [("rbx", 7), ("r12", 9)]⟩
def cfiMem0 : Mem := (walkMem cfiDump (some regionA)).getD { base := 0, bytes := #[] }

/-- an amd64 little-endian dump: the walker's architecture, and region A as its walks read it
    (`walk_mem_endian`; `unwinderOf 9` is evaluated once) -/
private theorem cfi_arch_mem (d : Dump) (ha : d.arch = 9) (hb : d.bigEndian = false) :
    (unwinderOf d.arch).getD .x86 = .amd64 ∧ walkMem d (some regionA) = some cfiMem0 := by
  have hu : unwinderOf 9 = some .amd64 := by decide +kernel
  have h1 := (walk_mem_endian d (some regionA)).2 (by rw [ha, hu]; rfl)
  have h2 := (walk_mem_endian cfiDump (some regionA)).2 (by show (unwinderOf 9).isSome = true; rw [hu]; rfl)
  refine ⟨by rw [ha, hu]; rfl, ?_⟩
  unfold cfiMem0
  rw [h1, h2, hb]
  rfl

theorem cfi_cfiTable : Walk.cfiTable cfiSf = [(⟨0x100, 0x3ff⟩, 0)] :=
  Walk.cfiTable_of_sep (by simp [RangeMap.Sep, RangeMap.WF, U64MAX]) (by decide +kernel)

/-- `get_caller_by_cfi` on a frame with thread 0's start context at 0x400100 -/
theorem cfi_caller (callee : Walk.Frame) (grand : Option Walk.Frame) (hc : callee.ctx = toCtx 9 cfiRegs)
    (hi : callee.instruction = 0x400100) :
    ∃ r, (Walk.mkEnv .amd64 .other (worldOf cfiDump) cfiMem0).cfi callee grand = some r ∧
      r.sp = 0x10018 ∧ r.ip = 0x10030 := by
  -- `SymbolFile::walk_frame` on the record, with the CFI table already computed: CFA = rsp + 16,
  -- return address = the word at CFA - 8
  have hw : (Walk.walkFrameCfi cfiSf [(⟨0x100, 0x3ff⟩, 0)] 0x400000 ⟨.amd64, toCtx 9 cfiRegs, cfiMem0⟩
      ⟨toCtx 9 cfiRegs, Walk.forwarded .amd64 (toCtx 9 cfiRegs)⟩ 0x400100).map (fun o => (o.ctx.sp, o.ctx.ip)) =
      some (0x10018, 0x10030) := by decide +kernel
  obtain ⟨o, ho, hv⟩ := Option.map_eq_some_iff.mp hw
  have hk : Walk.moduleAt [(⟨0x400000, 0x400fff⟩, 0)] 0x400100 = some 0 := by decide
  refine ⟨{ o.ctx with valid := some o.valid }, ?_, congrArg Prod.fst hv, congrArg Prod.snd hv⟩
  show Walk.cfiOf .amd64 (worldOf cfiDump) (Walk.modTable (worldOf cfiDump).mods) (Walk.cfiTables (worldOf cfiDump))
    (Walk.mkEnv .amd64 .other (worldOf cfiDump) cfiMem0).mask cfiMem0 callee grand = _
  rw [cfiOf_eq, cfiWalk_mkEnv, hc, hi, cfi_modTable, hk, cfi_world]
  show Option.map _ (Walk.walkFrameCfi cfiSf (Walk.cfiTable cfiSf) 0x400000 ⟨.amd64, _, _⟩
    ⟨_, Walk.forwarded .amd64 _⟩ _) = _
  rw [cfi_cfiTable, ho]
  rfl

/-- call stack 0 of any dump whose thread list is `[cfiThread]`, walked from `cfiRegs` on region A in an
    amd64 environment `env` whose `get_caller_by_cfi` is `mkEnv`'s over `cfiDump`'s modules: a second
    frame of trust `cfi` with CFA 0x10018 and return address 0x10030 -/
private theorem cfi_second_frame (d : Dump) (s : State) (env : Walk.Env)
    (hth : d.threads = some [cfiThread]) (hs : index d = .state s)
    (hstart : startCtx d cfiThread = some cfiRegs)
    (hsel : selectMem (memoryList d) cfiThread (some 0x10008) = some regionA)
    (henv : envOf d (some regionA) = env) (hmem : walkMem d (some regionA) = some cfiMem0)
    (hctx : toCtx d.arch cfiRegs = toCtx 9 cfiRegs)
    (hcfi : env.cfi = (Walk.mkEnv .amd64 .other (worldOf cfiDump) cfiMem0).cfi) :
    ∃ (h2 : 0 < s.stacks.length) (hj : 0 + 1 < s.stacks[0].frames.length),
      s.stacks[0].frames[0 + 1].f.trust = .cfi ∧ s.stacks[0].frames[0 + 1].f.ctx.sp = 0x10018 ∧
      s.stacks[0].frames[0 + 1].f.ctx.ip = 0x10030 := by
  have h1 : 0 < [cfiThread].length := Nat.zero_lt_one
  have h2 : 0 < s.stacks.length := by rw [(stack_at d [cfiThread] s hth hs).1]; exact h1
  have hw := stack_walk d [cfiThread] s hth hs 0 h1 h2 (r := cfiRegs) hstart
  have hsel' : selectMem (memoryList d) [cfiThread][0] (some cfiRegs.sp) = some regionA := hsel
  rw [hsel', henv, hmem, hctx] at hw
  obtain ⟨r, hc, hsp, hip⟩ :=
    cfi_caller (Walk.symbolise env (Walk.Frame.ofCtx (toCtx 9 cfiRegs) .context)) none rfl rfl
  rw [← hcfi] at hc
  obtain ⟨hl, e⟩ := walk_second_cfi env cfiMem0 (toCtx 9 cfiRegs) r (by decide +kernel) (by decide +kernel) hc
    (by rw [hip]; decide) (by show 0x10008 < r.sp; rw [hsp]; decide)
  have hlen : 0 + 1 < s.stacks[0].frames.length := by
    rw [← List.length_map (f := (·.f)), hw]; exact hl
  obtain ⟨_, e1⟩ := getElem_of_map_eq hw (0 + 1) hlen
  rw [e] at e1
  exact ⟨h2, hlen, by rw [← e1]; rfl, by rw [← e1]; exact hsp, by rw [← e1]; exact hip⟩

/-- **non-vacuity of §2 with an actual `cfi` frame**: call stack 0 of `cfiDump`'s state has a second
    frame, its trust is `cfi` (found through the STACK CFI record of `mod`: CFA = rsp + 16 = 0x10018,
    return address = the word at 0x10010 = 0x10030), and `state_cfi_frames_follow_c06` applies to it -/
example : ∃ s, index cfiDump = .state s ∧ ∃ (h2 : 0 < s.stacks.length) (hj : 0 + 1 < s.stacks[0].frames.length),
    s.stacks[0].frames[0 + 1].f.trust = .cfi ∧ s.stacks[0].frames[0 + 1].f.ctx.sp = 0x10018 ∧
    s.stacks[0].frames[0 + 1].f.ctx.ip = 0x10030 ∧
    FollowsC06 .amd64 .other (worldOf cfiDump) cfiMem0 s.stacks[0].frames[0].f s.stacks[0].frames[0 + 1].f := by
  obtain ⟨hth, hn, hregs, hstart, hsel, -, -⟩ := cfi_hyps
  obtain ⟨s, hs⟩ := index_total cfiDump [cfiThread] hth
  obtain ⟨ea, em⟩ := cfi_arch_mem cfiDump rfl rfl
  have eo : walkOs (Os.ofPlatformId cfiDump.platformId) = .other := by decide +kernel
  obtain ⟨h2, hj, ht, hsp, hip⟩ := cfi_second_frame cfiDump s
    (Walk.mkEnv .amd64 .other (worldOf cfiDump) cfiMem0) hth hs hstart hsel
    (by rw [(env_spec cfiDump _).2.2.1 hn, ea, eo, em, Option.getD_some]) em rfl rfl
  refine ⟨s, hs, h2, hj, ht, hsp, hip, ?_⟩
  have := state_cfi_frames_follow_c06 cfiDump [cfiThread] s hth hs hn hregs 0 Nat.zero_lt_one h2 cfiRegs hstart
    0 hj ht
  have hsel' : selectMem (memoryList cfiDump) cfiThread (some cfiRegs.sp) = some regionA := hsel
  rw [ea, eo, List.getElem_cons_zero, hsel', em] at this
  exact this
end CfiFrame

/-! ### the same with a STACK WIN record present: the `mkEnvW` branch is inhabited -/
section CfiFrameW
open MdModel.CfiBridge

/-- `cfiDump` with a STACK WIN record in `mod`'s symbol file: `noWins` fails, the walks run in `mkEnvW` -/
def cfiDumpW : Dump :=
  { cfiDump with syms := [("mod", cfiSf, [⟨'4', 0x500, 0x10, 8, 0, 0, '1', "$T0 .raSearch =".toList⟩])] }

theorem cfiW_hyps :
    cfiDumpW.threads = some [cfiThread] ∧ Walk.noWins (winsOf cfiDumpW) = false ∧ DumpRegsOk cfiDumpW ∧
    startCtx cfiDumpW cfiThread = some cfiRegs ∧
    selectMem (memoryList cfiDumpW) cfiThread (some 0x10008) = some regionA ∧
    worldOf cfiDumpW = worldOf cfiDump := by
  exact ⟨rfl, by decide +kernel, dumpRegsOk_single _ cfiThread rfl rfl
      (cfi_hyps.2.2.1.2 _ rfl cfiThread List.mem_cons_self), by decide +kernel,
    by rfl, rfl⟩

/-- **non-vacuity of `state_cfi_frames_follow_c06W`**: on `cfiDumpW` (amd64, a STACK WIN record
    present) call stack 0 has a frame 1 of trust `cfi` and the theorem applies to it -/
example : ∃ s, index cfiDumpW = .state s ∧ ∃ (h2 : 0 < s.stacks.length) (hj : 0 + 1 < s.stacks[0].frames.length),
    s.stacks[0].frames[0 + 1].f.trust = .cfi ∧ s.stacks[0].frames[0 + 1].f.ctx.sp = 0x10018 ∧
    s.stacks[0].frames[0 + 1].f.ctx.ip = 0x10030 ∧
    FollowsC06 .amd64 .other (worldOf cfiDump) cfiMem0 s.stacks[0].frames[0].f s.stacks[0].frames[0 + 1].f := by
  obtain ⟨hth, hn, hregs, hstart, hsel, hworld⟩ := cfiW_hyps
  obtain ⟨s, hs⟩ := index_total cfiDumpW [cfiThread] hth
  obtain ⟨ea, em⟩ := cfi_arch_mem cfiDumpW rfl rfl
  have eo : walkOs (Os.ofPlatformId cfiDumpW.platformId) = .other := by decide +kernel
  have hne : Walk.Arch.amd64 ≠ .x86 := by decide
  obtain ⟨h2, hj, ht, hsp, hip⟩ := cfi_second_frame cfiDumpW s
    (Walk.mkEnvW .amd64 .other (worldOf cfiDump) (winsOf cfiDumpW) cfiMem0) hth hs hstart hsel
    (by rw [(env_spec cfiDumpW _).2.2.2.1 hn, ea, eo, em, hworld, Option.getD_some]) em rfl
    (mkEnvW_cfi_specW hne .other (worldOf cfiDump) (winsOf cfiDumpW) cfiMem0)
  refine ⟨s, hs, h2, hj, ht, hsp, hip, ?_⟩
  have := state_cfi_frames_follow_c06W cfiDumpW [cfiThread] s hth hs hn (by rw [ea]; exact hne) hregs 0
    Nat.zero_lt_one h2 cfiRegs hstart 0 hj ht
  have hsel' : selectMem (memoryList cfiDumpW) cfiThread (some cfiRegs.sp) = some regionA := hsel
  rw [ea, eo, List.getElem_cons_zero, hsel', em, hworld] at this
  exact this
end CfiFrameW

end MdModel.Index
