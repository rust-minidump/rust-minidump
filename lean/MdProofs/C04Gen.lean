/-
  C04 — the GENERATORS of the `chain` engine satisfy the precondition of the C04 theorems.

  Property text (C04): "Every stack laid out by the platform calling convention (frame-pointer
  chains) … is walked to exactly the generated call chain …". The C04 theorems say
  `Pre case → walk = generated chain`; for the generators below `Pre` is not evaluated per
  case but PROVED of the generator: the generator is a Lean function of its parameters
  (MdModel/Walk/LayoutGen.lean, LayoutGenScan.lean), the theorem quantifies over ALL parameters in the generator's
  ranges, and the engine compares the function's value with every generated case (layout tie,
  class `layout-not-mirrored`).

  Three generators: frame-pointer chains (x86, x86-64 not Windows, ARM on iOS, ARM64 both context
  layouts), canonical STACK CFI chains and scan-only chains (both on all seven context kinds /
  modes, incl. stacks that END with the outermost return-address slot). For STACK CFI the stack part
  of `Pre` is proved; the side condition `gcfiSide` (which record covers which lookup address: module
  and CFI range tables) is a hypothesis, or follows from record-level facts about worlds of one
  (`oneModOkB`) or several (`worldOkB`) modules.
-/
import MdProofs.C04
import MdProofs.Lemmas.WalkGenFp
import MdProofs.Lemmas.WalkGenCfi
import MdProofs.Lemmas.WalkGenSide
import MdProofs.Lemmas.WalkGenScan
import MdProofs.C04Cfi
namespace MdModel.Walk
open MdModel

/-- "frame-pointer chains": the frame-pointer generator's stacks satisfy `preFp`, for ALL its
    parameters, on every architecture with the technique -/
theorem preFp_layout_arch (a : Arch) (ha : a.hasFp = true) (os : Os) (hos : a = .amd64 → os ≠ .windows)
    (hios : a = .arm → os = .ios) (mask base s0 f0 tail : Nat) (calls : List (Nat × Nat))
    (hbase : 16 < base) (hs : s0 ≤ f0)
    (htop : base + a.ptr * (gfpWords a.ptr base f0 tail calls).length + 32 ≤ a.regMax)
    (hmask : (a = .arm64 ∨ a = .arm64old) →
      ∃ k, mask = 2 ^ k - 1 ∧ base + a.ptr * (gfpWords a.ptr base f0 tail calls).length ≤ 2 ^ k)
    (hrets : ∀ c ∈ calls, 4096 ≤ c.2 ∧ c.2 ≤ a.regMax ∧ retOkFp a mask c.2 = true) :
    preFp a os mask (wordsMemP a.ptr base (gfpWords a.ptr base f0 tail calls)) (pAddr a.ptr base s0)
      (pAddr a.ptr base f0) (gfpChain a.ptr base f0 calls) = true :=
  preFp_layout_gen a ha os hos hios mask base s0 f0 tail calls hbase hs htop hmask hrets

/-- **every frame-pointer stack the generator's layout function produces is walked to its chain**
    (x86, x86-64 not Windows, ARM on iOS, ARM64 both layouts): any base above 16 keeping the stack
    32 bytes clear of the top of the register range, any word positions `s0 ≤ f0` of the context's
    stack and frame pointers, any number of calls with any gaps between the records, any return
    addresses `≥ 4096` (x86-64: canonical; ARM64: canonical, and return addresses and stack below
    `2^k` for the walk's pointer-authentication mask `2^k - 1`), any amount of trailing zeros; any
    environment without STACK CFI / STACK WIN for these frames. -/
theorem walk_layout_fp_generated_arch (env : Env) (a : Arch) (harch : env.arch = a) (ha : a.hasFp = true)
    (hos : a = .amd64 → env.os ≠ .windows) (hios : a = .arm → env.os = .ios)
    (hcfi : NoCfi env) (base s0 f0 tail : Nat) (calls : List (Nat × Nat)) (ip : Nat)
    (hbase : 16 < base) (hs : s0 ≤ f0)
    (htop : base + a.ptr * (gfpWords a.ptr base f0 tail calls).length + 32 ≤ a.regMax)
    (hmask : (a = .arm64 ∨ a = .arm64old) →
      ∃ k, env.mask = 2 ^ k - 1 ∧ base + a.ptr * (gfpWords a.ptr base f0 tail calls).length ≤ 2 ^ k)
    (hrets : ∀ c ∈ calls, 4096 ≤ c.2 ∧ c.2 ≤ a.regMax ∧ retOkFp a env.mask c.2 = true) :
    walk env (some (wordsMemP a.ptr base (gfpWords a.ptr base f0 tail calls)))
        { ip := ip, sp := pAddr a.ptr base s0, rest := [(a.fpName, pAddr a.ptr base f0)] } =
      symbolise env (Frame.ofCtx { ip := ip, sp := pAddr a.ptr base s0,
                                   rest := [(a.fpName, pAddr a.ptr base f0)] } .context) ::
        expectedFp env a (gfpChain a.ptr base f0 calls) :=
  walk_layout_fp_generated_any env a harch ha hos hios hcfi base s0 f0 tail calls _ rfl rfl
    (by cases a <;> first | rfl | cases ha) hbase hs htop hmask hrets

-- non-vacuity: the layout of a two-call stack on x86 (4-byte words) and ARM64 spelled out; the
-- hypotheses of the theorem hold of it
example : gfpWords 4 0x8000 2 1 [(1, 0x400120), (0, 0x400500)] =
    [0, 0, 0x8014, 0x400120, 0, 0x801c, 0x400500, 0, 0, 0, 0] := by decide
example : (gfpChain 4 0x8000 2 [(1, 0x400120), (0, 0x400500)]).map (fun e => (e.ret, e.sp, e.fp)) =
    [(0x400120, 0x8010, some 0x8014), (0x400500, 0x801c, some 0x801c)] := by decide
example : preFp .x86 .other 0 (wordsMemP 4 0x8000 (gfpWords 4 0x8000 2 1 [(1, 0x400120), (0, 0x400500)]))
    (pAddr 4 0x8000 1) (pAddr 4 0x8000 2) (gfpChain 4 0x8000 2 [(1, 0x400120), (0, 0x400500)]) = true :=
  preFp_layout_arch .x86 rfl .other (by decide) (by decide) 0 0x8000 1 2 1 _ (by decide) (by decide) (by decide)
    (fun h => by rcases h with h | h <;> cases h) (by decide)
example : preFp .arm64 .ios (2 ^ 47 - 1)
    (wordsMemP 8 0x7fff00008000 (gfpWords 8 0x7fff00008000 2 1 [(1, 0x400120), (0, 0x400500)]))
    (pAddr 8 0x7fff00008000 1) (pAddr 8 0x7fff00008000 2)
    (gfpChain 8 0x7fff00008000 2 [(1, 0x400120), (0, 0x400500)]) = true :=
  preFp_layout_arch .arm64 rfl .ios (by decide) (by decide) (2 ^ 47 - 1) 0x7fff00008000 1 2 1 _ (by decide) (by decide)
    (by decide) (fun _ => ⟨47, rfl, by decide⟩) (by decide)
example : preFp .arm .ios 0 (wordsMemP 4 0x8000 (gfpWords 4 0x8000 0 3 []))
    (pAddr 4 0x8000 0) (pAddr 4 0x8000 0) (gfpChain 4 0x8000 0 []) = true :=
  preFp_layout_arch .arm rfl .ios (by decide) (by decide) 0 0x8000 0 0 3 [] (by decide) (by decide) (by decide)
    (fun h => by rcases h with h | h <;> cases h) (by decide)

/-- "described by STACK CFI": the canonical STACK CFI generator's stacks satisfy `preCfi`, for ALL
    its parameters (stack base, word position of the stack pointer, per frame its size in words,
    whether the record saves the frame pointer, the return address and the saved frame pointer;
    `tail` zero words behind the last frame — `tail = 0`: the stack ENDS with the outermost
    return-address slot), on every context kind / mode — given `gcfiSide`: the record covering each
    lookup address is the canonical one for the frame's size (the leaf rule for a frame of size 0),
    no record covers the outermost lookup address -/
theorem preCfi_layout (w : World) (a : Arch) (os : Os) (mask base s0 tail : Nat) (frames : List CfiFr) (ctx : Ctx)
    (hv : ctx.valid = none) (hsp : ctx.sp = pAddr a.ptr base s0)
    (hbase : 16 < base) (htop : base + a.ptr * (gcfiWords s0 tail frames).length ≤ a.regMax)
    (hin : s0 < (gcfiWords s0 tail frames).length)
    (hfp : stripOf a mask (ctx.raw a a.fpName) = ctx.raw a a.fpName)
    (hside : gcfiSide w a ctx.ip true frames = true) (hok : gcfiFramesOk a mask frames = true)
    (hlr : ∀ c rest, frames = c :: rest → c.n = 0 → ctx.raw a (if a.isMips then "ra" else "lr") = c.ret)
    (hend : tail = 0 ∨ gcfiLastFp (ctx.raw a a.fpName) frames = 0) :
    preCfi w a os mask (wordsMemP a.ptr base (gcfiWords s0 tail frames)) ctx
      (gcfiChain a.ptr base s0 (ctx.raw a a.fpName) frames) = true := by
  simp only [preCfi, hv, Option.isNone_none, Bool.true_and, hsp]
  exact preCfi_gen_aux w a os mask base tail (gcfiWords s0 tail frames) hbase htop frames s0 _ ctx.ip _ true
    (List.replicate s0 0) (by simp only [gcfiWords, List.append_assoc]) (by simp) hfp hside hok
    (fun _ c rest h hn => ⟨hlr c rest h hn, hin⟩) hend

/-- **every canonical STACK CFI stack the generator's layout function produces is walked to its
    chain** (all seven context kinds / modes, every OS), under the side condition `gcfiSide` on the
    module list and symbol records -/
theorem walk_layout_cfi_generated (a : Arch) (os : Os) (w : World) (base s0 tail : Nat) (frames : List CfiFr)
    (ctx : Ctx) (heff : effArch a ctx = a)
    (hv : ctx.valid = none) (hsp : ctx.sp = pAddr a.ptr base s0)
    (hbase : 16 < base) (htop : base + a.ptr * (gcfiWords s0 tail frames).length ≤ a.regMax)
    (hin : s0 < (gcfiWords s0 tail frames).length)
    (hfp : stripOf a (mkEnv a os w (wordsMemP a.ptr base (gcfiWords s0 tail frames))).mask (ctx.raw a a.fpName) =
      ctx.raw a a.fpName)
    (hside : gcfiSide w a ctx.ip true frames = true)
    (hok : gcfiFramesOk a (mkEnv a os w (wordsMemP a.ptr base (gcfiWords s0 tail frames))).mask frames = true)
    (hlr : ∀ c rest, frames = c :: rest → c.n = 0 → ctx.raw a (if a.isMips then "ra" else "lr") = c.ret)
    (hend : tail = 0 ∨ gcfiLastFp (ctx.raw a a.fpName) frames = 0) :
    walk (mkEnv a os w (wordsMemP a.ptr base (gcfiWords s0 tail frames)))
        (some (wordsMemP a.ptr base (gcfiWords s0 tail frames))) ctx =
      symbolise (mkEnv a os w (wordsMemP a.ptr base (gcfiWords s0 tail frames))) (Frame.ofCtx ctx .context) ::
        expectedCfi (mkEnv a os w (wordsMemP a.ptr base (gcfiWords s0 tail frames))) w a (Frame.ofCtx ctx .context)
          (gcfiChain a.ptr base s0 (ctx.raw a a.fpName) frames) := by
  have hp := ptr_pos a
  have h64 := regMax_le_u64 a
  have hm : (wordsMemP a.ptr base (gcfiWords s0 tail frames)).range?.isSome = true :=
    wordsMemP_range a.ptr base _ hp (by omega) (by omega)
  have hsp' : ctx.sp ≤ a.regMax := hsp ▸ Nat.le_trans (pAddr_le (Nat.le_of_lt hin)) htop
  refine walk_layout_cfi a os w _ ctx _ heff hsp' ?_
  simp only [Pre, hm, Bool.true_and]
  exact preCfi_layout w a os _ base s0 tail frames ctx hv hsp hbase htop hin hfp hside hok hlr hend

-- non-vacuity: a two-frame x86-64 stack (3 words saving rbp, then 2 words), ending with the outermost
-- return-address slot, spelled out
example : gcfiWords 1 0 [{ n := 3, saves := true, ret := 0x400120, fpv := 0 }, { n := 2, saves := false, ret := 0x400500, fpv := 0 }] =
    [0, 0, 0, 0x400120, 0, 0x400500] := by decide
example : (gcfiChain 8 0x8000 1 0x9000 [{ n := 3, saves := true, ret := 0x400120, fpv := 0 },
      { n := 2, saves := false, ret := 0x400500, fpv := 0 }]).map (fun e => (e.ret, e.sp, e.fp)) =
    [(0x400120, 0x8020, some 0), (0x400500, 0x8030, some 0)] := by decide

/-- **the side condition from record-level facts, worlds of one module**: the module has a range,
    every STACK CFI record is non-empty and inside the module, the records are pairwise disjoint
    (`oneModOkB` — what `tidy_world` arranges, incl. the appended leaf FUNC/CFI pair); then the
    module-table and CFI-range-table lookups of `gcfiSide` (sort, drop overlapping ranges, binary
    search) are the linear search `gcfiSideOne` over the record list -/
theorem gcfiSide_one_module (w : World) (m : Module) (sf : SymFile) (hmods : w.mods = [m])
    (hsyms : w.syms = [some sf]) (hok : oneModOkB m sf = true) (a : Arch) (instr : Nat) (first : Bool)
    (frames : List CfiFr) (h : gcfiSideOne m sf a instr first frames = true) :
    gcfiSide w a instr first frames = true :=
  gcfiSide_of_one w m sf (oneModOk_of_B m sf hok) hmods hsyms a frames instr first h

/-- `walk_layout_cfi_generated` for worlds of one module, with record-level facts in place of the
    side condition -/
theorem walk_layout_cfi_generated_one_module (a : Arch) (os : Os) (m : Module) (sf : SymFile)
    (base s0 tail : Nat) (frames : List CfiFr)
    (ctx : Ctx) (heff : effArch a ctx = a)
    (hv : ctx.valid = none) (hsp : ctx.sp = pAddr a.ptr base s0)
    (hbase : 16 < base) (htop : base + a.ptr * (gcfiWords s0 tail frames).length ≤ a.regMax)
    (hin : s0 < (gcfiWords s0 tail frames).length)
    (hfp : stripOf a (mkEnv a os { mods := [m], syms := [some sf] }
        (wordsMemP a.ptr base (gcfiWords s0 tail frames))).mask (ctx.raw a a.fpName) = ctx.raw a a.fpName)
    (hmod : oneModOkB m sf = true)
    (hside : gcfiSideOne m sf a ctx.ip true frames = true)
    (hok : gcfiFramesOk a (mkEnv a os { mods := [m], syms := [some sf] }
        (wordsMemP a.ptr base (gcfiWords s0 tail frames))).mask frames = true)
    (hlr : ∀ c rest, frames = c :: rest → c.n = 0 → ctx.raw a (if a.isMips then "ra" else "lr") = c.ret)
    (hend : tail = 0 ∨ gcfiLastFp (ctx.raw a a.fpName) frames = 0) :
    walk (mkEnv a os { mods := [m], syms := [some sf] } (wordsMemP a.ptr base (gcfiWords s0 tail frames)))
        (some (wordsMemP a.ptr base (gcfiWords s0 tail frames))) ctx =
      symbolise (mkEnv a os { mods := [m], syms := [some sf] } (wordsMemP a.ptr base (gcfiWords s0 tail frames)))
          (Frame.ofCtx ctx .context) ::
        expectedCfi (mkEnv a os { mods := [m], syms := [some sf] } (wordsMemP a.ptr base (gcfiWords s0 tail frames)))
          { mods := [m], syms := [some sf] } a (Frame.ofCtx ctx .context)
          (gcfiChain a.ptr base s0 (ctx.raw a a.fpName) frames) :=
  walk_layout_cfi_generated a os { mods := [m], syms := [some sf] } base s0 tail frames ctx heff hv hsp hbase htop
    hin hfp (gcfiSide_one_module _ m sf rfl rfl hmod a ctx.ip true frames hside) hok hlr hend

-- non-vacuity: a module with two functions with canonical records (3 words saving rbp; 2 words) and a
-- function without; the record-level side condition holds of the two-frame chain through them
example : oneModOkB { base := 0x400000, size := 0x1000, name := "m0" }
    { cfis := [{ addr := 0x100, size := 0x80, init := ".cfa: $rsp 24 + .ra: .cfa -8 + ^ $rbp: .cfa -16 + ^", adds := [] },
               { addr := 0x200, size := 0x80, init := ".cfa: $rsp 16 + .ra: .cfa -8 + ^", adds := [] }] } = true := by decide
example : gcfiSideOne { base := 0x400000, size := 0x1000, name := "m0" }
    { cfis := [{ addr := 0x100, size := 0x80, init := ".cfa: $rsp 24 + .ra: .cfa -8 + ^ $rbp: .cfa -16 + ^", adds := [] },
               { addr := 0x200, size := 0x80, init := ".cfa: $rsp 16 + .ra: .cfa -8 + ^", adds := [] }] }
    .amd64 0x400110 true
    [{ n := 3, saves := true, ret := 0x400220, fpv := 0 }, { n := 2, saves := false, ret := 0x400500, fpv := 0 }] = true := by
  decide +kernel

/-- **the side condition from record-level facts, worlds of several modules** (in any list order):
    the modules have ranges and are pairwise disjoint, every symbol file's STACK CFI records are
    non-empty, inside its module and pairwise disjoint (`worldOkB` — what `tidy_world` arranges); then
    `gcfiSide`'s lookups are two linear searches (`gcfiSideW`: first module containing the address,
    first record of it covering the address) -/
theorem gcfiSide_world (w : World) (hok : worldOkB w = true) (a : Arch) (instr : Nat) (first : Bool)
    (frames : List CfiFr) (h : gcfiSideW w a instr first frames = true) :
    gcfiSide w a instr first frames = true :=
  gcfiSide_of_world w hok a frames instr first h

/-- `walk_layout_cfi_generated` with record-level facts in place of the side condition -/
theorem walk_layout_cfi_generated_world (a : Arch) (os : Os) (w : World) (base s0 tail : Nat) (frames : List CfiFr)
    (ctx : Ctx) (heff : effArch a ctx = a)
    (hv : ctx.valid = none) (hsp : ctx.sp = pAddr a.ptr base s0)
    (hbase : 16 < base) (htop : base + a.ptr * (gcfiWords s0 tail frames).length ≤ a.regMax)
    (hin : s0 < (gcfiWords s0 tail frames).length)
    (hfp : stripOf a (mkEnv a os w (wordsMemP a.ptr base (gcfiWords s0 tail frames))).mask (ctx.raw a a.fpName) =
      ctx.raw a a.fpName)
    (hworld : worldOkB w = true) (hside : gcfiSideW w a ctx.ip true frames = true)
    (hok : gcfiFramesOk a (mkEnv a os w (wordsMemP a.ptr base (gcfiWords s0 tail frames))).mask frames = true)
    (hlr : ∀ c rest, frames = c :: rest → c.n = 0 → ctx.raw a (if a.isMips then "ra" else "lr") = c.ret)
    (hend : tail = 0 ∨ gcfiLastFp (ctx.raw a a.fpName) frames = 0) :
    walk (mkEnv a os w (wordsMemP a.ptr base (gcfiWords s0 tail frames)))
        (some (wordsMemP a.ptr base (gcfiWords s0 tail frames))) ctx =
      symbolise (mkEnv a os w (wordsMemP a.ptr base (gcfiWords s0 tail frames))) (Frame.ofCtx ctx .context) ::
        expectedCfi (mkEnv a os w (wordsMemP a.ptr base (gcfiWords s0 tail frames))) w a (Frame.ofCtx ctx .context)
          (gcfiChain a.ptr base s0 (ctx.raw a a.fpName) frames) :=
  walk_layout_cfi_generated a os w base s0 tail frames ctx heff hv hsp hbase htop hin hfp
    (gcfiSide_world w hworld a ctx.ip true frames hside) hok hlr hend

/-- "findable only by scanning": the scan-only generator's stacks satisfy `preScan`, for ALL its
    parameters (stack base `≥ 4096`, word position of the stack pointer, per frame its junk words and
    return address, `tail` zero words behind the last frame — `tail = 0`: the stack ENDS with the
    outermost return-address slot), on every architecture — given `gscanFramesOk`: the junk words the
    walker looks at are `< 4096` and not valid instructions, fewer than the scan window (160 / 40;
    MIPS64 128; MIPS32 256 / 252 after the four skipped words of every frame but the topmost), the
    return addresses are valid instructions `≥ 4096` -/
theorem preScan_layout (env : Env) (a : Arch) (os : Os) (base s0 tail : Nat) (frames : List ScFr) (ctx : Ctx)
    (hv : ctx.valid = none) (hsp : ctx.sp = pAddr a.ptr base s0) (hfp : ctx.raw a a.fpName = 0)
    (hios : a = .arm → os ≠ .ios) (hbase : 4096 ≤ base)
    (htop : base + a.ptr * (gscanWords s0 tail frames).length ≤ a.regMax)
    (hok : gscanFramesOk env a true frames = true) :
    preScan env a os (wordsMemP a.ptr base (gscanWords s0 tail frames)) ctx (gscanChain a.ptr base s0 frames) = true := by
  have hfrom := preScanFrom_layout env a base s0 tail frames htop hok
  have hi : (!(decide (a = .arm) && decide (os = .ios))) = true := by
    by_cases h : a = .arm
    · have := hios h; simp [h, this]
    · simp [h]
  simp only [preScan, hv, hfp, hsp, wordsMemP_base, hbase, hfrom, hi, Option.isNone_none, decide_true, Bool.and_self]

/-- **every scan-only stack the generator's layout function produces is walked to its chain**
    (ARM64 both context layouts, MIPS64): any environment without STACK CFI in which
    `gscanFramesOk` holds -/
theorem walk_layout_scan_generated (env : Env) (a : Arch) (harch : env.arch = a) (ha : a.plainScan64 = true)
    (hcfi : NoCfi env) (base s0 tail : Nat) (frames : List ScFr) (ctx : Ctx)
    (hv : ctx.valid = none) (hsp : ctx.sp = pAddr a.ptr base s0) (hfp : ctx.raw a a.fpName = 0)
    (h64 : a = .mips64 → ctx.m64 = true)
    (hlen : 0 < (gscanWords s0 tail frames).length)
    (htop : base + a.ptr * (gscanWords s0 tail frames).length ≤ a.regMax)
    (hok : gscanFramesOk env a true frames = true) :
    walk env (some (wordsMemP a.ptr base (gscanWords s0 tail frames))) ctx =
      symbolise env (Frame.ofCtx ctx .context) :: expectedScan env a (gscanChain a.ptr base s0 frames) := by
  have hm : (wordsMemP a.ptr base (gscanWords s0 tail frames)).range?.isSome = true :=
    wordsMemP_range a.ptr base _ (ptr_pos a) hlen (by have := regMax_le_u64 a; omega)
  refine walk_layout_scan env a harch ha hcfi _ hm ctx hv hfp h64 _ ?_
  rw [hsp]
  exact preScanFrom_layout env a base s0 tail frames htop hok

/-- the same on x86, x86-64, ARM (not iOS) and MIPS32 (four skipped words on every frame but the
    topmost): stack base `≥ 4096` -/
theorem walk_layout_scan_generated32 (env : Env) (a : Arch) (harch : env.arch = a) (ha : a.scan32 = true)
    (hos : a = .arm → env.os ≠ .ios) (hcfi : NoCfi env) (hok0 : a = .arm → env.instrOk 0 = false)
    (base s0 tail : Nat) (frames : List ScFr) (ctx : Ctx)
    (hv : ctx.valid = none) (hsp : ctx.sp = pAddr a.ptr base s0) (hfp : ctx.raw a a.fpName = 0)
    (h64 : ctx.m64 = false) (hbase : 4096 ≤ base) (hin : s0 ≤ (gscanWords s0 tail frames).length)
    (hlen : 0 < (gscanWords s0 tail frames).length)
    (htop : base + a.ptr * (gscanWords s0 tail frames).length ≤ a.regMax)
    (hok : gscanFramesOk env a true frames = true) :
    walk env (some (wordsMemP a.ptr base (gscanWords s0 tail frames))) ctx =
      symbolise env (Frame.ofCtx ctx .context) :: expectedScan32 env a (gscanChain a.ptr base s0 frames) := by
  have hm : (wordsMemP a.ptr base (gscanWords s0 tail frames)).range?.isSome = true :=
    wordsMemP_range a.ptr base _ (ptr_pos a) hlen (by have := regMax_le_u64 a; omega)
  have hsp' : ctx.sp ≤ a.regMax := hsp ▸ Nat.le_trans (pAddr_le hin) htop
  refine walk_layout_scan' env a harch ha hos hcfi hok0 _ hm hbase ctx hv hfp h64 hsp' _ ?_
  rw [hsp]
  exact preScanFrom_layout env a base s0 tail frames htop hok

/-- the junk half of `gscanFramesOk` from a record-level fact: in the environment of a world whose
    modules all start at or above 4096 (`tidy_world`: `≥ 0x10000`) a junk word `< 4096` is no valid
    instruction, so `gscanFramesOkJ` (windows, junk `< 4096`, return addresses valid) suffices -/
theorem gscanFramesOk_of_junk (a : Arch) (os : Os) (w : World) (mem : Mem)
    (hb : ∀ m ∈ w.mods, 4096 ≤ m.base) (first : Bool) (frames : List ScFr)
    (h : gscanFramesOkJ (mkEnv a os w mem) a first frames = true) :
    gscanFramesOk (mkEnv a os w mem) a first frames = true :=
  gscanFramesOk_of_J a os w mem hb frames first h

-- non-vacuity: a MIPS32 two-frame stack (one junk word; then four skipped words, one junk word), ending
-- with the outermost return-address slot, spelled out
example : gscanWords 1 0 [{ junk := [7], ret := 0x400120 }, { junk := [0, 0, 0, 0, 9], ret := 0x400500 }] =
    [0, 7, 0x400120, 0, 0, 0, 0, 9, 0x400500] := by decide
example : (gscanChain 4 0x8000 1 [{ junk := [7], ret := 0x400120 }, { junk := [0, 0, 0, 0, 9], ret := 0x400500 }]).map
    (fun e => (e.ret, e.sp, e.fp)) = [(0x400120, 0x800c, none), (0x400500, 0x8024, none)] := by decide

end MdModel.Walk
