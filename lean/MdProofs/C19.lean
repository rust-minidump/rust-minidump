/-
  C19 — Reported bit-flip candidates are genuine single-bit neighbours in mapped memory.

  Property text: "For every crash address or crashing-instruction register value and every memory
  map, each reported possible bit flip differs from the examined value in exactly one bit inside
  the range allowed for the platform, and is null or lies in a mapped region that permits the
  crashing kind of access. None is reported when the examined address is itself accessible, when
  the access was recognised as a null pointer plus offset, or for 32-bit and ARM64 dumps, and
  every confidence lies between 0 and 1."

  The theorems are about `MdModel.BitFlip` (the model the compiled driver executes and the
  `bitflip` engine compares with `process_minidump(..).exception_info.possible_bit_flips` on every
  run). Addresses, register files and memory maps are arbitrary: any `Nat` address (`< 2^64`
  only where a bound on the *result* is claimed), any lookup function `look`, and — in the
  theorems about `analyse` — any list of regions of any length.
-/
import MdProofs.Lemmas.BitFlip
namespace MdModel.BitFlip
open MdModel

/-- **C19.1** every candidate `try_bit_flips` reports for the examined value `a` is
    `a ^ (1 << i)` for a bit position `i` of the range. -/
theorem flip_is_neighbour {a : Nat} {src : Option String} {R : BitRange} {ctx : Option Ctx}
    {look : Nat → Option Perm} {op : MemOp} {r : Flip}
    (h : r ∈ tryBitFlips a src R ctx look op) :
    ∃ i ∈ R.bits, r.addr = a ^^^ (1 <<< i) := by
  obtain ⟨_, i, hi, rfl, _⟩ := mem_tryBitFlips_iff.mp h
  exact ⟨i, hi, rfl⟩

/-- the ranges the code uses: `0..48`, `48..64`, `0..64` -/
theorem bits_amd64Canonical (i : Nat) : i ∈ BitRange.amd64Canonical.bits ↔ i < 48 := by
  simp [BitRange.mem_bits, BitRange.lo, BitRange.hi]
theorem bits_amd64NonCanonical (i : Nat) : i ∈ BitRange.amd64NonCanonical.bits ↔ 48 ≤ i ∧ i < 64 := by
  simp [BitRange.mem_bits, BitRange.lo, BitRange.hi]
theorem bits_all (i : Nat) : i ∈ BitRange.all.bits ↔ i < 64 := by
  simp [BitRange.mem_bits, BitRange.lo, BitRange.hi]

theorem neighbour_exactly_one_bit (a i j : Nat) :
    ((a ^^^ (1 <<< i)).testBit j ≠ a.testBit j) ↔ j = i := by
  rw [flip_testBit]
  cases a.testBit j <;> by_cases h : i = j <;> simp [h] <;> omega

/-- **C19.1'** the same fact in terms of bits: the candidate differs from the examined value in
    exactly one bit, that bit lies in the range, the candidate is a `u64` and is not the
    examined value itself. -/
theorem flip_one_bit {a : Nat} {src : Option String} {R : BitRange} {ctx : Option Ctx}
    {look : Nat → Option Perm} {op : MemOp} {r : Flip} (ha : a < 2 ^ 64)
    (h : r ∈ tryBitFlips a src R ctx look op) :
    ∃ i, R.lo ≤ i ∧ i < R.hi ∧ i < 64 ∧ (∀ j, (r.addr.testBit j ≠ a.testBit j) ↔ j = i)
      ∧ r.addr < 2 ^ 64 ∧ r.addr ≠ a := by
  obtain ⟨i, hi, hr⟩ := flip_is_neighbour h
  have hb := BitRange.mem_bits.mp hi
  have h64 : i < 64 := Nat.lt_of_lt_of_le hb.2 (BitRange.hi_le_64 R)
  refine ⟨i, hb.1, hb.2, h64, ?_, ?_, ?_⟩
  · intro j; rw [hr]; exact neighbour_exactly_one_bit a i j
  · rw [hr]; exact flip_lt ha h64
  · rw [hr]; exact flip_ne a i

/-- **C19.2** exactly what the code checks: the candidate is `0`, or `memory_info_at_address`
    finds a region for it and `is_possibly_allowed_for` holds for that region. -/
theorem flip_mapped {a : Nat} {src : Option String} {R : BitRange} {ctx : Option Ctx}
    {look : Nat → Option Perm} {op : MemOp} {r : Flip}
    (h : r ∈ tryBitFlips a src R ctx look op) :
    r.addr = 0 ∨ ∃ m, look r.addr = some m ∧ op.possiblyAllowed m = true := by
  obtain ⟨_, i, _, rfl, h0 | hacc⟩ := mem_tryBitFlips_iff.mp h
  · exact Or.inl h0
  · exact Or.inr (accessible_iff.mp hacc)

/-- what "permits" means per kind of access (`is_possibly_allowed_for`): an undetermined
    operation is allowed everywhere, otherwise the matching permission is required. -/
theorem possiblyAllowed_spec (op : MemOp) (p : Perm) :
    op.possiblyAllowed p = true ↔
      (op = .undetermined ∨ (op = .read ∧ p.r = true) ∨ (op = .write ∧ p.w = true)
        ∨ (op = .execute ∧ p.x = true)) := by
  cases op <;> simp [MemOp.possiblyAllowed]

/-- only a Windows access violation determines the operation -/
theorem fromReason_spec (r : Reason) :
    MemOp.fromReason r = (match r with
      | .winAvRead => .read | .winAvWrite => .write | .winAvExec => .execute
      | .other => .undetermined) := by
  cases r <;> rfl

/-- **C19.3** "None is reported when the examined address is itself accessible." -/
theorem none_if_accessible {a : Nat} {src : Option String} {R : BitRange} {ctx : Option Ctx}
    {look : Nat → Option Perm} {op : MemOp} {m : Perm}
    (hl : look a = some m) (hp : op.possiblyAllowed m = true) :
    tryBitFlips a src R ctx look op = [] := by
  unfold tryBitFlips
  have : accessible look op a = true := accessible_iff.mpr ⟨m, hl, hp⟩
  simp [this]

theorem flip_examined_not_accessible {a : Nat} {src : Option String} {R : BitRange}
    {ctx : Option Ctx} {look : Nat → Option Perm} {op : MemOp} {r : Flip}
    (h : r ∈ tryBitFlips a src R ctx look op) :
    ∀ m, look a = some m → op.possiblyAllowed m = false := by
  intro m hl
  simpa [accessible, hl] using (mem_tryBitFlips_iff.mp h).1

/-- the analysis is not vacuous: when the examined value is not accessible, every in-range
    neighbour that is null or mapped-and-permitted IS reported. -/
theorem flip_complete {a : Nat} {src : Option String} {R : BitRange} {ctx : Option Ctx}
    {look : Nat → Option Perm} {op : MemOp} {i : Nat}
    (hacc : accessible look op a = false) (hi : i ∈ R.bits)
    (h : a ^^^ (1 <<< i) = 0 ∨ ∃ m, look (a ^^^ (1 <<< i)) = some m ∧ op.possiblyAllowed m = true) :
    ∃ r ∈ tryBitFlips a src R ctx look op, r.addr = a ^^^ (1 <<< i) ∧ r.src = src := by
  exact ⟨_, mem_tryBitFlips_iff.mpr ⟨hacc, i, hi, rfl, h.imp_right accessible_iff.mpr⟩, rfl, rfl⟩

/-- **C19.4a** 32-bit (and unknown-width) platforms: nothing is reported. -/
theorem gating_not_64bit (inp : Input) (look : Nat → Option Perm)
    (h : inp.cpu.pointerWidth ≠ .b64) : checkBitflips inp look = [] := by
  unfold checkBitflips; simp [h]

/-- the 32-bit CPUs of `system_info::Cpu` -/
theorem gating_32bit (inp : Input) (look : Nat → Option Perm)
    (h : inp.cpu = .x86 ∨ inp.cpu = .ppc ∨ inp.cpu = .sparc ∨ inp.cpu = .arm ∨ inp.cpu = .mips
      ∨ inp.cpu = .unknown) :
    checkBitflips inp look = [] := by
  apply gating_not_64bit
  rcases h with h | h | h | h | h | h <;> rw [h] <;> decide

/-- **C19.4b** ARM64: nothing is reported. -/
theorem gating_arm64 (inp : Input) (look : Nat → Option Perm) (h : inp.cpu = .arm64) :
    checkBitflips inp look = [] := by
  unfold checkBitflips; simp [h]

/-- **C19.4c** access recognised as a null pointer plus offset: nothing is reported — neither for
    the crash address nor by the register pass. -/
theorem gating_null_pointer_offset (inp : Input) (look : Nat → Option Perm) (off : Nat)
    (h : inp.adjusted = some (.nullPointerWithOffset off)) : checkBitflips inp look = [] := by
  unfold checkBitflips selectAddress
  simp [h]

/-- The value a reported flip was derived from: the selected crash address (`src = none`) or the
    value of an instruction register in the exception context (`src = some reg`). -/
def Examined (inp : Input) (a : Nat) (r : Flip) (v : Nat) : Prop :=
  (r.src = none ∧ v = a) ∨
  (∃ reg c, r.src = some reg ∧ inp.ctx = some c ∧ reg ∈ inp.iregs ∧ c.get reg = some v)

/-- the instruction registers are visited in strictly increasing `str` order, each once — the
    iteration order of `BTreeSet<&'static str>` — and exactly the given names are visited. -/
theorem btreeSet_sorted (l : List String) : (btreeSet l).Pairwise (· < ·) := by
  unfold btreeSet
  exact l.foldlRecOn _ List.Pairwise.nil fun acc h s _ => insertSorted_sorted s acc h

theorem mem_btreeSet_iff (x : String) (l : List String) : x ∈ btreeSet l ↔ x ∈ l := by
  simp [btreeSet, mem_foldl_insertSorted_iff]

theorem selectAddress_spec (inp : Input) (a : Nat) (R : BitRange)
    (h : selectAddress inp = some (a, R)) :
    (∃ v, inp.adjusted = some (.nonCanonical v) ∧ a = v ∧ R = .amd64NonCanonical) ∨
    (inp.adjusted = none ∧ a = inp.address ∧
      ((inp.cpu = .amd64 ∧ R = .amd64Canonical) ∨ (inp.cpu ≠ .amd64 ∧ R = .all))) := by
  unfold selectAddress at h
  split at h
  · rename_i v hv
    simp at h
    exact Or.inl ⟨v, hv, h.1.symm, h.2.symm⟩
  · cases h
  · rename_i hn
    simp at h
    refine Or.inr ⟨hn, h.1.symm, ?_⟩
    by_cases hc : inp.cpu = .amd64
    · left; simp [hc] at h; exact ⟨hc, h.2.symm⟩
    · right; simp [hc] at h; exact ⟨hc, h.2.symm⟩

/-- **C19.5 (`register_pass` and the crash-address pass together)** every flip
    `check_for_bitflips` reports — for the crash address or for a register of the crashing
    instruction — is a single-bit neighbour, inside the platform's range, of its examined value;
    it is null or mapped-and-permitted; its examined value is not accessible; and the platform
    is 64-bit, not ARM64, and the access was not recognised as null pointer plus offset. -/
theorem check_flips_sound (inp : Input) (look : Nat → Option Perm) (r : Flip)
    (h : r ∈ checkBitflips inp look) :
    inp.cpu.pointerWidth = .b64 ∧ inp.cpu ≠ .arm64 ∧
    ∃ a R, selectAddress inp = some (a, R) ∧
      ∃ v, Examined inp a r v ∧
        (∃ i ∈ R.bits, r.addr = v ^^^ (1 <<< i)) ∧
        (r.addr = 0 ∨ ∃ m, look r.addr = some m ∧ (MemOp.fromReason inp.reason).possiblyAllowed m = true) ∧
        (∀ m, look v = some m → (MemOp.fromReason inp.reason).possiblyAllowed m = false) := by
  unfold checkBitflips at h
  split at h; · cases h
  rename_i h64
  split at h; · cases h
  rename_i harm
  refine ⟨by simpa using h64, harm, ?_⟩
  split at h; · cases h
  rename_i a R hsel
  refine ⟨a, R, hsel, ?_⟩
  rcases List.mem_append.mp h with h | h
  · -- the crash-address pass
    exact ⟨a, Or.inl ⟨flip_src h, rfl⟩, flip_is_neighbour h, flip_mapped h,
      flip_examined_not_accessible h⟩
  · -- the register pass
    split at h; · cases h
    rename_i c hc
    obtain ⟨reg, hreg, v, hv, hr⟩ := mem_registerPass h
    exact ⟨v, Or.inr ⟨reg, c, flip_src hr, hc, hreg, hv⟩, flip_is_neighbour hr, flip_mapped hr,
      flip_examined_not_accessible hr⟩

/-- **C19.5' (`register_pass`)** the two facts for the register pass alone, with the register
    value as the examined value. -/
theorem register_pass (c : Ctx) (iregs : List String) (R : BitRange) (look : Nat → Option Perm)
    (op : MemOp) (r : Flip) (h : r ∈ registerPass c iregs R look op) :
    ∃ reg ∈ iregs, ∃ v, c.get reg = some v ∧ r.src = some reg ∧
      (∃ i ∈ R.bits, r.addr = v ^^^ (1 <<< i)) ∧
      (r.addr = 0 ∨ ∃ m, look r.addr = some m ∧ op.possiblyAllowed m = true) := by
  obtain ⟨reg, hreg, v, hv, hr⟩ := mem_registerPass h
  exact ⟨reg, hreg, v, hv, flip_src hr, flip_is_neighbour hr, flip_mapped hr⟩

/-- the range is the one "allowed for the platform": `0..48` for an amd64 crash address,
    `48..64` for a recovered non-canonical address, all 64 bits on other 64-bit CPUs. -/
theorem check_flips_range (inp : Input) (a : Nat) (R : BitRange)
    (h : selectAddress inp = some (a, R)) (i : Nat) (hi : i ∈ R.bits) :
    i < 64 ∧ ((∃ v, inp.adjusted = some (.nonCanonical v)) → 48 ≤ i) ∧
      (inp.adjusted = none → inp.cpu = .amd64 → i < 48) := by
  rcases selectAddress_spec inp a R h with ⟨v, hv, _, rfl⟩ | ⟨hn, _, ⟨hc, rfl⟩ | ⟨hc, rfl⟩⟩
  · have := (bits_amd64NonCanonical i).mp hi
    exact ⟨this.2, fun _ => this.1, fun h => (by rw [hv] at h; cases h)⟩
  · have := (bits_amd64Canonical i).mp hi
    exact ⟨by omega, fun ⟨v, hv⟩ => (by rw [hn] at hv; cases hv), fun _ _ => this⟩
  · have := (bits_all i).mp hi
    exact ⟨this, fun ⟨v, hv⟩ => (by rw [hn] at hv; cases hv), fun _ hc' => absurd hc' hc⟩

/-- building the lookup table of the memory map never fails (`unwrap` in `into_rangemap_safe`
    cannot fire), for any list of regions. -/
theorem analyse_never_panics (inp : Input) (k : MapKind) (rs : List Region)
    (hb : ∀ r ∈ rs, r.b ≤ U64MAX) :
    analyse inp k rs =
      .ok (checkBitflips inp (lookupIn rs (RangeMap.safeVec (tableInput k rs)))) := by
  unfold analyse
  rw [buildTable_ok k rs hb]

/-- **C19.6** end to end, for ANY list of regions (any length, overlapping, empty, ending at
    `2^64-1`, overflowing): a reported flip is null or lies inside the own `memory_range()` of a
    region of the dump whose permissions possibly allow the crashing kind of access. -/
theorem analyse_flip_in_mapped_region (inp : Input) (k : MapKind) (rs : List Region)
    (hb : ∀ r ∈ rs, r.b ≤ U64MAX) (fs : List Flip) (hfs : analyse inp k rs = .ok fs)
    (r : Flip) (h : r ∈ fs) :
    r.addr = 0 ∨ ∃ reg ∈ rs, (∃ rg, reg.range k = some rg ∧ rg.lo ≤ r.addr ∧ r.addr ≤ rg.hi) ∧
      (MemOp.fromReason inp.reason).possiblyAllowed reg.perm = true := by
  rw [analyse_never_panics inp k rs hb] at hfs
  cases hfs
  obtain ⟨_, _, a, R, _, v, _, _, hm, _⟩ := check_flips_sound inp _ r h
  rcases hm with h0 | ⟨m, hl, hp⟩
  · exact Or.inl h0
  · obtain ⟨reg, hreg, hperm, hrange⟩ := lookupIn_sound k rs r.addr m hl
    exact Or.inr ⟨reg, hreg, hrange, by rw [hperm]; exact hp⟩

/-- the index `min(nearby, 4) - 1` of `NEARBY_REGISTER[..]` neither underflows nor is out of
    range when it is evaluated (`nearby > 0`) -/
theorem confidence_index_in_range (n : Nat) (h : n > 0) :
    1 ≤ min n cNEARBY.length ∧ min n cNEARBY.length - 1 < cNEARBY.length := by
  simp only [cNEARBY, List.length_cons, List.length_nil]
  omega

/-- **C19.7** `0 ≤ confidence d ≤ 1` for EVERY details record (any `nearby_registers`). -/
theorem confidence_unit (d : Details) :
    0 ≤ (confidence d).num ∧ (confidence d).num ≤ ((confidence d).den : Int) ∧ 0 < (confidence d).den := by
  have h : (confidence d).Unit := by
    unfold confidence
    have hc := combine_unit (confValues d) (confValues_unit d)
    simp only
    split
    · exact Q.unit_mul hc (unit_consts cPOISON (by simp [cPOISON]))
    · exact hc
  exact ⟨h.2.1, h.2.2, h.1⟩

theorem confidence_clamp (d : Details) :
    confidence d = confidence { d with nearby := min d.nearby 4 } := by
  unfold confidence
  rw [← confValues_clamp]

/-- the grid claim on the 80 details records with `nearby ≤ 4` -/
private theorem confidence_on_grid_clamped : ∀ (nc nul low poi : Bool) (m : Fin 5),
    ((confidence ⟨nc, nul, low, m, poi⟩).num * 320000) %
      ((confidence ⟨nc, nul, low, m, poi⟩).den : Int) = 0 := by
  decide +kernel

/-- every exact confidence value is a multiple of `1/320000` — this is what allows the tie to
    compare the f32 result after quantising it to that grid (each grid point is `3.1e-6` from the
    next, the f32 rounding error is below `1e-7`, and the engine additionally rejects any value that
    is further than `1e-6` from a grid point). -/
theorem confidence_on_grid (d : Details) :
    ((confidence d).num * 320000) % ((confidence d).den : Int) = 0 := by
  rw [confidence_clamp]
  exact confidence_on_grid_clamped _ _ _ _ ⟨min d.nearby 4, by omega⟩

/-- every reported flip carries the details computed by `calculate_heuristics` for its own
    address, and `is_null` is set exactly for the null candidate -/
theorem flip_details {a : Nat} {src : Option String} {R : BitRange} {ctx : Option Ctx}
    {look : Nat → Option Perm} {op : MemOp} {r : Flip}
    (h : r ∈ tryBitFlips a src R ctx look op) :
    r.details = calcHeuristics r.addr a (R == .amd64NonCanonical) ctx ∧
      (r.details.isNull = true ↔ r.addr = 0) := by
  obtain ⟨_, i, _, rfl, _⟩ := mem_tryBitFlips_iff.mp h
  refine ⟨rfl, ?_⟩
  simp only [mkFlip, calcHeuristics]
  cases ctx <;> simp

/-- `(addr & 0xff) * 0x0101010101010101` in `is_repeated` cannot overflow a `u64`
    (the harness is built with overflow checks; the model uses unbounded `Nat`). -/
theorem repeat_mul_no_overflow (v : Nat) : (v % 256) * 0x0101010101010101 ≤ U64MAX := by
  have : v % 256 ≤ 255 := by omega
  unfold U64MAX
  omega

/-- `nearby_registers += 1` runs at most once per valid register, so the `u32` counter cannot
    overflow for a context with fewer than 2^32 registers. -/
theorem nearby_le_regs (addr orig : Nat) (nc : Bool) (c : Ctx) :
    (calcHeuristics addr orig nc (some c)).nearby ≤ c.regs.length := by
  simp only [calcHeuristics]
  exact List.length_filter_le _ _

theorem candidatesAt_length_le (a : Nat) (src : Option String) (R : BitRange) (ctx : Option Ctx)
    (look : Nat → Option Perm) (op : MemOp) (i : Nat) :
    (candidatesAt a src R ctx look op i).length ≤ 2 := by
  unfold candidatesAt
  simp only [List.length_append]
  split <;> split <;> simp

/-- at most two entries per bit position (NULL and mapped): never more than 128 candidates per
    examined value. -/
theorem tryBitFlips_length_le (a : Nat) (src : Option String) (R : BitRange) (ctx : Option Ctx)
    (look : Nat → Option Perm) (op : MemOp) :
    (tryBitFlips a src R ctx look op).length ≤ 2 * (R.hi - R.lo) ∧ 2 * (R.hi - R.lo) ≤ 128 := by
  constructor
  · unfold tryBitFlips
    split
    · simp
    · have hlen : R.bits.length = R.hi - R.lo := by simp [BitRange.bits]
      rw [← hlen]
      generalize R.bits = l
      induction l with
      | nil => simp
      | cons i rest ih =>
        simp only [List.flatMap_cons, List.length_append, List.length_cons]
        have := candidatesAt_length_le a src R ctx look op i
        omega
  · cases R <;> simp [BitRange.hi, BitRange.lo]

/-- the map of `test_bit_flip` plus a no-access page and a region ending at `2^64-2` (a
    memory-info region cannot end at `2^64-1`: `base + size` would overflow, `memory_range()` is
    `None` and the region is dropped — see `exMaps` for the Linux form, which can) -/
def exRegions : List Region :=
  [⟨0x80000, 8, protPerm 0x04⟩, ⟨0x90000, 0x1000, protPerm 0x01⟩,
   ⟨U64MAX - 0xfff, 0xfff, protPerm 0x20⟩]

/-- Linux maps with a region ending at `2^64-1` -/
def exMaps : List Region :=
  [⟨0x80000, 0x80007, ⟨true, true, false⟩⟩, ⟨U64MAX - 0xfff, U64MAX, ⟨true, false, true⟩⟩]

def exInput (cpu : Cpu) (addr : Nat) : Input :=
  { cpu, reason := .other, address := addr, adjusted := none, ctx := none, iregs := [] }

theorem exRegions_wf : ∀ r ∈ exRegions, r.b ≤ U64MAX := by
  intro r hr; simp [exRegions] at hr; rcases hr with rfl | rfl | rfl <;> decide
theorem exMaps_wf : ∀ r ∈ exMaps, r.b ≤ U64MAX := by
  intro r hr; simp [exMaps] at hr; rcases hr with rfl | rfl <;> decide

-- (`mergeSort` is defined by well-founded recursion and does not reduce under `decide`; the
--  example lists are already sorted, so the sort is the identity)
theorem exRegions_sorted :
    RangeMap.sortOpt (tableInput .info exRegions) = tableInput .info exRegions := by
  unfold RangeMap.sortOpt
  apply List.mergeSort_of_pairwise
  decide +kernel
theorem exMaps_sorted : RangeMap.sortOpt (tableInput .maps exMaps) = tableInput .maps exMaps := by
  unfold RangeMap.sortOpt
  apply List.mergeSort_of_pairwise
  decide +kernel

/-- with the table input already sorted the sort is skipped; what remains evaluates -/
private theorem analyse_of_sorted (inp : Input) (k : MapKind) (rs : List Region)
    (hb : ∀ r ∈ rs, r.b ≤ U64MAX)
    (hs : RangeMap.sortOpt (tableInput k rs) = tableInput k rs) :
    analyse inp k rs = .ok (checkBitflips inp
      (lookupIn rs (RangeMap.pass (RangeMap.validOnly (tableInput k rs))).1)) := by
  rw [analyse_never_panics inp k rs hb]
  unfold RangeMap.safeVec
  rw [hs]

-- the hypothesis `r ∈ fs` of `analyse_flip_in_mapped_region` is satisfiable: `test_bit_flip`'s
-- dump reports the flip 0x80400 -> 0x80000; with an undetermined operation the no-access page
-- at 0x90000 also counts (0x80400 ^ 0x10000), for a read violation it does not
example : (match analyse (exInput .amd64 0x80400) .info exRegions with
    | .ok fs => fs.map (fun f => (f.addr, f.src)) | .panic _ => [])
    = [(0x80000, none), (0x90400, none)] := by
  rw [analyse_of_sorted _ _ _ exRegions_wf exRegions_sorted]
  decide +kernel
example : (match analyse { exInput .amd64 0x80400 with reason := .winAvRead } .info exRegions with
    | .ok fs => fs.map (fun f => (f.addr, f.src)) | .panic _ => []) = [(0x80000, none)] := by
  rw [analyse_of_sorted _ _ _ exRegions_wf exRegions_sorted]
  decide +kernel

-- a candidate inside the region ending at 2^64-1 (bit 63 flipped; all 64 bits on ppc64),
-- and the same address on amd64 where bit 63 is outside the canonical range 0..48
example : (match analyse (exInput .ppc64 (U64MAX - 0x7ff - 2^63)) .maps exMaps with
    | .ok fs => fs.map (·.addr) | .panic _ => []) = [U64MAX - 0x7ff] := by
  rw [analyse_of_sorted _ _ _ exMaps_wf exMaps_sorted]
  decide +kernel
example : (match analyse (exInput .amd64 (U64MAX - 0x7ff - 2^63)) .maps exMaps with
    | .ok fs => fs.map (·.addr) | .panic _ => [1]) = [] := by
  rw [analyse_of_sorted _ _ _ exMaps_wf exMaps_sorted]
  decide +kernel

-- gating hypotheses are satisfiable, and the same input on amd64 does report a flip
example : checkBitflips (exInput .x86 0x80400) (fun a => if a = 0x80000 then some ⟨true, true, false⟩ else none) = [] :=
  gating_32bit _ _ (Or.inl rfl)
example : checkBitflips (exInput .arm64 0x80400) (fun a => if a = 0x80000 then some ⟨true, true, false⟩ else none) = [] :=
  gating_arm64 _ _ rfl
example : (checkBitflips (exInput .amd64 0x80400) (fun a => if a = 0x80000 then some ⟨true, true, false⟩ else none)).length = 1 := by
  decide +kernel
example : checkBitflips { exInput .amd64 0x80400 with adjusted := some (.nullPointerWithOffset 0x400) }
    (fun a => if a = 0x80000 then some ⟨true, true, false⟩ else none) = [] :=
  gating_null_pointer_offset _ _ 0x400 rfl

-- `none_if_accessible`: hypotheses hold for an address inside a permitting region
example : tryBitFlips 0x80001 none .amd64Canonical none
    (fun a => if 0x80000 ≤ a ∧ a < 0x80008 then some ⟨true, false, false⟩ else none) .read = [] :=
  none_if_accessible (m := ⟨true, false, false⟩) (by simp) rfl

-- the register pass does report flips (hypothesis of `register_pass` is satisfiable)
example : (registerPass ⟨8, [("rbx", 0x80400), ("rip", 0x1000)]⟩ ["rbx", "rbx", "eax"] .amd64Canonical
    (fun a => if a = 0x80000 then some ⟨true, true, false⟩ else none) .undetermined).map
      (fun f => (f.addr, f.src)) = [(0x80000, some "rbx")] := by decide +kernel

-- confidence values: the baseline alone is 1/4; everything at once
example : confidence ⟨false, false, false, 0, false⟩ = ⟨25, 100⟩ := by decide +kernel
example : (confidence ⟨true, true, true, 7, true⟩).num * 320000
    = 156850 * ((confidence ⟨true, true, true, 7, true⟩).den : Int) := by decide +kernel

-- `BTreeSet<&str>` order of the instruction registers: byte-wise string order, duplicates once
example : btreeSet ["rcx", "rbx", "r9", "r10", "rbx"] = ["r10", "r9", "rbx", "rcx"] := by
  decide +kernel

-- the Windows protection constants: NOACCESS, READWRITE, EXECUTE_READ, EXECUTE_WRITECOPY, EXECUTE
example : protPerm 0x01 = ⟨false, false, false⟩ ∧ protPerm 0x04 = ⟨true, true, false⟩ ∧
    protPerm 0x20 = ⟨true, false, true⟩ ∧ protPerm 0x80 = ⟨false, true, true⟩ ∧
    protPerm 0x10 = ⟨false, false, true⟩ := by decide

end MdModel.BitFlip
