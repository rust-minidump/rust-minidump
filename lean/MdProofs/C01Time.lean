/-
  C01, the `time` leaf — theorems about MdModel.TimeFmt, the model of `format_time_t` /
  `format_system_time` (minidump/src/minidump.rs 669-694, crate `time` 0.3: from_unix_timestamp + Rfc3339).

  Property text (C01): "reading … never panics … on ANY byte string" — the printers call `format_time_t`
  on every `u32` a dump can carry (header time_date_stamp, module / unloaded-module time_date_stamp, the PDB 2.0
  signature, MISC_INFO process_create_time). These theorems decide, for EVERY `u32`:
  the conversion is total, never takes the error branch (`unwrap_or_default` → empty string), yields
  exactly `YYYY-MM-DDTHH:MM:SSZ`, a real calendar date, and distinct seconds give distinct texts.
-/
import MdModel.TimeFmt
import MdProofs.Lemmas.TimeFmt

namespace MdModel.TimeFmt

/-- `civil_roundtrip` — for EVERY day count since 1970-01-01 (all naturals, not only the 49 710 days a `u32`
    of seconds reaches): the date the era algorithm yields is a real calendar date (month 1–12, day 1 … length
    of that month with the Gregorian leap-year rule) and counting its days back gives the input. -/
theorem civil_roundtrip (z : Nat) :
    daysFromCivil (civilFromDays z).1 (civilFromDays z).2.1 (civilFromDays z).2.2 = z
    ∧ 1 ≤ (civilFromDays z).2.1 ∧ (civilFromDays z).2.1 ≤ 12
    ∧ 1 ≤ (civilFromDays z).2.2
    ∧ (civilFromDays z).2.2 ≤ daysInMonth (civilFromDays z).1 (civilFromDays z).2.1 := by
  obtain ⟨h1, h2, h3, h4, h5, h6⟩ := doeParts_spec _ (Nat.mod_lt (z + 719468) (by decide : 0 < 146097))
  simp only [civilFromDays]
  refine ⟨?_, h2, h3, h4, ?_⟩
  · -- `daysFromCivil` finds the era and the year of the era again, whatever the month
    unfold daysFromCivil
    simp only [Nat.add_sub_cancel]
    rw [Nat.add_mul_div_right _ _ (by decide), Nat.add_mul_mod_self_right, Nat.div_eq_of_lt h1,
      Nat.mod_eq_of_lt h1, Nat.zero_add, h6, Nat.mul_comm, Nat.div_add_mod]
    omega
  · rw [Nat.add_right_comm, daysInMonth_add_era]; exact h5

/-- `format_shape` — for EVERY `u32`: `format_time_t` does not take the error branch; its
    output is exactly twenty characters, four digits `-` two `-` two `T` two `:` two `:` two `Z`. -/
theorem format_shape (t : Nat) (h : t < 4294967296) :
    ∃ y3 y2 y1 y0 m1 m0 d1 d0 h1 h0 i1 i0 s1 s0 : Char,
      (formatTimeT t).toList = [y3, y2, y1, y0, '-', m1, m0, '-', d1, d0, 'T', h1, h0, ':', i1, i0, ':', s1, s0, 'Z']
      ∧ y3.isDigit ∧ y2.isDigit ∧ y1.isDigit ∧ y0.isDigit ∧ m1.isDigit ∧ m0.isDigit ∧ d1.isDigit ∧ d0.isDigit
      ∧ h1.isDigit ∧ h0.isDigit ∧ i1.isDigit ∧ i0.isDigit ∧ s1.isDigit ∧ s0.isDigit := by
  obtain ⟨e, hm⟩ := formatTimeT_eq t h
  rw [e, formatUnix_toList t hm, renderChars_Z]
  refine ⟨_, _, _, _, _, _, _, _, _, _, _, _, _, _, rfl, ?_⟩
  simp only [digit_isDigit, and_self]

/-- `format_total` — no `u32` gets to the error branch (the empty string, see `formatUnix_empty_iff`). -/
theorem format_total (t : Nat) (h : t < 4294967296) : (formatTimeT t).length = 20 ∧ formatTimeT t ≠ "" := by
  obtain ⟨e, hm⟩ := formatTimeT_eq t h
  have hl : (formatTimeT t).length = 20 := by rw [e, formatUnix_length t hm]
  refine ⟨hl, ?_⟩
  intro hh; rw [hh] at hl; revert hl; decide

/-- The empty string (what the code prints when the crate `time` rejects the value) is produced exactly for
    second counts beyond 9999-12-31T23:59:59Z. -/
theorem formatUnix_empty_iff (n : Nat) : formatUnix n = "" ↔ n > MAX_TS := by
  constructor
  · intro h
    by_cases hn : n ≤ MAX_TS
    · have := formatUnix_length n hn
      rw [h] at this
      exact absurd this (by decide)
    · omega
  · intro h; rw [formatUnix, formatUnixChars, if_neg (by omega)]

/-- The fields printed are those of a real instant: month 1–12, day within the month, 24/60/60, year ≤ 2400,
    and the second count is recovered from them. -/
theorem fields_sound (t : Nat) (h : t < 4294967296) :
    let f := fieldsOf t
    1 ≤ f.mo ∧ f.mo ≤ 12 ∧ 1 ≤ f.d ∧ f.d ≤ daysInMonth f.y f.mo ∧ f.h < 24 ∧ f.mi < 60 ∧ f.s < 60 ∧ f.y ≤ 2400
    ∧ daysFromCivil f.y f.mo f.d * 86400 + f.h * 3600 + f.mi * 60 + f.s = t := by
  obtain ⟨r1, r2, r3, r4, r5⟩ := civil_roundtrip (t / 86400)
  -- at most six eras: far inside the years 0 ..= 9999 the RFC 3339 formatter of `time` accepts (in fact ≤ 2106)
  have hy : (civilFromDays (t / 86400)).1 ≤ 2400 := by
    have h1 := (doeParts_spec _ (Nat.mod_lt (t / 86400 + 719468) (by decide : 0 < 146097))).1
    simp only [civilFromDays]
    split <;> omega
  simp only [fieldsOf]
  refine ⟨r2, r3, r4, r5, by omega, by omega, by omega, hy, ?_⟩
  rw [r1]; omega

/-- `format_injective` — two different `u32` second counts never print the same text. -/
theorem format_injective (a b : Nat) (ha : a < 4294967296) (hb : b < 4294967296)
    (h : formatTimeT a = formatTimeT b) : a = b := by
  obtain ⟨ea, hma⟩ := formatTimeT_eq a ha
  obtain ⟨eb, hmb⟩ := formatTimeT_eq b hb
  have hl := congrArg String.toList h
  rw [ea, eb, formatUnix_toList a hma, formatUnix_toList b hmb, renderChars_Z, renderChars_Z] at hl
  simp only [List.cons.injEq, and_true, true_and] at hl
  obtain ⟨y3, y2, y1, y0, m1, m0, d1, d0, h1, h0, i1, i0, s1, s0⟩ := hl
  obtain ⟨_, a2, _, a4, a5, a6, a7, a8, a9⟩ := fields_sound a ha
  obtain ⟨_, b2, _, b4, b5, b6, b7, b8, b9⟩ := fields_sound b hb
  have a4' := Nat.le_trans a4 (daysInMonth_le _ _)
  have b4' := Nat.le_trans b4 (daysInMonth_le _ _)
  rw [← a9, ← b9, pad4_inj (by omega) (by omega) y3 y2 y1 y0, pad2_inj (by omega) (by omega) m1 m0,
    pad2_inj (by omega) (by omega) d1 d0, pad2_inj (by omega) (by omega) h1 h0,
    pad2_inj (by omega) (by omega) i1 i0, pad2_inj (by omega) (by omega) s1 s0]

example : formatTimeT 0 = "1970-01-01T00:00:00Z" := by decide +kernel
example : formatTimeT 951782400 = "2000-02-29T00:00:00Z" := by decide +kernel
example : formatTimeT 2147483647 = "2038-01-19T03:14:07Z" := by decide +kernel
example : formatTimeT 4294967295 = "2106-02-07T06:28:15Z" := by decide +kernel
example : formatUnix 253402300799 = "9999-12-31T23:59:59Z" ∧ formatUnix 253402300800 = "" := by decide +kernel
example : civilFromDays 11016 = (2000, 2, 29) ∧ daysFromCivil 2000 2 29 = 11016 := by decide +kernel
example : formatSystemTime ⟨2024, 258, 285, 256, 256, 256, 120⟩ = "2024-02-29T00:00:00.12Z" := by decide +kernel
example : formatSystemTime ⟨1900, 2, 29, 0, 0, 0, 0⟩ = "<invalid date>" := by decide +kernel

end MdModel.TimeFmt
