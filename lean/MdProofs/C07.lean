/-
  C07 — STACK WIN records evaluate exactly as documented (program strings and FPO).

  Property text: "For every STACK WIN record (frame-data program string or FPO form), callee x86
  registers, grand-callee parameter size and stack contents, unwinding yields exactly the documented
  result: the predefined constants (.cbParams, .cbCalleeParams, .cbSavedRegs, .cbLocals,
  .raSearch/.raSearchStart including the `@` rule), 32-bit wrapping arithmetic, assignment and
  `.undef` semantics, and the FPO formulae including the leftover-return-address skip. Only $eip,
  $esp, $ebp, $ebx, $esi and $edi are reported, registers the record did not set are unknown in the
  caller (apart from FPO's documented pass-through of %ebp and %ebx), and malformed programs or
  extreme size fields fail cleanly instead of panicking."

  The theorems are about `MdModel.Win` (the model the compiled driver executes and the `win` engine
  compares with `SymbolFile::walk_frame` on every run).  Size fields, registers and memory words
  range over all of `UInt32`; programs are arbitrary character lists / token lists of any length;
  the walker's register file and memory are arbitrary functions.
-/
import MdProofs.Lemmas.Win
namespace MdModel.Win
open MdModel

/-! ## 1. the predefined constants -/

/-- the nine variables that exist before the first token -/
def initNames : List String :=
  ["$esp", "$ebp", "$ebx", ".cbParams", ".cbCalleeParams", ".cbSavedRegs", ".cbLocals", ".raSearch",
   ".raSearchStart"]

/-- **consts_table** — "the predefined constants (.cbParams, .cbCalleeParams, .cbSavedRegs,
    .cbLocals, .raSearch/.raSearchStart …)": whenever initialisation succeeds, the variable map
    holds exactly: `.cbParams = parameter_size`, `.cbCalleeParams = grand_callee_parameter_size`,
    `.cbSavedRegs = saved_register_size`, `.cbLocals = local_size`, `.raSearch = .raSearchStart =`
    the search start, `$esp`/`$ebp` = the callee's, `$ebx` = the callee's if known — and nothing
    else. -/
theorem consts_table {hasAt : Bool} {info : Info} {w : Walker} {vs : Vars}
    (h : initVars hasAt info w = some vs) :
    ∃ esp ebp ss, w.reg "esp" = some esp ∧ w.reg "ebp" = some ebp ∧
      searchStart hasAt info w.gcParam esp ebp = some ss ∧
      vs.get ".cbParams" = some info.par ∧
      vs.get ".cbCalleeParams" = some w.gcParam ∧
      vs.get ".cbSavedRegs" = some info.sav ∧
      vs.get ".cbLocals" = some info.loc ∧
      vs.get ".raSearch" = some ss ∧
      vs.get ".raSearchStart" = some ss ∧
      vs.get "$esp" = some esp ∧
      vs.get "$ebp" = some ebp ∧
      vs.get "$ebx" = w.reg "ebx" ∧
      ∀ k, k ∉ initNames → vs.get k = none := by
  unfold initVars at h
  cases hesp : w.reg "esp" with
  | none => simp [hesp] at h
  | some esp =>
  cases hebp : w.reg "ebp" with
  | none => simp [hesp, hebp] at h
  | some ebp =>
  cases hss : searchStart hasAt info w.gcParam esp ebp with
  | none => simp [hesp, hebp, hss] at h
  | some ss =>
  simp only [hesp, hebp, hss, Option.some.injEq] at h
  subst h
  refine ⟨esp, ebp, ss, rfl, rfl, hss, ?_⟩
  -- `$ebx` is set or not; either way every lookup is decided by comparing names
  cases w.reg "ebx" <;>
  · simp only [Vars.get_set, Vars.get_nil, String.reduceEq, if_true, if_false, true_and]
    intro k hk
    simp only [initNames, List.mem_cons, List.not_mem_nil, or_false, not_or] at hk
    simp only [hk, if_false]

/-! ## 2. `.raSearch` / `.raSearchStart`, both branches of the `@` rule -/

/-- **ra_search (no `@`)** — `.raSearch = $esp + frame_size`; the record fails when the frame size
    or the address does not fit 32 bits. -/
theorem ra_search_esp {info : Info} {gc esp ebp v : UInt32} :
    searchStart false info gc esp ebp = some v ↔
      esp.toNat + (info.loc.toNat + info.sav.toNat + gc.toNat) ≤ U32MAX ∧
      v.toNat = esp.toNat + (info.loc.toNat + info.sav.toNat + gc.toNat) := by
  unfold searchStart
  simp only [Bool.false_eq_true, if_false]
  cases hf : winFrameSize info gc with
  | none =>
    have := winFrameSize_none.mp hf
    simp only [Option.bind_none, reduceCtorEq, false_iff, not_and]
    intro h; omega
  | some fs =>
    obtain ⟨ha, hb⟩ := winFrameSize_some.mp hf
    simp only [Option.bind_some]
    rw [checkedAdd32_some, hb]

/-- **ra_search (`@` branch)** — a program whose text contains `@` gets `.raSearch = $ebp + 4`
    (fails when that overflows); `$esp` and the size fields play no role. -/
theorem ra_search_ebp {info : Info} {gc esp ebp v : UInt32} :
    searchStart true info gc esp ebp = some v ↔
      ebp.toNat + 4 ≤ U32MAX ∧ v.toNat = ebp.toNat + 4 := by
  unfold searchStart
  simp only [if_true]
  rw [checkedAdd32_some]
  rfl

/-- the `@` rule is decided on the raw program text (`expr.contains('@')`), not on the tokens:
    `finalVars` initialises with `expr.contains '@'`. -/
theorem ra_search_rule_on_raw_text (expr : List Char) (info : Info) (w : Walker) :
    finalVars expr info w =
      match initVars (expr.contains '@') info w with
      | none => .fail
      | some vs =>
        match run w.mem { vars := vs, stack := [] } (tokenize expr) with
        | .ok st => .ok st.vars
        | .fail => .fail
        | .panic s => .panic s := rfl

/-! ## 3. 32-bit wrapping arithmetic of every operator; `@` -/

/-- **wrapping** — `+ - *` wrap modulo 2^32, `/ %` are the unsigned operations and fail exactly on
    a zero divisor. -/
theorem wrapping_add (a b : UInt32) :
    ∃ c, BinOp.eval .add a b = some c ∧ c.toNat = (a.toNat + b.toNat) % 2 ^ 32 :=
  ⟨a + b, rfl, UInt32.toNat_add a b⟩

theorem wrapping_sub (a b : UInt32) :
    ∃ c, BinOp.eval .sub a b = some c ∧ c.toNat = (2 ^ 32 - b.toNat + a.toNat) % 2 ^ 32 :=
  ⟨a - b, rfl, UInt32.toNat_sub a b⟩

theorem wrapping_mul (a b : UInt32) :
    ∃ c, BinOp.eval .mul a b = some c ∧ c.toNat = (a.toNat * b.toNat) % 2 ^ 32 :=
  ⟨a * b, rfl, UInt32.toNat_mul a b⟩

theorem div_spec (a b : UInt32) :
    (b = 0 → BinOp.eval .div a b = none) ∧
    (b ≠ 0 → ∃ c, BinOp.eval .div a b = some c ∧ c.toNat = a.toNat / b.toNat) := by
  constructor
  · intro h; simp [BinOp.eval, h]
  · intro h; exact ⟨a / b, by simp [BinOp.eval, h], UInt32.toNat_div a b⟩

theorem rem_spec (a b : UInt32) :
    (b = 0 → BinOp.eval .rem a b = none) ∧
    (b ≠ 0 → ∃ c, BinOp.eval .rem a b = some c ∧ c.toNat = a.toNat % b.toNat) := by
  constructor
  · intro h; simp [BinOp.eval, h]
  · intro h; exact ⟨a % b, by simp [BinOp.eval, h], UInt32.toNat_mod a b⟩

/-- a binary operator pops the right operand first, reads variables through the map, and pushes
    the result as an integer; any missing operand / unset variable / `.undef` fails. -/
theorem stepBin_spec (op : BinOp) (vs : Vars) (r l : Val) (rest : List Val) :
    stepBin op ⟨vs, r :: l :: rest⟩ =
      match r.toInt vs, l.toInt vs with
      | some rv, some lv =>
        match op.eval lv rv with
        | some v => .ok ⟨vs, .int v :: rest⟩
        | none => .fail
      | _, _ => .fail := by
  unfold stepBin pop2
  cases hr : r.toInt vs <;> cases hl : l.toInt vs <;> simp [hr, hl]
  rename_i rv lv
  cases op.eval lv rv <;> rfl

theorem stepBin_underflow (op : BinOp) (vs : Vars) (stack : List Val) (h : stack.length < 2) :
    stepBin op ⟨vs, stack⟩ = .fail := by
  unfold stepBin pop2
  match stack, h with
  | [], _ => rfl
  | [_], _ => rfl

/-- `@` fails exactly on a right operand that is zero or not a power of two -/
theorem align_fail_iff (l r : UInt32) : alignOp l r = .fail ↔ (r = 0 ∨ isPow2 r = false) := by
  rw [alignOp_eq]
  by_cases h0 : r = 0
  · simp [h0]
  · cases hp : isPow2 r <;> simp [h0]

example : alignOp 13 4 = .ok 12 := by decide +kernel
example : alignOp 0xffffffff 0x80000000 = .ok 0x80000000 := by decide +kernel
example : alignOp 13 1 = .ok 13 := by decide +kernel
example : alignOp 13 3 = .fail := by decide +kernel
example : alignOp 13 0 = .fail := by decide +kernel

/-- **align** — for a power of two `r = 2^k` (any of the 32), `l r @` is `l` truncated to a
    multiple of `r`: `l - l mod r`. -/
theorem align_spec (l r : UInt32) (k : Nat) (hk : k < 32) (hr : r.toNat = 2 ^ k) :
    ∃ v, alignOp l r = .ok v ∧ v.toNat = l.toNat - l.toNat % 2 ^ k := by
  have hrr : r = UInt32.ofNat (2 ^ k) := by
    apply UInt32.toNat_inj.mp; rw [hr]; exact ((pow2_table ⟨k, hk⟩).2.1).symm
  obtain ⟨hp, _, hne⟩ := pow2_table ⟨k, hk⟩
  simp only at hp hne
  rw [← hrr] at hp hne
  refine ⟨l &&& (0xffffffff ^^^ (r - 1)), ?_, ?_⟩
  · rw [alignOp_eq]; simp [hne, hp]
  · have h1 : (r - 1).toNat = 2 ^ k - 1 := by
      rw [u32_sub (hr ▸ Nat.two_pow_pos k), hr]; rfl
    rw [UInt32.toNat_and, UInt32.toNat_xor, h1]
    exact Nat.and_xor_low_mask (UInt32.toNat_lt l) (Nat.le_of_lt hk)

/-! ## 4. assignment and `.undef` -/

/-- **assign** — `x v =` binds `x` to the integer value of `v` and leaves every other variable
    alone. -/
theorem assign_sem (mem : Nat → Option UInt32) (vs : Vars) (rhs : Val) (x : String)
    (rest : List Val) (v : UInt32) (hv : rhs.toInt vs = some v) :
    ∃ vs', step mem ⟨vs, rhs :: .var x :: rest⟩ .assign = .ok ⟨vs', rest⟩ ∧
      vs'.get x = some v ∧ ∀ y, y ≠ x → vs'.get y = vs.get y := by
  refine ⟨vs.set x v, ?_, Vars.get_set_self vs x v, fun y hy => Vars.get_set_other vs v hy⟩
  cases rhs with
  | undef => simp [Val.toInt] at hv
  | var n => simp only [step, hv]
  | int u => simp only [step, hv]

/-- **undef** — `x .undef =` removes `x` (its value in the caller becomes unknown) and leaves
    every other variable alone. -/
theorem undef_sem (mem : Nat → Option UInt32) (vs : Vars) (x : String) (rest : List Val) :
    ∃ vs', step mem ⟨vs, .undef :: .var x :: rest⟩ .assign = .ok ⟨vs', rest⟩ ∧
      vs'.get x = none ∧ ∀ y, y ≠ x → vs'.get y = vs.get y :=
  ⟨vs.erase x, rfl, (Vars.get_erase ..).trans (if_pos rfl), fun _ hy => (Vars.get_erase ..).trans (if_neg hy)⟩

/-- assigning from an unset variable fails the program -/
theorem assign_unset_fails (mem : Nat → Option UInt32) (vs : Vars) (y x : String) (rest : List Val)
    (h : vs.get y = none) : step mem ⟨vs, .var y :: .var x :: rest⟩ .assign = .fail := by
  simp only [step, Val.toInt, h]

/-- the left operand of `=` must be a variable -/
theorem assign_lhs_not_var_fails (mem : Nat → Option UInt32) (vs : Vars) (rhs lhs : Val)
    (rest : List Val) (h : ∀ n, lhs ≠ .var n) : step mem ⟨vs, rhs :: lhs :: rest⟩ .assign = .fail := by
  cases lhs with
  | var n => exact absurd rfl (h n)
  | int u => rfl
  | undef => rfl

/-- `.undef` can only be assigned: as an operand of any other operator it fails -/
theorem undef_operand_fails (vs : Vars) : Val.toInt vs .undef = none := rfl

/-- reading a variable that is not set fails; reading a set one yields its value -/
theorem var_read (vs : Vars) (n : String) : Val.toInt vs (.var n) = vs.get n := rfl

/-- `^` reads the 32-bit word at the address through the walker; unreadable memory fails -/
theorem deref_sem (mem : Nat → Option UInt32) (vs : Vars) (p : Val) (rest : List Val) (a : UInt32)
    (ha : p.toInt vs = some a) :
    step mem ⟨vs, p :: rest⟩ .deref =
      match mem a.toNat with
      | some v => .ok ⟨vs, .int v :: rest⟩
      | none => .fail := by
  simp only [step, ha]
  cases mem a.toNat <;> rfl

/-! ## 5. the FPO formulae, including the leftover-return-address skip -/

/-- in a context frame the callee's `eip` is needed to make the comparison -/
theorem fpoRet_context_needs_eip {info : Info} {w : Walker} {fs esp eip0 : UInt32}
    (hfs : winFrameSize info w.gcParam = some fs) (hesp : w.reg "esp" = some esp)
    (hm : w.mem (esp.toNat + fs.toNat) = some eip0)
    (hgc : w.hasGC = false) (hce : w.reg "eip" = none) : fpoRet info w = .fail := by
  simp only [fpoRet_eq, hfs, hesp, hm, hgc, hce, R.ofOpt, R.bind]
  rfl

/-- **fpo_formulae** — the documented pseudocode, no leftover return address:
    `$eip := *($esp + frame_size)`, `$esp := $esp + frame_size + 4`, `$ebp` from the saved slot or
    passed through, `$ebx` passed through; `frame_size = local + saved + grand_callee_params`. -/
theorem fpo_formulae {info : Info} {abp : Bool} {w : Walker} {fs esp eip0 ebp : UInt32}
    (hfs : winFrameSize info w.gcParam = some fs) (hesp : w.reg "esp" = some esp)
    (hm : w.mem (esp.toNat + fs.toNat) = some eip0)
    (hno : w.hasGC = true ∨ ∃ ce, w.reg "eip" = some ce ∧ eip0 ≠ ce)
    (hebp : fpoEbp info abp w esp = .ok ebp) :
    fs.toNat = info.loc.toNat + info.sav.toNat + w.gcParam.toNat ∧
    fpoPlan info abp w =
      .ok { sets := fpoPre abp w ++
              [("eip", eip0.toNat), ("esp", esp.toNat + fs.toNat + 4), ("ebp", ebp.toNat)],
            done := true } := by
  have hret : fpoRet info w = .ok (esp, esp.toNat + fs.toNat, eip0) := by
    simp only [fpoRet_eq, hfs, hesp, hm, R.ofOpt, R.bind]
    rcases hno with hg | ⟨ce, hce, hne⟩
    · rw [hg]; rfl
    · rw [hce]; simp only [if_neg hne, ite_self]
  exact ⟨(winFrameSize_some.mp hfs).2, by rw [fpoPlan_of_ret hret, hebp]⟩

/-- **fpo leftover skip** — only when there is no grand callee and `*(esp+frame) == callee eip`:
    `$eip := *($esp + frame_size + 4)`, `$esp := $esp + frame_size + 8`. -/
theorem fpo_leftover_skip {info : Info} {abp : Bool} {w : Walker} {fs esp eip0 e1 ebp : UInt32}
    (hfs : winFrameSize info w.gcParam = some fs) (hesp : w.reg "esp" = some esp)
    (hm : w.mem (esp.toNat + fs.toNat) = some eip0)
    (hgc : w.hasGC = false) (hce : w.reg "eip" = some eip0)
    (hm1 : w.mem (esp.toNat + fs.toNat + 4) = some e1)
    (hebp : fpoEbp info abp w esp = .ok ebp) :
    fpoPlan info abp w =
      .ok { sets := fpoPre abp w ++
              [("eip", e1.toNat), ("esp", esp.toNat + fs.toNat + 4 + 4), ("ebp", ebp.toNat)],
            done := true } := by
  have hret : fpoRet info w = .ok (esp, esp.toNat + fs.toNat + 4, e1) := by
    simp only [fpoRet_eq, hfs, hesp, hm, hgc, hce, hm1, R.ofOpt, R.bind]
    rfl
  rw [fpoPlan_of_ret hret, hebp]

/-- FPO's documented pass-through: without a base pointer allocation `%ebx` (when known) and
    `%ebp` of the callee are handed to the caller unchanged, `%ebx` first -/
theorem fpo_passthrough {info : Info} {w : Walker} {fs esp eip0 bx bp : UInt32}
    (hfs : winFrameSize info w.gcParam = some fs) (hesp : w.reg "esp" = some esp)
    (hm : w.mem (esp.toNat + fs.toNat) = some eip0)
    (hno : w.hasGC = true ∨ ∃ ce, w.reg "eip" = some ce ∧ eip0 ≠ ce)
    (hbx : w.reg "ebx" = some bx) (hbp : w.reg "ebp" = some bp) :
    fpoPlan info false w =
      .ok { sets := [("ebx", bx.toNat), ("eip", eip0.toNat), ("esp", esp.toNat + fs.toNat + 4),
                     ("ebp", bp.toNat)], done := true } := by
  have hebp : fpoEbp info false w esp = .ok bp := by rw [fpoEbp_noabp, hbp]; rfl
  rw [(fpo_formulae hfs hesp hm hno hebp).2, fpoPre_spec, hbx]
  rfl

/-- an fpo record fails cleanly when the frame size does not fit `u32` -/
theorem fpo_frame_overflow_fails {info : Info} {abp : Bool} {w : Walker}
    (h : U32MAX < info.loc.toNat + info.sav.toNat + w.gcParam.toNat) :
    fpoPlan info abp w = .ok { sets := [], done := false } := by
  unfold fpoPlan fpoRet
  rw [winFrameSize_none.mpr h]
  rfl

/-! ## 6. malformed programs and extreme size fields fail cleanly: no panic outcome -/

/-- `eval_win_expr` never panics: for EVERY program text, size fields, register file, grand
    callee and memory it returns `Some`/`None` -/
theorem evalWin_ok (expr : List Char) (info : Info) (w : Walker) :
    ∃ p, evalWin expr info w = .ok p := by
  unfold evalWin
  rcases R.ok_or_fail (finalVars_no_panic expr info w) with ⟨vs, h⟩ | h <;> rw [h] <;> exact ⟨_, rfl⟩

/-- the parser only files a record under "framedata" when it carries a program string, and under
    "fpo" when it carries the `allocates_base_pointer` flag — so the `unreachable!()` of
    `walk_with_stack_win_framedata` and of `walk_with_stack_win_fpo` (walker.rs:982, 1047) cannot be
    reached through `SymbolFile::walk_frame` -/
theorem classifyRec_kind (r : Rec) :
    (∀ i, classifyRec r = .frameData i → ∃ e, i.thing = .prog e) ∧
    (∀ i, classifyRec r = .fpo i → ∃ b, i.thing = .abp b) := by
  rw [classifyRec_eq]
  split
  · exact ⟨fun i hi => (by cases hi; exact ⟨_, rfl⟩), nofun⟩
  · split
    · exact ⟨nofun, fun i hi => (by cases hi; exact ⟨_, rfl⟩)⟩
    · exact ⟨nofun, nofun⟩

/-- a record is used as framedata iff `type = 4` and `has_program_string = 1`, as fpo iff
    `type = 0` and `has_program_string ≠ 1`; every other combination is discarded -/
theorem classifyRec_spec (r : Rec) :
    ((∃ i, classifyRec r = .frameData i) ↔ (r.ty = '4' ∧ r.hp = '1')) ∧
    ((∃ i, classifyRec r = .fpo i) ↔ (r.ty = '0' ∧ r.hp ≠ '1')) := by
  rw [classifyRec_eq]
  by_cases hA : r.ty = '4' ∧ r.hp = '1'
  · rw [if_pos hA]
    exact ⟨⟨fun _ => hA, fun _ => ⟨_, rfl⟩⟩, ⟨nofun, fun hB => absurd hA.2 hB.2⟩⟩
  · rw [if_neg hA]
    by_cases hB : r.ty = '0' ∧ r.hp ≠ '1'
    · rw [if_pos hB]
      exact ⟨⟨nofun, fun h => absurd h hA⟩, ⟨fun _ => hB, fun _ => ⟨_, rfl⟩⟩⟩
    · rw [if_neg hB]
      exact ⟨⟨nofun, fun h => absurd h hA⟩, ⟨nofun, fun h => absurd h hB⟩⟩

/-- **win_no_panic** — "malformed programs or extreme size fields fail cleanly instead of
    panicking": for every pair of selected records of the right kinds (what `classifyRec`
    produces), every CFI continuation, every walker (registers, memory, grand callee) and every
    caller state — and whatever names are passed to `clear_caller_register` — `walk_frame`
    returns; there is no panic outcome. -/
theorem win_no_panic (names : List String) (fd fpo : Option SInfo)
    (hfd : ∀ i, fd = some i → ∃ e, i.thing = .prog e)
    (hfpo : ∀ i, fpo = some i → ∃ b, i.thing = .abp b)
    (cfi : Option (Caller → Option Caller)) (w : Walker) (c : Caller) :
    ∃ r, walkSelected names fd fpo cfi w c = .ok r := by
  have fin : ∀ (b : Bool) (c' : Caller), ∃ r, orElseCfi cfi (.ok (b, c')) = .ok r := by
    intro b c'
    cases b with
    | true => exact ⟨_, rfl⟩
    | false =>
      cases cfi with
      | none => exact ⟨_, rfl⟩
      | some f =>
        simp only [orElseCfi]
        cases f c' <;> exact ⟨_, rfl⟩
  unfold walkSelected winResult
  cases fd with
  | some i =>
    obtain ⟨e, he⟩ := hfd i rfl
    obtain ⟨p, hp⟩ := evalWin_ok e i.info w
    simp only [walkFramedata, he, hp]
    exact fin _ _
  | none =>
    cases fpo with
    | some i =>
      obtain ⟨b, hb⟩ := hfpo i rfl
      obtain ⟨p, hp⟩ := fpoPlan_ok i.info b w
      simp only [walkFpo, hb, hp]
      exact fin _ _
    | none => exact fin _ _

/-! ## 7. only the six output registers are reported -/

/-- **outputs_only_six** — "Only $eip, $esp, $ebp, $ebx, $esi and $edi are reported": whatever
    STACK WIN record is selected (either form), whatever the walker holds and whether the walk
    succeeds or not, a register outside the six keeps its value in the caller's context and
    cannot become valid (`eax ecx edx eflags` stay unknown). -/
theorem outputs_only_six {names : List String} {fd fpo : Option SInfo} {w : Walker} {c c' : Caller}
    {b : Bool} (h : winResult names fd fpo w c = .ok (b, c')) {r : String} (hr : r ∉ outputRegs) :
    (r ∈ c'.valid → r ∈ c.valid) ∧ c'.vals.get r = c.vals.get r := by
  rcases winResult_is_plan h with ⟨_, rfl⟩ | ⟨p, hp, hrun⟩
  · exact ⟨id, rfl⟩
  · exact runPlan_frame hrun fun hm => by
      obtain ⟨s, hs, rfl⟩ := List.mem_map.mp hm
      exact hr (hp s hs)

/-! ## 8. no implicit forwarding -/

/-- **no_implicit_forwarding_partial** — "registers the record did not set are unknown in the
    caller", CONDITIONAL on `clear_stack_win_caller_registers` passing the register names without
    `$` (`clearNamesFixed`, the proposed patch): after a successful program, for every starting
    state of the caller, one of the six registers is valid in the caller iff the variable
    `$<reg>` is defined at the end of the program, and then it holds that variable's value. -/
theorem no_implicit_forwarding_partial {i : SInfo} {expr : List Char} {w : Walker} {c c' : Caller}
    {vs : Vars} (hi : i.thing = .prog expr) (hv : finalVars expr i.info w = .ok vs)
    (h : walkFramedata clearNamesFixed i w c = .ok (true, c')) :
    ∀ r ∈ outputRegs, (r ∈ c'.valid ↔ ∃ u, vs.get ("$" ++ r) = some u) ∧
      ∀ u, vs.get ("$" ++ r) = some u → c'.vals.get r = some u := by
  obtain ⟨h1, h2⟩ := framedata_caller hi hv h
  intro r hr
  refine ⟨?_, h2 r hr⟩
  rw [h1 r]
  exact ⟨fun h => h.elim (fun h => absurd ⟨hr, six_sub_x86 r hr⟩ h.2) (·.2), fun h3 => Or.inr ⟨hr, h3⟩⟩

/-- the same for the fpo form with the corrected clear list: exactly `eip esp ebp`, plus `ebx`
    when it is passed through, are valid among the six -/
theorem no_implicit_forwarding_fpo_partial {i : SInfo} {abp : Bool} {w : Walker} {c c' : Caller}
    {p : Plan} (hi : i.thing = .abp abp) (hp : fpoPlan i.info abp w = .ok p)
    (h : walkFpo clearNamesFixed i w c = .ok (true, c')) :
    ∀ r ∈ outputRegs, (r ∈ c'.valid ↔ r ∈ p.sets.map (·.1)) := by
  simp only [walkFpo, hi, hp, Outcome.ok.injEq] at h
  intro r hr
  rw [(runPlan_caller h).1]
  exact ⟨fun h => h.elim (fun h => absurd ⟨hr, six_sub_x86 r hr⟩ h.2) id, Or.inr⟩

/-- **implicit forwarding happens** (the real walker, for EVERY input): after a successful
    program every register that was valid before — the callee-saved registers forwarded from the
    callee — is still valid, whether the program set it or not.  The names the code passes TODAY
    carry a `$`, the x86 context knows none of them, so `clear_stack_win_caller_registers` clears
    nothing. -/
theorem implicit_forwarding_actual {i : SInfo} {expr : List Char} {w : Walker} {c c' : Caller}
    {vs : Vars} (hi : i.thing = .prog expr) (hv : finalVars expr i.info w = .ok vs)
    (h : walkFramedata clearNamesActual i w c = .ok (true, c')) (r : String) :
    r ∈ c'.valid ↔ r ∈ c.valid ∨ (r ∈ outputRegs ∧ ∃ u, vs.get ("$" ++ r) = some u) := by
  rw [(framedata_caller hi hv h).1 r]
  exact or_congr_left ⟨fun h => h.1, fun h => ⟨h, fun h' => dollar_not_x86 r h'.1 h'.2⟩⟩

/-- a successful program reports its outputs through `set_caller_register`, exactly the defined
    variables among the six, in the order `eip esp ebp ebx esi edi` — nothing is left to what the
    walker forwards on its own -/
theorem framedata_calls {names : List String} {i : SInfo} {expr : List Char} {w : Walker}
    {c c' : Caller} {vs : Vars} (hi : i.thing = .prog expr)
    (hv : finalVars expr i.info w = .ok vs)
    (h : walkFramedata names i w c = .ok (true, c')) :
    c'.log = c.log ++ outputs vs ∧ c'.clears = c.clears ++ names := by
  rw [walkFramedata_ok c hi hv, Outcome.ok.injEq] at h
  exact (runPlan_caller h).2.2

/-- witness of the defect: callee `esp=0x1010 ebp=0x1020 esi=0x51`, every stack word `0xdeadbeef`,
    record `STACK WIN 4 … 0 0 0 … 1 $eip .raSearch ^ = $esp .raSearch 4 + =` -/
def witnessW : Walker :=
  { hasGC := false, gcParam := 0,
    reg := fun n => if n = "esp" then some 0x1010 else if n = "ebp" then some 0x1020
                    else if n = "esi" then some 0x51 else none,
    mem := fun _ => some 0xdeadbeef }
def witnessProg : List Char := "$eip .raSearch ^ = $esp .raSearch 4 + =".toList
def witnessInfo : SInfo := { info := ⟨0, 0, 0⟩, thing := .prog witnessProg }
/-- the caller as `CfiStackWalker::from_ctx_and_args` seeds it: `ebp` and `esi` forwarded -/
def witnessCaller : Caller :=
  Caller.init [("esp", 0x1010), ("ebp", 0x1020), ("esi", 0x51)] (fun n => (witnessW.reg n).isSome)

/-- the witness program evaluates: `$eip` and `$esp` are assigned, `$esi` is never defined -/
theorem witness_eval : finalVars witnessProg ⟨0, 0, 0⟩ witnessW =
    .ok [("$esp", 0x1014), ("$eip", 0xdeadbeef), (".raSearchStart", 0x1010), (".raSearch", 0x1010),
      (".cbLocals", 0), (".cbSavedRegs", 0), (".cbCalleeParams", 0), (".cbParams", 0), ("$ebp", 0x1020)] := by
  unfold witnessProg; rw [String.toList_ofList]
  decide +kernel

/-- **no_implicit_forwarding is FALSE for the code as it is** (known finding
    `C07-clear-dollar-names`): the program assigns only `$eip` and `$esp`, never mentions `$esi`,
    the walk succeeds, `$esi` is undefined at the end — and `esi` is valid in the caller with the
    callee's value. -/
theorem no_implicit_forwarding_fails :
    ∃ vs c', finalVars witnessProg witnessInfo.info witnessW = .ok vs ∧
      walkFramedata clearNamesActual witnessInfo witnessW witnessCaller = .ok (true, c') ∧
      vs.get ("$" ++ "esi") = none ∧ "esi" ∈ outputRegs ∧ "esi" ∈ c'.valid ∧
      c'.vals.get "esi" = some 0x51 ∧
      ¬ (∀ r ∈ outputRegs, (r ∈ c'.valid ↔ ∃ u, vs.get ("$" ++ r) = some u)) := by
  obtain ⟨vs, hv, hesi⟩ : ∃ vs, finalVars witnessProg ⟨0, 0, 0⟩ witnessW = .ok vs ∧
      vs.get ("$" ++ "esi") = none := ⟨_, witness_eval, by decide +kernel⟩
  obtain ⟨c', hc'⟩ := framedata_succeeds (names := clearNamesActual) witnessCaller
    (i := witnessInfo) rfl hv
  have hin : "esi" ∈ c'.valid :=
    (implicit_forwarding_actual (i := witnessInfo) rfl hv hc' "esi").mpr (Or.inl (by decide +kernel))
  -- `$esi` is undefined, so the caller's `esi` is still the callee's
  have hfr := (framedata_frame (i := witnessInfo) rfl hv hc' hesi).2
  refine ⟨_, c', hv, hc', hesi, by decide, hin, by rw [hfr]; decide +kernel, fun hall => ?_⟩
  obtain ⟨u, hu⟩ := (hall "esi" (by decide)).mp hin
  rw [hesi] at hu; cases hu

/-! ## 9. record selection: framedata > fpo > STACK CFI -/

/-- a framedata record is preferred to an fpo record for the same address -/
theorem select_framedata_first (names : List String) (i : SInfo) (fpo : Option SInfo) (w : Walker)
    (c : Caller) : winResult names (some i) fpo w c = walkFramedata names i w c := rfl

/-- an fpo record is used when no framedata record covers the address -/
theorem select_fpo_second (names : List String) (i : SInfo) (w : Walker) (c : Caller) :
    winResult names none (some i) w c = walkFpo names i w c := rfl

/-- a framedata record that fails is NOT retried as fpo: the fpo record plays no role -/
theorem framedata_failure_skips_fpo (names : List String) (i : SInfo) (fpo fpo' : Option SInfo)
    (cfi : Option (Caller → Option Caller)) (w : Walker) (c : Caller) :
    walkSelected names (some i) fpo cfi w c = walkSelected names (some i) fpo' cfi w c := rfl

/-- a successful STACK WIN result is final: STACK CFI is not consulted -/
theorem win_success_is_final {names : List String} {fd fpo : Option SInfo} {w : Walker}
    {c c' : Caller} (cfi : Option (Caller → Option Caller))
    (h : winResult names fd fpo w c = .ok (true, c')) :
    walkSelected names fd fpo cfi w c = .ok (true, c') := by
  unfold walkSelected; rw [h]; rfl

/-- STACK CFI runs exactly when STACK WIN returned `None`, on the walker as STACK WIN left it -/
theorem cfi_after_win_failure {names : List String} {fd fpo : Option SInfo} {w : Walker}
    {c c' : Caller} (f : Caller → Option Caller)
    (h : winResult names fd fpo w c = .ok (false, c')) :
    walkSelected names fd fpo (some f) w c =
      match f c' with
      | some c'' => .ok (true, c'')
      | none => .ok (false, c') := by
  unfold walkSelected; rw [h]; rfl

/-! ## 10. tokens: the `=tok` spelling, variables, literals -/

/-- the `=tok` hack: a piece that starts with `=` and is longer than one character is read as
    `=` followed by the rest — one level only -/
theorem splitEq_hack (c : Char) (rest : List Char) :
    splitEq ('=' :: c :: rest) = [['='], c :: rest] := rfl

theorem splitEq_plain (p : List Char) (h : p.head? ≠ some '=') : splitEq p = [p] := by
  unfold splitEq
  split
  · simp at h
  · rfl

theorem splitEq_eq : splitEq ['='] = [['=']] := rfl

/-- every token that starts with `$` is a variable -/
theorem classify_dollar (t : List Char) : classify ('$' :: t) = .var (String.ofList ('$' :: t)) := by
  unfold classify
  simp (config := { decide := true })

/-- every token that starts with `.` is a variable, except `.undef` -/
theorem classify_dot (t : List Char) (h : '.' :: t ≠ ".undef".toList) :
    classify ('.' :: t) = .var (String.ofList ('.' :: t)) := by
  have ht : ¬ t = ['u', 'n', 'd', 'e', 'f'] := fun e => h (by rw [e]; decide)
  unfold classify
  simp (config := { decide := true }) [ht]

-- a string literal is `String.ofList` of its characters: rewriting with `String.toList_ofList` hands the
-- kernel the character list instead of having it decode the literal's UTF-8 bytes
example : tokenize "$T0 $ebp = $eip $T0 4 + ^ =".toList =
    [.var "$T0", .var "$ebp", .assign, .var "$eip", .var "$T0", .lit 4, .add, .deref, .assign] := by
  rw [String.toList_ofList]; decide +kernel
example : tokenize "$eip 4 =$esp .undef\t= ==x".toList =
    [.var "$eip", .lit 4, .assign, .var "$esp", .undef, .assign, .assign, .bad] := by
  rw [String.toList_ofList]; decide +kernel
example : tokenize "+ - * / % @ = ^ .undef".toList =
    [.add, .sub, .mul, .div, .rem, .align, .assign, .deref, .undef] := by
  rw [String.toList_ofList]; decide +kernel
example : tokenize "2147483647 -2147483648 2147483648 -2147483649 +5 -0 007".toList =
    [.lit 2147483647, .lit 2147483648, .bad, .bad, .lit 5, .lit 0, .lit 7] := by
  rw [String.toList_ofList]; decide +kernel
example : tokenize "-1 ebp 1x 0x10 +-1 - +".toList =
    [.lit 4294967295, .bad, .bad, .bad, .bad, .sub, .add] := by
  rw [String.toList_ofList]; decide +kernel

/-! ## 11. non-vacuity: concrete instances of the hypothesis sets used above -/

def exW : Walker :=
  { hasGC := true, gcParam := 4,
    reg := fun n => if n = "esp" then some 0x1000 else if n = "ebp" then some 0x1010
                    else if n = "ebx" then some 0xb0 else if n = "eip" then some 0x401005 else none,
    mem := fun a => if a % 4 = 0 ∧ 0x1000 ≤ a ∧ a < 0x1100 then some (UInt32.ofNat (a + 7)) else none }
def exInfo : Info := { par := 12, sav := 8, loc := 16 }

-- consts_table / ra_search: initialisation succeeds, both branches
example : (initVars false exInfo exW).isSome = true := by decide +kernel
example : (initVars true exInfo exW).isSome = true := by decide +kernel
example : searchStart false exInfo 4 0x1000 0x1010 = some 0x101c := by decide +kernel
example : searchStart true exInfo 4 0x1000 0x1010 = some 0x1014 := by decide +kernel
-- … and fails past 2^32
example : searchStart false ⟨0, 0xffffffff, 0xffffffff⟩ 0 0x1000 0 = none := by decide +kernel
example : searchStart false ⟨0, 0, 8⟩ 0 0xfffffffc 0 = none := by decide +kernel
example : searchStart true exInfo 4 0 0xfffffffc = none := by decide +kernel
-- fpo_formulae (grand callee present), fpo_passthrough
example : winFrameSize exInfo exW.gcParam = some 28 ∧ exW.reg "esp" = some 0x1000 ∧
    exW.mem ((0x1000 : UInt32).toNat + (28 : UInt32).toNat) = some 0x1023 ∧ exW.hasGC = true ∧
    fpoEbp exInfo true exW 0x1000 = .ok 0x100b ∧ fpoEbp exInfo false exW 0x1000 = .ok 0x1010 := by decide +kernel
example : fpoPlan exInfo false exW =
    .ok { sets := [("ebx", 0xb0), ("eip", 0x1023), ("esp", 0x1020), ("ebp", 0x1010)], done := true } := by decide +kernel
example : fpoPlan exInfo true exW =
    .ok { sets := [("eip", 0x1023), ("esp", 0x1020), ("ebp", 0x100b)], done := true } := by decide +kernel
-- fpo_leftover_skip: no grand callee and the slot holds the callee's eip
def exW2 : Walker :=
  { exW with hasGC := false, gcParam := 0,
             mem := fun a => if a = 0x1018 then some 0x401005 else if a = 0x101c then some 0x77 else none }
example : winFrameSize exInfo exW2.gcParam = some 24 ∧ exW2.mem (0x1000 + 24) = some 0x401005 ∧
    exW2.hasGC = false ∧ exW2.reg "eip" = some 0x401005 ∧ exW2.mem (0x1000 + 24 + 4) = some 0x77 := by decide +kernel
example : fpoPlan exInfo false exW2 =
    .ok { sets := [("ebx", 0xb0), ("eip", 0x77), ("esp", 0x1020), ("ebp", 0x1010)], done := true } := by decide +kernel
-- the same stack WITH a grand callee: no skip
example : fpoPlan exInfo false { exW2 with hasGC := true } =
    .ok { sets := [("ebx", 0xb0), ("eip", 0x401005), ("esp", 0x101c), ("ebp", 0x1010)], done := true } := by decide +kernel
-- fpo: esp < 8 with a base pointer allocation fails cleanly; frame size past 2^32 fails cleanly
def exW3 : Walker :=
  { hasGC := true, gcParam := 0, reg := fun n => if n = "esp" then some 4 else none, mem := fun _ => some 1 }
example : fpoPlan ⟨0, 0, 0⟩ true exW3 = .ok { sets := [], done := false } := by decide +kernel
example : fpoPlan ⟨0, 0xffffffff, 0xffffffff⟩ false exW = .ok { sets := [], done := false } := by decide +kernel
-- no_implicit_forwarding_partial: with the corrected names the witness walk succeeds and `esi` is unknown
example : (match walkFramedata clearNamesFixed witnessInfo witnessW witnessCaller with
    | .ok (true, c') => (c'.valid.contains "esi", c'.valid.contains "eip", c'.valid.contains "esp",
        c'.valid.contains "ebp")
    | _ => (true, false, false, false)) = (false, true, true, true) := by
  rw [walkFramedata_ok (i := witnessInfo) _ rfl witness_eval]; decide +kernel
-- … and with the names the code passes today `esi` stays valid
example : (match walkFramedata clearNamesActual witnessInfo witnessW witnessCaller with
    | .ok (true, c') => c'.valid.contains "esi"
    | _ => false) = true := by
  rw [walkFramedata_ok (i := witnessInfo) _ rfl witness_eval]; decide +kernel
-- win_no_panic / selection / CFI fallback: a failing program followed by the CFI continuation
example : (match walkSelected clearNamesActual (some { info := exInfo, thing := .prog "foo".toList })
      (some { info := exInfo, thing := .abp false }) (some cfiConst) exW (Caller.init [] fun _ => false) with
    | .ok (true, c') => (c'.vals.get "esp", c'.vals.get "eip")
    | _ => (none, none)) = (some 4096, some 8192) := by decide +kernel
-- classifyRec_kind: both kinds occur
example : classifyRec { ty := '4', addr := 0, size := 1, par := 0, sav := 0, loc := 0, hp := '1', rest := ['x'] } =
    .frameData { info := ⟨0, 0, 0⟩, thing := .prog ['x'] } := by decide +kernel
example : classifyRec { ty := '0', addr := 0, size := 1, par := 0, sav := 0, loc := 0, hp := '0', rest := ['1'] } =
    .fpo { info := ⟨0, 0, 0⟩, thing := .abp true } := by decide +kernel
example : classifyRec { ty := '4', addr := 0, size := 1, par := 0, sav := 0, loc := 0, hp := '0', rest := ['1'] } =
    .unhandled := by decide +kernel
example : classifyRec { ty := '0', addr := 0, size := 1, par := 0, sav := 0, loc := 0, hp := '1', rest := ['1'] } =
    .unhandled := by decide +kernel

end MdModel.Win
