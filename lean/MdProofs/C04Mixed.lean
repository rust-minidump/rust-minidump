/-
  C04 — Stack walking recovers the true call chain of well-formed stacks: stacks whose unwinding
  technique changes from frame to frame, on every context kind / mode (`walk_layout_mixed`).

  Property text: "For every synthetic thread whose stack is laid out by the platform calling
  convention (frame-pointer chains), described by STACK CFI or STACK WIN records, or findable only
  by scanning for return addresses, on x86, x86-64, ARM, ARM64 and MIPS … the walker returns
  exactly the generated call chain. Each generated call yields one frame with the right return
  address, stack pointer, recovered callee-saved registers, technique label, module and function
  name, and the walk stops at the generated end of stack."

  What is a theorem here. The hypothesis is `PreW` (MdModel/Walk/LayoutMixed.lean) — exactly the
  predicate the `chain` engine has the compiled model evaluate on every generated `win` / `mixed`
  case; the walk is `walk (mkEnvW a os w wins mem)`, the model the engine compares with `walk_stack`
  frame by frame (`mkEnvW_eq_mkEnv`: off x86 and without STACK WIN records it IS `mkEnv`, the
  environment of C05 / of the single-technique theorems).

  * `walk_layout_mixed` — ALL seven context kinds / modes (x86, x86-64, ARM, ARM64 both layouts,
    MIPS32, MIPS64), ANY depth, the technique of every frame chosen freely among
      - `cfi`  : a canonical STACK CFI record `.cfa: $sp N + .ra: .cfa -W + ^ ($r: .cfa -OFF + ^)*` saving
                 any set of callee-saved registers (or the leaf rule `.cfa: sp 0 + .ra: lr` for a first
                 frame on ARM / ARM64 / MIPS), under ANY validity set of the callee: after a frame
                 found by frame pointer or scan only sp / ip (/ fp) are valid; the saved registers are
                 set, the callee-saved registers valid in the callee are forwarded (ARM / ARM64: a
                 frame pointer recorded as `r11` / `x29` by the frame-pointer unwinder too — F28),
                 ARM64 strips the ptr-auth bits of pc and of a valid fp;
      - `fp`   : a frame-pointer record (x86, x86-64 incl. the Windows probe of up to 15 × 16 bytes,
                 ARM on iOS, ARM64);
      - `scan` : a return address findable only by scanning, inside the 40 / 160-word (MIPS: 128 /
                 252 / 256) window; x86 with the recovery of `%ebp` from the word below it;
      - `win`  : (x86) a STACK WIN record of the shapes of `walk_layout_win`.
    The walker returns the context frame followed by exactly one frame per generated call
    (`All2`: same length, position by position), each the symbolisation of a frame that
    `FrameIsA` the generated call with the label of its technique — and nothing after the
    generated end of stack.
  * `walk_layout_mixed_x86` — the x86 instance with the finer x86 assertion `FrameIs`
    (32-bit register values): `walk_layout_mixed_x86_partial` (MdProofs/C04Win.lean) without the
    restriction `techOK`.
  * `FrameIsA.spec` — what "one frame per generated call with …" means, read off a frame.
  * `walk_layout_mixed_length`, `walk_layout_mixed_cfi` (all-`cfi` chains: the multi-register STACK
    CFI statement from the ENGINE-EVALUATED predicate, for any validity of the context).

  Sampled only: that the Rust generator's cases satisfy `PreW` (evaluated per case, not proved
  of the generator); stacks outside `PreW` (e.g. x86-64 scans with a live `%rbp`, which `PreW` does
  not admit).
-/
import MdProofs.Lemmas.WalkMixedX86
import MdProofs.Lemmas.WalkMixedChain
import MdProofs.Lemmas.WalkGenFp
import MdProofs.C04Gen
namespace MdModel.Walk
open MdModel MdModel.Win

/-- **what one produced frame is** — "Each generated call yields one frame with the right return
    address, stack pointer, recovered callee-saved registers, technique label, module and function
    name": the symbolised frame has `ip = ret`, `sp`, the technique label, lookup address
    `ret − adj`, ip / sp valid registers with these values, the frame pointer a valid register
    exactly when the chain claims one and then with the generated value, every claimed
    callee-saved register valid with its generated value, and module / function as symbolication
    of `ret − adj` gives them. -/
theorem FrameIsA.spec (env : Env) {a : Arch} {t : Trust} {e : Exp} {f : Frame} (h : FrameIsA a t e f) :
    (symbolise env f).ctx.ip = e.ret ∧ (symbolise env f).ctx.sp = e.sp ∧ (symbolise env f).trust = t ∧
    (symbolise env f).instruction = e.ret - a.adj ∧
    (symbolise env f).ctx.get a a.ipName = some e.ret ∧ (symbolise env f).ctx.get a a.spName = some e.sp ∧
    (symbolise env f).ctx.get a a.fpName = e.fp ∧
    (∀ p ∈ e.regs, (symbolise env f).ctx.get a p.1 = some p.2) ∧
    (symbolise env f).module = (env.symb (e.ret - a.adj)).1 ∧
    (symbolise env f).func =
      (if (env.symb (e.ret - a.adj)).1.isSome then (env.symb (e.ret - a.adj)).2 else none) := by
  refine ⟨h.ip, h.sp, h.trust, h.instr, ?_, ?_, ?_, ?_, ?_, ?_⟩
  · exact Ctx.get_of_fits h.vip ((raw_ipName a _).trans h.ip) h.retmax
  · exact Ctx.get_of_fits h.vsp ((raw_sp a _).trans h.sp) h.spmax
  · have hfp := h.fp
    rw [symbolise_ctx]
    by_cases hf : f.ctx.has a a.fpName = true
    · rw [if_pos hf] at hfp
      rw [Ctx.get_of_fits hf rfl (h.fpmax _ hfp), hfp]
    · rw [if_neg hf] at hfp
      rw [get_none_of_has (Bool.not_eq_true _ ▸ hf), hfp]
  · intro p hp
    obtain ⟨h1, h2, h3⟩ := h.regs p hp
    exact Ctx.get_of_fits h1 h2 h3
  · simp only [symbolise, h.instr]
  · simp only [symbolise, h.instr]

/-- the x86 assertion (`FrameIs`: 32-bit values, validity by literal name) gives the generic one -/
theorem FrameIs.toA {t : Trust} {e : Exp} {f : Frame} (h : FrameIs t e f) : FrameIsA .x86 t e f := by
  have hh : ∀ r ∈ x86Regs, f.ctx.has .x86 r = f.ctx.hasLit r := fun r hr => has_x86 f.ctx hr
  refine ⟨h.ip, h.sp, h.trust, h.instr, h.m64, ?_, ?_, ?_, ?_, ?_, ?_, ?_⟩
  · show f.ctx.has .x86 "eip" = true
    rw [hh _ (by decide)]; exact h.vip
  · show f.ctx.has .x86 "esp" = true
    rw [hh _ (by decide)]; exact h.vsp
  · show e.fp = if f.ctx.has .x86 "ebp" = true then some (f.ctx.raw .x86 "ebp") else none
    rw [hh _ (by decide)]; exact h.fp
  · intro p hp
    obtain ⟨h1, h2, h3⟩ := h.regs p hp
    exact ⟨by rw [hh _ h1]; exact h2, h3, by rw [← h3]; exact h.wf p.1 h1⟩
  · have := h.wf "esp" (by decide)
    rw [raw_x86_esp, h.sp] at this; exact this
  · have := h.wf "eip" (by decide)
    rw [raw_x86_eip, h.ip] at this; exact this
  · intro v hv
    have hfp := h.fp
    rw [hv] at hfp
    split at hfp
    · injection hfp with hfp
      rw [hfp]; exact h.wf "ebp" (by decide)
    · cases hfp

/-- **C04, x86, technique changing from frame to frame: all four techniques.** `PreW` on an x86
    context and a chain of `win`, `cfi`, `fp` and `scan` frames in any order and to any depth: the
    walker returns the context frame followed by exactly one frame per generated call, each the
    symbolisation of a frame that `FrameIs` the generated call with the label of its technique —
    and nothing after the generated end of stack. -/
theorem walk_layout_mixed_x86 (os : Os) (w : World) (wins : List (List Win.Rec)) (mem : Mem)
    (ctx : Ctx) (chain : List Exp)
    (hpre : PreW w wins (mkEnvW .x86 os w wins mem) .x86 os mem ctx chain = true) :
    ∃ frames, walk (mkEnvW .x86 os w wins mem) (some mem) ctx =
        symbolise (mkEnvW .x86 os w wins mem) (Frame.ofCtx ctx .context) :: frames ∧
      All2 (fun fr e => ∃ f', fr = symbolise (mkEnvW .x86 os w wins mem) f' ∧ FrameIs (techTrust e) e f')
        frames chain :=
  walk_x86_chain4 os w wins mem ctx chain hpre

/-- **C04, every context kind / mode, technique changing from frame to frame: `walk_layout_mixed`.**
    "…laid out by the platform calling convention (frame-pointer chains), described by STACK CFI or
    STACK WIN records, or findable only by scanning for return addresses, on x86, x86-64, ARM, ARM64
    and MIPS … the walker returns exactly the generated call chain": for ANY of the seven context
    kinds / modes, whenever `PreW` — the predicate the `chain` engine evaluates on every generated
    `win` / `mixed` case — holds of a chain whose frames are found by STACK CFI (any validity set of
    the callee), by the frame pointer, by scanning or (x86) through STACK WIN records, in any order
    and to any depth, the walker returns the context frame followed by exactly one frame per
    generated call (`All2`), each with the label of its technique, the generated return address,
    stack pointer, frame pointer and claimed callee-saved registers (`FrameIsA`, `FrameIsA.spec`),
    and stops at the generated end of stack. -/
theorem walk_layout_mixed (a : Arch) (os : Os) (w : World) (wins : List (List Win.Rec)) (mem : Mem)
    (ctx : Ctx) (chain : List Exp)
    (hpre : PreW w wins (mkEnvW a os w wins mem) a os mem ctx chain = true) :
    ∃ frames, walk (mkEnvW a os w wins mem) (some mem) ctx =
        symbolise (mkEnvW a os w wins mem) (Frame.ofCtx ctx .context) :: frames ∧
      All2 (fun fr e => ∃ f', fr = symbolise (mkEnvW a os w wins mem) f' ∧ FrameIsA a (techTrust e) e f')
        frames chain := by
  by_cases hx : a = .x86
  · subst hx
    obtain ⟨frames, hw, hall⟩ := walk_layout_mixed_x86 os w wins mem ctx chain hpre
    exact ⟨frames, hw, hall.imp (fun _ _ _ ⟨f', h1, h2⟩ => ⟨f', h1, h2.toA⟩)⟩
  · obtain ⟨hm, _, hsp, h64, hfit, hleaf, hp⟩ := PreW_spec hpre
    rw [walk_of_range ctx hm]
    exact walkLoop_arch_chain hx chain (walkFuel mem) (Frame.ofCtx ctx .context) none (initState a ctx)
      (mview_context ctx hsp h64 hfit hleaf) hp (need_context_le mem ctx)

/-- frame count: no extra and no missing frame -/
theorem walk_layout_mixed_length (a : Arch) (os : Os) (w : World) (wins : List (List Win.Rec)) (mem : Mem)
    (ctx : Ctx) (chain : List Exp)
    (hpre : PreW w wins (mkEnvW a os w wins mem) a os mem ctx chain = true) :
    (walk (mkEnvW a os w wins mem) (some mem) ctx).length = chain.length + 1 := by
  obtain ⟨frames, hw, hall⟩ := walk_layout_mixed a os w wins mem ctx chain hpre
  rw [hw, List.length_cons, hall.length_eq]

/-- **canonical STACK CFI chains from the engine-evaluated predicate**: when every frame of a
    `PreW` chain is found by STACK CFI (records saving any set of callee-saved registers; a context
    of any validity), every produced frame is labelled `cfi` and carries the generated return
    address, stack pointer, frame pointer and claimed registers. (`walk_layout_cfi_regs` states
    this for all-valid contexts under `preCfiG`, which the engine does not evaluate.) -/
theorem walk_layout_mixed_cfi (a : Arch) (os : Os) (w : World) (wins : List (List Win.Rec)) (mem : Mem)
    (ctx : Ctx) (chain : List Exp) (hcfi : ∀ e ∈ chain, e.tech = "cfi")
    (hpre : PreW w wins (mkEnvW a os w wins mem) a os mem ctx chain = true) :
    ∃ frames, walk (mkEnvW a os w wins mem) (some mem) ctx =
        symbolise (mkEnvW a os w wins mem) (Frame.ofCtx ctx .context) :: frames ∧
      All2 (fun fr e => ∃ f', fr = symbolise (mkEnvW a os w wins mem) f' ∧ FrameIsA a .cfi e f')
        frames chain := by
  obtain ⟨frames, hw, hall⟩ := walk_layout_mixed a os w wins mem ctx chain hpre
  exact ⟨frames, hw, hall.imp fun _ e he ⟨f', h1, h2⟩ => ⟨f', h1, techTrust_cfi (hcfi e he) ▸ h2⟩⟩

/-! ## `mkEnvW` without STACK WIN records is `mkEnv`

  Off x86 STACK WIN records are without effect and `get_caller_by_cfi` is `cfiOf`; without any
  record `fill_symbol`'s parameter-size override finds nothing. So the environment of the `mixed`
  walks is the environment of C05's `walk` engine and of the single-technique theorems
  (`walk_layout_fp`, `walk_layout_cfi`, `walk_layout_scan` …), and `walk_layout_mixed` is a
  statement about `walk (mkEnv …)` there. (On x86 `mkEnvW` routes `get_caller_by_cfi` through
  `SymbolFile::walk_frame` and C07's 32-bit `Caller`; the other fields coincide —
  `mkEnvW_fields_noWins` — and the x86 `chain` cases are compared with `chain walk`, i.e. `mkEnvW`.) -/

theorem psize_of_noWins {wins : List (List Win.Rec)} (hn : noWins wins = true) (i addr : Nat) :
    (((wins.map winTables)[i]?).getD WinTables.empty).psize addr = none := by
  have ht : (((wins.map winTables)[i]?).getD WinTables.empty).typed = [] := by
    rw [List.getElem?_map]
    cases hw : wins[i]? with
    | none => rfl
    | some l =>
      have hl : l = [] := by
        have hm : l ∈ wins := List.mem_of_getElem? hw
        have := List.all_eq_true.mp hn l hm
        simpa using this
      subst hl
      exact winTables_nil_typed
  unfold WinTables.psize
  rw [pick_of_typed_nil _ ht, pick_of_typed_nil _ ht]
  rfl

theorem fillSymbolW_noWins {wins : List (List Win.Rec)} (hn : noWins wins = true) (sf : SymFile)
    (ft : List RangeMap.Entry) (i base instr : Nat) :
    fillSymbolW sf ft (((wins.map winTables)[i]?).getD WinTables.empty) base instr = fillSymbol sf ft base instr := by
  unfold fillSymbolW
  cases hfs : fillSymbol sf ft base instr with
  | none => rfl
  | some fi =>
    simp only
    split
    · rfl
    · split
      · rw [psize_of_noWins hn]; rfl
      · rfl

theorem symbOfW_noWins {w : World} {wins : List (List Win.Rec)} (hn : noWins wins = true)
    (mtbl : List RangeMap.Entry) (ftbls : List (List RangeMap.Entry)) :
    symbOfW w mtbl ftbls (wins.map winTables) = symbOf w mtbl ftbls := by
  funext instr
  simp only [symbOfW, fillSymbolW_noWins hn]
  rfl

theorem mkEnvW_fields_noWins (a : Arch) (os : Os) (w : World) (wins : List (List Win.Rec)) (mem : Mem)
    (hn : noWins wins = true) :
    (mkEnvW a os w wins mem).arch = (mkEnv a os w mem).arch ∧ (mkEnvW a os w wins mem).os = (mkEnv a os w mem).os ∧
    (mkEnvW a os w wins mem).instrOk = (mkEnv a os w mem).instrOk ∧
    (mkEnvW a os w wins mem).symb = (mkEnv a os w mem).symb ∧
    (mkEnvW a os w wins mem).mask = (mkEnv a os w mem).mask :=
  ⟨rfl, rfl, rfl, symbOfW_noWins hn _ _, rfl⟩

theorem mkEnvW_eq_mkEnv {a : Arch} (hx : a ≠ .x86) (os : Os) (w : World) (wins : List (List Win.Rec)) (mem : Mem)
    (hn : noWins wins = true) : mkEnvW a os w wins mem = mkEnv a os w mem := by
  have hcfi : (mkEnvW a os w wins mem).cfi = (mkEnv a os w mem).cfi := by
    funext f g
    rw [mkEnvW_cfi_arch hx]
    rfl
  -- `mkEnvW` is `mkEnv` with `get_caller_by_cfi` and the symboliser replaced
  show ({ mkEnv a os w mem with cfi := (mkEnvW a os w wins mem).cfi, symb := (mkEnvW a os w wins mem).symb } : Env) = _
  rw [hcfi, show (mkEnvW a os w wins mem).symb = (mkEnv a os w mem).symb from symbOfW_noWins hn _ _]

/-- `walk_layout_mixed` about `mkEnv` (the environment of the `walk` engine and of the
    single-technique theorems): off x86 `PreW` forces `noWins` -/
theorem walk_layout_mixed_mkEnv (a : Arch) (hx : a ≠ .x86) (os : Os) (w : World) (wins : List (List Win.Rec))
    (mem : Mem) (ctx : Ctx) (chain : List Exp)
    (hpre : PreW w wins (mkEnvW a os w wins mem) a os mem ctx chain = true) :
    ∃ frames, walk (mkEnv a os w mem) (some mem) ctx =
        symbolise (mkEnv a os w mem) (Frame.ofCtx ctx .context) :: frames ∧
      All2 (fun fr e => ∃ f', fr = symbolise (mkEnv a os w mem) f' ∧ FrameIsA a (techTrust e) e f')
        frames chain := by
  have hn : noWins wins = true := by
    simp only [PreW, Bool.and_eq_true, Bool.or_eq_true, beq_iff_eq] at hpre
    exact hpre.1.1.1.1.1.1.2.resolve_left hx
  have := walk_layout_mixed a os w wins mem ctx chain hpre
  rw [mkEnvW_eq_mkEnv hx os w wins mem hn] at this
  exact this

/-! ## non-vacuity: one concrete stack per context kind / mode that alternates techniques

  One module `m` at `0x400000` with one FUNC `f` (`0x400010 … 0x40080f`) and ONE canonical STACK CFI
  record covering part of it, so that a return address inside the record is unwound by CFI and one
  outside it by the frame pointer or by scanning. `PreW` is decided on every example
  (`decide +kernel`), `walk_layout_mixed` applied to it, and the model evaluated on it gives the
  generated chain. (Range tables of one entry each: `List.mergeSort` on two or more elements does
  not reduce in the kernel.) -/

def exLe (p v : Nat) : List UInt8 := (List.range p).map fun i => UInt8.ofNat (v / 256 ^ i % 256)

def exMem (base p : Nat) (ws : List Nat) : Mem := { base := base, bytes := (ws.flatMap (exLe p)).toArray }

def exWorld (rule : String) : World :=
  { mods := [{ base := 0x400000, size := 0x1000, name := "m" }],
    syms := [some { funcs := [{ addr := 0x10, size := 0x800, psize := 0, name := "f" }],
                    cfis := [{ addr := 0x100, size := 0x100, init := rule, adds := [] }] }] }

/-! ### x86-64: scan → STACK CFI (after a scanned frame only `rip` / `rsp` are valid) → frame pointer

  The context has an invalid `%rbp`: the first caller is found by scanning (one junk word, then
  `0x400120`). That address is covered by the record `.cfa: $rsp 32 + .ra: .cfa -8 + ^ $rbp: .cfa -16 + ^`:
  the next frame comes from CFI although only `rip` / `rsp` are valid in the callee, and gets a
  valid `%rbp = 0x8040` from the frame. Its caller has no record and is found through the
  frame-pointer record at `0x8040`; the outermost frame's `%rbp` points at `(0, 0)`. -/

def exA64W : World := exWorld ".cfa: $rsp 32 + .ra: .cfa -8 + ^ $rbp: .cfa -16 + ^"
def exA64Mem : Mem := exMem 0x8000 8
  [1, 0x400120, 0, 0, 0x8040, 0x400500, 0, 0, 0x8060, 0x400600, 0, 0, 0, 0, 0, 0]
def exA64Ctx : Ctx := { ip := 0x400300, sp := 0x8000, rest := [("rbp", 0x1234)], valid := some ["rip", "rsp"] }
def exA64Chain : List Exp :=
  [ { ret := 0x400120, sp := 0x8010, fp := none, tech := "scan" },
    { ret := 0x400500, sp := 0x8030, fp := some 0x8040, tech := "cfi" },
    { ret := 0x400600, sp := 0x8050, fp := some 0x8060, tech := "fp" } ]
abbrev exA64Env : Env := mkEnvW .amd64 .other exA64W [[]] exA64Mem

theorem exA64_pre : PreW exA64W [[]] exA64Env .amd64 .other exA64Mem exA64Ctx exA64Chain = true := by
  decide +kernel

example : ∃ frames, walk exA64Env (some exA64Mem) exA64Ctx =
      symbolise exA64Env (Frame.ofCtx exA64Ctx .context) :: frames ∧
    All2 (fun fr e => ∃ f', fr = symbolise exA64Env f' ∧ FrameIsA .amd64 (techTrust e) e f') frames exA64Chain :=
  walk_layout_mixed .amd64 .other exA64W [[]] exA64Mem exA64Ctx exA64Chain exA64_pre

example : (walk exA64Env (some exA64Mem) exA64Ctx).map
      (fun f => (f.trust, f.ctx.ip, f.ctx.sp, f.instruction, f.ctx.get .amd64 "rbp")) =
    [(.context, 0x400300, 0x8000, 0x400300, none), (.scan, 0x400120, 0x8010, 0x40011f, none),
     (.cfi, 0x400500, 0x8030, 0x4004ff, some 0x8040), (.fp, 0x400600, 0x8050, 0x4005ff, some 0x8060)] := by
  decide +kernel

/-! ### x86: STACK WIN → STACK CFI → frame pointer → scan (all four techniques)

  The context frame is covered by a frame-data record (standard prologue program). Its caller
  (`0x400250`) is covered by the STACK CFI record `.cfa: $esp 12 + .ra: .cfa -4 + ^ $ebx: .cfa -8 + ^`
  — reached through `SymbolFile::walk_frame` after STACK WIN yields nothing: `%ebx = 0x99` from the
  frame, `%ebp = 0x8030` forwarded. The next caller has no record and a live `%ebp` (record at
  `0x8030`, saved `%ebp` 0); the last one is found by scanning (one junk word, then `0x400400`). -/

def exX86W : World := exWorld ".cfa: $esp 12 + .ra: .cfa -4 + ^ $ebx: .cfa -8 + ^"
def exX86Wins : List (List Win.Rec) :=
  [[{ ty := '4', addr := 0x10, size := 0x80, par := 0, sav := 0, loc := 8, hp := '1',
      rest := "$T0 $ebp = $eip $T0 4 + ^ = $ebp $T0 ^ = $esp $T0 8 + =".toList }]]
def exX86Mem : Mem := exMem 0x8000 4
  [0, 0, 0, 0, 0x8030, 0x400150, 0, 0x99, 0x400900, 0, 0, 0, 0, 0x400a00, 1, 0x400400, 0, 0, 0, 0]
def exX86Ctx : Ctx := { ip := 0x400050, sp := 0x8000, rest := [("ebp", 0x8010), ("ebx", 7)] }
def exX86Chain : List Exp :=
  [ { ret := 0x400150, sp := 0x8018, fp := some 0x8030, tech := "win" },
    { ret := 0x400900, sp := 0x8024, fp := some 0x8030, tech := "cfi", regs := [("ebx", 0x99)] },
    { ret := 0x400a00, sp := 0x8038, fp := some 0, tech := "fp" },
    { ret := 0x400400, sp := 0x8040, fp := none, tech := "scan" } ]
abbrev exX86Env : Env := mkEnvW .x86 .windows exX86W exX86Wins exX86Mem

theorem exX86_pre : PreW exX86W exX86Wins exX86Env .x86 .windows exX86Mem exX86Ctx exX86Chain = true := by
  decide +kernel

example : ∃ frames, walk exX86Env (some exX86Mem) exX86Ctx =
      symbolise exX86Env (Frame.ofCtx exX86Ctx .context) :: frames ∧
    All2 (fun fr e => ∃ f', fr = symbolise exX86Env f' ∧ FrameIs (techTrust e) e f') frames exX86Chain :=
  walk_layout_mixed_x86 .windows exX86W exX86Wins exX86Mem exX86Ctx exX86Chain exX86_pre

example : (walk exX86Env (some exX86Mem) exX86Ctx).map
      (fun f => (f.trust, f.ctx.ip, f.ctx.sp, f.ctx.get .x86 "ebp", f.ctx.get .x86 "ebx")) =
    [(.context, 0x400050, 0x8000, some 0x8010, some 7), (.cfi, 0x400150, 0x8018, some 0x8030, some 7),
     (.cfi, 0x400900, 0x8024, some 0x8030, some 0x99), (.fp, 0x400a00, 0x8038, some 0, none),
     (.scan, 0x400400, 0x8040, none, none)] := by
  decide +kernel

/-! ### ARM64 (both context layouts): frame pointer → STACK CFI → scan — the F28 stack

  The context frame is found … by the frame-pointer record at `0x8010`, which leaves `x29` (the
  ALIAS name) in the validity set. Its caller `0x400120` is covered by
  `.cfa: sp 32 + .ra: .cfa -8 + ^ x19: .cfa -16 + ^`: `x19 = 0x1234` from the frame, the frame pointer
  (0, recorded as `x29`) is FORWARDED through the CFI frame (before the fix of F28 it was dropped),
  the ptr-auth bits of the return-address word are stripped. The frame above has a zero frame
  pointer and is found by scanning. -/

def exArm64W : World := exWorld ".cfa: sp 32 + .ra: .cfa -8 + ^ x19: .cfa -16 + ^"
def exArm64Mem : Mem := exMem 0x8000 8
  [0, 0, 0, 0x400120, 0, 0, 0x1234, 0x00a5000000400500, 1, 0x400600, 0, 0, 0, 0]
def exArm64Ctx : Ctx :=
  { ip := 0x400300, sp := 0x8000, rest := [("fp", 0x8010), ("x19", 7)], valid := some ["pc", "sp", "fp", "x19"] }
def exArm64Chain : List Exp :=
  [ { ret := 0x400120, sp := 0x8020, fp := some 0, tech := "fp" },
    { ret := 0x400500, sp := 0x8040, fp := some 0, tech := "cfi", regs := [("x19", 0x1234)] },
    { ret := 0x400600, sp := 0x8050, fp := none, tech := "scan" } ]

theorem exArm64_pre : ∀ a ∈ [Arch.arm64, Arch.arm64old],
    PreW exArm64W [[]] (mkEnvW a .other exArm64W [[]] exArm64Mem) a .other exArm64Mem exArm64Ctx exArm64Chain = true := by
  decide +kernel

example : ∀ a ∈ [Arch.arm64, Arch.arm64old],
    ∃ frames, walk (mkEnvW a .other exArm64W [[]] exArm64Mem) (some exArm64Mem) exArm64Ctx =
      symbolise (mkEnvW a .other exArm64W [[]] exArm64Mem) (Frame.ofCtx exArm64Ctx .context) :: frames ∧
    All2 (fun fr e => ∃ f', fr = symbolise (mkEnvW a .other exArm64W [[]] exArm64Mem) f' ∧
      FrameIsA a (techTrust e) e f') frames exArm64Chain :=
  fun a ha => walk_layout_mixed a .other exArm64W [[]] exArm64Mem exArm64Ctx exArm64Chain (exArm64_pre a ha)

example : (walk (mkEnvW .arm64 .other exArm64W [[]] exArm64Mem) (some exArm64Mem) exArm64Ctx).map
      (fun f => (f.trust, f.ctx.ip, f.ctx.sp, f.ctx.get .arm64 "fp", f.ctx.get .arm64 "x19")) =
    [(.context, 0x400300, 0x8000, some 0x8010, some 7), (.fp, 0x400120, 0x8020, some 0, none),
     (.cfi, 0x400500, 0x8040, some 0, some 0x1234), (.scan, 0x400600, 0x8050, none, none)] := by
  decide +kernel

example : (walk (mkEnvW .arm64old .other exArm64W [[]] exArm64Mem) (some exArm64Mem) exArm64Ctx).map
      (fun f => (f.trust, f.ctx.ip, f.ctx.sp, f.ctx.get .arm64old "fp", f.ctx.get .arm64old "x19")) =
    [(.context, 0x400300, 0x8000, some 0x8010, some 7), (.fp, 0x400120, 0x8020, some 0, none),
     (.cfi, 0x400500, 0x8040, some 0, some 0x1234), (.scan, 0x400600, 0x8050, none, none)] := by
  decide +kernel

/-! ### ARM on iOS: scan → STACK CFI → frame pointer; the walk ends on a zero frame pointer -/

def exArmW : World := exWorld ".cfa: sp 16 + .ra: .cfa -4 + ^ fp: .cfa -8 + ^"
def exArmMem : Mem := exMem 0x8000 4
  [1, 0x400120, 0, 0, 0x8020, 0x400500, 0, 0, 0, 0x400600, 0, 0, 0, 0]
def exArmCtx : Ctx := { ip := 0x400300, sp := 0x8000, rest := [("fp", 0x4321)], valid := some ["pc", "sp"] }
def exArmChain : List Exp :=
  [ { ret := 0x400120, sp := 0x8008, fp := none, tech := "scan" },
    { ret := 0x400500, sp := 0x8018, fp := some 0x8020, tech := "cfi" },
    { ret := 0x400600, sp := 0x8028, fp := some 0, tech := "fp" } ]
abbrev exArmEnv : Env := mkEnvW .arm .ios exArmW [[]] exArmMem

theorem exArm_pre : PreW exArmW [[]] exArmEnv .arm .ios exArmMem exArmCtx exArmChain = true := by
  decide +kernel

example : ∃ frames, walk exArmEnv (some exArmMem) exArmCtx =
      symbolise exArmEnv (Frame.ofCtx exArmCtx .context) :: frames ∧
    All2 (fun fr e => ∃ f', fr = symbolise exArmEnv f' ∧ FrameIsA .arm (techTrust e) e f') frames exArmChain :=
  walk_layout_mixed .arm .ios exArmW [[]] exArmMem exArmCtx exArmChain exArm_pre

example : (walk exArmEnv (some exArmMem) exArmCtx).map
      (fun f => (f.trust, f.ctx.ip, f.ctx.sp, f.instruction, f.ctx.get .arm "fp")) =
    [(.context, 0x400300, 0x8000, 0x400300, none), (.scan, 0x400120, 0x8008, 0x40011e, none),
     (.cfi, 0x400500, 0x8018, 0x4004fe, some 0x8020), (.fp, 0x400600, 0x8028, 0x4005fe, some 0)] := by
  decide +kernel

/-! ### MIPS32 and MIPS64: scan → STACK CFI → scan (MIPS32: the 4-word skip hides `0x400708`) -/

def exM32W : World := exWorld ".cfa: $sp 16 + .ra: .cfa -4 + ^ $s0: .cfa -8 + ^"
def exM32Mem : Mem := exMem 0x8000 4
  [1, 0x400128, 0, 0, 0x77, 0x400508, 0x400708, 0, 0, 0, 0x400608, 0, 0, 0, 0]
def exM32Ctx : Ctx := { ip := 0x400300, sp := 0x8000, rest := [("s0", 9)], valid := some ["pc", "sp", "s0"] }
def exM32Chain : List Exp :=
  [ { ret := 0x400128, sp := 0x8008, fp := none, tech := "scan" },
    { ret := 0x400508, sp := 0x8018, fp := none, tech := "cfi", regs := [("s0", 0x77)] },
    { ret := 0x400608, sp := 0x802c, fp := none, tech := "scan" } ]
abbrev exM32Env : Env := mkEnvW .mips32 .other exM32W [[]] exM32Mem

theorem exM32_pre : PreW exM32W [[]] exM32Env .mips32 .other exM32Mem exM32Ctx exM32Chain = true := by
  decide +kernel

example : ∃ frames, walk exM32Env (some exM32Mem) exM32Ctx =
      symbolise exM32Env (Frame.ofCtx exM32Ctx .context) :: frames ∧
    All2 (fun fr e => ∃ f', fr = symbolise exM32Env f' ∧ FrameIsA .mips32 (techTrust e) e f') frames exM32Chain :=
  walk_layout_mixed .mips32 .other exM32W [[]] exM32Mem exM32Ctx exM32Chain exM32_pre

example : (walk exM32Env (some exM32Mem) exM32Ctx).map
      (fun f => (f.trust, f.ctx.ip, f.ctx.sp, f.instruction, f.ctx.get .mips32 "s0")) =
    [(.context, 0x400300, 0x8000, 0x400300, some 9), (.scan, 0x400128, 0x8008, 0x400120, none),
     (.cfi, 0x400508, 0x8018, 0x400500, some 0x77), (.scan, 0x400608, 0x802c, 0x400600, none)] := by
  decide +kernel

def exM64W : World := exWorld ".cfa: $sp 32 + .ra: .cfa -8 + ^ $s0: .cfa -16 + ^"
def exM64Mem : Mem := exMem 0x8000 8
  [1, 0x400128, 0, 0, 0x77, 0x400508, 2, 0x400608, 0, 0, 0, 0]
def exM64Ctx : Ctx :=
  { ip := 0x400300, sp := 0x8000, rest := [("s0", 9)], valid := some ["pc", "sp", "s0"], m64 := true }
def exM64Chain : List Exp :=
  [ { ret := 0x400128, sp := 0x8010, fp := none, tech := "scan" },
    { ret := 0x400508, sp := 0x8030, fp := none, tech := "cfi", regs := [("s0", 0x77)] },
    { ret := 0x400608, sp := 0x8040, fp := none, tech := "scan" } ]
abbrev exM64Env : Env := mkEnvW .mips64 .other exM64W [[]] exM64Mem

theorem exM64_pre : PreW exM64W [[]] exM64Env .mips64 .other exM64Mem exM64Ctx exM64Chain = true := by
  decide +kernel

example : ∃ frames, walk exM64Env (some exM64Mem) exM64Ctx =
      symbolise exM64Env (Frame.ofCtx exM64Ctx .context) :: frames ∧
    All2 (fun fr e => ∃ f', fr = symbolise exM64Env f' ∧ FrameIsA .mips64 (techTrust e) e f') frames exM64Chain :=
  walk_layout_mixed .mips64 .other exM64W [[]] exM64Mem exM64Ctx exM64Chain exM64_pre

example : (walk exM64Env (some exM64Mem) exM64Ctx).map
      (fun f => (f.trust, f.ctx.ip, f.ctx.sp, f.instruction, f.ctx.get .mips64 "s0")) =
    [(.context, 0x400300, 0x8000, 0x400300, some 9), (.scan, 0x400128, 0x8010, 0x400120, none),
     (.cfi, 0x400508, 0x8030, 0x400500, some 0x77), (.scan, 0x400608, 0x8040, 0x400600, none)] := by
  decide +kernel

/-! ## discharging a precondition once: the generator's frame-pointer layout on x86-64

  `Pre` / `PreW` are evaluated by the compiled model on every generated case. Of the
  single-technique generators `Pre` is also PROVED, for all their parameters (MdProofs/C04Gen.lean);
  this is the instance for frame-pointer chains on x86-64 (not Windows), generator `gen_chain` with
  `tech = "fp"`: the layout is mirrored as a Lean function (`fpWords` / `fpChain`, MdModel/Walk/Layout.lean:
  context `rsp = addr s0`, `rbp = addr f0`; per call a record `w[f] = addr f'`, `w[f+1] = ret`,
  `f' = f + 2 + gap`; the outermost record `(0, 0)`, zero words after it) and `preFp` is PROVED of
  it for all parameters (`preFp_layout`). With `walk_layout_fp` the generated chain itself is a
  theorem about the layout function — no per-case evaluation. -/

/-- **every frame-pointer stack the layout function produces is walked to its chain**: any base
    above 16 keeping 32 bytes clear of the top of the address space, any word positions `s0 ≤ f0`
    of the context's `rsp` / `rbp`, any number of calls with any gaps between the records, any
    canonical return addresses `≥ 4096`, any amount of trailing zeros; any environment without
    STACK CFI / STACK WIN for these frames; any other registers of the context -/
theorem walk_layout_fp_generated (env : Env) (harch : env.arch = .amd64) (hos : env.os ≠ .windows)
    (hcfi : NoCfi env) (base s0 f0 tail : Nat) (calls : List (Nat × Nat)) (ip : Nat)
    (hbase : 16 < base) (hs : s0 ≤ f0)
    (htop : base + 8 * (fpWords base f0 tail calls).length + 32 ≤ U64MAX)
    (hrets : ∀ c ∈ calls, 4096 ≤ c.2 ∧ c.2 ≤ U64MAX ∧ nonCanonAmd64 c.2 = false) :
    walk env (some (wordsMem base (fpWords base f0 tail calls)))
        { ip := ip, sp := wAddr base s0, rest := [("rbp", wAddr base f0)] } =
      symbolise env (Frame.ofCtx { ip := ip, sp := wAddr base s0, rest := [("rbp", wAddr base f0)] } .context) ::
        expectedFp env .amd64 (fpChain base f0 calls) := by
  rw [fpWords_eq] at htop
  rw [wordsMem_eq, fpWords_eq, fpChain_eq]
  exact walk_layout_fp_generated_arch env .amd64 harch rfl (fun _ => hos) (fun h => by cases h) hcfi base s0 f0 tail
    calls ip hbase hs htop (fun h => by rcases h with h | h <;> cases h)
    (fun c hc => ⟨(hrets c hc).1, (hrets c hc).2.1, by simp only [retOkFp, (hrets c hc).2.2, Bool.not_false]⟩)

-- non-vacuity: the layout for two calls (gaps 1 and 0) is the hand-written stack one would expect,
-- and the hypotheses of `walk_layout_fp_generated` hold of it
example : fpWords 0x8000 2 1 [(1, 0x400120), (0, 0x400500)] =
    [0, 0, 0x8028, 0x400120, 0, 0x8038, 0x400500, 0, 0, 0, 0] := by decide
example : (fpChain 0x8000 2 [(1, 0x400120), (0, 0x400500)]).map (fun e => (e.ret, e.sp, e.fp)) =
    [(0x400120, 0x8020, some 0x8028), (0x400500, 0x8038, some 0x8038)] := by
  decide
example : preFp .amd64 .other 0 (wordsMem 0x8000 (fpWords 0x8000 2 1 [(1, 0x400120), (0, 0x400500)]))
    (wAddr 0x8000 1) (wAddr 0x8000 2) (fpChain 0x8000 2 [(1, 0x400120), (0, 0x400500)]) = true :=
  preFp_layout .other (by decide) 0 0x8000 1 2 1 _ (by decide) (by decide) (by decide) (by decide)

end MdModel.Walk
