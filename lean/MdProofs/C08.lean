/-
  C08 — Address lookups over untrusted range tables are sound and complete.

  Property text: "For any list of modules, memory regions, memory-info or maps entries, unloaded
  modules, or symbol-file FUNC, line, CFI and WIN records — including empty, overlapping,
  duplicated and address-space-overflowing entries — building the lookup table never fails. A
  lookup only ever returns an entry whose own address range contains the queried address,
  iteration by address is sorted and non-overlapping, an entry that intersects no other entry is
  returned for every address inside it, and the unloaded-module lookup returns exactly all entries
  covering the address."

  The theorems are about `MdModel.RangeMap` (the model the compiled driver executes and the
  `ranges` engine compares with the eleven table builders of the repository on every run).
  The input lists are arbitrary, of any length. The one hypothesis some theorems take of them, `InputWF`
  (every range present is ordered and ends inside `u64`), holds of every list the Rust code builds.
-/
import MdProofs.Lemmas.RangeMap
namespace MdModel.RangeMap
open MdModel

/-! Every `memory_range()` constructor yields an ordered range inside `u64`, so `Range::new`
    cannot panic with "Ranges must be ordered". -/

theorem mkRange_wf {b s : Nat} {r : Rng} (h : mkRange b s = some r) :
    r.lo ≤ r.hi ∧ r.hi ≤ U64MAX ∧ r.lo = b ∧ r.hi + 1 = b + s := by
  obtain ⟨h0, h1, rfl⟩ := mkRange_eq_some.mp h
  exact ⟨by simp only; omega, by simp only; omega, rfl, by simp only; omega⟩

theorem mkRangeLine_wf {b s : Nat} {r : Rng} (h : mkRangeLine b s = some r) :
    r.lo ≤ r.hi ∧ r.hi ≤ U64MAX ∧ r.lo = b := by
  unfold mkRangeLine at h
  split at h; · cases h
  split at h; · cases h
  cases h; simp; omega

theorem mkRangeMap_wf {lo hi : Nat} {r : Rng} (hhi : hi ≤ U64MAX) (h : mkRangeMap lo hi = some r) :
    r.lo ≤ r.hi ∧ r.hi ≤ U64MAX := by
  unfold mkRangeMap at h
  split at h; · cases h
  cases h; simp; omega

/-- Not a restriction on the lists the Rust code builds: their ranges come from the
    `memory_range()` constructors, and `mkRange_wf`, `mkRangeLine_wf`, `mkRangeMap_wf` show that
    each of them establishes it. -/
def InputWF (xs : List (Option Rng × Val)) : Prop :=
  ∀ e ∈ xs, ∀ r, e.1 = some r → r.lo ≤ r.hi ∧ r.hi ≤ U64MAX

theorem validOnly_wf {xs : List (Option Rng × Val)} (h : InputWF xs) : ∀ e ∈ validOnly xs, WF e :=
  fun e he => h _ (mem_validOnly.mp he) e.1 rfl

private theorem InputWF.nil : InputWF [] := fun _ h => nomatch h

private theorem InputWF.cons {e : Option Rng × Val} {xs : List (Option Rng × Val)}
    (he : ∀ r, e.1 = some r → r.lo ≤ r.hi ∧ r.hi ≤ U64MAX) (h : InputWF xs) : InputWF (e :: xs) :=
  List.forall_mem_cons.mpr ⟨he, h⟩

private theorem InputWF.cons_mkRange (b s : Nat) (v : Val) {xs : List (Option Rng × Val)} (h : InputWF xs) :
    InputWF ((mkRange b s, v) :: xs) :=
  h.cons fun _ => mkRange_ok

/-- **C08.1** the vector built by `into_rangemap_safe` is normalized: ordered ranges, strictly
    increasing and pairwise disjoint (`Sep` ⇒ `Pairwise (a.hi < b.lo)`). -/
theorem safeVec_sep (xs : List (Option Rng × Val)) (h : InputWF xs) : Sep (safeVec xs) :=
  keep_sep _ fun e he => h _ (mem_validOnly_sortOpt.mp he) e.1 rfl

theorem safeVec_sorted_disjoint (xs : List (Option Rng × Val)) (h : InputWF xs) :
    (safeVec xs).Pairwise (fun a b => a.1.lo ≤ a.1.hi ∧ a.1.hi < b.1.lo) :=
  (safeVec_sep xs h).sorted_disjoint

/-- The parser's own copy of `into_rangemap_safe` (parser.rs:731), without the `Option` layer. -/
theorem safeVecP_sep (xs : List Entry) (h : ∀ e ∈ xs, WF e) : Sep (safeVecP xs) :=
  keep_sep _ (fun e he => h e (List.mem_mergeSort.mp he))

/-- **C08.2** building never fails: the final `try_from_iter(..).unwrap()` of `into_rangemap_safe`
    cannot panic, and the table it returns is `safeVec`. -/
theorem safe_ok (xs : List (Option Rng × Val)) (h : InputWF xs) : safe xs = .ok (safeVec xs) := by
  unfold safe
  rw [tryFromIter_of_sep _ (safeVec_sep xs h)]
  rfl

theorem safeP_ok (xs : List Entry) (h : ∀ e ∈ xs, WF e) : safeP xs = .ok (safeVecP xs) := by
  unfold safeP
  rw [tryFromIter_of_sep _ (safeVecP_sep xs h)]
  rfl

/-- **C08.3** (no hypothesis on the list): whatever `get` returns at `a` is the value of an
    *input* entry whose own range contains `a`. A merged table range is exactly the union of the
    equal-valued input ranges it absorbed. -/
theorem get_sound (xs : List (Option Rng × Val)) (a : Nat) (v : Val)
    (h : get (safeVec xs) a = some v) :
    ∃ r, (some r, v) ∈ xs ∧ r.lo ≤ a ∧ a ≤ r.hi := by
  obtain ⟨s, hs, rfl, h1, h2⟩ := get_keep_sound _ a v h
  exact ⟨s.1, mem_validOnly_sortOpt.mp hs, h1, h2⟩

theorem getP_sound (xs : List Entry) (a : Nat) (v : Val) (h : get (safeVecP xs) a = some v) :
    ∃ r, (r, v) ∈ xs ∧ r.lo ≤ a ∧ a ≤ r.hi := by
  obtain ⟨s, hs, rfl, h1, h2⟩ := get_keep_sound _ a v h
  exact ⟨s.1, List.mem_mergeSort.mp hs, h1, h2⟩

/-- Form used by the index-valued tables (modules, memory, memory-info, maps): values are
    positions, hence pairwise distinct, so *the* entry with the returned value contains `a`. -/
theorem get_sound_distinct (xs : List (Option Rng × Val)) (a : Nat) (v : Val)
    (hd : ∀ e₁ ∈ xs, ∀ e₂ ∈ xs, e₁.2 = e₂.2 → e₁ = e₂)
    (h : get (safeVec xs) a = some v) :
    ∀ e ∈ xs, e.2 = v → ∃ r, e.1 = some r ∧ r.lo ≤ a ∧ a ≤ r.hi := by
  obtain ⟨r, hr, h1, h2⟩ := get_sound xs a v h
  intro e he hv
  have := hd e he _ hr (by simpa using hv)
  exact ⟨r, by rw [this], h1, h2⟩

/-- Form used by the symbol tables (FUNC, line, CFI, WIN): the value is a record that carries its
    own address and size, so its range is a function `rangeOf` of the value. -/
theorem get_sound_selfranged (xs : List (Option Rng × Val)) (rangeOf : Val → Option Rng)
    (hself : ∀ e ∈ xs, e.1 = rangeOf e.2) (a : Nat) (v : Val)
    (h : get (safeVec xs) a = some v) :
    ∃ r, rangeOf v = some r ∧ r.lo ≤ a ∧ a ≤ r.hi := by
  obtain ⟨r, hr, h1, h2⟩ := get_sound xs a v h
  exact ⟨r, by simpa using (hself _ hr).symm, h1, h2⟩

/-- **C08.4** an input entry `(some r, v)` whose range intersects no *other* valid entry of the
    list (other = any other position) is returned for every address inside it. -/
theorem get_complete (pre post : List (Option Rng × Val)) (r : Rng) (v : Val) (a : Nat)
    (hwf : InputWF (pre ++ (some r, v) :: post))
    (hiso : ∀ e ∈ pre ++ post, ∀ s, e.1 = some s → r.intersects s = false)
    (ha : r.lo ≤ a ∧ a ≤ r.hi) :
    get (safeVec (pre ++ (some r, v) :: post)) a = some v := by
  refine get_complete_of_mem _ (validOnly_wf hwf) (List.mem_append_right _ List.mem_cons_self)
    (fun s w hs hw => hiso (some s, w) ?_ s rfl) ha
  -- an entry with another value stands at another position
  rcases List.mem_append.mp hs with h | h
  · exact List.mem_append_left _ h
  · exact List.mem_append_right _ ((List.mem_cons.mp h).resolve_left fun e => hw (Prod.mk.inj e).2)

/-- **C08.5a** `by_addr()` of the unloaded list is sorted by `(start, end)`. -/
theorem unloaded_sorted (ms : List (Option Rng)) :
    (unloadedFrom ms).Pairwise (fun x y => rle x.1 y.1 = true) :=
  List.pairwise_mergeSort rle_trans rle_total _

/-- **C08.5b** `modules_at_address` returns exactly (as a multiset: each position once) the valid
    entries whose range contains the address. -/
theorem unloaded_exact (ms : List (Option Rng)) (a : Nat) :
    (unloadedAt (unloadedFrom ms) a).Perm
      (((validOnly (ms.zipIdx.map fun (r, i) => (r, i))).filter fun e => e.1.contains a).map (·.2)) := by
  unfold unloadedAt unloadedFrom sortEntries
  exact ((List.mergeSort_perm _ _).filter _).map _

/-- **C08.6** `insert_win_stack_info`'s `as u32` truncation and `memory_range().unwrap()` are
    safe for every sequence of STACK WIN records (sizes are `u32` by construction). -/
theorem win_repair_no_panic (recs : List Rec) (h : ∀ r ∈ recs, r.size ≤ U32MAX) :
    ∃ v, insertWinAll [] recs = .ok v :=
  let ⟨v, hv, _⟩ := insertWinAll_ok (P := fun _ => True) recs
    (fun r hr => ⟨Nat.lt_succ_of_le (h r hr), trivial⟩) [] (fun _ hp => nomatch hp)
  ⟨v, hv⟩

-- a list with an empty range, an overflowing one, a nested overlap and entries at the top of
-- the address space satisfies `InputWF`
example : InputWF [(mkRange 5 5, 0), (mkRange 7 10, 1), (mkRange 20 0, 2),
    (mkRange (U64MAX - 1) 2, 3), (mkRange (U64MAX - 3) 3, 4)] :=
  .cons_mkRange _ _ _ <| .cons_mkRange _ _ _ <| .cons_mkRange _ _ _ <| .cons_mkRange _ _ _ <|
    .cons_mkRange _ _ _ .nil

-- `get_complete`'s hypotheses are satisfiable on a list with overlaps elsewhere: the isolated
-- entry [30,31] is found although [5,9] and [7,16] conflict with each other
example : get (safeVec ([(mkRange 5 5, 0), (mkRange 7 10, 1)] ++ (some ⟨30, 31⟩, 2) :: [(mkRange 40 0, 3)])) 31
    = some 2 := by
  apply get_complete
  · exact .cons_mkRange _ _ _ <| .cons_mkRange _ _ _ <|
      .cons (by rintro r ⟨⟩; decide) <| .cons_mkRange _ _ _ .nil
  · intro e he s hs
    simp at he
    rcases he with rfl | rfl | rfl <;> simp [mkRange, U64MAX] at hs <;>
      (try subst hs) <;> simp [Rng.intersects]
  · simp

-- STACK WIN repair: three nested records as in the parser's comment
example : ∃ v, insertWinAll [] [⟨0, 10, 0⟩, ⟨1, 9, 1⟩, ⟨4, 6, 2⟩] = .ok v :=
  win_repair_no_panic _ (by intro r hr; simp at hr; rcases hr with rfl | rfl | rfl <;> simp [U32MAX])

end MdModel.RangeMap
