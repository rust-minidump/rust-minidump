/-
  C10 — Streamed symbol parsing ignores chunking and hands every byte to the callback.

  STATEMENT (properties.jsonl): "For every input whose lines are shorter than 80 KiB and every way a
  reader may split it into chunks, streamed parsing gives the same outcome — an identical symbol
  table, or an error — as parsing the whole buffer at once. The bytes passed to the data callback,
  concatenated, are always a prefix of the input and are exactly the input whenever parsing
  succeeds."
-/
import MdModel.SymParse
import MdProofs.Lemmas.SymStream
import MdProofs.Lemmas.SymChunk
import MdProofs.Lemmas.SymParseLocal
import MdProofs.C09
namespace MdModel.Sym
open MdModel MdModel.Stream MdModel.Gen.SymConsts

/-! ## "The bytes passed to the data callback, concatenated, are always a prefix of the input and
       are exactly the input whenever parsing succeeds." -/

/-- In every reachable state — every input, every chunk schedule, EVERY parser, recovery mode
    included — `input = (callback bytes) ++ window ++ (not yet read)`, and `total_consumed` is the
    number of callback bytes. -/
theorem callback_prefix_machine {σ} (ops : Ops σ) (ps : σ) (input : Bytes) (sched : List Nat) (s : St σ)
    (h : Reach MAX_BUFFER_CAPACITY ops (init INITIAL_BUFFER_CAPACITY ps input sched) s) :
    cbBytes s ++ s.buf.data ++ s.unread = input ∧ s.totalConsumed = (cbBytes s).length := by
  have := reach_inv (init_inv MAX_BUFFER_CAPACITY INITIAL_BUFFER_CAPACITY ps input sched (by decide) (by decide)) h
  exact ⟨this.split, this.total⟩

/-- the callback bytes are a prefix of the input in every reachable state of `SymbolFile::parse` -/
theorem callback_prefix (input : Bytes) (sched : List Nat) (s : St PState)
    (h : Reach MAX_BUFFER_CAPACITY symOps (init INITIAL_BUFFER_CAPACITY {} input sched) s) :
    cbBytes s <+: input := by
  have := (callback_prefix_machine symOps {} input sched s h).1
  exact ⟨s.buf.data ++ s.unread, by rw [← List.append_assoc]; exact this⟩

/-- … also in the state in which `parse` returns, and when it returns `Ok` they are the input. -/
theorem callback_final (input : Bytes) (sched : List Nat) (out : Out PState) (sf : St PState)
    (h : parseStream input sched = some (out, sf)) :
    cbBytes sf <+: input ∧ (∀ ps, out = .ok ps → cbBytes sf = input) := by
  unfold parseStream at h
  obtain ⟨m, hok⟩ := run_spec MAX_BUFFER_CAPACITY input symOps _ _ out sf
    (init_inv MAX_BUFFER_CAPACITY INITIAL_BUFFER_CAPACITY {} input sched (by decide) (by decide)) h
  refine ⟨⟨sf.buf.data ++ sf.unread, by rw [← List.append_assoc]; exact m.split⟩, fun ps hps => ?_⟩
  obtain ⟨h1, h2⟩ := hok ps hps
  have := m.split
  rw [h1, h2] at this
  simpa using this

/-- what the caller of `parse` sees (`parseResult`): callback bytes are a prefix, equal on `Ok` -/
theorem callback_result (input : Bytes) (sched : List Nat) :
    (parseResult input sched).2 <+: input ∧
    (∀ f, (parseResult input sched).1 = .ok f → (parseResult input sched).2 = input) := by
  unfold parseResult
  cases h : parseStream input sched with
  | none => exact ⟨List.nil_prefix, fun f hf => by simp at hf⟩
  | some r =>
    obtain ⟨out, sf⟩ := r
    obtain ⟨c1, c2⟩ := callback_final input sched out sf h
    cases out with
    | ok ps =>
      refine ⟨c1, fun f _ => c2 ps rfl⟩
    | err k l => exact ⟨c1, fun f hf => by simp at hf⟩
    | panic e => exact ⟨c1, fun f hf => by simp at hf⟩


/-! ## "every way a reader may split it into chunks … gives the same outcome" -/

/-- `line_local` (records): every top-level record parser (`line`, parser.rs:394), every FUNC
    sub-line parser and `STACK CFI` looks at the current line only and, when it succeeds, consumes
    exactly that line: on `l ++ "\n" ++ s` (`l` newline-free) the answer is `Ok(s, v)` for all `s`,
    or `Error` for all `s`, or `Failure` for all `s`.  (False before the F13 repair: `non_space`
    used to run across the newline.) -/
theorem line_local (l : Bytes) (hl : Sym.NL ∉ l) :
    ((∃ v, ∀ s, line (l ++ Sym.NL :: s) = .ok s v) ∨ (∀ s, line (l ++ Sym.NL :: s) = .error) ∨
      (∀ s, line (l ++ Sym.NL :: s) = .failure)) ∧
    ((∃ v, ∀ s, funcSubline (l ++ Sym.NL :: s) = .ok s v) ∨ (∀ s, funcSubline (l ++ Sym.NL :: s) = .error) ∨
      (∀ s, funcSubline (l ++ Sym.NL :: s) = .failure)) ∧
    ((∃ v, ∀ s, stackCfi (l ++ Sym.NL :: s) = .ok s v) ∨ (∀ s, stackCfi (l ++ Sym.NL :: s) = .error) ∨
      (∀ s, stackCfi (l ++ Sym.NL :: s) = .failure)) :=
  ⟨Final.line l hl, Final.funcSubline l hl, Final.stackCfi l hl⟩

/-- `line_local` (one round of the `parse_more` loop): on `line ++ s`, `line` one complete line, the
    round consumes exactly `line` and what it does to the parser depends on `line` only. -/
theorem line_local_step (st : PState) (line : Bytes) (h : IsLine line) (s : Bytes) :
    stepLine st (line ++ s) =
      match Lsym st line with
      | .ok st' => .ok s st'
      | .err k n => .err k n
      | .panic e => .panic e :=
  stepLine_line st line h s

/-- `parse_more` processes exactly the complete lines of its window, one after the other, and
    reports their total length. -/
theorem parse_more_linewise (st : PState) (w : Bytes) : parseMore st w = pmSpec Lsym st w :=
  parseMore_eq st w

/-- hence `parse_more σ (A ++ B) = parse_more (parse_more σ A) B` whenever `A` is a string of
    complete lines -/
theorem parse_more_compositional (st : PState) (ls : List Bytes) (hls : ∀ l ∈ ls, IsLine l) (B : Bytes) :
    parseMore st (ls.flatten ++ B) =
      match parseMore st ls.flatten with
      | .ok n st' =>
        (match parseMore st' B with
         | .ok m st'' => .ok (n + m) st''
         | .err k l => .err k l
         | .panic e => .panic e)
      | .err k l => .err k l
      | .panic e => .panic e := by
  simp only [parseMore_eq, pmSpec_lines Lsym st ls hls B]
  cases pmSpec Lsym st ls.flatten with
  | ok n st' => dsimp only; cases pmSpec Lsym st' B <;> rfl
  | _ => rfl

/-- **Streamed parsing computes the reference semantics for EVERY chunk schedule**: if every line
    of the input (the unterminated last one included) is shorter than `MAX_BUFFER_CAPACITY / 2`
    (= 80 KiB), `SymbolFile::parse` returns `specOut`: the fold of the per-line step over the
    complete lines; `unexpected EOF` for an unterminated rest; `empty SymbolFile` if nothing was
    consumed — and never enters recovery. -/
theorem stream_eq_spec (input : Bytes) (sched : List Nat)
    (hshort : ShortLines (MAX_BUFFER_CAPACITY / 2) input) :
    ∃ sf, parseStream input sched = some (specOut Lsym (fun st => st.lines) {} input, sf) :=
  machine_eq_spec MAX_BUFFER_CAPACITY INITIAL_BUFFER_CAPACITY input symOps Lsym {} sched
    parseMore_eq (by decide) consts_drop.2.2 consts_drop.1 hshort

/-- **chunk_independent**: "For every input whose lines are shorter than 80 KiB and every way a
    reader may split it into chunks, streamed parsing gives the same outcome … as parsing the whole
    buffer at once" (`[]` is the schedule of `from_bytes`: every read fills the buffer). Same
    parser state (hence the same symbol table after `finish`), or the same error kind and line. -/
theorem chunk_independent (input : Bytes) (sched : List Nat)
    (hshort : ShortLines (MAX_BUFFER_CAPACITY / 2) input) :
    ∃ out sf sf', parseStream input sched = some (out, sf) ∧ parseStream input [] = some (out, sf') := by
  obtain ⟨sf, h⟩ := stream_eq_spec input sched hshort
  obtain ⟨sf', h'⟩ := stream_eq_spec input [] hshort
  exact ⟨_, sf, sf', h, h'⟩

/-- … as the caller sees it: `parseResult` (outcome after `finish`) does not depend on the schedule -/
theorem chunk_independent_result (input : Bytes) (sched : List Nat)
    (hshort : ShortLines (MAX_BUFFER_CAPACITY / 2) input) :
    (parseResult input sched).1 = (parseResult input []).1 := by
  obtain ⟨out, sf, sf', h, h'⟩ := chunk_independent input sched hshort
  unfold parseResult
  rw [h, h']
  cases out <;> rfl

/-- chunk independence extends to files that also contain over-long lines (> 160 KiB, dropped by
    every chunking alike): only lines between 80 KiB and 160 KiB are chunk dependent in the code. -/
theorem chunk_independent_mixed (input : Bytes) (sched : List Nat)
    (hmix : Mixed (MAX_BUFFER_CAPACITY / 2) MAX_BUFFER_CAPACITY input) :
    ∃ out sf sf', parseStream input sched = some (out, sf) ∧ parseStream input [] = some (out, sf') := by
  obtain ⟨sf, h⟩ := stream_eq_specM input sched hmix
  obtain ⟨sf', h'⟩ := stream_eq_specM input [] hmix
  exact ⟨_, sf, sf', h, h'⟩

/-- a sufficient, easily checked condition: an input shorter than 80 KiB has short lines -/
theorem shortLines_of_length (half : Nat) (input : Bytes) (h : input.length < half) :
    ShortLines half input :=
  .of_length h

/-- non-vacuity of the hypothesis, and the theorem applied to a concrete file and schedule -/
example : (parseResult (kw "FILE 1 a\nPUBLIC 10 0 b") [3, 1, 7]).1 =
    (parseResult (kw "FILE 1 a\nPUBLIC 10 0 b") []).1 :=
  chunk_independent_result _ _ (shortLines_of_length _ _ (by rw [kw, String.toList_ofList]; decide))

end MdModel.Sym
