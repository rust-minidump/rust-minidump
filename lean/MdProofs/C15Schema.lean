/-
  C15 (schema tie) — the schema `Conforms` decides IS the schema json-schema.md documents.

  Property text: "… the JSON report is valid UTF-8 JSON matching the DOCUMENTED SCHEMA: field
  names, types, enumerations, and hex-string addresses …"

  `MdModel.Json.schema` (MdModel/Json.lean §8) is written by hand from
  minidump-processor/json-schema.md. `translators/json_schema.py` parses the fenced block of that
  document on every run into `MdModel.Gen.JsonSchema` (`rows`: every member with its documented
  leaf type, in document order; `enums`; and the members whose leading comment contains one of four
  fixed sentences). The theorems below are decided by kernel evaluation (`decide +kernel`): the
  hand-written schema, seen through the document's vocabulary (`rowsOf`), equals the generated
  rows except for the explicitly listed `differences`; every `…Documented` list equals the
  alternatives the document gives; and every refinement `check` applies beyond the plain type
  (only-`true`, non-empty/sorted, the `kind` coupling) is where the document says it.
  A change of the document (a type, a member name, an alternative, one of the sentences) makes the
  regenerated file differ and a theorem here fail: `./check C15` then reports a broken obligation.
-/
import MdModel.Json
import MdModel.Gen.JsonSchema
namespace MdModel.Json
open MdModel
open MdModel.Gen.JsonSchema (Leaf Refinement)

/-! `Refinement` (generated file): what `check` enforces for a member BEYOND the document's leaf
    type — `onlyTrue` = `Ty.boolTrue`, `padded` = `Ty.hexA`, `sortedNonEmpty` = `Ty.offsets`,
    `kindCoupled` = `Ty.adjusted`. -/

/-- json-schema.md: `"registers": { "some_register_name": <hexstring>, }` — the document writes
    the open mapping "register name ↦ hexstring" (`Ty.regs`) with this placeholder member. -/
def regsPlaceholder : String := "some_register_name"

mutual
/-- the members of a hand-written type as rows `(path, documented leaf type, refinement)`, in
    order; paths as the translator writes them (`$`, `.member`, `[]`) -/
def rowsOf : Ty → String → List (String × Leaf × Refinement)
  | .u32, p => [(p, .u32, .plain)]
  | .u64, p => [(p, .u64, .plain)]
  | .f32, p => [(p, .f32, .plain)]
  | .bool, p => [(p, .bool, .plain)]
  | .str, p => [(p, .str, .plain)]
  | .boolTrue, p => [(p, .bool, .onlyTrue)]
  | .hexA, p => [(p, .hex, .padded)]
  | .hexN, p => [(p, .hex, .plain)]
  | .enum vals orHex, p => [(p, .lit vals orHex, .plain)]
  | .arr t, p => (p, .arr, .plain) :: rowsOf t (p ++ "[]")
  | .offsets, p => [(p, .arr, .sortedNonEmpty), (p ++ "[]", .hex, .padded)]
  | .regs, p => [(p, .obj, .plain), (p ++ "." ++ regsPlaceholder, .hex, .plain)]
  | .adjusted, p => [(p, .obj, .kindCoupled), (p ++ ".kind", .str, .plain),
                     (p ++ ".address", .hex, .padded), (p ++ ".offset", .hex, .padded)]
  | .obj fs, p => (p, .obj, .plain) :: rowsOfFields fs p
  | .any, p => [(p, .undoc, .plain)]
def rowsOfFields : List (String × Ty) → String → List (String × Leaf × Refinement)
  | [], _ => []
  | (k, t) :: fs, p => rowsOf t (p ++ "." ++ k) ++ rowsOfFields fs p
end

def handRows : List (String × Leaf × Refinement) := rowsOf schema "$"

/-- the refinements forgotten: comparable with `Gen.JsonSchema.rows` -/
def handDocRows : List (String × Leaf) := handRows.map fun r => (r.1, r.2.1)

def refinedAt (r : Refinement) : List String := (handRows.filter fun x => x.2.2 == r).map (·.1)

/-- one member where `schema` deliberately departs from the document: what `schema` has there
    (`hand`), what the document has (`doc`; `none`: the document does not list the member) -/
structure Difference where
  path : String
  hand : Leaf
  doc : Option Leaf
  deriving Repr

/-- document: `"status": "OK",` under the comment "Either OK or an Error we encountered while
    trying to generate this report. […] any value other than "OK" will imply the absence of all
    other fields." — a string of which one value is named; `schema` says `<string>`. -/
def diffStatus : Difference := ⟨"$.status", .str, some (.lit ["OK"] false)⟩

/-- document: `"trust": "context" | "cfi" | "frame_pointer" | "scan",` — `FrameTrust::as_str`
    also emits `cfi_scan`, `prewalked`, `non`; tolerated ("Do not assume enums are exhaustive")
    and reported on every run (`undocumentedEnums`). -/
def diffTrust : Difference :=
  ⟨"$.threads[].frames[].trust", .lit (trustDocumented ++ trustUndocumented) false,
   some (.lit trustDocumented false)⟩
/-- the same line in the `crashing_thread` copy:
    `"trust": "context" | "cfi" | "frame_pointer" | "scan",` -/
def diffTrustCopy : Difference :=
  ⟨"$.crashing_thread.frames[].trust", .lit (trustDocumented ++ trustUndocumented) false,
   some (.lit trustDocumented false)⟩

/-- document: `"cpu_arch": "x86" | "amd64" | "ppc" | "ppc64" | "sparc" | "arm" | "arm64" | "unknown",`
    — `Cpu`'s Display also emits `mips`, `mips64`; tolerated and reported like `trust`. -/
def diffCpu : Difference :=
  ⟨"$.system_info.cpu_arch", .lit (cpuDocumented ++ cpuUndocumented) false,
   some (.lit cpuDocumented false)⟩

/-- document, in `crashing_thread`: "The rest of the fields are the same as they are in `threads`
    (redundant)." followed by `thread_name`, `last_error_value`, `frame_count`, `frames` — the
    list leaves out `thread_id`, which print_json copies too; `schema` types the copy like the
    original (`threadFields`). -/
def diffCopyThreadId : Difference := ⟨"$.crashing_thread.thread_id", .u32, none⟩

/-- document, 0.14.0 change note: "`threads.N.frames.N.inlines` added for inlined frames!" — the
    block lists `"inlines": [ { "function": <string>, "file": <string>, "line": <u32>, } ]` under
    `threads[].frames[]` only; print_json copies the frames, so the copy carries them too and
    `schema` types them like the original (`frameFields`). Five rows: the array, its element, and
    the three members. -/
def diffCopyInlines : List Difference := [
  ⟨"$.crashing_thread.frames[].inlines", .arr, none⟩,
  ⟨"$.crashing_thread.frames[].inlines[]", .obj, none⟩,
  ⟨"$.crashing_thread.frames[].inlines[].function", .str, none⟩,
  ⟨"$.crashing_thread.frames[].inlines[].file", .str, none⟩,
  ⟨"$.crashing_thread.frames[].inlines[].line", .u32, none⟩]

def differences : List Difference :=
  [diffStatus, diffTrust, diffTrustCopy, diffCpu, diffCopyThreadId] ++ diffCopyInlines

def asDocumented (ds : List Difference) (row : String × Leaf) : Option (String × Leaf) :=
  match ds.find? (fun d => d.path == row.1) with
  | none => some row
  | some d => d.doc.map fun l => (row.1, l)

/-- json-schema.md writes the "never empty … sorted" sentence once, at
    `threads[].frames[].unloaded_modules[].offsets`; the `crashing_thread` copy has the bare line
    `"offsets": [<hexstring>],` under "The rest of the fields are the same as they are in
    `threads`" — `schema` applies the refinement to the copy too. -/
def offsetsInCopy : String := "$.crashing_thread.frames[].unloaded_modules[].offsets"

/-- The four comparisons of `handRows` with the generated tables (`schema_eq_generated`,
    `differences_exact`, `refinements_documented`, `padded_are_hexstrings` below), in ONE evaluation.
    Each of them has to compute every path of `handRows` (string appends) and to read the string
    literals of `Gen.JsonSchema.rows` byte by byte, which is what is slow in them; inside one
    declaration the kernel does it once. -/
private theorem hand_vs_generated :
    (handDocRows.filterMap (asDocumented differences) = MdModel.Gen.JsonSchema.rows) ∧
    ((differences.all fun d => handDocRows.contains (d.path, d.hand) && d.doc != some d.hand) = true ∧
      (differences.map (·.path)).Nodup ∧ differences.length = 10) ∧
    (refinedAt .onlyTrue = MdModel.Gen.JsonSchema.onlyTrue ∧
      refinedAt .sortedNonEmpty = MdModel.Gen.JsonSchema.sortedNonEmpty ++ [offsetsInCopy] ∧
      refinedAt .kindCoupled = ["$.crash_info.adjusted_address"] ∧
      (MdModel.Gen.JsonSchema.presentWhen.all fun x =>
        x.1 == "$.crash_info.adjusted_address.address" || x.1 == "$.crash_info.adjusted_address.offset") = true) ∧
    (((handRows.filter fun x => x.2.2 == .padded).all fun x =>
        x.2.1 == .hex && (MdModel.Gen.JsonSchema.rows.contains (x.1, .hex) || x.1 == offsetsInCopy ++ "[]")) = true ∧
      ((handRows.filter fun x => x.2.1 == .hex && x.2.2 != .padded).map (·.1)) = [
        "$.system_info.cpu_microcode_version",
        "$.threads[].frames[].registers.some_register_name",
        "$.crashing_thread.frames[].registers.some_register_name"]) := by
  decide +kernel

/-- **schema_eq_generated** — "matching the documented schema: field names, types": the rows of
    the hand-written `schema` (every member: its path = names and nesting, and its type), with the
    listed `differences` put back to what the document says (or dropped where the document has
    no such member), are EXACTLY the rows the translator reads off json-schema.md, in the same
    order. In particular `schema` has no member the document lacks other than the six listed
    `none` rows, the document has no member `schema` lacks, and apart from `status`, `trust`
    (twice) and `cpu_arch` every type is the documented one. -/
theorem schema_eq_generated :
    handDocRows.filterMap (asDocumented differences) = MdModel.Gen.JsonSchema.rows :=
  hand_vs_generated.1

/-- **differences_exact** — the list of differences is not padded: each names a member `schema`
    really has, with the stated hand-written type, that type really differs from the documented
    one, and no member is listed twice. -/
theorem differences_exact :
    (differences.all fun d => handDocRows.contains (d.path, d.hand) && d.doc != some d.hand) = true ∧
    (differences.map (·.path)).Nodup ∧ differences.length = 10 :=
  hand_vs_generated.2.1

/-- **enums_eq_generated** — "enumerations": the members the document types by a list of string
    literals are exactly these seven, and for each the `…Documented` list of MdModel/Json.lean is
    the document's list of alternatives, in order (with `| <hexstring>` for `os` only); the two
    `kind` values `checkAdjusted` couples with `address` / `offset` are the two the document
    names in "(Present when kind == …)". -/
theorem enums_eq_generated :
    MdModel.Gen.JsonSchema.enums = [
      ("$.status", ["OK"], false),
      ("$.crash_info.memory_accesses[].access_type", accessTypeDocumented, false),
      ("$.crash_info.crash_inconsistencies[]", inconsistencyDocumented, false),
      ("$.system_info.os", osDocumented, true),
      ("$.system_info.cpu_arch", cpuDocumented, false),
      ("$.threads[].frames[].trust", trustDocumented, false),
      ("$.crashing_thread.frames[].trust", trustDocumented, false)] ∧
    MdModel.Gen.JsonSchema.presentWhen = [
      ("$.crash_info.adjusted_address.address", "kind", "non-canonical"),
      ("$.crash_info.adjusted_address.offset", "kind", "null-pointer")] ∧
    (MdModel.Gen.JsonSchema.presentWhen.map fun x => x.2.2) = adjustedKindDocumented := by
  decide +kernel

/-- **refinements_documented** — what `check` demands beyond the plain type is where the
    document says so: only-`true` booleans = the members under "This field may only be present
    when the value is `true`."; sorted non-empty arrays = the member under "This will never be
    empty, will never contain duplicates, and is sorted" plus its `crashing_thread` copy; the
    `kind` coupling sits on the parent of the two "(Present when kind == …)" members. -/
theorem refinements_documented :
    refinedAt .onlyTrue = MdModel.Gen.JsonSchema.onlyTrue ∧
    refinedAt .sortedNonEmpty = MdModel.Gen.JsonSchema.sortedNonEmpty ++ [offsetsInCopy] ∧
    refinedAt .kindCoupled = ["$.crash_info.adjusted_address"] ∧
    (MdModel.Gen.JsonSchema.presentWhen.all fun x =>
      x.1 == "$.crash_info.adjusted_address.address" || x.1 == "$.crash_info.adjusted_address.offset") = true :=
  hand_vs_generated.2.2.1

/-- **padded_are_hexstrings** — the platform-width demand (`Ty.hexA`) is only ever made of
    members the document types `<hexstring>` ("we also *try* to 0-pad hexstring values to the
    crashing platform's native width"); which `<hexstring>`s are addresses (padded) and which are
    not (`cpu_microcode_version`, register values) is the reading that stays hand-made. -/
theorem padded_are_hexstrings :
    ((handRows.filter fun x => x.2.2 == .padded).all fun x =>
      x.2.1 == .hex && (MdModel.Gen.JsonSchema.rows.contains (x.1, .hex) || x.1 == offsetsInCopy ++ "[]")) = true ∧
    ((handRows.filter fun x => x.2.1 == .hex && x.2.2 != .padded).map (·.1)) = [
      "$.system_info.cpu_microcode_version",
      "$.threads[].frames[].registers.some_register_name",
      "$.crashing_thread.frames[].registers.some_register_name"] :=
  hand_vs_generated.2.2.2

/-- **annotations_documented** — the document's `[UNSTABLE:…]` members and the members its
    comments call redundant: `Consistent` (MdModel/Json.lean §8b) and the theorems
    `counts_agree`, `offsets_agree`, `crashing_thread_copy` cover `thread_count`, `frame_count`,
    `frame`, `module`/`module_offset`, `missing_symbols`, `num_records` and the copy (the sentence
    before `crashing_thread.thread_name` is "The rest of the fields are the same as they are in
    `threads` (redundant)."); `modules_contains_cert_info` is `[UNSTABLE:evil_json]`. -/
theorem annotations_documented :
    MdModel.Gen.JsonSchema.redundant = [
      "$.thread_count", "$.threads[].frame_count", "$.threads[].frames[].frame",
      "$.threads[].frames[].module", "$.threads[].frames[].module_offset",
      "$.threads[].frames[].missing_symbols", "$.crashing_thread.thread_name",
      "$.modules_contains_cert_info", "$.mac_crash_info.num_records"] ∧
    MdModel.Gen.JsonSchema.unstable = [
      ("$.modules_contains_cert_info", "evil_json"),
      ("$.modules[].cert_subject", "evil_json"),
      ("$.unloaded_modules[].cert_subject", "evil_json")] := by
  decide +kernel

private theorem ne_map_of_mem {α : Type} {f : α → α} {l : List α} {x : α} (hx : x ∈ l) (hf : f x ≠ x) :
    l ≠ l.map f := by
  induction l with
  | nil => cases hx
  | cons a l ih =>
    intro h
    obtain ⟨ha, hl⟩ := List.cons.inj h
    rcases List.mem_cons.mp hx with rfl | hx
    · exact hf ha.symm
    · exact ih hx hl

/-- a retyped member is noticed (`frame_count` as `<string>`) -/
example :
    (handDocRows.filterMap (asDocumented differences)) ≠
      MdModel.Gen.JsonSchema.rows.map (fun r =>
        if r.1 == "$.threads[].frame_count" then (r.1, Leaf.str) else r) := by
  -- membership by position: a search would decode the name of every row before it
  have hx : ("$.threads[].frame_count", Leaf.u32) ∈ MdModel.Gen.JsonSchema.rows :=
    List.mem_of_getElem? (i := 49) (by decide +kernel)
  rw [schema_eq_generated]
  exact ne_map_of_mem hx (by simp)

/-- a renamed member is noticed -/
example :
    (handDocRows.filterMap (asDocumented differences)) ≠
      MdModel.Gen.JsonSchema.rows.map (fun r =>
        if r.1 == "$.pid" then ("$.process_id", r.2) else r) := by
  have hx : ("$.pid", Leaf.u32) ∈ MdModel.Gen.JsonSchema.rows :=
    List.mem_of_getElem? (i := 2) (by decide +kernel)
  rw [schema_eq_generated]
  exact ne_map_of_mem hx (by simp)

/-- without the list of differences the two do NOT agree (the list is needed) -/
example : handDocRows ≠ MdModel.Gen.JsonSchema.rows :=
  -- `schema` has six members the document lacks: already the lengths differ
  fun h => absurd (congrArg List.length h) (by decide +kernel)

/-- the handle is `<u64>` on both sides (fix b67afac) and needs no entry -/
example : handDocRows.contains ("$.handles[].handle", .u64) = true ∧
    MdModel.Gen.JsonSchema.rows.contains ("$.handles[].handle", .u64) = true :=
  -- by position: a search would decode the name of every row before it
  ⟨List.contains_iff_mem.mpr (List.mem_of_getElem? (i := 129) (by decide +kernel)),
   List.contains_iff_mem.mpr (List.mem_of_getElem? (i := 123) (by decide +kernel))⟩

end MdModel.Json
