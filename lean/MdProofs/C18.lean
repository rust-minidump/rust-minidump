/-
  C18 — Register access by name is consistent for every CPU context.

  Property text: "For every supported CPU context type and every register name or documented
  alias, writing a register by name and reading it back returns the value, aliases denote the same
  register, and reading an unknown name reports absence instead of panicking. The stack- and
  instruction-pointer names agree with the dedicated accessors, validity sets are honoured (also
  through aliases), and the enumerations of registers and of valid registers list exactly the named
  general-purpose registers."

  The theorems are about `MdModel.Regs`, the interpretation of the tables that
  translators/regs.py regenerates from minidump/src/context.rs and minidump-common/src/format.rs on
  every run (`MdModel.Gen.Regs`).  They quantify over ALL nine context types (`c : Ctx`), ALL
  strings as names, ALL register files (`st : State`, a function from cells to arbitrary values),
  ALL values and ALL validity sets; the finite content of the tables enters through the kernel-decided
  table facts of `MdProofs.Lemmas.RegsTables`, so a changed arm, a missing alias, swapped sp/ip names
  or a broken `sparc_alias_index` breaks the build of this file.

  "The table" of a context is `knownNames c`: every name occurring in `REGISTERS`, in a getter or
  setter pattern, in an alias arm of `memoize_register` / `register_is_valid` (for SPARC: the 32
  window aliases `sparc_alias_index` maps), and the sp/ip names.
-/
import MdProofs.Lemmas.RegsFacts
namespace MdModel.Regs
open MdModel MdModel.Gen.Regs

/-! ## 1. "writing a register by name and reading it back returns the value"
      (and no other cell changes) -/

/-- For EVERY name the setter accepts (canonical or alias), in every context, state and value:
    reading the name back gives the value, exactly one cell was written, every other cell is
    unchanged, and the name is one the name lookup knows (so `get_register(.., All)` returns the
    value too — the pre-`fix:` SPARC behaviour `set("o6")` ok / `get("o6")` = None is excluded). -/
theorem set_get (c : Ctx) (st st' : State) (n : String) (v : Nat)
    (h : setRegister c st n v = .ok (some st')) :
    getAlways c st' n = .ok v ∧
    getRegister c st' n .all = .ok (some v) ∧
    ∃ cell, st' cell = v ∧ ∀ cell', cell' ≠ cell → st' cell' = st cell' := by
  obtain ⟨hk, cell', r, f, rfl⟩ := setRegister_some h
  have hget : getAlways c (st.write cell' v) n = .ok v := by
    rw [getAlways_of_cell _ f.getCell f.inBounds]; simp [State.write]
  refine ⟨hget, ?_, cell', by simp [State.write], ?_⟩
  · simp only [getRegister, isValid_all_known hk, hget]
  · intro x hx; simp [State.write, hx]

/-- The setter never panics, on any string; it accepts exactly the getter's names. -/
theorem set_total (c : Ctx) (st : State) (n : String) (v : Nat) :
    (∃ r, setRegister c st n v = .ok r) ∧
    ((∃ st', setRegister c st n v = .ok (some st')) ↔ n ∈ (getArms c).map (·.1)) := by
  by_cases hk : n ∈ (setArms c).map (·.1)
  · obtain ⟨cell, r, f⟩ := known_facts (known_of_setKey hk)
    have := setRegister_of_cell st v f.setCell f.inBounds
    exact ⟨⟨_, this⟩, ⟨fun _ => arms_same_keys c ▸ hk, fun _ => ⟨_, this⟩⟩⟩
  · have := setRegister_unknown st v hk
    refine ⟨⟨_, this⟩, ⟨?_, fun hg => absurd (arms_same_keys c ▸ hg) hk⟩⟩
    rintro ⟨st', h'⟩; rw [this] at h'; cases h'

/-! ## 2. "aliases denote the same register" -/

/-- Two names with the same canonical name (`memoize_register`) denote the same storage cell, for
    the getter and for the setter; and conversely names of the same cell have the same canonical
    name — aliases are exactly the names of one cell. -/
theorem alias_same_cell (c : Ctx) (n m rn rm : String)
    (hn : memoize c n = .ok (some rn)) (hm : memoize c m = .ok (some rm)) :
    (rn = rm ↔ getCell c n = getCell c m) ∧
    (∃ cell, getCell c n = some cell ∧ setCell c n = some cell ∧ getCell c rn = some cell) := by
  have := known_alias_iff (memoize_some_known hn) (memoize_some_known hm)
  rw [memoName_of_memoize hn, memoName_of_memoize hm] at this
  obtain ⟨cell, f⟩ := facts_of_memoize hn
  exact ⟨by simpa using this, cell, f.getCell, f.setCell, f.canonCell⟩

/-- Writing through one name is read back through every alias of it. -/
theorem alias_reads_written (c : Ctx) (st st' : State) (n m r : String) (v : Nat)
    (hn : memoize c n = .ok (some r)) (hm : memoize c m = .ok (some r))
    (h : setRegister c st n v = .ok (some st')) :
    getAlways c st' m = .ok v := by
  obtain ⟨_, celln, r1, fn, rfl⟩ := setRegister_some h
  obtain ⟨cellm, fm⟩ := facts_of_memoize hm
  have e : getCell c n = getCell c m := ((alias_same_cell c n m r r hn hm).1).mp rfl
  rw [fn.getCell, fm.getCell] at e
  cases e
  rw [getAlways_of_cell _ fm.getCell fm.inBounds]; simp [State.write]

/-- `memoize_register` answers with a name of `REGISTERS` that is its own canonical name. -/
theorem memoize_canonical (c : Ctx) (n r : String) (h : memoize c n = .ok (some r)) :
    r ∈ registers c ∧ memoize c r = .ok (some r) := by
  obtain ⟨_, f⟩ := facts_of_memoize h
  exact ⟨f.canonReg, f.canonMemo⟩

/-! ## 3. "reading an unknown name reports absence instead of panicking" -/

/-- A name outside the table is absent for every Option-returning method, without a panic:
    `memoize_register`, `set_register`, `register_is_valid` and `get_register` /
    `MinidumpContext::get_register` under `All` and under every `Some(S)` that does not itself
    contain the foreign name (the property quantifies S over sets of the context's names and
    aliases; see `foreign_name_in_set_panics` for why that hypothesis cannot be dropped). -/
theorem unknown_absent (c : Ctx) (st : State) (n : String) (hn : n ∉ knownNames c) :
    memoize c n = .ok none ∧
    (∀ v, setRegister c st n v = .ok none) ∧
    isValid c n .all = .ok false ∧
    getRegister c st n .all = .ok none ∧
    (∀ S, n ∉ S → isValid c n (.some S) = .ok false ∧ getRegister c st n (.some S) = .ok none) := by
  have hm := memoize_unknown hn
  have hs : n ∉ (setArms c).map (·.1) := fun h => hn (known_of_setKey h)
  have hva : isValid c n .all = .ok false := by simp only [isValid, hm, Option.isSome_none]
  refine ⟨hm, fun v => setRegister_unknown st v hs, hva, ?_, ?_⟩
  · simp only [getRegister, hva]
  · intro S hS
    have : isValid c n (.some S) = .ok false := by
      rw [isValid_some_foreign hn S, List.contains_eq_mem, decide_eq_false hS]
    exact ⟨this, by simp only [getRegister, this]⟩

/-- No reader with an `Option`/`bool` result panics on ANY string, as long as the validity set
    holds no foreign name: total functions. -/
theorem readers_total (c : Ctx) (st : State) (n : String) :
    (∃ r, memoize c n = .ok r) ∧ (∃ b, isValid c n .all = .ok b) ∧
    (∃ r, getRegister c st n .all = .ok r) ∧
    (∀ S, (∀ s ∈ S, s ∈ knownNames c) → (∃ b, isValid c n (.some S) = .ok b) ∧
      ∃ r, getRegister c st n (.some S) = .ok r) := by
  by_cases hk : n ∈ knownNames c
  · obtain ⟨cell, hc, hg⟩ := getAlways_known st hk
    have hva := isValid_all_known hk
    refine ⟨memoize_total c n, ⟨_, hva⟩, ⟨some (st cell), by simp only [getRegister, hva, hg]⟩, fun S _ => ?_⟩
    obtain ⟨b, hv⟩ := isValid_total c n (.some S)
    refine ⟨⟨_, hv⟩, ?_⟩
    simp only [getRegister, hv, hg]
    cases b <;> simp
  · obtain ⟨h1, _, h3, h4, h5⟩ := unknown_absent c st n hk
    refine ⟨⟨_, h1⟩, ⟨_, h3⟩, ⟨_, h4⟩, fun S hS => ?_⟩
    have : n ∉ S := fun h => hk (hS n h)
    exact ⟨⟨_, (h5 S this).1⟩, ⟨_, (h5 S this).2⟩⟩

/-- Why `unknown_absent` needs `n ∉ S`: a validity set that itself contains a name the context does
    not know makes `get_register` take the `unreachable!` arm of `get_register_always`.
    (`MinidumpContextValidity::Some` is a public `HashSet<&'static str>`; the unwinders only insert
    memoized names.  Outside the property's quantifier — recorded in notes/C18.md.) -/
theorem foreign_name_in_set_panics (c : Ctx) (st : State) (n : String) (S : List String)
    (hn : n ∉ knownNames c) (hS : n ∈ S) : ∃ msg, getRegister c st n (.some S) = .panic msg := by
  have hg : n ∉ (getArms c).map (·.1) := fun h => hn (known_of_getKey h)
  have hv : isValid c n (.some S) = .ok true := by
    rw [isValid_some_foreign hn S, List.contains_eq_mem, decide_eq_true hS]
  exact ⟨"unreachable: invalid register", by simp only [getRegister, hv, getAlways_unknown st hg]⟩

/-! ## 4. "the stack- and instruction-pointer names agree with the dedicated accessors" -/

/-- Named access through `stack_pointer_register_name()` / `instruction_pointer_register_name()`
    equals `get_stack_pointer()` / `get_instruction_pointer()`, for `get_register_always` and for
    `get_register` under `All`; none of them panics. -/
theorem sp_ip_agree (c : Ctx) (st : State) :
    (∃ v, stackPointer c st = .ok v ∧ getAlways c st (spName c) = .ok v ∧
          getRegister c st (spName c) .all = .ok (some v)) ∧
    (∃ v, instructionPointer c st = .ok v ∧ getAlways c st (ipName c) = .ok v ∧
          getRegister c st (ipName c) .all = .ok (some v)) :=
  ⟨accessor_agrees st (spName_known c) (sp_ip_cells c).1, accessor_agrees st (ipName_known c) (sp_ip_cells c).2⟩

/-! ## 5. "validity sets are honoured (also through aliases)" -/

/-- For every table name `n` and every validity set `S` of table names, in EVERY context: `n` is
    valid iff some element of `S` denotes the same register (same cell) — an alias in the set makes
    the canonical name and the sibling aliases valid and vice versa — and then `get_register`
    returns the cell's value, otherwise `None`.
    (Before `fix:` 4de673d this failed on CONTEXT_SPARC for an alias IN THE SET — `Some({"o6"})` did
    not cover `g_r14`; the check reported it as a known finding. Reverting the fix makes the table
    fact `known_ok` false: under the old rule the names consulted for an alias are not its class.) -/
theorem validity_honoured (c : Ctx) (st : State) (n : String) (S : List String)
    (hn : n ∈ knownNames c) (hS : ∀ s ∈ S, s ∈ knownNames c) :
    isValid c n (.some S) = .ok (S.any (sameReg c n)) ∧
    ∃ cell, getCell c n = some cell ∧
      getRegister c st n (.some S) = .ok (if S.any (sameReg c n) then some (st cell) else none) := by
  have hv := isValid_some_sameReg hn hS
  obtain ⟨cell, hc, hg⟩ := getAlways_known st hn
  refine ⟨hv, cell, hc, ?_⟩
  simp only [getRegister, hv, hg]
  cases S.any (sameReg c n) <;> simp

/-- Under `All` every table name is valid and `get_register` returns its cell. -/
theorem validity_all (c : Ctx) (st : State) (n : String) (hn : n ∈ knownNames c) :
    isValid c n .all = .ok true ∧
    ∃ cell, getCell c n = some cell ∧ getRegister c st n .all = .ok (some (st cell)) := by
  obtain ⟨cell, hc, hg⟩ := getAlways_known st hn
  exact ⟨isValid_all_known hn, cell, hc, by simp only [getRegister, isValid_all_known hn, hg]⟩

/-! ## 6. "the enumerations of registers and of valid registers list exactly the named
      general-purpose registers" -/

/-- `registers()` (both `CpuContext` and `MinidumpContext`) lists exactly `REGISTERS`, in order,
    each with the value `get_register_always` gives; `REGISTERS` has no duplicates and no two of
    its names share a cell. -/
theorem enumerations_registers (c : Ctx) (st : State) :
    (∃ vs, cpuRegisters c st = .ok vs ∧ mdRegisters c st = .ok vs ∧ vs.map (·.1) = registers c ∧
       ∀ p ∈ vs, getAlways c st p.1 = .ok p.2) ∧
    pairwiseDistinctCells c (registers c) = true := by
  obtain ⟨vs, h1, h2, h3⟩ := collect_ok c st (registers c) (fun n hn => known_of_registers hn)
  refine ⟨⟨vs, h1, ?_, h2, h3⟩, registers_distinct c⟩
  unfold mdRegisters; rw [gpr_registers]; exact h1

/-- `MinidumpContext::valid_registers()` lists exactly the `REGISTERS` names that the validity set
    covers — directly or through an alias — in `REGISTERS` order, with their values; under `All`
    it is `registers()`. -/
theorem enumerations_valid (c : Ctx) (st : State) (S : List String)
    (hS : ∀ s ∈ S, s ∈ knownNames c) :
    (∃ vs, mdValidRegisters c st (.some S) = .ok vs ∧
       vs.map (·.1) = (registers c).filter (fun r => S.any (sameReg c r)) ∧
       ∀ p ∈ vs, getAlways c st p.1 = .ok p.2) ∧
    (∃ vs, mdValidRegisters c st .all = .ok vs ∧ vs.map (·.1) = registers c ∧
       ∀ p ∈ vs, getAlways c st p.1 = .ok p.2) := by
  constructor
  · obtain ⟨vs, h1, h2, h3⟩ := mdValidFrom_ok c st (.some S) (fun r => S.any (sameReg c r)) (registers c)
      (fun n hn => known_of_registers hn)
      (fun n hn => isValid_some_sameReg (known_of_registers hn) hS)
    exact ⟨vs, by unfold mdValidRegisters; rw [gpr_registers]; exact h1, h2, h3⟩
  · obtain ⟨vs, h1, h2, h3⟩ := mdValidFrom_ok c st .all (fun _ => true) (registers c)
      (fun n hn => known_of_registers hn)
      (fun n hn => isValid_all_known (known_of_registers hn))
    exact ⟨vs, by unfold mdValidRegisters; rw [gpr_registers]; exact h1, by rw [h2]; simp, h3⟩

/-- `CpuContext::valid_registers(Some(S))` enumerates the set itself: every element of `S` once,
    with the value of the cell it names (aliases keep the spelling used in the set). -/
theorem enumerations_cpu_valid (c : Ctx) (st : State) (S : List String)
    (hS : ∀ s ∈ S, s ∈ knownNames c) :
    ∃ vs, cpuValidRegisters c st (.some S) = .ok vs ∧ vs.map (·.1) = S ∧
      ∀ p ∈ vs, getAlways c st p.1 = .ok p.2 :=
  collect_ok c st S hS

-- `set_get`: a setter call that succeeds through an alias
example : ∃ st', setRegister .ARM State.zero "r11" 7 = .ok (some st') ∧ getAlways .ARM st' "fp" = .ok 7 :=
  ⟨_, rfl, by decide +kernel⟩
-- `alias_same_cell` / `alias_reads_written`: two different names with one canonical name
example : memoize .ARM64 "x30" = .ok (some "lr") ∧ memoize .ARM64 "lr" = .ok (some "lr") := by decide +kernel
example : memoize .SPARC "i7" = .ok (some "g_r31") ∧ memoize .SPARC "g_r31" = .ok (some "g_r31") := by decide +kernel
-- `unknown_absent`: names outside the table exist (also near-misses of the SPARC alias shape)
example : "o8" ∉ knownNames .SPARC ∧ "r16" ∉ knownNames .ARM ∧ "" ∉ knownNames .X86 :=
  ⟨fun h => absurd (getKey_of_known h) (by decide +kernel), fun h => absurd (getKey_of_known h) (by decide +kernel),
    fun h => absurd (getKey_of_known h) (by decide +kernel)⟩
-- `validity_honoured` / `enumerations_valid`: a set of table names holding an ALIAS that makes the
-- canonical name valid (and leaves another register invalid) — ARM, and SPARC in both directions
example : (∀ s ∈ ["r11"], s ∈ knownNames .ARM) ∧
    ["r11"].any (sameReg .ARM "fp") = true ∧ ["r11"].any (sameReg .ARM "sp") = false :=
  ⟨fun s hs => known_of_getKey (List.mem_singleton.mp hs ▸ by decide +kernel), by decide +kernel, by decide +kernel⟩
example : (∀ s ∈ ["o6"], s ∈ knownNames .SPARC) ∧ "g_r14" ∈ knownNames .SPARC ∧
    ["o6"].any (sameReg .SPARC "g_r14") = true ∧ ["g_r14"].any (sameReg .SPARC "o6") = true ∧
    ["o6"].any (sameReg .SPARC "g_r15") = false :=
  ⟨fun s hs => known_of_getKey (List.mem_singleton.mp hs ▸ by decide +kernel), known_of_getKey (by decide +kernel),
    by decide +kernel, by decide +kernel, by decide +kernel⟩
-- the repaired SPARC rule computes exactly that (regression of C18-sparc-alias-in-validity-set)
example : isValid .SPARC "g_r14" (.some ["o6"]) = .ok true ∧ isValid .SPARC "i6" (.some ["o6"]) = .ok false := by
  decide +kernel
-- sp/ip names are distinct registers (swapping them is not invisible)
example : ∀ c ∈ Ctx.all, sameReg c (spName c) (ipName c) = false := by decide +kernel

end MdModel.Regs
