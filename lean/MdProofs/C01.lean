/-
  C01 — Reading a minidump is total: no panic, hang or runaway allocation on any bytes.

  Property text: "For every byte string offered as a minidump, opening it, requesting every
  supported stream, querying what was parsed (address lookups, thread contexts and stacks, crash
  reason and address, module identifiers, key/value text streams) and printing it either succeeds
  or returns an error. It never panics (arithmetic overflow included), always terminates, and never
  sizes an allocation from a count or length field that the file is too small to back, so memory
  use is at most quadratic in the input size and a tiny file can never demand gigabytes."
  Quantifier: all byte strings, little- and big-endian.

  C01.1-C01.6 are about `MdModel.Dump.readAll` — `Minidump::read` followed by `get_stream` of the
  eleven list / record stream types (thread list, module list, unloaded-module list, memory list,
  memory-64 list, memory-info list, thread names, thread-info list, handle data, exception,
  Crashpad info). C01.7-C01.11 are about `MdModel.Dump.readFull` = `readAll` followed by
  `readExtra` (MdModel.DumpFull): the system info (CSD string, the CPU union as `cpu_info` text),
  `MinidumpContext::read` for every thread and for the exception (the nine CONTEXT_* records,
  generated layouts), `stack_memory`, `last_error`, the lookup tables `from_regions` builds (C08's
  model), the crash-reason / crash-address array reads, the stack and memory dump loops of the
  printers, the five Linux key/value text streams with their iterators driven to the end, Breakpad
  info, assertion info, macOS crash info and boot args.
  In the model every Rust operation that can panic (`+ - +=` on `usize`,
  `&b[lo..hi]`, `&b[lo..=hi]`, array indexing, `unwrap`) is a checked primitive with an explicit
  `panic` outcome, a loop that could fail to end (the handle object-info walk, the `lines()`
  iterator) takes fuel and reports fuel exhaustion as a panic outcome, and
  every `Vec::with_capacity`/`HashMap::with_capacity`/`to_owned` is logged.

  Hypotheses, and why they do not restrict the quantifier:
  * `SliceLen b.size` (`b.size < 2^63`): a Rust slice is never longer than `isize::MAX` bytes.
    `readAll` needs it at exactly one site, `*offset + size` in `read_string_utf16`; `readExtra`
    also for the `offset += ...` of the printers' dump loops and the `idx + 1` of the text iterators.
  * `ms.Bounded`: the in-memory element sizes of the build under test (sent by the harness with
    every request) are within the ratio the allocation bound is stated for; the model refuses
    requests outside it, `default_bounded` shows the shipped sizes satisfy it.
  The endianness is read off the signature, so "both byte orders" is inside "all byte strings";
  the per-reader lemmas (`MdProofs.Lemmas.BytesStreams`) hold for either `Endian` explicitly.

  C01.12-C01.16 are about `MdModel.Dump.readWhole` = `readFull` followed by `readMore`
  (MdModel.DumpFull): `MinidumpMiscInfo` with its accessors and printer (the fixed UTF-16 arrays, the
  XSTATE feature loop), `MinidumpLinuxMaps` = procfs-core 0.17's maps parser on ARBITRARY text, its
  three panic sites included as panic outcomes (`maps_panics_iff`: the exact frontier of the known
  finding C01-procfs-mmappath; `maps_guard_correct`: the proposed repair), `UnifiedMemoryInfoList`,
  `os_parts`, the `Module` identifier accessors / `print` on arbitrary CodeView records, the
  soft-errors stream, and the register accessors of every context read from bytes through C18's
  generated tables (`context_registers_spec`). `readWhole` is the very function the compiled driver
  runs and the `read` engine compares with the real reader on every check.

  PARTIAL: the TEXT the printers emit (the model covers their indexing / offset arithmetic and the
  strings they decode), the third-party decoders (`encoding_rs`, `time`, `uuid`, `range-map`; the
  part of `procfs-core` the maps reader uses is modelled and tied) are not part of these theorems;
  for them the `read` engine's oracle (catch_unwind + counting allocator + time budget) is a sampled
  check.
-/
import MdProofs.Lemmas.BytesFull
import MdProofs.Lemmas.BytesMore
namespace MdModel.Dump
open MdModel MdModel.Gen.Layouts MdModel.Gen.LayoutsX

/-- **C01.1** For every byte string the panic outcome of `readAll` is unreachable: no `usize`
    overflow/underflow, no out-of-range slice, no out-of-bounds index, no endless walk. -/
theorem read_no_panic (ms : MemSizes) (hms : ms.Bounded) (b : Bytes) (hsz : SliceLen b.size) :
    ∀ site, (readAll ms b).res ≠ .panic site :=
  (readAll_run ms b).elim fun _ h => h.noPanic ⟨hms, hsz⟩

/-- the same for the element sizes the model ships with (no hypothesis on `ms` left) -/
theorem read_no_panic_default (b : Bytes) (hsz : SliceLen b.size) :
    ∀ site, (readAll MemSizes.default b).res ≠ .panic site :=
  read_no_panic _ default_bounded b hsz

/-- **C01.1'** `readAll` always produces a value: an unreadable header is the value
    `Except.error e`, an unreadable stream is an `Except.error` inside `Parsed`. -/
theorem read_total (ms : MemSizes) (hms : ms.Bounded) (b : Bytes) (hsz : SliceLen b.size) :
    ∃ r, (readAll ms b).res = .ok r :=
  (readAll_run ms b).elim fun _ h => (h.value ⟨hms, hsz⟩).imp fun _ h => h.1

/-- non-vacuity of the hypotheses: a concrete byte string and the shipped sizes -/
example : SliceLen (#[0x4d, 0x44, 0x4d, 0x50] : Bytes).size ∧ MemSizes.default.Bounded :=
  ⟨by unfold SliceLen; decide, default_bounded⟩

/-- **C01.2a** `location_slice` only ever yields a range inside the buffer. -/
theorem read_no_oob {len : Nat} {l : Loc} {s e : Nat} (h : locationRange len l = some (s, e)) :
    s = l.rva ∧ s ≤ e ∧ e ≤ len ∧ e - s = l.size :=
  locationRange_some h

/-- **C01.2b** every region of a successfully read `MinidumpMemoryList` is backed by the file. -/
theorem memory_list_regions_in_file {ms : MemSizes} {b all : Bytes} {e : Endian} {rs : List Region}
    (h : (readMemoryList ms b all e).res = .ok rs) : ∀ r ∈ rs, r.rva + r.size ≤ all.size :=
  ((readMemoryList_run (H := False) ms b all e False.elim).ok rs h).2

/-- **C01.2c** ... and of a successfully read `MinidumpMemory64List` (running RVA). -/
theorem memory64_list_regions_in_file {ms : MemSizes} {b all : Bytes} {e : Endian} {rs : List Region}
    (h : (readMemory64List ms b all e).res = .ok rs) : ∀ r ∈ rs, r.rva + r.size ≤ all.size :=
  ((readMemory64List_run (H := False) ms b all e False.elim).ok rs h).2

/-- **C01.3** Every allocation the readers make (`Vec::with_capacity(n)` of `sz`-byte elements,
    hash tables, owned copies, decoder buffers) asks for at most `K = 32` times the length of the
    file — whatever the count fields in the file claim. -/
theorem alloc_backed (ms : MemSizes) (hms : ms.Bounded) (b : Bytes) (hsz : SliceLen b.size) :
    ∀ a ∈ (readAll ms b).allocs, a.n * a.sz ≤ K * b.size :=
  (readAll_run ms b).elim fun _ h => h.big ⟨hms, hsz⟩

/-- a zero-length or tiny file can therefore not demand more than `32 * len` bytes at once -/
theorem alloc_backed_tiny (ms : MemSizes) (hms : ms.Bounded) (b : Bytes) (h : b.size ≤ 1024) :
    ∀ a ∈ (readAll ms b).allocs, a.n * a.sz ≤ 32768 := by
  intro a ha
  have := alloc_backed ms hms b (by unfold SliceLen; omega) a ha
  unfold K at this
  omega

/-- **C01.3b** For the ten list/record streams the NUMBER of allocations is linear in the file
    length: a constant per stream plus a constant per list entry the stream is long enough to hold. -/
theorem alloc_count_bound (ms : MemSizes) (b : Bytes) (d : Dump) :
    (readCore ms b d).allocs.length ≤ 21 + 10 * (b.size / 8) :=
  (readCore_run ms b d).cnt

/-- **C01.3c** The Crashpad-info stream (whose allocation count is quadratic: module links x list
    entries) is bounded through the string budget of `charge_string_budget` (the repair of the
    cubic blow-up this check found): one module's annotations request at most `9 * len` bytes —
    however many entries alias however long a string — and the whole stream at most
    `11 * len + (len / 12) * 9 * len`. -/
theorem crashpad_budget (ms : MemSizes) (hms : ms.Bounded) (b all : Bytes) (e : Endian) :
    (∀ index loc, totalBytes (readModuleCrashpadInfo ms all e index loc).allocs ≤ 9 * all.size) ∧
    totalBytes (readCrashpadInfo ms b all e).allocs ≤ 11 * all.size + (all.size / 12) * (9 * all.size) :=
  ⟨fun index loc => total_readModuleCrashpadInfo ms hms all e index loc, total_readCrashpadInfo ms hms b all e⟩

/-- **C01.3d** "memory use is at most quadratic in the input size": the sum of ALL allocation
    requests of `readAll` (an upper bound of the peak) is at most
    `(21 + 10*(len/8)) * 32 * len + 11*len + (len/12) * 9 * len  <=  41*len^2 + 683*len` bytes. -/
theorem alloc_total_quadratic (ms : MemSizes) (hms : ms.Bounded) (b : Bytes) (hsz : SliceLen b.size) :
    totalBytes (readAll ms b).allocs ≤
      (21 + 10 * (b.size / 8)) * (K * b.size) + (11 * b.size + (b.size / 12) * (9 * b.size)) := by
  unfold readAll
  split
  · rw [total_pure]; omega
  · rename_i d _
    exact total_bind ((readCore_run ms b d).total ⟨hms, hsz⟩) fun c _ =>
      total_bind_pure _ (total_getStream _ _ _ _ fun s _ => total_readCrashpadInfo ms hms s b d.endian)

/-- **C01.4** The directory loop `for i in 0..header.stream_count` performs at most
    `len / 12 + 1` iterations, whatever `stream_count` says (each iteration that does not end the
    loop consumes 12 bytes of the file). -/
theorem directory_terminates (b : Bytes) (e : Endian) (streamCount dirRva : Nat) :
    (readDirectory b e streamCount 0 dirRva []).2 ≤ b.size / 12 + 1 := by
  have := readDirectory_steps b e streamCount 0 dirRva []
  omega

/-- when `Minidump::read` succeeds the whole directory lies inside the file:
    `stream_count` entries of 12 bytes from `stream_directory_rva` on -/
theorem directory_in_file {b : Bytes} {d : Dump} (h : readDump b = .ok d) :
    d.dirSteps = d.header.streamCount ∧
    (d.header.streamCount = 0 ∨ d.header.dirRva + 12 * d.header.streamCount ≤ b.size) := by
  unfold readDump at h
  split at h
  · cases h
  · rename_i en hd _
    split at h
    · cases h
    · split at h
      · cases h
      · rename_i streams steps hdir
        cases h
        have := readDirectory_ok b en hd.streamCount 0 hd.dirRva [] streams steps hdir
        simpa using this

/-- **C01.5** With the visited set, the `while object_info_rva != 0` loop ends within
    `all.size + 1` iterations for every file and every starting RVA — a cyclic or
    self-referential chain included — and yields at most `all.size` elements (each visited RVA is
    a distinct offset at which a 12-byte record could be read). -/
theorem handle_chain_terminates (all : Bytes) (e : Endian) (rva : Nat) :
    ∃ infos, walkChain all e (all.size + 1) rva [] [] = some infos ∧ infos.length ≤ all.size :=
  walkChain_inv all e (all.size + 1) rva [] [] List.nodup_nil (by intro r h; cases h) (by simp) (by simp)

/-- more fuel never changes the result of a walk that ended: `all.size + 1` is not special -/
theorem walkChain_fuel_mono (all : Bytes) (e : Endian) :
    ∀ (fuel rva : Nat) (seen : List Nat) (acc r : List ObjInfo),
      walkChain all e fuel rva seen acc = some r → walkChain all e (fuel + 1) rva seen acc = some r := by
  intro fuel rva seen acc r h
  fun_induction walkChain all e fuel rva seen acc with
  | case1 => cases h
  | case2 => rw [walkChain, if_pos rfl]; exact h
  | case3 _ _ _ _ h0 hs => rw [walkChain, if_neg h0, if_pos hs]; exact h
  | case4 _ _ _ _ h0 hs hoi => rw [walkChain, if_neg h0, if_neg hs, hoi]; exact h
  | case5 _ _ _ _ h0 hs _ hoi ih => rw [walkChain, if_neg h0, if_neg hs, hoi]; exact ih h

/-- a self-referential record (the probe of finding F2): `next_info_rva` points at the record
    itself; the walk returns the one element instead of looping. -/
example : walkChain
    (#[0, 0, 0, 0,  4, 0, 0, 0,  1, 0, 0, 0,  12, 0, 0, 0] : Bytes) .little 17 4 [] []
    = some [⟨4, 1, 12⟩] := by decide +kernel

/-- an unknown `info_type` (the probe of finding F1) ends the chain: no element, no panic -/
example : walkChain
    (#[0, 0, 0, 0,  0, 0, 0, 0,  99, 0, 0, 0,  12, 0, 0, 0] : Bytes) .little 17 4 [] []
    = some [] := by decide +kernel

/-- **C01.6** For every exception stream that could be read, whatever `number_parameters` says:
    `print`'s parameter loop prints `min(number_parameters, 15)` lines, each an existing element
    of the 15-element array, and `get_crash_address`'s `exception_information[1]` cannot panic. -/
theorem exception_print_in_bounds {b all : Bytes} {e : Endian} {x : Exception}
    (h : (readException b all e).res = .ok x) :
    (printedParams x).length = min x.numberParameters 15 ∧
    (∀ p ∈ printedParams x, p.1 < 15 ∧ x.info[p.1]? = some p.2) ∧
    (∀ w site, (crashAddressRaw x w).res ≠ .panic site) := by
  have hlen := (readException_run (H := False) (B := 0) (N := 0) b all e).ok x h
  have hp := printedParams_in_bounds x
  rw [hlen] at hp
  exact ⟨hp.1, hp.2, fun w => (crashAddressRaw_run (H := True) (B := 0) x w fun _ => by rw [hlen]; decide).noPanic trivial⟩

/-- `number_parameters = 16` (the probe of finding F4) on a readable stream: 15 lines, no panic -/
example (info : List Nat) (hl : info.length = 15) :
    (printedParams { threadId := 0, code := 0, flags := 0, record := 0, address := 0, numberParameters := 16,
                     info := info, ctxLoc := ⟨0, 0⟩, context := none }).length = 15 := by
  simp [printedParams, hl]

/-- **C01.7a** For every byte string the panic outcome of `readFull` is unreachable — `readAll`
    plus system info, every thread's / the exception's CPU context, stack lookup, last-error read,
    the printers' dump loops, the text-stream iterators (their "does not end" outcome included),
    Breakpad / assertion / macOS crash info / boot args, the crash-reason array reads. -/
theorem full_no_panic (ms : MemSizes) (hms : ms.Bounded) (b : Bytes) (hsz : SliceLen b.size) :
    ∀ site, (readFull ms b).res ≠ .panic site :=
  (readFull_run ms b).elim fun _ h => h.noPanic ⟨hms, hsz⟩

/-- **C01.7b** `readFull` always produces a value (errors of the header or of single streams are
    values inside it). -/
theorem full_total (ms : MemSizes) (hms : ms.Bounded) (b : Bytes) (hsz : SliceLen b.size) :
    ∃ r, (readFull ms b).res = .ok r :=
  (readFull_run ms b).elim fun _ h => (h.value ⟨hms, hsz⟩).imp fun _ h => h.1

/-- **C01.7c** every allocation `readFull` logs asks for at most `K = 32` times the file length. -/
theorem full_alloc_backed (ms : MemSizes) (hms : ms.Bounded) (b : Bytes) (hsz : SliceLen b.size) :
    ∀ a ∈ (readFull ms b).allocs, a.n * a.sz ≤ K * b.size :=
  (readFull_run ms b).elim fun _ h => h.big ⟨hms, hsz⟩

/-- **C01.7d** the second group adds at most 110 allocations (none for contexts, stacks, text
    iterators and printers; at most 5 per macOS crash-info record, of which there are at most 20),
    so the sum of ALL requests stays at most quadratic: the bound of `alloc_total_quadratic` plus
    `110 * 32 * len`. -/
theorem full_alloc_total_quadratic (ms : MemSizes) (hms : ms.Bounded) (b : Bytes) (hsz : SliceLen b.size) :
    totalBytes (readFull ms b).allocs ≤
      (21 + 10 * (b.size / 8)) * (K * b.size) + (11 * b.size + (b.size / 12) * (9 * b.size)) + 110 * (K * b.size) := by
  unfold readFull
  refine total_bind (alloc_total_quadratic ms hms b hsz) (fun r hr => ?_)
  split
  · rw [total_pure]; omega
  · rename_i p
    have hp := ((readAll_run ms b).elim fun _ h => (h.ok _ hr).1 p rfl).1.parsedOk
    exact total_bind_pure _ ((readExtra_run (H := True) b p hp fun _ => hsz).total trivial)

/-- **C01.8a** Complete characterisation of `MinidumpContext::read(bytes, endian, system_info)`:
    an architecture without a branch is `UnknownCpuContext`; otherwise a buffer shorter than that
    CPU's record is `ReadFailure`; otherwise the record is read from the first `wireSize` bytes —
    whatever follows is ignored — and accepted iff the CPU bits of its `context_flags`
    (`from_bits_truncate(flags & 0xffffff00)`, for 64-bit flag words after `as u32`) are exactly that
    CPU's constant. -/
theorem context_read_spec (bytes : Bytes) (e : Endian) (arch : Nat) :
    match ctxKindOfArch arch with
    | none => contextRead bytes e arch = .error .unknownCpu
    | some k =>
      if bytes.size < k.wireSize then contextRead bytes e arch = .error .readFailure
      else ∃ vs flags, readFields k.layout bytes 0 e = some vs ∧ getField? k.layout vs "context_flags" = some flags ∧
        contextRead bytes e arch =
          if contextFlagsCpu flags = k.cpuFlag then .ok ⟨k, vs, flags⟩ else .error .readFailure := by
  cases hk : ctxKindOfArch arch with
  | none => exact contextRead_unknown hk
  | some k =>
    simp only
    split
    · rename_i h; exact contextRead_short hk h
    · rename_i h; exact contextRead_fits hk (by omega)

/-- **C01.8b** the architectures with a branch, and the accepted record sizes (bytes) -/
theorem context_record_sizes :
    (∀ a k, ctxKindOfArch a = some k →
      a = 0 ∨ a = 10 ∨ a = 9 ∨ a = 3 ∨ a = 32770 ∨ a = 32769 ∨ a = 5 ∨ a = 12 ∨ a = 32771 ∨ a = 1) ∧
    CtxKind.x86.wireSize = 716 ∧ CtxKind.amd64.wireSize = 1232 ∧ CtxKind.arm.wireSize = 368 ∧
    CtxKind.arm64.wireSize = 912 ∧ CtxKind.arm64Old.wireSize = 796 ∧ CtxKind.mips.wireSize = 600 ∧
    CtxKind.ppc.wireSize = 1004 ∧ CtxKind.ppc64.wireSize = 1160 ∧ CtxKind.sparc.wireSize = 584 ∧
    (∀ k : CtxKind, Layout.size k.layout = k.wireSize) :=
  ⟨fun _ _ h => ctxKindOfArch_some h, by simpa only [and_assoc] using And.intro ctx_sizes_as_documented size_ctx⟩

/-- **C01.8c** no out-of-bounds read: an accepted context lies inside the bytes it was read from,
    and `get_instruction_pointer`, `get_stack_pointer` and the registers `print` reaches by index
    (`iregs[..29]`, `iregs[29]`, `iregs[30]`, the twelve MIPS registers) exist in its arrays. -/
theorem context_in_bounds {bytes : Bytes} {e : Endian} {arch : Nat} {c : Context}
    (h : contextRead bytes e arch = .ok c) :
    c.kind.wireSize ≤ bytes.size ∧ contextFlagsCpu c.flags = c.kind.cpuFlag ∧
    (∀ site, c.ip.res ≠ .panic site) ∧ (∀ site, c.sp.res ≠ .panic site) ∧
    (∀ site, (ctxPrintReads c).res ≠ .panic site) := by
  have ⟨_, h2, _, h4, _, h6⟩ := contextRead_ok h
  exact ⟨h2, h6, (ctx_ip_run (H := True) (B := 0) c h4).noPanic trivial, (ctx_sp_run (H := True) (B := 0) c h4).noPanic trivial,
    (ctxPrintReads_run (H := True) (B := 0) c h4).noPanic trivial⟩

/-- the value / the error of an outcome (for the examples below: `Res` has no decidable equality) -/
def resValue {α : Type} : Res α → Option α
  | .ok a => some a
  | _ => none
def resError {α : Type} : Res α → Option Err
  | .err e => some e
  | _ => none

/-- outcome of a context read as a word (for the examples below) -/
def ctxOutcome : Except CtxErr Context → String
  | .ok c => c.kind.name
  | .error .readFailure => "ReadFailure"
  | .error .unknownCpu => "UnknownCpuContext"

/-- a 716-byte x86 record with `context_flags = CONTEXT_X86` is accepted (processor architecture 0),
    also with trailing bytes; 715 bytes are not, nor is the record under a system info that says
    AMD64; IA64 (6) has no branch -/
example :
    ctxOutcome (contextRead (((Array.replicate 716 (0 : UInt8)).set! 2 1) : Bytes) .little 0) = "X86" ∧
    ctxOutcome (contextRead (((Array.replicate 800 (0 : UInt8)).set! 2 1) : Bytes) .little 0) = "X86" ∧
    ctxOutcome (contextRead (((Array.replicate 715 (0 : UInt8)).set! 2 1) : Bytes) .little 0) = "ReadFailure" ∧
    ctxOutcome (contextRead (((Array.replicate 716 (0 : UInt8)).set! 2 1) : Bytes) .little 9) = "ReadFailure" ∧
    ctxOutcome (contextRead (((Array.replicate 716 (0 : UInt8)).set! 2 1) : Bytes) .little 6) = "UnknownCpuContext" := by
  decide +kernel

/-- **C01.9a** For every file, every byte order, every system info (or none), every memory view and
    every thread record: `MinidumpThread::context`, `stack_memory`, `last_error` (three CPUs) and the
    stack dump loop of `print` reach no panic outcome and allocate nothing. -/
theorem thread_view_total (all : Bytes) (e : Endian) (sys : Option SysInfo) (mv : MemView) (t : Thread)
    (hsz : SliceLen all.size) :
    (∀ site, (threadX all e sys mv t).res ≠ .panic site) ∧ (threadX all e sys mv t).allocs = [] :=
  ⟨(threadX_run (B := 0) all e sys mv t id).noPanic hsz, (threadX_run (B := 0) all e sys mv t id).allocs_nil⟩

/-- **C01.9b** `MinidumpMemoryListBase::from_regions` never fails, for ANY list of regions (C08's
    `into_rangemap_safe` theorem carried over to the reader). -/
theorem memory_table_never_fails (rs : List Region) : ∀ site, (memTable rs).res ≠ .panic site :=
  (memTable_run (H := True) (B := rs.length * 32) rs (fun _ => Nat.le_refl _)).noPanic trivial

/-- **C01.9c** the dump loops of the printers (`offset += chunk_size` per stack word,
    `offset += 16` per paragraph) cannot overflow and the `try_into().unwrap()` of a stack word
    cannot fail, for every CPU and every buffer a slice can be. -/
theorem print_loops_total (cpu : CpuKind) (len : Nat) (h : SliceLen len) :
    (∀ site, (printStackWords cpu len).res ≠ .panic site) ∧ (∀ site, (printContents len).res ≠ .panic site) :=
  ⟨(printStackWords_run (H := True) (B := 0) cpu len (fun _ => h)).noPanic trivial,
   (printContents_run (H := True) (B := 0) len (fun _ => h)).noPanic trivial⟩

/-- **C01.10a** For every stream and every separator: the iterator of `linux_list_iter` driven to
    the end reaches no panic outcome (no slice index out of range in `split_once`,
    `trim_ascii_whitespace`, `strip_quotes`; no `idx + 1` overflow), ENDS — it yields a list of at
    most `len + 1` pairs, the "does not end" outcome is unreachable with `len + 1` iterations, each of
    which consumes at least one byte —, allocates nothing, and every key and value it hands out is a
    sub-slice of the stream with the key before the value. -/
theorem text_iter_total (b : Bytes) (sep : UInt8) (hsz : SliceLen b.size) :
    ∃ l, (linuxListIter b sep).res = .ok l ∧ l.length ≤ b.size + 1 ∧ (linuxListIter b sep).allocs = [] ∧
      ∀ kv ∈ l, kv.1.1 ≤ kv.1.2 ∧ kv.1.2 < kv.2.1 ∧ kv.2.1 ≤ kv.2.2 ∧ kv.2.2 ≤ b.size := by
  have hrun := linuxListIter_run (H := True) (B := 0) (E := False) b sep (fun _ => hsz)
  obtain ⟨l, hm, h1, h2⟩ := hrun.value trivial
  refine ⟨l, hm, h2, hrun.allocs_nil, fun kv hkv => ?_⟩
  obtain ⟨⟨_, a2, _⟩, ⟨_, c2, c3⟩, d⟩ := h1 kv hkv
  exact ⟨a2, d, c2, c3⟩

/-- **C01.10b** the same for `MinidumpLinuxProcLimits::iter` (plain `lines()`). -/
theorem lines_iter_total (b : Bytes) :
    ∃ l, (linesIter b).res = .ok l ∧ l.length ≤ b.size + 1 ∧ (linesIter b).allocs = [] ∧
      ∀ sp ∈ l, sp.1 ≤ sp.2 ∧ sp.2 ≤ b.size := by
  have hrun := linesIter_run (H := True) (B := 0) (E := False) b
  obtain ⟨l, hm, h1, h2⟩ := hrun.value trivial
  exact ⟨l, hm, h2, hrun.allocs_nil, fun sp hsp => ⟨(h1 sp hsp).2.1, (h1 sp hsp).2.2⟩⟩

/-- `DISTRIB_ID = "Ubuntu"` (blanks around the separator, quoted value), a line without separator,
    a lone quote as value (the input of seeded change C01-2b), CR LF -/
example : resValue (linuxListIter ("DISTRIB_ID = \"Ubuntu\"\nno separator\nK=\"\r\n".toUTF8.data : Bytes) SEP_EQUALS).res =
    some [((0, 10), (14, 20)), ((35, 36), (37, 38))] := by decide +kernel

/-- **C01.11a** macOS crash info: for every stream and file no panic outcome; the record loop runs at
    most 20 times and every record reads at most 5 C strings, whatever `record_count` says, so at most
    100 strings are copied, each at most as long as the file; the C-string scan ends (`len + 1` steps
    always suffice: more fuel never changes its answer); the printer's `self.raw[i]` is in bounds. -/
theorem mac_crash_info_total (b all : Bytes) (e : Endian) :
    (∀ site, (readMacCrashInfo b all e).res ≠ .panic site) ∧
    (∀ a ∈ (readMacCrashInfo b all e).allocs, a.n * a.sz ≤ all.size) ∧
    (readMacCrashInfo b all e).allocs.length ≤ 100 ∧
    (∀ rec off extra, cstringScan rec (rec.size + 1 + extra) off = cstringScan rec (rec.size + 1) off) ∧
    (∀ rs, ∀ site, (macPrint rs).res ≠ .panic site) :=
  have h := readMacCrashInfo_run (H := True) (B := all.size) b all e (fun _ => Nat.le_refl _)
  ⟨h.noPanic trivial, h.big trivial, h.cnt, cstringScan_fuel_irrelevant,
   fun rs => (macPrint_run (H := True) (B := 0) rs).noPanic trivial⟩

/-- **C01.11b** Breakpad info, assertion info (`&data[..len]` of the three 128-unit arrays) and the
    boot-args reader reach no panic outcome on any bytes. -/
theorem small_streams_total (b all : Bytes) (e : Endian) (hsz : SliceLen all.size) :
    (∀ site, (readBreakpadInfo b e).res ≠ .panic site) ∧ (∀ site, (readAssertion b e).res ≠ .panic site) ∧
    (∀ data : List Nat, ∀ site, (utf16ToString data).res ≠ .panic site) ∧
    (∀ site, (readMacBootargs b all e).res ≠ .panic site) :=
  ⟨(readBreakpadInfo_run (H := True) (B := 0) b e).noPanic trivial,
   (readAssertion_run (H := True) b e (fun _ => Nat.le_refl _)).noPanic trivial,
   fun data => (utf16ToString_run (H := True) (E := True) data (fun _ => Nat.le_refl _)).noPanic trivial,
   (readMacBootargs_run (H := True) b all e (fun _ => ⟨hsz, Nat.le_refl _⟩)).noPanic trivial⟩

/-- **C01.11c** `get_crash_reason` / `get_crash_address` index `exception_information[0..=2]` of an
    exception stream that could be read: always in bounds. -/
theorem crash_reason_reads_in_bounds {b all : Bytes} {e : Endian} {x : Exception}
    (h : (readException b all e).res = .ok x) : ∀ site, (reasonInputs x).res ≠ .panic site :=
  (reasonInputs_run (H := True) (B := 0) x fun _ => by
    rw [(readException_run (H := False) (B := 0) (N := 0) b all e).ok x h]; decide).noPanic trivial

/-- a version-5 record whose string table ends early (4 of 5 terminators): an error value, no panic -/
example : resError (readCStrings ("a\x00b\x00c\x00d\x00e".toUTF8.data : Bytes) 5 0).res = some .StreamReadFailure := by decide +kernel

/-- **C01.12a** For every stream and byte order: `MinidumpMiscInfo::read` followed by `print` (and
    `process_create_time`) reaches no panic outcome — `&data[..len]` of the three kinds of fixed UTF-16
    arrays (`standard_name` / `daylight_name` : 32 units, `build_string` : 260, `dbg_bld_str` : 40),
    `1 << cur_idx` and `features[cur_idx]` of the XSTATE loop —, makes at most 4 allocations (the
    decoded strings), each at most 7 x the stream; a stream that reads is one of the five revisions
    with exactly that struct's scalars, and the struct fits the stream. -/
theorem misc_info_total (b : Bytes) (e : Endian) :
    (∀ site, (readMiscInfoX b e).res ≠ .panic site) ∧
    (∀ a ∈ (readMiscInfoX b e).allocs, a.n * a.sz ≤ 7 * b.size) ∧ (readMiscInfoX b e).allocs.length ≤ 4 ∧
    (∀ mi, (readMiscInfo b e).res = .ok mi →
      1 ≤ mi.ver ∧ mi.ver ≤ 5 ∧ mi.vals.length = (miscLayout mi.ver).length ∧ Layout.size (miscLayout mi.ver) ≤ b.size) ∧
    (∀ data : List Nat, ∀ site, (utf16ToString data).res ≠ .panic site) :=
  have hx := readMiscInfoX_run (H := True) b e (fun _ => Nat.le_refl _)
  ⟨hx.noPanic trivial, hx.big trivial, hx.cnt,
   fun mi h => have hok := (readMiscInfo_run (H := True) (B := 0) b e).ok mi h; ⟨hok.ver.1, hok.ver.2, hok.len, hok.fits⟩,
   fun data => (utf16ToString_run (H := True) (E := True) data (fun _ => Nat.le_refl _)).noPanic trivial⟩

/-- **C01.12b** `XstateFeatureIter` (the loop `print` drives over `xstate_data`) is total and exact: on
    the 131 scalars of the field it ends without panic — no shift by 64, no index past the 64
    entries — and yields exactly the set bits of `enabled_features` in ascending order, bit 63
    included, each with its `features[i]` (offset, size). -/
theorem xstate_iter_exact (vals : List Nat) (h : 131 ≤ vals.length) :
    (xstateIter vals).res = .ok ((List.range 64).filterMap fun i =>
      if (fld vals 2).testBit i then some (i, fld vals (3 + 2 * i), fld vals (4 + 2 * i)) else none) := by
  unfold xstateIter
  have hlen : 64 ≤ (pairsOf (vals.drop 3)).length := by
    rw [pairsOf_length]; simp only [List.length_drop]; omega
  rw [xstateIterGo_eq _ _ _ _ _ (by decide) (by simpa [XSTATE_FEATURES_LEN] using hlen)]
  simp only [List.reverse_nil, List.nil_append, xstateExpected, XSTATE_FEATURES_LEN]
  rw [List.range_eq_range']
  congr 1
  apply List.filterMap_congr_mem
  intro i hi
  have hi' : i < 64 := by
    have := List.mem_range'.mp hi
    omega
  rw [pairsOf_getElem? (vals.drop 3) i (by simp only [List.length_drop]; omega)]
  simp only [Option.map_some, fld, List.getD_eq_getElem?_getD, List.getElem?_drop]
  have e : 3 + (2 * i + 1) = 4 + 2 * i := by omega
  rw [e]

/-- all 64 features enabled: 64 entries, the last one is feature 63 -/
example : (resValue (xstateIter ([0, 0, 2 ^ 64 - 1] ++ (List.range 128))).res).map (fun l => (l.length, l.getLast?)) =
    some (64, some (63, 126, 127)) := by decide +kernel

/-- **C01.13a `maps_panics_iff`** For every stream: `MinidumpLinuxMaps::read` (procfs-core 0.17's
    `MemoryMaps::from_read`, then `from_regions`) reaches a panic outcome **iff** the text is
    `MapsHostile` — a decidable property of the text: the first line the parser does not accept is
    (1) a map-entry line whose path column starts with `[stack:` and ends in a non-ASCII byte,
    (2) one whose path column starts with `/SYSV` and has no bytes 5..13 (shorter than 13 bytes, or a
    character straddles index 13), or (3) behind a map entry, an attribute line `Key: <v> <suffix>`
    with `v * 1024 > u64::MAX`. `guarded = true` (the proposed repair in place): never. -/
theorem maps_panics_iff (guarded : Bool) (b : Bytes) :
    (∃ site, (readLinuxMapsG guarded b).res = .panic site) ↔ guarded = false ∧ MapsHostile b.toList :=
  readLinuxMapsG_panic_iff guarded b

/-- **C01.13b `maps_total_of_not_hostile`** On every other text the reader yields a value or an error
    value. -/
theorem maps_total_of_not_hostile (guarded : Bool) (b : Bytes) (h : ¬ MapsHostile b.toList) :
    (∃ m, (readLinuxMapsG guarded b).res = .ok m) ∨ (∃ er, (readLinuxMapsG guarded b).res = .err er) := by
  cases hr : (readLinuxMapsG guarded b).res with
  | ok m => exact .inl ⟨m, rfl⟩
  | err er => exact .inr ⟨er, rfl⟩
  | panic s => exact absurd ((maps_panics_iff guarded b).mp ⟨s, hr⟩).2 h

/-- **C01.13c** what `MapsHostile` says, spelled out: the lines split into a run of ACCEPTED lines,
    then one line of one of the three shapes (in the parser state the run leaves), then anything. A
    hostile-looking line behind a line the parser rejects is never reached. -/
theorem maps_hostile_iff_exists (text : List UInt8) :
    MapsHostile text ↔
      ∃ pre l post cur, textLines text = pre ++ l :: post ∧ acceptedRun pre false = some cur ∧ HostileLine cur l = true :=
  hostileFrom_iff_exists (textLines text) false

/-- **C01.13d** the reader modelled here IS C02's (`MdModel.Dump2.readLinuxMaps`, for which C02 proves
    the round trip): same entries, same error, same panic site — `readLinuxMapsX` adds the
    allocation log and the lookup table. -/
theorem maps_reader_is_c02s (b : Bytes) :
    (match (readLinuxMapsX b).res with
     | .ok m => Res.ok m.entries
     | .err e => .err e
     | .panic s => .panic s) = (match (readLinuxMaps b).res with
     | .ok es => Res.ok es
     | .err e => .err e
     | .panic s => .panic s) := by
  rw [readLinuxMapsX_res, mapsLoopX_res]
  unfold readLinuxMaps
  cases (mapsLoop (textLines b.toList) false []).res <;> rfl

/-- **C01.13e** allocations of the maps reader on EVERY path, the panicking one included: each is
    backed by the stream (`<= 32 x len`: a line's `String`, the entry vector — an entry needs five
    blanks and a line terminator —, the lookup table), and there are at most `4 x len + 6`; the
    lookups `memory_info_at_address` stay inside the entry vector. -/
theorem maps_alloc_backed (guarded : Bool) (b : Bytes) :
    (∀ a ∈ (readMapsOutG guarded b).allocs, a.n * a.sz ≤ 32 * b.size) ∧
    (readMapsOutG guarded b).allocs.length ≤ 4 * b.size + 6 ∧
    (∀ m, (readLinuxMapsG guarded b).res = .ok m → m.entries.length * 6 ≤ b.size + 1 ∧
      ∀ a site, (mapsInfoAt m a).res ≠ .panic site) :=
  have hout := readMapsOutG_run guarded b (Nat.le_refl _)
  ⟨hout.big trivial, hout.cnt, fun m hm =>
    have h := (readLinuxMapsG_run guarded b (Nat.le_refl _)).ok m hm
    ⟨h.2.1, fun a => (mapsInfoAt_run (B := 0) (E := True) m a).noPanic h.1⟩⟩

/-- **C01.13f `maps_guard_correct`** the proposed repair (`maps_text_is_safe`, modelled as
    `mapsGuardOk`; notes/pending-fix-procfs-mmappath.diff) is SOUND — every text on which the
    unguarded reader panics is refused, so the guarded reader never panics — and TIGHT — a stream
    reads with the guard exactly when it read without it, with the same result. -/
theorem maps_guard_correct (b : Bytes) :
    (MapsHostile b.toList → mapsGuardOk (textLines b.toList) = false) ∧
    (∀ site, (readLinuxMapsG true b).res ≠ .panic site) ∧
    (∀ m, (readLinuxMapsG true b).res = .ok m ↔ (readLinuxMapsG false b).res = .ok m) :=
  ⟨fun h => guard_sound _ _ h,
   fun site hs => Bool.noConfusion ((maps_panics_iff true b).mp ⟨site, hs⟩).1,
   fun m => readLinuxMapsG_true_ok_iff b m⟩

/-- the UTF-8 bytes of a literal from its characters: through `toUTF8` the kernel builds the
    `ByteArray` byte by byte, quadratically in the length -/
private theorem toList_data_toUTF8_ofList (l : List Char) :
    (String.ofList l).toUTF8.data.toList = l.flatMap String.utf8EncodeChar := by
  rw [String.toUTF8_eq_toByteArray, String.toByteArray_ofList, List.utf8Encode, List.toList_data_toByteArray]

/-- the three witnesses of the finding are hostile; a well-formed text is not; a hostile-looking line
    BEHIND a malformed line is not (the parser has stopped with an error before it gets there) -/
example :
    MapsHostile "00400000-0040b000 r-xp 00000000 08:01 1 /SYSV12\n".toUTF8.data.toList ∧
    MapsHostile "00400000-0040b000 r-xp 00000000 08:01 1 [stack:7é\n".toUTF8.data.toList ∧
    MapsHostile "00400000-0040b000 rw-p 00000000 00:00 0 [heap]\nRss: 18014398509481984 kB\n".toUTF8.data.toList ∧
    ¬ MapsHostile "00400000-0040b000 rw-p 00000000 00:00 0 [heap]\nRss: 18014398509481983 kB\nVmFlags: rd wr\n".toUTF8.data.toList ∧
    ¬ MapsHostile "bad line\n00400000-0040b000 r-xp 00000000 08:01 1 /SYSV12\n".toUTF8.data.toList ∧
    ¬ MapsHostile "Rss: 18014398509481984 kB\n".toUTF8.data.toList := by
  repeat rw [toList_data_toUTF8_ofList]
  decide +kernel

/-- **C01.14a** For every memory-info list (any regions: empty, overlapping, ending at 2^64) and every
    maps value the reader can produce: building `UnifiedMemoryInfoList`, `iter`, `by_addr` and
    `memory_info_at_address` at any addresses reach no panic outcome (`into_rangemap_safe` never
    fails: C08; `&self.regions[index]` is in bounds: every value of the table is a position of the
    region vector) and allocate once (the table). -/
theorem unified_total (info : Option (List MemInfo)) (maps : Option LinuxMapsX)
    (hm : ∀ m, maps = some m → ∃ g s, (readLinuxMapsG g s).res = .ok m) :
    (∀ site, (unifiedOut info maps).res ≠ .panic site) ∧ (unifiedOut info maps).allocs.length ≤ 1 := by
  have hmaps : ∀ m, maps = some m → MapsWF m := fun m hmm => by
    obtain ⟨g, s, hgs⟩ := hm m hmm
    exact ((readLinuxMapsG_run g s (Nat.le_refl _)).ok m hgs).1
  have hrun := unifiedOut_run (H := True) (B := (info.getD []).length * 32) (E := False) info maps
    fun _ => ⟨fun is his => by subst his; simp, hmaps⟩
  exact ⟨hrun.noPanic trivial, hrun.cnt⟩

/-- **C01.14b** For every file and every module list read from it — whatever its CodeView records
    hold: cut records, odd lengths, file names that are not UTF-8, zero / short / long build ids —
    `debug_identifier`, `code_identifier`, `debug_file` (with `from_utf8_lossy`), `version` and
    `print` of every module reach no panic outcome (`raw.signature.data4[i]` exists: a PDB 7.0
    record that reads has its 11 GUID scalars), every allocation (lossy copy, hex strings of
    `bytes_to_hex`) is at most `32 x len`, at most 4 per module. The strings themselves are C02's
    derivations (`ids_as_documented`). -/
theorem module_ids_total {ms : MemSizes} {b all : Bytes} {e : Endian} {mods : List Module} (os : Encode.Os)
    (h : (readModuleList ms b all e).res = .ok mods) :
    (∀ site, (modulesOut os e mods).res ≠ .panic site) ∧
    (∀ a ∈ (modulesOut os e mods).allocs, a.n * a.sz ≤ K * all.size) ∧
    (modulesOut os e mods).allocs.length ≤ 4 * mods.length ∧ mods.length * 108 ≤ b.size :=
  have hok := (readModuleList_run (H := False) ms b all e False.elim).ok mods h
  have hrun := modulesOut_run (H := True) (B := K * all.size) (E := False) os e mods
    fun _ => ⟨hok.1, by unfold K; omega⟩
  ⟨hrun.noPanic trivial, hrun.big trivial, hrun.cnt, hok.2⟩

/-- a PDB file name that is not UTF-8 comes out with U+FFFD per maximal invalid prefix
    (`String::from_utf8_lossy`): `ff`, a cut two-byte lead, an encoded surrogate, an overlong form -/
example :
    utf8Lossy [0x61, 0xff, 0x62] = [0x61, 0xFFFD, 0x62] ∧ utf8Lossy [0x63, 0xc3] = [0x63, 0xFFFD] ∧
    utf8Lossy [0xed, 0xa0, 0x80] = [0xFFFD, 0xFFFD, 0xFFFD] ∧ utf8Lossy [0xc0, 0x80] = [0xFFFD, 0xFFFD] ∧
    utf8Lossy [0xf0, 0x9f, 0x98, 0x41] = [0xFFFD, 0x41] ∧ utf8Lossy [0xf0, 0x9f, 0x98, 0x80] = [0x1F600] := by decide +kernel

/-- `os_parts` on a Linux dump with version 0.0.0: version and build come out of the `uname` text -/
example :
    osParts 0 0 0 Gen.LayoutsC02.PLATFORM_Linux (some (scalarsOf "Linux 5.4.0-42-generic #46-Ubuntu SMP x86_64 Linux/GNU")) =
      (scalarsOf "5.4.0-42-generic", some (scalarsOf "#46-Ubuntu SMP")) ∧
    osParts 0 0 0 Gen.LayoutsC02.PLATFORM_Linux (some (scalarsOf "Linux")) = (scalarsOf "0.0.0", some (scalarsOf "Linux")) ∧
    osParts 10 0 19041 2 (some (scalarsOf " SP1 ")) = (scalarsOf "10.0.19041", some (scalarsOf "SP1")) := by
  unfold scalarsOf
  repeat rw [String.toList_ofList]
  decide +kernel

/-- **C01.15 `context_registers_spec`** For every context `MinidumpContext::read` accepts — any bytes,
    either byte order, all nine record types — and EVERY name the register tables of its type know
    (`REGISTERS`, getter / setter arms, aliases, stack- and instruction-pointer names): the name's
    storage cell exists in the record under the layout regenerated from format.rs, with the width the
    tables state, inside the bytes read; `get_register_always(name)` and `get_register(name)` return
    the little/big-endian word at that offset; and the enumerations are total:
    `valid_registers()` lists exactly `general_purpose_registers()` in order, each with that word.
    So the name / cell / alias / validity theorems of C18 hold for contexts coming out of a dump
    (`regState c` is the register file they quantify over). -/
theorem context_registers_spec {bytes : Bytes} {e : Endian} {arch : Nat} {c : Context}
    (h : contextRead bytes e arch = .ok c) :
    (∀ n ∈ Regs.knownNames (regsCtxOf c.kind), ∃ cell off w f,
      Regs.getCell (regsCtxOf c.kind) n = some cell ∧
      layoutOffset c.kind.layout (Regs.showCell cell) = some (off, w) ∧ off + w ≤ bytes.size ∧
      Regs.fieldOf (regsCtxOf c.kind) cell.field = some f ∧ w * 8 = f.bits ∧
      Regs.getAlways (regsCtxOf c.kind) (regState c) n = .ok (decodeNat e (bytes.extract off (off + w)).toList) ∧
      Regs.getRegister (regsCtxOf c.kind) (regState c) n .all = .ok (some (decodeNat e (bytes.extract off (off + w)).toList))) ∧
    (∃ vs, Regs.mdValidRegisters (regsCtxOf c.kind) (regState c) .all = .ok vs ∧
      vs.map (·.1) = Gen.Regs.registers (regsCtxOf c.kind) ∧
      ∀ p ∈ vs, Regs.getAlways (regsCtxOf c.kind) (regState c) p.1 = .ok p.2) ∧
    (∀ site, (ctxRegisters c).res ≠ .panic site) ∧ (ctxRegisters c).allocs = [] := by
  have ⟨_, _, hread, _, _, _⟩ := contextRead_ok h
  refine ⟨fun n hn => ?_, ?_, (ctxRegisters_run (H := True) (B := 0) (E := False) c).noPanic trivial,
    (ctxRegisters_run (H := True) (B := 0) (E := False) c).allocs_nil⟩
  · obtain ⟨cell, hcell, hget⟩ := Regs.getAlways_known (regState c) hn
    obtain ⟨off, w, f, hoff, hf, hw⟩ := cell_in_layout hcell
    have ⟨hval, hfit⟩ := readFields_layoutOffset _ _ _ _ _ hread _ _ _ hoff
    simp only [Nat.zero_add] at hval hfit
    have hst : regState c cell = decodeNat e (bytes.extract off (off + w)).toList := by
      simp only [regState, hval, Option.getD_some]
    obtain ⟨_, cell', hcell', hreg⟩ := Regs.validity_all (regsCtxOf c.kind) (regState c) n hn
    rw [hcell] at hcell'
    cases hcell'
    exact ⟨cell, off, w, f, hcell, hoff, hfit, hf, hw, by rw [hget, hst], by rw [hreg, hst]⟩
  · exact (Regs.enumerations_valid (regsCtxOf c.kind) (regState c) [] (fun s hs => by cases hs)).2

/-- an x86 record whose `eip` field (offset 184) holds 0x11223344: the named register is that word -/
example :
    (match contextRead ((((((Array.replicate 716 (0 : UInt8)).set! 2 1).set! 184 0x44).set! 185 0x33).set! 186 0x22).set! 187 0x11) .little 0 with
     | .ok c => (match Regs.getRegister (regsCtxOf c.kind) (regState c) "eip" .all with
        | .ok v => v
        | .panic _ => none)
     | .error _ => none) = some 0x11223344 ∧ layoutOffset CONTEXT_X86 "eip" = some (184, 4) := by decide +kernel

/-- **C01.16a `whole_panics_iff`** For every byte string: opening it, requesting every stream,
    every accessor and printer computation modelled (`readWhole`) reaches a panic outcome **iff** the
    repository under test still hands Linux maps to procfs-core unguarded AND the file has a
    Linux-maps stream whose text is `MapsHostile` — the known finding, and nothing else. -/
theorem whole_panics_iff (ms : MemSizes) (hms : ms.Bounded) (b : Bytes) (hsz : SliceLen b.size) :
    (∃ site, (readWhole ms b).res = .panic site) ↔
      Gen.MapsGuard.MAPS_GUARDED = false ∧ ∃ d, readDump b = .ok d ∧ MapsStreamHostile b d :=
  (readWholeWith_panic_iff false ms hms b hsz).trans ⟨fun h => h.2, fun h => ⟨rfl, h⟩⟩

/-- **C01.16b** and otherwise it yields a value (errors of the header or of single streams are values) -/
theorem whole_total_of_not_hostile (ms : MemSizes) (hms : ms.Bounded) (b : Bytes) (hsz : SliceLen b.size)
    (h : Gen.MapsGuard.MAPS_GUARDED = true ∨ ∀ d, readDump b = .ok d → ¬ MapsStreamHostile b d) :
    ∃ r, (readWhole ms b).res = .ok r := by
  obtain ⟨_, hrun⟩ := readWholeWith_run false ms b
  cases hr : (readWhole ms b).res with
  | ok r => exact ⟨r, rfl⟩
  | err e => exact (hrun.err e hr).elim
  | panic s =>
    have ⟨hg, d, hd, hh⟩ := (whole_panics_iff ms hms b hsz).mp ⟨s, hr⟩
    cases h with
    | inl h => rw [hg] at h; cases h
    | inr h => exact absurd hh (h d hd)

/-- **C01.16c** every allocation `readWhole` logs is at most `K = 32` times the file length — on
    every path, the panicking one included. -/
theorem whole_alloc_backed (ms : MemSizes) (hms : ms.Bounded) (b : Bytes) (hsz : SliceLen b.size) :
    ∀ a ∈ (readWhole ms b).allocs, a.n * a.sz ≤ K * b.size :=
  (readWholeWith_run false ms b).elim fun _ h => h.big ⟨hms, hsz⟩

/-- **C01.16d** the third group adds at most `5 x len + 11` allocations, so the sum of ALL requests
    stays at most quadratic: the bound of `full_alloc_total_quadratic` plus `(5 len + 11) x 32 len`. -/
theorem whole_alloc_total_quadratic (ms : MemSizes) (hms : ms.Bounded) (b : Bytes) (hsz : SliceLen b.size) :
    totalBytes (readWhole ms b).allocs ≤
      (21 + 10 * (b.size / 8)) * (K * b.size) + (11 * b.size + (b.size / 12) * (9 * b.size)) + 110 * (K * b.size)
        + (5 * b.size + 11) * (K * b.size) := by
  unfold readWhole readWholeWith
  refine total_bind (full_alloc_total_quadratic ms hms b hsz) (fun r hr => ?_)
  split
  · rw [total_pure]; omega
  · rename_i f
    have hp2 := ((readFull_run ms b).elim fun _ h => (h.ok _ hr).1 f rfl).1.parsedOk2
    exact total_bind_pure _ (((readMore_run false b f hp2).mono (by have := modulesRead_le hp2; omega)).total trivial)

/-- **C01.16e** the driver renders a panicking input from the run in which the Linux-maps operation is
    wrapped the way the harness wraps it (`catch_unwind`, `readWholeWith true`); on every input that
    does not panic the two runs are the same value with the same allocation log. -/
theorem whole_render_faithful (ms : MemSizes) (b : Bytes) (h : ¬ ∃ site, (readWhole ms b).res = .panic site) :
    readWholeWith true ms b = readWhole ms b :=
  readWholeWith_caught_eq ms b h

end MdModel.Dump
