/-
  C06 inside the stack-walk environment, part 1: the invariant that makes the bridge applicable to
  EVERY frame of EVERY walk.

  `walkerOf_related` (the simulation relation between the walker model's callee frame and a C06
  `Walker` is inhabited) needs two facts about the callee context: its validity set names only
  registers of the context type (`ValidWf`) and its raw registers are 64-bit values (`Regs64`).
  `CtxOk` is their conjunction; this file proves that every technique of every architecture returns
  such a context when it is given one — STACK CFI (`cfiOf_ok`), frame pointer (`byFp_ok`), scan
  (`byScan_ok'`) — so that it holds of every frame of `walk` as soon as it holds of the context
  frame (`walk_ctxOk`, in Lemmas/CfiEnv).
-/
import MdProofs.Lemmas.CfiBridgeSpec
import MdProofs.Lemmas.WalkCfiChain
namespace MdModel.CfiBridge
open MdModel

theorem canon_eff (a : Walk.Arch) (c : Walk.Ctx) (n : String) : (Walk.effArch a c).canon n = a.canon n := by
  cases a <;> simp [Walk.effArch, Walk.Arch.isMips] <;> split <;> rfl

structure CtxOk (a : Walk.Arch) (c : Walk.Ctx) : Prop where
  valid : ValidWf a c
  ip : c.ip < 2 ^ 64
  sp : c.sp < 2 ^ 64
  rest : ∀ p ∈ c.rest, p.2 < 2 ^ 64

theorem validWf_eff (a : Walk.Arch) (c' c : Walk.Ctx) : ValidWf (Walk.effArch a c') c ↔ ValidWf a c := by
  unfold ValidWf
  cases c.valid with
  | none => exact Iff.rfl
  | some which => simp only [canon_eff]

theorem CtxOk.of_eff {a : Walk.Arch} {c c' : Walk.Ctx} (h : CtxOk (Walk.effArch a c') c) : CtxOk a c :=
  ⟨(validWf_eff a c' c).mp h.valid, h.ip, h.sp, h.rest⟩

def Regs64 (c : Walk.Ctx) : Prop := c.ip < 2 ^ 64 ∧ c.sp < 2 ^ 64 ∧ ∀ p ∈ c.rest, p.2 < 2 ^ 64

theorem CtxOk.regs {a : Walk.Arch} {c : Walk.Ctx} (h : CtxOk a c) : Regs64 c := ⟨h.ip, h.sp, h.rest⟩

theorem Regs64.get_lt {c : Walk.Ctx} (h : Regs64 c) (a : Walk.Arch) (n : String) (v : Nat)
    (hg : c.get a n = some v) : v < 2 ^ 64 :=
  reg64_of_ctx ⟨a, c, default⟩ h.1 h.2.1 h.2.2 n v hg

theorem Regs64.rawC_lt {c : Walk.Ctx} (h : Regs64 c) (a : Walk.Arch) (s : String) : rawC a c s < 2 ^ 64 := by
  unfold rawC
  split
  · exact h.1
  · split
    · exact h.2.1
    · exact Nat.lt_of_le_pred (Nat.two_pow_pos 64) (Walk.assocGet_le _ _ fun p hp => Nat.le_pred_of_lt (h.2.2 p hp))

theorem Regs64.raw_lt {c : Walk.Ctx} (h : Regs64 c) (a : Walk.Arch) (n : String) : c.raw a n < 2 ^ 64 :=
  Nat.lt_of_le_pred (Nat.two_pow_pos 64)
    (Walk.raw_le (Nat.le_pred_of_lt h.1) (Nat.le_pred_of_lt h.2.1) (fun p hp => Nat.le_pred_of_lt (h.2.2 p hp)) n)

theorem mem_assocSet {l : List (String × Nat)} {k : String} {v : Nat} {p : String × Nat}
    (h : p ∈ Walk.assocSet l k v) : p ∈ l ∨ p = (k, v) := by
  induction l with
  | nil => simp only [Walk.assocSet, List.mem_singleton] at h; exact .inr h
  | cons q t ih =>
    obtain ⟨k', v'⟩ := q
    simp only [Walk.assocSet] at h
    split at h
    · rcases List.mem_cons.mp h with h | h
      · exact .inr h
      · exact .inl (List.mem_cons_of_mem _ h)
    · rcases List.mem_cons.mp h with h | h
      · exact .inl (h ▸ List.mem_cons_self)
      · rcases ih h with h | h
        · exact .inl (List.mem_cons_of_mem _ h)
        · exact .inr h

theorem set_some {a : Walk.Arch} {c c' : Walk.Ctx} {n : String} {v : Nat} (h : c.set a n v = some c') :
    c'.valid = c.valid ∧ c'.m64 = c.m64 ∧ (Regs64 c → v < 2 ^ 64 → Regs64 c') := by
  revert h
  -- one goal per branch of the definition; `cases h` closes those that return `none`
  fun_cases Walk.Ctx.set a c n v <;> intro h <;> cases h
  · exact ⟨rfl, rfl, fun hc hv => ⟨hv, hc.2.1, hc.2.2⟩⟩
  · exact ⟨rfl, rfl, fun hc hv => ⟨hc.1, hv, hc.2.2⟩⟩
  · refine ⟨rfl, rfl, fun hc hv => ⟨hc.1, hc.2.1, fun p hp => ?_⟩⟩
    rcases mem_assocSet hp with hp | rfl
    · exact hc.2.2 p hp
    · exact hv

theorem leAt_lt (m : Walk.Mem) (w : Nat) : ∀ off, m.leAt off w < 256 ^ w :=
  fun off => Walk.Mem.leAt_lt m off w

theorem read_lt {m : Walk.Mem} {a w v : Nat} (h : m.read a w = some v) (hw : w ≤ 8) : v < 2 ^ 64 :=
  (Walk.Mem.read_eq_some_iff.mp h).2.2 ▸ Walk.Mem.wordAt_lt_two_pow _ _ hw

structure OutOk (a : Walk.Arch) (o : Walk.CfiOut) : Prop where
  names : ∀ n ∈ o.valid, a.canon n = some n
  regs : Regs64 o.ctx

theorem canon_tables (a : Walk.Arch) : ∀ n ∈ Walk.techNames a, (a.canon n).isSome = true := by
  have h : ([Walk.Arch.x86, .amd64, .arm, .arm64, .arm64old, .mips32, .mips64].all fun a =>
      (Walk.techNames a).all fun n => (a.canon n).isSome) = true := by
    decide +kernel
  exact List.all_eq_true.mp (List.all_eq_true.mp h a (by cases a <;> simp))

theorem forwarded_canon (a : Walk.Arch) (c : Walk.Ctx) : ∀ n ∈ Walk.forwarded a c, a.canon n = some n := by
  intro n hn
  unfold Walk.forwarded at hn
  have hn : n ∈ a.calleeSaved := by cases a <;> exact (List.mem_filter.mp hn).1
  exact (Walk.canon_calleeSaved (List.contains_iff_mem.mpr hn)).1

theorem OutOk.init {a a' : Walk.Arch} {c : Walk.Ctx} (h : CtxOk a' c) :
    OutOk a ⟨c, Walk.forwarded a c⟩ :=
  ⟨forwarded_canon a c, h.regs⟩

theorem OutOk.afterCfaRa {a : Walk.Arch} {o : Walk.CfiOut} (h : OutOk a o) {cfa ra : Nat}
    (h1 : cfa ≤ a.regMax) (h2 : ra ≤ a.regMax) : OutOk a (CfiBridge.afterCfaRa a o cfa ra) := by
  have := Walk.regMax_lt a
  refine ⟨fun n hn => ?_, by show ra < _; omega, by show cfa < _; omega, h.regs.2.2⟩
  rcases Walk.mem_setInsert.mp hn with hn | rfl
  · rcases Walk.mem_setInsert.mp hn with hn | rfl
    · exact h.names n hn
    · exact Walk.spName_canon a
  · exact Walk.ipName_canon a

theorem setReg_some {a : Walk.Arch} {o o' : Walk.CfiOut} {n : String} {v : Nat} (hs : o.setReg a n v = some o') :
    ∃ m c, a.canon n = some m ∧ v ≤ a.regMax ∧ o.ctx.set a n v = some c ∧
      o' = ⟨c, Walk.setInsert o.valid m⟩ := by
  revert hs
  fun_cases Walk.CfiOut.setReg a o n v <;> intro hs <;> cases hs
  rename_i m hm hv c hc
  exact ⟨m, c, hm, by omega, hc, rfl⟩

theorem OutOk.setReg {a : Walk.Arch} {o o' : Walk.CfiOut} (h : OutOk a o) {n : String} {v : Nat}
    (hs : o.setReg a n v = some o') : OutOk a o' := by
  obtain ⟨m, c, hm, hv, hc, rfl⟩ := setReg_some hs
  have := Walk.regMax_lt a
  refine ⟨fun n' hn' => ?_, (set_some hc).2.2 h.regs (by omega)⟩
  rcases Walk.mem_setInsert.mp hn' with hn' | rfl
  · exact h.names n' hn'
  · exact canon_idem a n _ hm

theorem OutOk.clearReg {a : Walk.Arch} {o : Walk.CfiOut} (h : OutOk a o) (n : String) :
    OutOk a (o.clearReg a n) := by
  unfold Walk.CfiOut.clearReg
  split
  · exact h
  · exact ⟨fun n' hn' => h.names n' (List.mem_filter.mp hn').1, h.regs⟩

theorem stepW_cases (x : Walk.CfiIn) (cfa : Nat) (o : Walk.CfiOut) (p : String × List Walk.ETok) :
    stepW x cfa o p = o.clearReg x.arch p.1 ∨ ∃ v, o.setReg x.arch p.1 v = some (stepW x cfa o p) := by
  unfold stepW
  split
  · split
    · exact .inr ⟨_, ‹_›⟩
    · exact .inl rfl
  · exact .inl rfl

theorem OutOk.stepW {x : Walk.CfiIn} {o : Walk.CfiOut} (h : OutOk x.arch o) (cfa : Nat)
    (p : String × List Walk.ETok) : OutOk x.arch (CfiBridge.stepW x cfa o p) := by
  rcases stepW_cases x cfa o p with e | ⟨_, e⟩
  · rw [e]; exact h.clearReg _
  · exact h.setReg e

theorem walkCfi_shape {x : Walk.CfiIn} {o0 o : Walk.CfiOut} {init : String} {adds : List String}
    (h : Walk.walkCfi x o0 init adds = some o) :
    ∃ (cfa ra : Nat) (l : List (String × List Walk.ETok)), cfa ≤ x.arch.regMax ∧ ra ≤ x.arch.regMax ∧
      o = l.foldl (stepW x cfa) (afterCfaRa x.arch o0 cfa ra) := by
  revert h
  fun_cases Walk.walkCfi x o0 init adds <;> intro h <;> cases h
  rename_i cfa _ ra _ hfit _ _
  have hfit : ¬(cfa > x.arch.regMax ∨ ra > x.arch.regMax) := hfit
  exact ⟨cfa, ra, _, by omega, by omega, rfl⟩

theorem walkFrameCfi_shape {sf : Walk.SymFile} {ct : List RangeMap.Entry} {base : Nat} {x : Walk.CfiIn}
    {o0 o : Walk.CfiOut} {instr : Nat} (h : Walk.walkFrameCfi sf ct base x o0 instr = some o) :
    ∃ (cfa ra : Nat) (l : List (String × List Walk.ETok)), cfa ≤ x.arch.regMax ∧ ra ≤ x.arch.regMax ∧
      o = l.foldl (stepW x cfa) (afterCfaRa x.arch o0 cfa ra) := by
  revert h
  fun_cases Walk.walkFrameCfi sf ct base x o0 instr
  · intro h; cases h
  · intro h; cases h
  · intro h; cases h
  · exact walkCfi_shape

theorem walkFrameCfi_ok {sf : Walk.SymFile} {ct : List RangeMap.Entry} {base : Nat} {x : Walk.CfiIn}
    {o0 o : Walk.CfiOut} {instr : Nat} (h0 : OutOk x.arch o0)
    (h : Walk.walkFrameCfi sf ct base x o0 instr = some o) : OutOk x.arch o := by
  obtain ⟨cfa, ra, l, h1, h2, rfl⟩ := walkFrameCfi_shape h
  exact List.foldlRecOn l _ (h0.afterCfaRa h1 h2) fun _ ho p _ => ho.stepW cfa p

theorem cfiWalk_ok {a a' : Walk.Arch} {w : Walk.World} {mtbl : List RangeMap.Entry}
    {ctbls : List (List RangeMap.Entry)} {mem : Walk.Mem} {callee : Walk.Frame} {o : Walk.CfiOut}
    (h0 : CtxOk a' callee.ctx) (h : Walk.cfiWalk a w mtbl ctbls mem callee = some o) : OutOk a o := by
  revert h
  fun_cases Walk.cfiWalk a w mtbl ctbls mem callee
  · intro h; cases h
  · exact walkFrameCfi_ok (x := ⟨a, callee.ctx, mem⟩) (OutOk.init h0)
  · intro h; cases h

theorem and_lt {v m : Nat} (h : v < 2 ^ 64) : v &&& m < 2 ^ 64 :=
  Nat.lt_of_le_of_lt Nat.and_le_left h

/-- one step of ARM64's pointer-authentication strip, for any register name `n` (canonical name `m`) -/
theorem strip_step (a : Walk.Arch) (mask : Nat) (c : Walk.Ctx) {n m : String} (hm : a.canon n = some m) :
    ∃ c', (if c.has a n then (c.set a n (c.raw a n &&& mask)).getD c else c) = c' ∧
      c'.valid = c.valid ∧ c'.m64 = c.m64 ∧ (Regs64 c → Regs64 c') ∧
      ∀ s, rawC a c' s = if s = m ∧ c.has a n = true then rawC a c s &&& mask else rawC a c s := by
  cases hh : c.has a n with
  | false => exact ⟨c, rfl, rfl, rfl, id, fun s => by simp⟩
  | true =>
    have hs := Walk.set_of_canon c (c.raw a n &&& mask) hm
    obtain ⟨hv, h64, hr⟩ := set_some hs
    refine ⟨_, by rw [if_pos rfl, hs]; rfl, hv, h64, fun hc => hr hc (and_lt (hc.raw_lt a n)), fun s => ?_⟩
    rw [rawC_write, Walk.raw_of_canon c hm]
    by_cases e : s = m
    · subst e; simp only [and_self, if_true]; rfl
    · simp only [e, false_and, if_false]

theorem stripPA_ok {a a' : Walk.Arch} {mask : Nat} {r : Walk.Ctx} (h : CtxOk a' r) : CtxOk a' (stripPA a mask r) := by
  have h1 : CtxOk a' { r with ip := r.ip &&& mask } := ⟨h.valid, and_lt h.ip, h.sp, h.rest⟩
  have step : ∀ (c : Walk.Ctx) (n m : String), a.canon n = some m → CtxOk a' c →
      CtxOk a' (if c.has a n then (c.set a n (c.raw a n &&& mask)).getD c else c) := by
    intro c n m hm hc
    obtain ⟨c', e, hv, _, hr, _⟩ := strip_step a mask c hm
    rw [e]
    refine ⟨?_, (hr hc.regs).1, (hr hc.regs).2.1, (hr hc.regs).2.2⟩
    have := hc.valid
    unfold ValidWf at this ⊢
    rw [hv]; exact this
  cases a <;> first | exact h | exact step _ "x29" "fp" (by decide) (step _ "x30" "lr" (by decide) h1)

theorem OutOk.toCtx {a : Walk.Arch} {o : Walk.CfiOut} (h : OutOk a o) :
    CtxOk a { o.ctx with valid := some o.valid } :=
  ⟨fun n hn => by rw [h.names n hn]; rfl, h.regs.1, h.regs.2.1, h.regs.2.2⟩

theorem cfiOf_ok {arch : Walk.Arch} {w : Walk.World} {mtbl : List RangeMap.Entry}
    {ctbls : List (List RangeMap.Entry)} {mask : Nat} {mem : Walk.Mem} {callee : Walk.Frame}
    {grand : Option Walk.Frame} {r : Walk.Ctx} (h0 : CtxOk arch callee.ctx)
    (h : Walk.cfiOf arch w mtbl ctbls mask mem callee grand = some r) : CtxOk arch r := by
  rw [cfiOf_eq] at h
  split at h
  · cases h
  · obtain ⟨o, ho, rfl⟩ := Option.map_eq_some_iff.mp h
    exact (stripPA_ok (cfiWalk_ok h0 ho).toCtx).of_eff

/-! ## frame pointer and scan keep the invariant

  Each unwinder returns a literal context on one branch of its definition; on that branch the
  instruction pointer and the saved frame pointer are words read from the stack memory and the
  stack pointer passed the unwinder's own overflow guard. -/

theorem names_arm64 (a : Walk.Arch) (ha : a = .arm64 ∨ a = .arm64old) :
    ∀ n ∈ ["pc", "x29", "sp"], (a.canon n).isSome = true := by
  rcases ha with rfl | rfl
  · exact canon_tables .arm64
  · exact canon_tables .arm64old

variable {env : Walk.Env} {os : Walk.Os} {mem : Walk.Mem} {c c' : Walk.Ctx} {t : Walk.Trust} {a0 : Walk.Arch}

theorem fpX86_ok (h : Walk.fpX86 mem c = some c') : CtxOk .x86 c' := by
  revert h
  fun_cases Walk.fpX86 mem c <;> intro h <;> cases h
  rename_i _ bp hbp ip hip cbp hcbp
  refine CtxOk.mk (canon_tables .x86) (read_lt hip (by omega)) ?_ (List.forall_mem_singleton.mpr (read_lt hcbp (by omega)))
  simp only [U32MAX] at hbp ⊢; omega

theorem resolveAmd64_lt {bp sp step : Nat} {n k ip cbp csp : Nat}
    (h : Walk.resolveAmd64 mem bp sp step n k = some (ip, cbp, csp)) : ip < 2 ^ 64 ∧ cbp < 2 ^ 64 ∧ csp < 2 ^ 64 := by
  obtain ⟨_, _, _, hip, hcbp, _, hcs, _⟩ := Walk.resolveAmd64_spec h
  exact ⟨read_lt hip (by omega), read_lt hcbp (by omega), by simp only [U64MAX] at hcs ⊢; omega⟩

theorem fpAmd64_ok (h : Walk.fpAmd64 os mem c = some c') :
    CtxOk .amd64 c' := by
  revert h
  fun_cases Walk.fpAmd64 os mem c <;> intro h <;> cases h
  rename_i _ _ bp _ r ip cbp csp hr
  have hr' : (if os = Walk.Os.windows then _ else _) = some (ip, cbp, csp) := hr
  have hlt : ip < 2 ^ 64 ∧ cbp < 2 ^ 64 ∧ csp < 2 ^ 64 := by split at hr' <;> exact resolveAmd64_lt hr'
  exact CtxOk.mk (canon_tables .amd64) hlt.1 hlt.2.2 (List.forall_mem_singleton.mpr hlt.2.1)

theorem fpArm_ok (h0 : CtxOk a0 c) (h : Walk.fpArm os mem c = some c') : CtxOk .arm c' := by
  revert h
  fun_cases Walk.fpArm os mem c <;> intro h <;> cases h
  · rename_i sp hsp _ _
    exact CtxOk.mk (canon_tables .arm) (Nat.two_pow_pos 64) (h0.regs.get_lt _ _ _ hsp) (List.forall_mem_singleton.mpr (Nat.two_pow_pos 64))
  · rename_i fp _ _ _ hfp _ cfp hcfp pc hpc
    refine CtxOk.mk (canon_tables .arm) (read_lt hpc (by omega)) ?_ (List.forall_mem_singleton.mpr (read_lt hcfp (by omega)))
    simp only [U32MAX] at hfp ⊢; omega

theorem fpArm64_ok {a : Walk.Arch} (ha : a = .arm64 ∨ a = .arm64old) (h0 : CtxOk a0 c)
    (h : Walk.fpArm64 env a mem c = some c') : CtxOk a c' := by
  revert h
  fun_cases Walk.fpArm64 env a mem c <;> intro h <;> cases h
  rename_i fp _ sp hsp hfp r cfp pc csp hr _ _ _
  have hr' : (if fp = 0 then some (0, 0, sp) else _) = some (cfp, pc, csp) := hr
  have hlt : cfp < 2 ^ 64 ∧ pc < 2 ^ 64 ∧ csp < 2 ^ 64 := by
    split at hr'
    · cases hr'; exact ⟨by decide, by decide, h0.regs.get_lt _ _ _ hsp⟩
    · split at hr'
      · cases hr'
      · rename_i hv1
        split at hr'
        · cases hr'
        · rename_i hv2
          cases hr'
          exact ⟨read_lt hv1 (by omega), read_lt hv2 (by omega), by simp only [U64MAX] at hfp ⊢; omega⟩
  exact CtxOk.mk (names_arm64 a ha) (and_lt hlt.2.1) hlt.2.2 (List.forall_mem_singleton.mpr (and_lt hlt.1))

theorem byFp_ok {a : Walk.Arch} (h0 : CtxOk a0 c) (h : Walk.byFp env a mem c = some c') : CtxOk a c' := by
  cases a <;> simp only [Walk.byFp] at h
  · exact fpX86_ok h
  · exact fpAmd64_ok h
  · exact fpArm_ok h0 h
  · exact fpArm64_ok (.inl rfl) h0 h
  · exact fpArm64_ok (.inr rfl) h0 h
  · cases h
  · cases h

theorem byScan_ok' {a : Walk.Arch} (h0 : CtxOk a0 c) (h : Walk.byScan env a mem c t = some c') : CtxOk a c' := by
  obtain ⟨_, _, _, _, vs, hs, _, _, hsp, hv, hvs, hrest⟩ := Walk.byScan_shape h
  have := Walk.regMax_lt a
  have hptr := Walk.ptr_le_eight a
  refine ⟨?_, read_lt (Walk.scanFrom_spec hs).1 hptr, by omega, fun p hp => ?_⟩
  · unfold ValidWf
    rw [hv]
    exact fun n hn => canon_tables a n (hvs n hn)
  · rcases hrest p hp with e | ⟨_, e⟩ | ⟨s, e⟩
    · rw [e]; decide
    · exact read_lt e hptr
    · rw [e]; exact h0.regs.raw_lt a s

end MdModel.CfiBridge
