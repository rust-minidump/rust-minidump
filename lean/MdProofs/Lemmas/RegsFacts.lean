/-
  C18: consequences of the table facts in the form the property theorems use them.
-/
import MdProofs.Lemmas.RegsTables
namespace MdModel.Regs
open MdModel MdModel.Gen.Regs

theorem setCell_eq_getCell (c : Ctx) (n : String) : setCell c n = getCell c n := by
  have h := assoc_map resolve (setArms c) n
  rw [arms_agree c, assoc_map] at h
  unfold setCell getCell
  revert h
  cases assoc (setArms c) n <;> cases assoc (getArms c) n <;> intro h
  · rfl
  · cases h
  · cases h
  · exact (Option.some.inj h).symm

theorem arms_same_keys (c : Ctx) : (setArms c).map (·.1) = (getArms c).map (·.1) := by
  have := congrArg (List.map (·.1)) (arms_agree c)
  simpa only [List.map_map, Function.comp_def] using this

theorem known_name_ok {c : Ctx} {n : String} (h : n ∈ knownNames c) :
    ∃ cell r, getCell c n = some cell ∧ inBounds c cell = true ∧ memoName c n = some r ∧
      r ∈ registers c ∧ getCell c r = some cell := by
  obtain ⟨cell, hg, r, hm, hb, hgr⟩ := (known_ok c n (mem_knownNames.mp h)).1
  exact ⟨cell, r, hg, hb, hm, memoName_mem_registers (arm_targets c) hm, hgr⟩

theorem memoName_register {c : Ctx} {r : String} (h : r ∈ registers c) : memoName c r = some r := by
  obtain ⟨cell, r', hg, _, hm, hr', hg'⟩ := known_name_ok (known_of_registers h)
  rw [hm, cell_inj_of_distinct (registers_distinct c) hr' h (hg'.trans hg.symm)]

structure NameFacts (c : Ctx) (n : String) (cell : Cell) (r : String) : Prop where
  getCell : getCell c n = some cell
  setCell : setCell c n = some cell
  inBounds : inBounds c cell = true
  memo : memoize c n = .ok (some r)
  canonReg : r ∈ registers c
  canonMemo : memoize c r = .ok (some r)
  canonCell : Regs.getCell c r = some cell

theorem known_facts {c : Ctx} {n : String} (h : n ∈ knownNames c) :
    ∃ cell r, NameFacts c n cell r := by
  obtain ⟨cell, r, hg, hb, hm, hr, hgr⟩ := known_name_ok h
  exact ⟨cell, r, hg, (setCell_eq_getCell c n).trans hg, hb, memoize_of_memoName hm, hr,
    memoize_of_memoName (memoName_register hr), hgr⟩

theorem facts_of_memoize {c : Ctx} {n r : String} (h : memoize c n = .ok (some r)) :
    ∃ cell, NameFacts c n cell r := by
  obtain ⟨cell, r', f⟩ := known_facts (memoize_some_known h)
  cases h.symm.trans f.memo
  exact ⟨cell, f⟩

theorem setRegister_some {c : Ctx} {st st' : State} {n : String} {v : Nat}
    (h : setRegister c st n v = .ok (some st')) :
    n ∈ knownNames c ∧ ∃ cell r, NameFacts c n cell r ∧ st' = st.write cell v := by
  by_cases hk : n ∈ (setArms c).map (·.1)
  · have hn := known_of_setKey hk
    obtain ⟨cell, r, f⟩ := known_facts hn
    rw [setRegister_of_cell st v f.setCell f.inBounds] at h
    exact ⟨hn, cell, r, f, (Option.some.inj (Outcome.ok.inj h)).symm⟩
  · rw [setRegister_unknown st v hk] at h; cases h

theorem memoize_total (c : Ctx) (n : String) : ∃ r, memoize c n = .ok r := by
  by_cases h : n ∈ knownNames c
  · obtain ⟨cell, r, f⟩ := known_facts h
    exact ⟨some r, f.memo⟩
  · exact ⟨none, memoize_unknown h⟩

theorem memoize_eq (c : Ctx) (n : String) : memoize c n = .ok (memoName c n) := by
  obtain ⟨r, hr⟩ := memoize_total c n
  rw [hr, memoName_of_memoize hr]

theorem getKey_of_known {c : Ctx} {n : String} (h : n ∈ knownNames c) : n ∈ (getArms c).map (·.1) := by
  obtain ⟨cell, r, f⟩ := known_facts h
  obtain ⟨x, hx, _⟩ := arm_of_cell f.getCell
  exact assoc_some_key_mem hx

theorem known_alias_iff {c : Ctx} {n m : String} (hn : n ∈ knownNames c) (hm : m ∈ knownNames c) :
    (memoName c n = memoName c m) ↔ (getCell c n = getCell c m) := by
  obtain ⟨cn, rn, fn⟩ := known_facts hn
  obtain ⟨cm, rm, fm⟩ := known_facts hm
  rw [memoName_of_memoize fn.memo, memoName_of_memoize fm.memo, fn.getCell, fm.getCell]
  constructor
  · intro e
    cases e
    rw [← fn.canonCell, fm.canonCell]
  · intro e
    rw [cell_inj_of_distinct (registers_distinct c) fn.canonReg fm.canonReg
      (fn.canonCell.trans (e.trans fm.canonCell.symm))]

theorem sameReg_iff_memo {c : Ctx} {n m : String} (hn : n ∈ knownNames c) (hm : m ∈ knownNames c) :
    sameReg c n m = true ↔ memoName c m = memoName c n := by
  obtain ⟨cell, r, f⟩ := known_facts hn
  unfold sameReg
  rw [f.getCell]
  simp only [Option.isSome_some, Bool.true_and, beq_iff_eq]
  rw [← f.getCell]
  rw [← known_alias_iff hn hm]
  exact eq_comm

/-- under the trait's default `memoize_register` a context type has no aliases -/
theorem sameReg_default {c : Ctx} (hd : memoArms c = some []) {n m : String} (hn : n ∈ knownNames c)
    (hm : m ∈ knownNames c) (h : sameReg c n m = true) : m = n := by
  have hself : ∀ {x r}, memoName c x = some r → r = x := by
    intro x r hx
    rw [memoName_of_arms hd] at hx
    simp only [List.lookup] at hx
    split at hx
    · exact (Option.some.inj hx).symm
    · cases hx
  have e := (sameReg_iff_memo hn hm).mp h
  obtain ⟨_, r, f⟩ := known_facts hn
  have hr := memoName_of_memoize f.memo
  rw [hr] at e
  rw [← hself hr, hself e]

theorem known_class_ok {c : Ctx} {n : String} (h : n ∈ knownNames c) (hr : isCanonRule c = false) :
    ∃ r, memoName c n = some r ∧ validNames c n = validNames c r ∧ n ∈ validNames c r ∧
      ∀ m ∈ validNames c r, memoName c m = some r := by
  rcases (known_ok c n (mem_knownNames.mp h)).2 with h' | ⟨r, hm, h'⟩
  · rw [hr] at h'; cases h'
  · exact ⟨r, hm, h'⟩

theorem validNames_contains {c : Ctx} {n m : String} (hn : n ∈ knownNames c) (hm : m ∈ knownNames c)
    (hr : isCanonRule c = false) : (validNames c n).contains m = sameReg c n m := by
  obtain ⟨r, hnr, hvn, _, hall⟩ := known_class_ok hn hr
  rw [Bool.eq_iff_iff, List.contains_iff_mem, sameReg_iff_memo hn hm, hnr, hvn]
  constructor
  · exact hall m
  · intro e
    obtain ⟨r', hmr, _, hmem, _⟩ := known_class_ok hm hr
    rw [hmr] at e
    cases e
    exact hmem

theorem isValid_some_eq {c : Ctx} {n : String} (S : List String) (hr : isCanonRule c = false) :
    isValid c n (.some S) = .ok ((validNames c n).any fun a => S.contains a) := by
  simp only [isValid, validNames]
  cases hv : validRule c with
  | default => simp
  | groups gs =>
    simp only []
    cases hf : gs.find? (fun g => g.1.contains n) <;> simp
  | sparcMemo =>
    simp only []
    rw [memoize_eq]
    cases memoName c n <;> by_cases hc : n ∈ S <;> simp [hc]
  | sparcCanon => simp [isCanonRule, hv] at hr

theorem anyMemoIs_eq (c : Ctx) (r : String) (S : List String) :
    anyMemoIs c r S = .ok (S.any fun o => memoName c o == some r) := by
  induction S with
  | nil => rfl
  | cons o t ih =>
    simp only [anyMemoIs, List.any_cons, memoize_eq, ih]
    by_cases e : memoName c o = some r <;> simp [e]

theorem isValid_sparcCanon {c : Ctx} {n : String} (S : List String) (hv : isCanonRule c = true) :
    isValid c n (.some S) = .ok (S.contains n ||
      (match memoName c n with
       | some r => S.any fun o => memoName c o == some r
       | none => false)) := by
  simp only [isValid]
  cases hr : validRule c with
  | sparcCanon =>
    simp only []
    rw [memoize_eq]
    cases S.contains n
    · cases memoName c n
      · rfl
      · exact anyMemoIs_eq c _ S
    · rfl
  | _ => simp [isCanonRule, hr] at hv

theorem any_contains_comm (l S : List String) : (l.any fun a => S.contains a) = S.any fun m => l.contains m := by
  rw [Bool.eq_iff_iff]
  simp only [List.any_eq_true, List.contains_iff_mem]
  exact ⟨fun ⟨a, h1, h2⟩ => ⟨a, h2, h1⟩, fun ⟨a, h1, h2⟩ => ⟨a, h2, h1⟩⟩

theorem isValid_some_sameReg {c : Ctx} {n : String} {S : List String} (hn : n ∈ knownNames c)
    (hS : ∀ s ∈ S, s ∈ knownNames c) :
    isValid c n (.some S) = .ok (S.any (sameReg c n)) := by
  cases hr : isCanonRule c with
  | false =>
    rw [isValid_some_eq S hr, any_contains_comm]
    exact congrArg _ (List.any_congr_mem fun m hm => validNames_contains hn (hS m hm) hr)
  | true =>
    obtain ⟨_, r, f⟩ := known_facts hn
    have hmn := memoName_of_memoize f.memo
    rw [isValid_sparcCanon S hr, hmn]
    simp only []
    have hany : (S.any fun o => memoName c o == some r) = S.any (sameReg c n) :=
      List.any_congr_mem fun o ho => by rw [Bool.eq_iff_iff, sameReg_iff_memo hn (hS o ho), hmn, beq_iff_eq]
    rw [hany]
    cases hc : S.contains n
    · rfl
    · exact congrArg _ (List.any_eq_true.mpr ⟨n, by simpa using hc, (sameReg_iff_memo hn hn).mpr rfl⟩).symm

theorem isValid_total (c : Ctx) (n : String) (v : Validity) : ∃ b, isValid c n v = .ok b := by
  cases v with
  | all =>
    obtain ⟨r, hr⟩ := memoize_total c n
    exact ⟨r.isSome, by simp only [isValid, hr]⟩
  | some S =>
    cases hr : isCanonRule c with
    | false => exact ⟨_, isValid_some_eq S hr⟩
    | true => exact ⟨_, isValid_sparcCanon S hr⟩

theorem isValid_all_known {c : Ctx} {n : String} (hn : n ∈ knownNames c) :
    isValid c n .all = .ok true := by
  obtain ⟨cell, r, f⟩ := known_facts hn
  simp only [isValid, f.memo, Option.isSome_some]

theorem getAlways_known {c : Ctx} {n : String} (st : State) (hn : n ∈ knownNames c) :
    ∃ cell, getCell c n = some cell ∧ getAlways c st n = .ok (st cell) := by
  obtain ⟨cell, r, f⟩ := known_facts hn
  exact ⟨cell, f.getCell, getAlways_of_cell st f.getCell f.inBounds⟩

theorem accessor_agrees {c : Ctx} (st : State) {n : String} {ref : CellRef} (hn : n ∈ knownNames c)
    (e : getCell c n = resolve ref) :
    ∃ v, (match place c ref with | .ok cell => .ok (st cell) | .panic s => .panic s) = Outcome.ok v ∧
      getAlways c st n = .ok v ∧ getRegister c st n .all = .ok (some v) := by
  obtain ⟨cell, r, f⟩ := known_facts hn
  have hg := getAlways_of_cell st f.getCell f.inBounds
  refine ⟨st cell, ?_, hg, by simp only [getRegister, isValid_all_known hn, hg]⟩
  rw [place_of_cell (e.symm.trans f.getCell) f.inBounds]

theorem collect_ok (c : Ctx) (st : State) (l : List String) (h : ∀ n ∈ l, n ∈ knownNames c) :
    ∃ vs, collect c st l = .ok vs ∧ vs.map (·.1) = l ∧ ∀ p ∈ vs, getAlways c st p.1 = .ok p.2 := by
  induction l with
  | nil => exact ⟨[], rfl, rfl, by simp⟩
  | cons n t ih =>
    obtain ⟨vs, hvs, hmap, hval⟩ := ih (fun m hm => h m (List.mem_cons_of_mem _ hm))
    obtain ⟨cell, _, hg⟩ := getAlways_known st (h n List.mem_cons_self)
    refine ⟨(n, st cell) :: vs, ?_, by simp [hmap], List.forall_mem_cons.mpr ⟨hg, hval⟩⟩
    simp only [collect, hg, hvs]

theorem mdValidFrom_ok (c : Ctx) (st : State) (valid : Validity) (f : String → Bool) (l : List String)
    (h : ∀ n ∈ l, n ∈ knownNames c) (hv : ∀ n ∈ l, isValid c n valid = .ok (f n)) :
    ∃ vs, mdValidFrom c st valid l = .ok vs ∧ vs.map (·.1) = l.filter f ∧
      ∀ p ∈ vs, getAlways c st p.1 = .ok p.2 := by
  induction l with
  | nil => exact ⟨[], rfl, rfl, by simp⟩
  | cons n t ih =>
    obtain ⟨vs, hvs, hmap, hval⟩ := ih (fun m hm => h m (List.mem_cons_of_mem _ hm))
      (fun m hm => hv m (List.mem_cons_of_mem _ hm))
    obtain ⟨cell, _, hg⟩ := getAlways_known st (h n List.mem_cons_self)
    have hvn := hv n List.mem_cons_self
    by_cases hf : f n = true
    · refine ⟨(n, st cell) :: vs, ?_, by simp [List.filter, hf, hmap], List.forall_mem_cons.mpr ⟨hg, hval⟩⟩
      simp only [mdValidFrom, hg, hvn, hvs, hf, if_true]
    · have hf' : f n = false := by simpa using hf
      refine ⟨vs, ?_, by simp [List.filter, hf', hmap], hval⟩
      simp only [mdValidFrom, hg, hvn, hvs, hf']
      simp

end MdModel.Regs
