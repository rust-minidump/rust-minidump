/-
  C12: the structural invariant `InvA` of the interleaving model
  (lock/holder consistency, results, counters), preserved by every poll.
-/
import MdProofs.Lemmas.Once
namespace MdModel.Once
open MdModel


theorem mem_dedup {a : Nat} {l : List Nat} : a ∈ dedup l ↔ a ∈ l := by
  induction l with
  | nil => simp [dedup]
  | cons b l ih =>
    simp only [dedup]
    split <;> simp_all
    grind

theorem nodup_dedup (l : List Nat) : (dedup l).Nodup := by
  induction l with
  | nil => simp [dedup]
  | cons b l ih =>
    simp only [dedup]
    split
    · exact ih
    · exact List.nodup_cons.mpr ⟨by assumption, ih⟩

theorem sum_change {l : List Nat} (hn : l.Nodup) {k : Nat} (hk : k ∈ l) (f g : Nat → Nat)
    (h : ∀ j, j ≠ k → f j = g j) : (l.map f).sum + g k = (l.map g).sum + f k := by
  induction l with
  | nil => cases hk
  | cons a l ih =>
    have hn' := List.nodup_cons.mp hn
    simp only [List.map_cons, List.sum_cons]
    by_cases hak : a = k
    · subst hak
      have : l.map f = l.map g := List.map_congr_left fun j hj => h j fun e => hn'.1 (e ▸ hj)
      rw [this]; omega
    · have := ih hn'.2 (by simpa [Ne.symm hak] using hk)
      rw [h a hak]; omega

theorem sum_indicator_eq_filter_length (K : List Nat) (q : Nat → Bool) :
    (K.map fun k => (q k).toNat).sum = (K.filter q).length := by
  induction K with
  | nil => rfl
  | cons a K ih =>
    simp only [List.map_cons, List.sum_cons, List.filter_cons, ih]
    cases q a <;> simp <;> omega

theorem count_upd {l : List Nat} (hn : l.Nodup) {k : Nat} (hk : k ∈ l) (slot : Nat → Slot)
    (v : Slot) (p : Slot → Bool) {c : Nat} (hc : c = (l.filter fun j => p (slot j)).length) (d : Nat)
    (hd : (p (slot k)).toNat + d = (p v).toNat) :
    c + d = (l.filter fun j => p (upd slot k v j)).length := by
  rw [hc, ← sum_indicator_eq_filter_length, ← sum_indicator_eq_filter_length]
  have := sum_change hn hk (fun j => (p (upd slot k v j)).toNat) (fun j => (p (slot j)).toNat)
    (fun j hj => by rw [upd_other _ _ hj])
  rw [upd_same] at this
  omega

theorem filter_length_mono (l : List Nat) (p q : Nat → Bool) (h : ∀ j, p j = true → q j = true) :
    (l.filter p).length ≤ (l.filter q).length := by
  rw [← List.countP_eq_length_filter, ← List.countP_eq_length_filter]
  exact List.countP_mono_left fun j _ => h j

theorem mem_allKeys_of_prog {cfg : Cfg} {t k : Nat} (h : k ∈ cfg.prog t) : k ∈ allKeys cfg := by
  have ht := lt_ntasks_of_mem_prog h
  rw [prog_of_lt ht] at h
  exact mem_dedup.mpr (List.mem_flatten.mpr ⟨_, List.getElem_mem ht, h⟩)


theorem seenBy_append (t : Nat) (l l' : List Event) :
    seenBy t (l ++ l') = seenBy t l ++ seenBy t l' := List.filterMap_append

theorem mem_seenBy {t k : Nat} {r : Res} {l : List Event} :
    (k, r) ∈ seenBy t l ↔ Event.seen t k r ∈ l := by
  simp only [seenBy, List.mem_filterMap]
  constructor
  · rintro ⟨e, he, h⟩
    cases e with
    | call _ => simp at h
    | ret _ => simp at h
    | seen t' k' r' =>
      simp only at h
      split at h
      · cases h; subst_vars; exact he
      · cases h
  · intro h
    exact ⟨_, h, by simp⟩


structure InvA (cfg : Cfg) (s : State) : Prop where
  held_insup : ∀ k t, s.slot k = .held t → ∃ n, (s.task t).ctl = .inSup k n
  insup_held : ∀ t k n, (s.task t).ctl = .inSup k n → s.slot k = .held t
  done_res : ∀ k r, s.slot k = .done r → r = cfg.outcome k
  /-- what a task has seen so far ++ what it still has to see = a function of cfg only -/
  results : ∀ t, seenBy t s.log ++ (todo (s.task t)).map (expected cfg)
      = (cfg.prog t).map (expected cfg)
  seen_done : ∀ t k r, Event.seen t k r ∈ s.log → ∃ r', s.slot k = .done r'
  done_seen : ∀ k r, s.slot k = .done r → ∃ t, Event.seen t k r ∈ s.log
  waiting_slot : ∀ t k, (s.task t).ctl = .waiting k → s.slot k ≠ .empty
  ghost : ∀ t, cfg.ntasks ≤ t → (s.task t).ctl = .fin
  req_eq : s.requested = ((allKeys cfg).filter (fun k => (s.slot k).nonEmpty)).length
  proc_eq : s.processed = ((allKeys cfg).filter (fun k => (s.slot k).isDone)).length

/-- states that differ only in wake flags and waiter lists -/
def SameCore (s s' : State) : Prop :=
  (∀ u, (s'.task u).ctl = (s.task u).ctl ∧ (s'.task u).rest = (s.task u).rest) ∧
  s'.slot = s.slot ∧ s'.log = s.log ∧ s'.requested = s.requested ∧ s'.processed = s.processed

theorem todo_congr {T T' : Task} (h1 : T'.ctl = T.ctl) (h2 : T'.rest = T.rest) : todo T' = todo T := by
  simp [todo, h1, h2]

theorem results_upd {cfg : Cfg} {s : State} (h : InvA cfg s) {t : Nat} {T : Task} {evs : List Event}
    (hoth : ∀ u, u ≠ t → seenBy u evs = [])
    (ht : seenBy t evs ++ (todo T).map (expected cfg) = (todo (s.task t)).map (expected cfg))
    (u : Nat) :
    seenBy u (s.log ++ evs) ++ (todo (upd s.task t T u)).map (expected cfg) =
      (cfg.prog u).map (expected cfg) := by
  rw [seenBy_append, List.append_assoc, ← h.results u]
  by_cases hu : u = t
  · subst hu; rw [upd_same, ht]
  · rw [upd_other _ _ hu, hoth u hu, List.nil_append]

theorem invA_of_sameCore {cfg : Cfg} {s s' : State} (hc : SameCore s s') (h : InvA cfg s) :
    InvA cfg s' := by
  obtain ⟨ht, hs, hl, hr, hp⟩ := hc
  constructor
  · intro k t; rw [hs, (ht t).1]; exact h.held_insup k t
  · intro t k n; rw [hs, (ht t).1]; exact h.insup_held t k n
  · intro k r; rw [hs]; exact h.done_res k r
  · intro t; rw [hl, todo_congr (ht t).1 (ht t).2]; exact h.results t
  · intro t k r; rw [hl, hs]; exact h.seen_done t k r
  · intro k r; rw [hl, hs]; exact h.done_seen k r
  · intro t k; rw [hs, (ht t).1]; exact h.waiting_slot t k
  · intro t; rw [(ht t).1]; exact h.ghost t
  · rw [hr, hs]; exact h.req_eq
  · rw [hp, hs]; exact h.proc_eq

theorem sameCore_setWoken (s : State) (t : Nat) (b : Bool) : SameCore s (setWoken s t b) := by
  refine ⟨?_, rfl, rfl, rfl, rfl⟩
  intro u; simp only [setWoken_task, upd_apply]; split <;> simp_all

theorem sameCore_setWaiters (s : State) (k : Nat) (ws : List (Nat × Bool)) :
    SameCore s (setWaiters s k ws) := ⟨fun _ => ⟨rfl, rfl⟩, rfl, rfl, rfl, rfl⟩

theorem sameCore_unlock (s : State) (k : Nat) : SameCore s (unlock s k) :=
  ⟨fun u => ⟨unlock_ctl s k u, unlock_rest s k u⟩, unlock_slot s k, unlock_log s k, unlock_requested s k, unlock_processed s k⟩

theorem sameCore_trans {a b c : State} (h1 : SameCore a b) (h2 : SameCore b c) : SameCore a c := by
  obtain ⟨t1, s1, l1, r1, p1⟩ := h1
  obtain ⟨t2, s2, l2, r2, p2⟩ := h2
  exact ⟨fun u => ⟨(t2 u).1.trans (t1 u).1, (t2 u).2.trans (t1 u).2⟩, s2.trans s1, l2.trans l1,
    r2.trans r1, p2.trans p1⟩

theorem invA_init (cfg : Cfg) : InvA cfg (init cfg) := by
  constructor
  · intro k t h; simp [init] at h
  · intro t k n h; simp only [init] at h; split at h <;> simp at h
  · intro k r h; simp [init] at h
  · intro t
    simp only [init, seenBy, List.filterMap_nil, List.nil_append]
    by_cases ht : t < cfg.ntasks
    · simp [ht, todo]
    · simp [ht, todo, prog_of_ge (Nat.le_of_not_lt ht)]
  · intro t k r h; simp [init] at h
  · intro k r h; simp [init] at h
  · intro t k h; simp only [init] at h; split at h <;> simp at h
  · intro t ht; simp only [init]; split
    · omega
    · rfl
  · simp only [init, Slot.nonEmpty]; rw [List.filter_eq_nil_iff.mpr]; rfl; intro a _; simp
  · simp only [init, Slot.isDone]; rw [List.filter_eq_nil_iff.mpr]; rfl; intro a _; simp


theorem invA_setCtl {cfg : Cfg} {s : State} (h : InvA cfg s) (t : Nat) (c : Ctl) (r : List Nat)
    (htodo : ∀ w, todo ⟨c, r, w⟩ = todo (s.task t))
    (hin : ∀ k, (∃ n, c = .inSup k n) ↔ ∃ n, (s.task t).ctl = .inSup k n)
    (hwait : ∀ k, c = .waiting k → s.slot k ≠ .empty)
    (hfin : (s.task t).ctl = .fin → c = .fin) : InvA cfg (setCtl s t c r) := by
  constructor
  · intro k' u hs
    obtain ⟨n, hn⟩ := h.held_insup k' u hs
    simp only [setCtl_task, upd_apply]
    split
    · subst_vars; exact (hin k').mpr ⟨n, hn⟩
    · exact ⟨n, hn⟩
  · intro u k' n
    simp only [setCtl_task, upd_apply, setCtl_slot]
    split
    · rename_i hu; subst hu; intro hc
      obtain ⟨n', hn'⟩ := (hin k').mp ⟨n, hc⟩
      exact h.insup_held _ k' n' hn'
    · exact h.insup_held u k' n
  · exact h.done_res
  · intro u
    simpa using results_upd h (evs := []) (fun _ _ => rfl) (by rw [htodo]; rfl) u
  · exact h.seen_done
  · exact h.done_seen
  · intro u k'
    simp only [setCtl_task, upd_apply, setCtl_slot]
    have := h.waiting_slot u k'
    grind
  · intro u hu
    have := h.ghost u hu
    simp only [setCtl_task, upd_apply]
    grind
  · exact h.req_eq
  · exact h.proc_eq

theorem invA_block {cfg : Cfg} {s : State} {t k : Nat} {r : List Nat} (h : InvA cfg s)
    (hL : Looking s t k r) (hslot : s.slot k ≠ .empty) : InvA cfg (setCtl s t (.waiting k) r) := by
  obtain ⟨hc, htodo⟩ := hL
  refine invA_setCtl h t _ r (fun _ => htodo.symm ▸ rfl) (fun k' => ?_) (fun k' hk => ?_) (fun hf => ?_)
  · constructor <;> rintro ⟨n, hn⟩
    · cases hn
    · rw [hn] at hc; simp at hc
  · cases hk; exact hslot
  · rw [hf] at hc; simp at hc

theorem invA_hit {cfg : Cfg} {s : State} {t k : Nat} {r : List Nat} {res : Res} (h : InvA cfg s)
    (hL : Looking s t k r) (hslot : s.slot k = .done res) :
    InvA cfg (setCtl (emit s (.seen t k res)) t .ready r) := by
  obtain ⟨hc, htodo⟩ := hL
  have hres := h.done_res k res hslot
  constructor
  · intro k' u hs
    have := h.held_insup k' u hs
    simp only [setCtl_task, emit_task, upd_apply]
    grind
  · intro u k' n
    simp only [setCtl_task, emit_task, upd_apply, setCtl_slot, emit_slot]
    have := h.insup_held u k' n
    grind
  · exact h.done_res
  · refine results_upd h (evs := [.seen t k res]) (fun u hu => ?_) ?_
    · simp [seenBy, Ne.symm hu]
    · rw [htodo, hres]; simp [seenBy, todo, expected]
  · intro u k' r' hm
    simp only [setCtl_log, emit_log, List.mem_append, List.mem_singleton] at hm
    simp only [setCtl_slot, emit_slot]
    cases hm with
    | inl hm => exact h.seen_done u k' r' hm
    | inr hm => cases hm; exact ⟨_, hslot⟩
  · intro k' r' hs
    obtain ⟨u, hu⟩ := h.done_seen k' r' hs
    exact ⟨u, by simp [hu]⟩
  · intro u k'
    simp only [setCtl_task, emit_task, upd_apply, setCtl_slot, emit_slot]
    have := h.waiting_slot u k'
    grind
  · intro u hu
    have := h.ghost u hu
    simp only [setCtl_task, emit_task, upd_apply]
    grind
  · exact h.req_eq
  · exact h.proc_eq

theorem mem_prog_of_todo {cfg : Cfg} {s : State} (h : InvA cfg s) {t k : Nat} {r : List Nat}
    (htodo : todo (s.task t) = k :: r) : k ∈ cfg.prog t := by
  have := h.results t
  rw [htodo] at this
  have hm : expected cfg k ∈ (cfg.prog t).map (expected cfg) := by
    rw [← this]; simp
  obtain ⟨k', hk', he⟩ := List.mem_map.mp hm
  simp only [expected, Prod.mk.injEq] at he
  rw [← he.1]; exact hk'

theorem invA_complete {cfg : Cfg} {s : State} {t k n : Nat} {r : List Nat} (h : InvA cfg s)
    (hc : (s.task t).ctl = .inSup k n) (hr : (s.task t).rest = r) :
    InvA cfg (complete cfg t k r s) := by
  unfold complete
  apply invA_of_sameCore (sameCore_unlock _ k)
  have hheld := h.insup_held t k n hc
  have hkeys : k ∈ allKeys cfg :=
    mem_allKeys_of_prog (mem_prog_of_todo h (t := t) (r := r) (by simp [todo, hc, hr]))
  constructor
  · intro k' u
    simp only [setCtl_task, emit_task, setSlot_task, setCtl_slot, emit_slot, setSlot_slot, upd_apply]
    have := h.held_insup k' u
    grind
  · intro u k' n'
    simp only [setCtl_task, emit_task, setSlot_task, setCtl_slot, emit_slot, setSlot_slot, upd_apply]
    have := h.insup_held u k' n'
    grind
  · intro k' r'
    simp only [setCtl_slot, emit_slot, setSlot_slot, upd_apply]
    have := h.done_res k' r'
    grind
  · simp only [setCtl_log, emit_log, setSlot_log, List.append_assoc]
    refine results_upd h (fun u hu => ?_) ?_
    · simp [seenBy, Ne.symm hu]
    · simp [seenBy, todo, hc, hr, expected]
  · intro u k' r' hm
    simp only [setCtl_log, emit_log, setSlot_log, List.mem_append, List.mem_singleton] at hm
    simp only [setCtl_slot, emit_slot, setSlot_slot, upd_apply]
    rcases hm with (hm | hm) | hm
    · have := h.seen_done u k' r' hm
      grind
    · cases hm
    · cases hm; simp
  · intro k' r'
    simp only [setCtl_slot, emit_slot, setSlot_slot, upd_apply, setCtl_log, emit_log, setSlot_log]
    intro hs
    by_cases hk : k' = k
    · subst hk
      simp only [if_true] at hs
      cases hs
      exact ⟨t, by simp⟩
    · simp only [hk, if_false] at hs
      obtain ⟨u, hu⟩ := h.done_seen k' r' hs
      exact ⟨u, by simp [hu]⟩
  · intro u k'
    simp only [setCtl_task, emit_task, setSlot_task, setCtl_slot, emit_slot, setSlot_slot, upd_apply]
    have := h.waiting_slot u k'
    grind
  · intro u hu
    have := h.ghost u hu
    simp only [setCtl_task, emit_task, setSlot_task, upd_apply]
    grind
  · exact count_upd (nodup_dedup _) hkeys s.slot _ Slot.nonEmpty h.req_eq 0 (by rw [hheld]; rfl)
  · exact count_upd (nodup_dedup _) hkeys s.slot _ Slot.isDone h.proc_eq 1 (by rw [hheld]; rfl)

theorem invA_acquire {cfg : Cfg} {s : State} {t k : Nat} {r : List Nat} (n : Nat) (h : InvA cfg s)
    (hL : Looking s t k r) (hslot : s.slot k = .empty) : InvA cfg (acquire s t k n r) := by
  obtain ⟨hc, htodo⟩ := hL
  unfold acquire
  have hkeys : k ∈ allKeys cfg := mem_allKeys_of_prog (mem_prog_of_todo h htodo)
  constructor
  · intro k' u
    simp only [setCtl_task, emit_task, setSlot_task, setCtl_slot, emit_slot, setSlot_slot, upd_apply]
    intro hs
    by_cases hk : k' = k
    · subst hk
      simp only [if_true, Slot.held.injEq] at hs
      subst hs
      exact ⟨n, by simp⟩
    · simp only [hk, if_false] at hs
      obtain ⟨m, hm⟩ := h.held_insup k' u hs
      have hut : u ≠ t := by
        intro e; subst e; rw [hm] at hc; simp at hc
      exact ⟨m, by simp [hut, hm]⟩
  · intro u k' n'
    simp only [setCtl_task, emit_task, setSlot_task, setCtl_slot, emit_slot, setSlot_slot, upd_apply]
    have := h.insup_held u k' n'
    grind
  · intro k' r'
    simp only [setCtl_slot, emit_slot, setSlot_slot, upd_apply]
    have := h.done_res k' r'
    grind
  · refine results_upd h (evs := [.call k]) (fun _ _ => rfl) ?_
    rw [htodo]; rfl
  · intro u k' r' hm
    simp only [setCtl_log, emit_log, setSlot_log, List.mem_append, List.mem_singleton] at hm
    simp only [setCtl_slot, emit_slot, setSlot_slot, upd_apply]
    rcases hm with hm | hm
    · have := h.seen_done u k' r' hm
      grind
    · cases hm
  · intro k' r'
    simp only [setCtl_slot, emit_slot, setSlot_slot, upd_apply, setCtl_log, emit_log, setSlot_log]
    intro hs
    by_cases hk : k' = k
    · subst hk; simp at hs
    · simp only [hk, if_false] at hs
      obtain ⟨u, hu⟩ := h.done_seen k' r' hs
      exact ⟨u, by simp [hu]⟩
  · intro u k'
    simp only [setCtl_task, emit_task, setSlot_task, setCtl_slot, emit_slot, setSlot_slot, upd_apply]
    have := h.waiting_slot u k'
    grind
  · intro u hu
    have := h.ghost u hu
    simp only [setCtl_task, emit_task, setSlot_task, upd_apply]
    grind
  · exact count_upd (nodup_dedup _) hkeys s.slot _ Slot.nonEmpty h.req_eq 1 (by rw [hslot]; rfl)
  · exact count_upd (nodup_dedup _) hkeys s.slot _ Slot.isDone h.proc_eq 0 (by rw [hslot]; rfl)

theorem invA_poll (cfg : Cfg) (t : Nat) {s : State} (h : InvA cfg s) : InvA cfg (poll cfg t s) := by
  have dereg : ∀ {s : State} (k : Nat), InvA cfg s →
      InvA cfg (setWaiters s k (deregister (s.waiters k) t)) :=
    fun k => invA_of_sameCore (sameCore_setWaiters _ k _)
  refine poll_induction cfg t s (I := InvA cfg) (M := InvA cfg) (fun _ => h) ?_
    (invA_of_sameCore (sameCore_setWoken s t false) h) ?_ ?_ ?_ ?_ ?_
  · intro k n hc
    refine invA_of_sameCore (sameCore_setWoken _ t true) (invA_setCtl h t _ _ ?_ ?_ ?_ ?_) <;>
      simp [todo, hc]
  · intro s h hc hr
    refine invA_setCtl h t _ _ ?_ ?_ ?_ ?_ <;> simp [todo, hc, hr]
  · intro s k r v h hL hs
    exact invA_block (invA_of_sameCore (sameCore_setWaiters s k _) h) hL (by simp [hs])
  · intro s k r res h hL hs
    exact invA_of_sameCore (sameCore_unlock _ k) (invA_hit (dereg k h) hL hs)
  · intro s k r n h hL hs
    exact ⟨fun _ _ => invA_acquire n (dereg k h) hL hs,
      fun _ => invA_of_sameCore (sameCore_setWoken _ t true) (invA_acquire n (dereg k h) hL hs)⟩
  · intro s k n r h hc hr
    exact invA_complete h hc hr

theorem invA_exec (cfg : Cfg) (sched : List Nat) {s : State} (h : InvA cfg s) :
    InvA cfg (exec cfg sched s) :=
  exec_induction cfg (fun t _ => invA_poll cfg t) sched h

theorem invA_reach (cfg : Cfg) (sched : List Nat) : InvA cfg (exec cfg sched (init cfg)) :=
  invA_exec cfg sched (invA_init cfg)


theorem lt_ntasks_of_active {cfg : Cfg} {s : State} (h : InvA cfg s) {u : Nat}
    (hf : (s.task u).ctl ≠ .fin) : u < cfg.ntasks :=
  Nat.lt_of_not_le fun hu => hf (h.ghost u hu)

theorem seen_mem_expected {cfg : Cfg} {s : State} (h : InvA cfg s) {t k : Nat} {r : Res}
    (hm : Event.seen t k r ∈ s.log) : k ∈ cfg.prog t ∧ r = cfg.outcome k := by
  have : (k, r) ∈ (cfg.prog t).map (expected cfg) :=
    h.results t ▸ List.mem_append_left _ (mem_seenBy.mpr hm)
  obtain ⟨k', hk', he⟩ := List.mem_map.mp this
  cases he
  exact ⟨hk', rfl⟩

theorem nonEmpty_started {cfg : Cfg} {s : State} (h : InvA cfg s) (k : Nat)
    (hne : (s.slot k).nonEmpty = true) :
    ((List.range cfg.ntasks).any fun t => (begun s t).contains k) = true := by
  rw [List.any_eq_true]
  cases hs : s.slot k with
  | empty => simp [hs, Slot.nonEmpty] at hne
  | held u =>
    obtain ⟨n, hn⟩ := h.held_insup k u hs
    exact ⟨u, List.mem_range.mpr (lt_ntasks_of_active h (by simp [hn])), by simp [begun, hn]⟩
  | done r =>
    obtain ⟨u, hu⟩ := h.done_seen k r hs
    refine ⟨u, List.mem_range.mpr (lt_ntasks_of_mem_prog (seen_mem_expected h hu).1), ?_⟩
    simp only [begun, List.contains_eq_mem, List.mem_append, List.mem_map, decide_eq_true_eq]
    exact Or.inl ⟨(k, r), mem_seenBy.mpr hu, rfl⟩

theorem exists_task_of_key {cfg : Cfg} {k : Nat} (hk : k ∈ allKeys cfg) :
    ∃ t, t < cfg.ntasks ∧ k ∈ cfg.prog t := by
  unfold allKeys at hk
  rw [mem_dedup, List.mem_flatten] at hk
  obtain ⟨l, hl, hkl⟩ := hk
  obtain ⟨t, ht, rfl⟩ := List.getElem_of_mem hl
  exact ⟨t, ht, by rw [prog_of_lt ht]; exact hkl⟩

end MdModel.Once
