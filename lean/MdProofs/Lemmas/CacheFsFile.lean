/-
  `MdModel.CacheFs.File` — the opaque download path `locate_file` → `fetch_lookup`: the local
  invariant of a call, what one step can do to the cache (`step_spec`) and what a whole run can
  (`runTask_spec`).
-/
import MdModel.CacheFs
import MdProofs.Lemmas.CacheFs
namespace MdModel.CacheFs.File

/-- Local invariant of a call: the server being talked to is one of the configured ones, and the
    live temp file holds exactly the chunks received so far (every write succeeded, or the fetch
    would have ended). -/
def PhaseInv (req : Req) : Phase → Prop
  | .awaitStatus u rest => ∃ pre, req.urls = pre ++ u :: rest
  | .streaming u rest temp rx => (∃ pre, req.urls = pre ++ u :: rest) ∧ temp = bodyOf rx
  | _ => True

theorem step_done (c : Cache) (req : Req) (r : FResult) (e : Ev) : step c req (.done r) e = (c, .done r) := by
  cases e <;> rfl

theorem step_dropped (c : Cache) (req : Req) (e : Ev) : step c req .dropped e = (c, .dropped) := by
  cases e <;> rfl

theorem runTask_fixed {c : Cache} {req : Req} {ph : Phase} (h : ∀ e, step c req ph e = (c, ph)) (es : List Ev) :
    runTask c req ph es = (c, ph) := by
  induction es with
  | nil => rfl
  | cons e es ih => simp [runTask, h, ih]

theorem runTask_done (c : Cache) (req : Req) (r : FResult) (es : List Ev) :
    runTask c req (.done r) es = (c, .done r) :=
  runTask_fixed (step_done c req r) es

theorem runTask_dropped (c : Cache) (req : Req) (es : List Ev) :
    runTask c req .dropped es = (c, .dropped) :=
  runTask_fixed (step_dropped c req) es

/-- **What one step does**, branch by branch of `step`. Either it leaves the cache alone, keeps the
    invariant and yields no `fetched` result that was not there; or — the only step that touches the
    cache — it is the end of a response in the streaming phase, with the name free and
    `persist_noclobber` succeeding: the new entry is exactly the chunks received since the response
    head, and the call ends as `fetched`. -/
theorem step_spec (c : Cache) (req : Req) (ph : Phase) (e : Ev) (h : PhaseInv req ph) :
    ((step c req ph e).1 = c ∧ PhaseInv req (step c req ph e).2 ∧
      ∀ rx u, (step c req ph e).2 = .done (.fetched rx u) → ph = .done (.fetched rx u)) ∨
    ∃ u rx io, e = .eof io ∧ u ∈ req.urls ∧ c req.path = none ∧
      step c req ph e = (c.set req.path (some (.file (bodyOf rx))), .done (.fetched rx u)) := by
  have next : ∀ {rest : List Url}, (∃ pre, req.urls = pre ++ rest) →
      PhaseInv req (nextUrl rest) ∧ ∀ rx u, nextUrl rest = .done (.fetched rx u) → ph = .done (.fetched rx u) := by
    intro rest hs
    cases rest with
    | nil => exact ⟨trivial, nofun⟩
    | cons u r => exact ⟨hs, nofun⟩
  -- the cases are the branches of `step`, in the order of its definition
  fun_cases step c req ph e
  -- `start`: found locally; to the first server; dropped
  case case1 => exact .inl ⟨rfl, trivial, nofun⟩
  case case2 => exact .inl ⟨rfl, next ⟨[], rfl⟩⟩
  case case3 => exact .inl ⟨rfl, trivial, nofun⟩
  -- `awaitStatus`: error status; response head; no temp file; network error; dropped
  case case4 | case6 | case7 => exact .inl ⟨rfl, next (mem_urls_of_split h).2⟩
  case case5 => exact .inl ⟨rfl, ⟨h, rfl⟩, nofun⟩
  case case8 => exact .inl ⟨rfl, trivial, nofun⟩
  -- `streaming`: a chunk written; a failing write
  case case9 => exact .inl ⟨rfl, ⟨h.1, by rw [h.2]; rfl⟩, nofun⟩
  case case10 => exact .inl ⟨rfl, next (mem_urls_of_split h.1).2⟩
  -- end of the response: name free and persisted; not persisted; name taken
  case case11 u rest temp rx io hfree hp =>
    obtain ⟨hu, rfl⟩ := h
    exact .inr ⟨u, rx, io, rfl, (mem_urls_of_split hu).1, hfree, rfl⟩
  case case12 | case13 => exact .inl ⟨rfl, next (mem_urls_of_split h.1).2⟩
  -- network error; dropped
  case case14 => exact .inl ⟨rfl, next (mem_urls_of_split h.1).2⟩
  case case15 => exact .inl ⟨rfl, trivial, nofun⟩
  -- every other event leaves the call as it is
  case case16 => exact .inl ⟨rfl, h, fun _ _ hd => hd⟩

theorem step_inv (c : Cache) (req : Req) (ph : Phase) (e : Ev) (h : PhaseInv req ph) :
    PhaseInv req (step c req ph e).2 := by
  rcases step_spec c req ph e h with ⟨_, h', _⟩ | ⟨_, _, _, _, _, _, hs⟩
  · exact h'
  · rw [hs]; trivial

theorem PhaseInv.temp_body {req : Req} {ph : Phase} (hinv : PhaseInv req ph) {t : Bytes} (h : ph.temp = some t) :
    ∃ u rest rx, ph = .streaming u rest t rx ∧ t = bodyOf rx := by
  cases ph with
  | streaming u rest temp rx =>
    cases h
    exact ⟨u, rest, rx, rfl, hinv.2⟩
  | _ => cases h

/-- a name that is taken stays as it is: `fetch_lookup` never removes or replaces anything -/
theorem step_keeps (c : Cache) (req : Req) (ph : Phase) (e : Ev) (h : PhaseInv req ph) (p : Path) (n : Node)
    (hp : c p = some n) : (step c req ph e).1 p = some n := by
  rcases step_spec c req ph e h with ⟨hc, _⟩ | ⟨_, _, _, _, _, hfree, hs⟩
  · rw [hc]; exact hp
  · rw [hs]
    have hne : p ≠ req.path := fun hq => by rw [hq, hfree] at hp; cases hp
    exact (Cache.set_ne c _ hne).trans hp

theorem runTask_spec (c : Cache) (req : Req) (ph : Phase) (h : PhaseInv req ph) (es : List Ev) :
    ((runTask c req ph es).1 = c ∧ PhaseInv req (runTask c req ph es).2 ∧
      ∀ rx u, (runTask c req ph es).2 = .done (.fetched rx u) → ph = .done (.fetched rx u)) ∨
    ∃ rx u, u ∈ req.urls ∧ c req.path = none ∧
      runTask c req ph es = (c.set req.path (some (.file (bodyOf rx))), .done (.fetched rx u)) := by
  induction es generalizing c ph with
  | nil => exact .inl ⟨rfl, h, fun _ _ hd => hd⟩
  | cons e es ih =>
    simp only [runTask]
    rcases step_spec c req ph e h with ⟨hc, h', hq⟩ | ⟨u, rx, _, _, hu, hfree, hs⟩
    · have := ih (step c req ph e).1 _ h'
      rw [hc] at this ⊢
      exact this.imp_left fun ⟨h1, h2, h3⟩ => ⟨h1, h2, fun rx u hd => hq rx u (h3 rx u hd)⟩
    · rw [hs, runTask_done]
      exact .inr ⟨rx, u, hu, hfree, rfl⟩

theorem runTask_inv (c : Cache) (req : Req) (ph : Phase) (es : List Ev) (h : PhaseInv req ph) :
    PhaseInv req (runTask c req ph es).2 := by
  rcases runTask_spec c req ph h es with ⟨_, h', _⟩ | ⟨_, _, _, _, hs⟩
  · exact h'
  · rw [hs]; trivial

end MdModel.CacheFs.File
