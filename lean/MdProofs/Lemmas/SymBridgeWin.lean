/-
  Bridge C11 ↔ walker model: the STACK WIN tables.

  Both models build `win_stack_framedata_info` / `win_stack_fpo_info` with the SAME two functions of
  C08's model — `insertWinAll` (the parser's `insert_win_stack_info` overlap repair) followed by
  `safeP` over `(range, Rec.enc record)` — from the same `(address, size)` sequence, but with
  different *tags*: C11 (`Symbolize.winTable`) tags a record by its parameter size, the walker model
  (`Walk.winTables`, `Win.buildTable`) by its position in the file and reads the parameter size back
  through the classified record at that position.

  The overlap repair never reads the tag, so it commutes with every re-tagging (`retag f`), panics
  included; with sizes `< 2^32` and tags `< 2^64` `Rec.enc` is injective, so the two encodings
  satisfy `Coh` of `SymBridge`.
-/
import MdProofs.Lemmas.SymBridge
namespace MdModel.SymBridge
open MdModel MdModel.RangeMap

def retag (f : Nat → Nat) (r : Rec) : Rec := { r with tag := f r.tag }
def retagP (f : Nat → Nat) (p : Rng × Rec) : Rng × Rec := (p.1, retag f p.2)

def omap {α β : Type} (f : α → β) : Outcome α → Outcome β
  | .ok a => .ok (f a)
  | .panic s => .panic s

theorem insertWin_retag (f : Nat → Nat) (acc : List (Rng × Rec)) (info : Rec) :
    insertWin (acc.map (retagP f)) (retag f info) = omap (List.map (retagP f)) (insertWin acc info) := by
  unfold insertWin
  simp only [retag]
  cases mkRange info.addr info.size with
  | none => rfl
  | some mr =>
    cases acc with
    | nil => rfl
    | cons p rest =>
      obtain ⟨lr, li⟩ := p
      simp only [List.map_cons, retagP, retag]
      by_cases hint : lr.intersects mr = true
      · rw [if_pos hint, if_pos hint]
        by_cases hgt : info.addr > li.addr
        · rw [if_pos hgt, if_pos hgt]
          show (match mkRange li.addr ((info.addr - li.addr) % 2 ^ 32) with
            | none => Outcome.panic "insert_win_stack_info: memory_range().unwrap()"
            | some r' => Outcome.ok _) = omap _ (match mkRange li.addr ((info.addr - li.addr) % 2 ^ 32) with
            | none => Outcome.panic "insert_win_stack_info: memory_range().unwrap()"
            | some r' => Outcome.ok _)
          cases mkRange li.addr ((info.addr - li.addr) % 2 ^ 32) with
          | none => rfl
          | some r' => rfl
        · rw [if_neg hgt, if_neg hgt]
          by_cases hne : lr ≠ mr
          · rw [if_pos hne, if_pos hne]; rfl
          · rw [if_neg hne, if_neg hne]; rfl
      · rw [if_neg hint, if_neg hint]; rfl

theorem insertWinAll_retag (f : Nat → Nat) (recs : List Rec) :
    ∀ acc, insertWinAll (acc.map (retagP f)) (recs.map (retag f)) =
      omap (List.map (retagP f)) (insertWinAll acc recs) := by
  induction recs with
  | nil => intro acc; simp only [List.map_nil, insertWinAll, omap, List.map_reverse]
  | cons r rest ih =>
    intro acc
    simp only [List.map_cons, insertWinAll, insertWin_retag]
    cases insertWin acc r with
    | panic s => rfl
    | ok acc' => simp only [omap]; exact ih acc'

theorem enc_inj {a b : Rec} (ha : a.size < 2 ^ 32) (hb : b.size < 2 ^ 32) (ta : a.tag < 2 ^ 64)
    (tb : b.tag < 2 ^ 64) (h : a.enc = b.enc) : a = b := by
  have := congrArg Rec.dec h
  rw [Symbolize.Rec.dec_enc a ha ta, Symbolize.Rec.dec_enc b hb tb] at this
  exact this

/-- the repaired list as table input of the two models: C11's value (tag = `f position`), the
    walker model's value (tag = position) -/
def winTri (f : Nat → Nat) (v : List (Rng × Rec)) : List Tri :=
  v.map fun p => (p.1, (retag f p.2).enc, p.2.enc)

theorem winTri_e1 (f : Nat → Nat) (v : List (Rng × Rec)) :
    (winTri f v).map e1 = (v.map (retagP f)).map fun (r, w) => (r, w.enc) := by
  simp only [winTri, List.map_map]; rfl

theorem winTri_e2 (f : Nat → Nat) (v : List (Rng × Rec)) :
    (winTri f v).map e2 = v.map fun (r, w) => (r, w.enc) := by
  simp only [winTri, List.map_map]; rfl

theorem winTri_coh {f : Nat → Nat} {v : List (Rng × Rec)}
    (hv : WInv (fun t => t < 2 ^ 64 ∧ f t < 2 ^ 64) v) : Coh (winTri f v) := by
  -- under either tagging (`g = f`: C11's, `g = id`: the walker's) equal encodings are equal records
  have inj : ∀ g : Nat → Nat, (∀ p ∈ v, g p.2.tag < 2 ^ 64) → ∀ p ∈ v, ∀ q ∈ v,
      (retag g p.2).enc = (retag g q.2).enc → p.1 = q.1 := by
    intro g hg p hp q hq he
    obtain ⟨p1, p2, _⟩ := hv p hp
    obtain ⟨q1, q2, _⟩ := hv q hq
    have : retag g p.2 = retag g q.2 := enc_inj p2 q2 (hg p hp) (hg q hq) he
    simp only [retag, Rec.mk.injEq] at this
    rw [this.1, this.2.1, q1] at p1
    exact (Option.some.inj p1).symm
  refine ⟨fun z hz => ?_, fun z hz z' hz' he => ?_, fun z hz z' hz' he => ?_⟩
  · obtain ⟨p, hp, rfl⟩ := List.mem_map.mp hz
    exact mkRange_ok (hv p hp).1
  · obtain ⟨p, hp, rfl⟩ := List.mem_map.mp hz
    obtain ⟨q, hq, rfl⟩ := List.mem_map.mp hz'
    exact inj f (fun p hp => (hv p hp).2.2.2) p hp q hq he
  · obtain ⟨p, hp, rfl⟩ := List.mem_map.mp hz
    obtain ⟨q, hq, rfl⟩ := List.mem_map.mp hz'
    exact inj id (fun p hp => (hv p hp).2.2.1) p hp q hq he

/-- `recs` are the walker model's inputs (tag = position), `recs.map (retag f)` C11's (tag =
    parameter size of the record at that position) -/
theorem winTable_sim (f : Nat → Nat) (P : Nat → Prop) (recs : List Rec)
    (hr : ∀ r ∈ recs, r.size < 2 ^ 32 ∧ (r.tag < 2 ^ 64 ∧ f r.tag < 2 ^ 64) ∧ P r.tag)
    {ctab : List Entry} (hc : Symbolize.winTable (recs.map (retag f)) = .ok ctab) :
    ∃ wtab, Symbolize.winTable recs = .ok wtab ∧
      ∀ a, (∀ v, get ctab a = some v → ∃ i, P i ∧ (Rec.dec v).tag = f i ∧
              (get wtab a).map (fun x => (Rec.dec x).tag) = some i) ∧
           (get ctab a = none → get wtab a = none) := by
  unfold Symbolize.winTable at hc ⊢
  have hcomm := insertWinAll_retag f recs []
  simp only [List.map_nil] at hcomm
  rw [hcomm] at hc
  obtain ⟨v, hv, hinv⟩ := insertWinAll_ok (P := fun t => (t < 2 ^ 64 ∧ f t < 2 ^ 64) ∧ P t) recs hr []
    (fun _ hp => nomatch hp)
  rw [hv] at hc ⊢
  simp only [omap] at hc ⊢
  have hinv' : WInv (fun t => t < 2 ^ 64 ∧ f t < 2 ^ 64) v :=
    fun p hp => ⟨(hinv p hp).1, (hinv p hp).2.1, (hinv p hp).2.2.1⟩
  have hcoh := winTri_coh hinv'
  have w1 := coh_wf hcoh e1 fun _ => rfl
  have w2 := coh_wf hcoh e2 fun _ => rfl
  rw [winTri_e1] at w1
  rw [winTri_e2] at w2
  rw [safeP_ok _ w1] at hc
  rw [safeP_ok _ w2]
  simp only [Outcome.ok.injEq] at hc
  subst hc
  refine ⟨_, rfl, ?_⟩
  intro a
  obtain ⟨s1, s2⟩ := get_sim (winTri f v) hcoh a
  rw [winTri_e1, winTri_e2] at s1 s2
  refine ⟨?_, s2⟩
  intro x hx
  obtain ⟨z, hz, _, hzv, hw⟩ := s1 x hx
  obtain ⟨p, hp, rfl⟩ := List.mem_map.mp hz
  obtain ⟨_, p2, ⟨p3, p4⟩, p5⟩ := hinv p hp
  simp only at hzv hw
  refine ⟨p.2.tag, p5, ?_, ?_⟩
  · rw [← hzv, Symbolize.Rec.dec_enc (retag f p.2) p2 p4]; rfl
  · rw [hw]
    simp only [Option.map_some, Symbolize.Rec.dec_enc _ p2 p3]

def isFd : Win.FrameType → Bool
  | .frameData _ => true
  | _ => false

def isFpo : Win.FrameType → Bool
  | .fpo _ => true
  | _ => false

/-- C11's STACK WIN triples `(address, size, parameter size)` of one kind, from the walker model's
    records (whole STACK WIN lines, classified by C07's `classifyRec`), in file order -/
def kindOf (k : Win.FrameType → Bool) (wins : List Win.Rec) : List Rec :=
  wins.filterMap fun w => if k (Win.classifyRec w) then some ⟨w.addr, w.size, w.par.toNat⟩ else none

/-- **the translation of STACK WIN records**: C11's `win4` / `win0` triples are the walker model's
    records that C07's `classifyRec` makes frame data / FPO, in file order -/
structure WinRel (wins : List Win.Rec) (r : Symbolize.Recs) : Prop where
  win4 : r.win4 = kindOf isFd wins
  win0 : r.win0 = kindOf isFpo wins

def parAt (wins : List Win.Rec) (i : Nat) : Nat :=
  match wins[i]? with
  | some w => w.par.toNat
  | none => 0

/-- the walker model's table input of one kind (tag = position in the whole list) -/
def wrecs (k : Win.FrameType → Bool) (wins : List Win.Rec) : List Rec :=
  (wins.zip (wins.map Win.classifyRec)).zipIdx.filterMap fun x =>
    if k x.1.2 then some (Rec.mk x.1.1.addr x.1.1.size x.2) else none

theorem mem_zipIdx_zip {wins : List Win.Rec} {x : (Win.Rec × Win.FrameType) × Nat}
    (h : x ∈ (wins.zip (wins.map Win.classifyRec)).zipIdx) :
    wins[x.2]? = some x.1.1 ∧ x.1.2 = Win.classifyRec x.1.1 := by
  have := List.mem_zipIdx_iff_getElem?.mp h
  rw [List.getElem?_zip_eq_some] at this
  obtain ⟨h1, h2⟩ := this
  rw [List.getElem?_map, h1] at h2
  simp only [Option.map_some, Option.some.injEq] at h2
  exact ⟨h1, h2.symm⟩

theorem wrecs_retag (k : Win.FrameType → Bool) (wins : List Win.Rec) :
    (wrecs k wins).map (retag (parAt wins)) = kindOf k wins := by
  unfold wrecs kindOf
  rw [List.map_filterMap]
  let g := fun w : Win.Rec => if k (Win.classifyRec w) then some (Rec.mk w.addr w.size w.par.toNat) else none
  calc _ = (wins.zip (wins.map Win.classifyRec)).zipIdx.filterMap (fun x => g x.1.1) :=
        List.filterMap_congr_mem fun x hx => by
          obtain ⟨g1, g2⟩ := mem_zipIdx_zip hx
          simp only [g, g2]
          split
          · simp only [Option.map_some, retag, parAt, g1]
          · rfl
    _ = (wins.zip (wins.map Win.classifyRec)).filterMap (g ∘ Prod.fst) := filterMap_zipIdx_fst _ (g ∘ Prod.fst)
    _ = ((wins.zip (wins.map Win.classifyRec)).map Prod.fst).filterMap g := List.filterMap_map.symm
    _ = wins.filterMap g := by rw [List.map_fst_zip (by simp)]

theorem wrecs_mem {k : Win.FrameType → Bool} {wins : List Win.Rec} {r : Rec} (h : r ∈ wrecs k wins) :
    ∃ w, wins[r.tag]? = some w ∧ k (Win.classifyRec w) = true ∧ r.addr = w.addr ∧ r.size = w.size := by
  unfold wrecs at h
  simp only [List.mem_filterMap] at h
  obtain ⟨x, hx, hr⟩ := h
  obtain ⟨g1, g2⟩ := mem_zipIdx_zip hx
  split at hr
  · rename_i hk
    simp only [Option.some.injEq] at hr
    subst hr
    exact ⟨x.1.1, g1, by rw [← g2]; exact hk, rfl, rfl⟩
  · cases hr

theorem classify_par {w : Win.Rec} {si : Win.SInfo}
    (h : Win.classifyRec w = .frameData si ∨ Win.classifyRec w = .fpo si) : si.info.par = w.par := by
  unfold Win.classifyRec at h
  simp only at h
  split at h
  · rcases h with h | h <;> cases h
  · split at h
    · rcases h with h | h
      · cases h; rfl
      · cases h
    · split at h
      · rcases h with h | h
        · cases h
        · cases h; rfl
      · rcases h with h | h <;> cases h

def wFd (wins : List Win.Rec) : List (Nat × Nat × Nat) :=
  ((wins.zip (wins.map Win.classifyRec)).zipIdx).filterMap fun ((r, t), i) =>
    match t with | .frameData _ => some (r.addr, r.size, i) | _ => none

def wFpo (wins : List Win.Rec) : List (Nat × Nat × Nat) :=
  ((wins.zip (wins.map Win.classifyRec)).zipIdx).filterMap fun ((r, t), i) =>
    match t with | .fpo _ => some (r.addr, r.size, i) | _ => none

theorem winTables_eq (wins : List Win.Rec) :
    Walk.winTables wins =
      match Win.buildTable (wFd wins), Win.buildTable (wFpo wins) with
      | .ok t4, .ok t0 => { typed := wins.map Win.classifyRec, fd := t4, fpo := t0 }
      | _, _ => Walk.WinTables.empty := rfl

theorem wFd_recs (wins : List Win.Rec) :
    (wFd wins).map (fun (a, s, i) => Rec.mk a s i) = wrecs isFd wins := by
  unfold wFd wrecs
  rw [List.map_filterMap]
  apply List.filterMap_congr_mem
  rintro ⟨⟨r, t⟩, i⟩ _
  cases t <;> rfl

theorem wFpo_recs (wins : List Win.Rec) :
    (wFpo wins).map (fun (a, s, i) => Rec.mk a s i) = wrecs isFpo wins := by
  unfold wFpo wrecs
  rw [List.map_filterMap]
  apply List.filterMap_congr_mem
  rintro ⟨⟨r, t⟩, i⟩ _
  cases t <;> rfl

theorem pick_sim (k : Win.FrameType → Bool) (hk : ∀ t, k t = true → ∃ si, t = .frameData si ∨ t = .fpo si)
    (wins : List Win.Rec) (hsz : ∀ w ∈ wins, w.size < 2 ^ 32) (hlen : wins.length ≤ 2 ^ 64)
    {ctab : List Entry} (hc : Symbolize.winTable (kindOf k wins) = .ok ctab)
    (inp : List (Nat × Nat × Nat)) (hinp : inp.map (fun (a, s, i) => Rec.mk a s i) = wrecs k wins) :
    ∃ wtab, Win.buildTable inp = .ok wtab ∧
      ∀ (wt : Walk.WinTables), wt.typed = wins.map Win.classifyRec → ∀ a,
        (wt.pick wtab a).map (fun si => si.info.par.toNat) =
          (get ctab a).map fun v => (Rec.dec v).tag := by
  rw [← wrecs_retag] at hc
  obtain ⟨wtab, hw, hsim⟩ := winTable_sim (parAt wins)
    (fun i => ∃ w, wins[i]? = some w ∧ k (Win.classifyRec w) = true) (wrecs k wins) (by
      intro r hr
      obtain ⟨w, hw, hkw, _, hs⟩ := wrecs_mem hr
      have hlt : r.tag < wins.length := (List.getElem?_eq_some_iff.mp hw).1
      refine ⟨by rw [hs]; exact hsz w (List.mem_of_getElem? hw), ⟨by omega, ?_⟩, w, hw, hkw⟩
      simp only [parAt, hw]
      have := w.par.toNat_lt
      omega) hc
  refine ⟨wtab, ?_, ?_⟩
  · unfold Win.buildTable
    rw [hinp]
    exact hw
  · intro wt hty a
    obtain ⟨s1, s2⟩ := hsim a
    unfold Walk.WinTables.pick Win.lookup
    cases hg : get ctab a with
    | none => rw [s2 hg]; rfl
    | some v =>
      obtain ⟨i, ⟨w, hwi, hkw⟩, htag, hl⟩ := s1 v hg
      rw [hl, hty]
      simp only [Option.bind_some, List.getElem?_map, hwi, Option.map_some, htag, parAt]
      obtain ⟨si, hsi⟩ := hk _ hkw
      have hp := classify_par hsi
      rcases hsi with hsi | hsi <;> simp only [hsi, Option.map_some, hp]

theorem isFd_isFpo_spec (t : Win.FrameType) (h : isFd t = true ∨ isFpo t = true) :
    ∃ si, t = .frameData si ∨ t = .fpo si := by
  cases t with
  | frameData si => exact ⟨si, .inl rfl⟩
  | fpo si => exact ⟨si, .inr rfl⟩
  | unhandled => rcases h with h | h <;> cases h

/-- sizes `< 2^32`: the parser's `u32` field -/
theorem psize_agree {wins : List Win.Rec} {r : Symbolize.Recs} (hrel : WinRel wins r)
    (hsz : ∀ w ∈ wins, w.size < 2 ^ 32) (hlen : wins.length ≤ 2 ^ 64)
    {csf : Symbolize.SymFile} (hb : Symbolize.build r = .ok csf) (a : Nat) :
    (Walk.winTables wins).psize a =
      match get csf.wfd a with
      | some v => some (Rec.dec v).tag
      | none => (get csf.wfpo a).map fun v => (Rec.dec v).tag := by
  have B := Symbolize.build_built hb
  have c4 := B.wfd
  have c0 := B.wfpo
  rw [hrel.win4] at c4
  rw [hrel.win0] at c0
  obtain ⟨t4, b4, p4⟩ := pick_sim isFd (fun t h => isFd_isFpo_spec t (.inl h)) wins hsz hlen c4 (wFd wins) (wFd_recs wins)
  obtain ⟨t0, b0, p0⟩ := pick_sim isFpo (fun t h => isFd_isFpo_spec t (.inr h)) wins hsz hlen c0 (wFpo wins) (wFpo_recs wins)
  rw [winTables_eq, b4, b0]
  simp only [Walk.WinTables.psize]
  have q4 := p4 { typed := wins.map Win.classifyRec, fd := t4, fpo := t0 } rfl a
  have q0 := p0 { typed := wins.map Win.classifyRec, fd := t4, fpo := t0 } rfl a
  rw [← q0]
  generalize Walk.WinTables.pick { typed := wins.map Win.classifyRec, fd := t4, fpo := t0 } t4 a = o
    at q4 ⊢
  cases hg : get csf.wfd a with
  | none =>
    rw [hg] at q4
    rw [Option.map_eq_none_iff.mp q4]
  | some v =>
    rw [hg] at q4
    obtain ⟨si, rfl, hsi⟩ := Option.map_eq_some_iff.mp q4
    exact congrArg some hsi

theorem winTables_nil : Walk.winTables [] = Walk.WinTables.empty := by
  have e4 : wFd [] = [] := rfl
  have e0 : wFpo [] = [] := rfl
  rw [winTables_eq, e4, e0, show Win.buildTable [] = .ok [] from Symbolize.winTable_nil]
  rfl

theorem fillSymbolW_eq (sf : Walk.SymFile) (tbl : List Entry) (wt : Walk.WinTables) (base instr : Nat) :
    Walk.fillSymbolW sf tbl wt base instr = (Walk.fillSymbol sf tbl base instr).map fun f =>
      if instr < base ∨ get tbl (instr - base) = none then f
      else { f with psize := (wt.psize (instr - base)).getD f.psize } := by
  unfold Walk.fillSymbolW
  cases Walk.fillSymbol sf tbl base instr with
  | none => rfl
  | some f =>
    simp only [Option.map_some]
    by_cases hlt : instr < base
    · rw [if_pos hlt, if_pos (.inl hlt)]
    · rw [if_neg hlt]
      cases hg : get tbl (instr - base) with
      | none => rw [if_pos (.inr rfl)]
      | some i => rw [if_neg (not_or.mpr ⟨hlt, nofun⟩)]

theorem fillSymbolW_empty (sf : Walk.SymFile) (tbl : List Entry) (base instr : Nat) :
    Walk.fillSymbolW sf tbl Walk.WinTables.empty base instr = Walk.fillSymbol sf tbl base instr := by
  rw [fillSymbolW_eq]
  cases Walk.fillSymbol sf tbl base instr with
  | none => rfl
  | some f => simp only [Option.map_some]; split <;> rfl

theorem symbOf_eq_symbOfW (w : Walk.World) (mt : List Entry) (ft : List (List Entry)) :
    Walk.symbOf w mt ft = Walk.symbOfW w mt ft [] := by
  funext instr
  unfold Walk.symbOf Walk.symbOfW
  cases Walk.moduleAt mt instr with
  | none => rfl
  | some i =>
    simp only [List.getElem?_nil, Option.getD_none, fillSymbolW_empty]
    cases w.mods[i]? <;> cases (w.syms[i]?).join <;> cases ft[i]? <;> rfl

end MdModel.SymBridge
