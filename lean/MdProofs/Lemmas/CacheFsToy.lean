/-
  `MdModel.CacheFs.Toy.model` (a line-buffering parser with an explicit "unparseable line" rule)
  satisfies `ParserLaws`: the hypotheses of the generic C16 theorems are inhabited by an instance
  whose runs can be decided by evaluation (the examples at the end of C16). The instance the
  compiled model runs is `Real.model` (`MdProofs.Lemmas.CacheFsReal`).
-/
import MdModel.CacheFs
import MdProofs.Lemmas.CacheFs
namespace MdModel.CacheFs.Toy
open MdModel.CacheFs

theorem hasNl_append_left {a : Bytes} (b : Bytes) (h : hasNl a = true) : hasNl (a ++ b) = true := by
  unfold hasNl at h ⊢
  rw [List.any_append, h]
  rfl

/-- the defining equation of `consumed`, given what `consumed xs = []` means -/
private theorem consumed_cons_of (x : UInt8) (xs : Bytes) (ih : consumed xs = [] ↔ hasNl xs = false) :
    consumed (x :: xs) = if hasNl (x :: xs) = true then x :: consumed xs else [] := by
  have hx : hasNl (x :: xs) = (x == 10 || hasNl xs) := rfl
  cases hc : consumed xs with
  | nil => cases h10 : x == 10 <;> simp [consumed, hc, hx, h10, ih.mp hc]
  | cons y ys =>
    have : hasNl xs = true := by
      cases h : hasNl xs with
      | true => rfl
      | false => rw [ih.mpr h] at hc; cases hc
    simp [consumed, hc, hx, this]

theorem consumed_eq_nil (l : Bytes) : consumed l = [] ↔ hasNl l = false := by
  induction l with
  | nil => simp [consumed, hasNl]
  | cons x xs ih =>
    rw [consumed_cons_of x xs ih]
    cases hasNl (x :: xs) <;> simp

theorem consumed_cons (x : UInt8) (xs : Bytes) :
    consumed (x :: xs) = if hasNl (x :: xs) = true then x :: consumed xs else [] :=
  consumed_cons_of x xs (consumed_eq_nil xs)

theorem consumed_append (a b : Bytes) : ∃ t, consumed (a ++ b) = consumed a ++ t := by
  induction a with
  | nil => exact ⟨consumed b, rfl⟩
  | cons x xs ih =>
    by_cases h : hasNl (x :: xs) = true
    · have h' : hasNl (x :: (xs ++ b)) = true := hasNl_append_left (a := x :: xs) b h
      obtain ⟨t, ht⟩ := ih
      refine ⟨t, ?_⟩
      show consumed (x :: (xs ++ b)) = _
      simp only [consumed_cons, h, h', if_true, ht, List.cons_append]
    · refine ⟨consumed (x :: xs ++ b), ?_⟩
      simp [consumed_cons, h]

theorem consumed_prefix (a : Bytes) : ∃ t, consumed a ++ t = a := by
  induction a with
  | nil => exact ⟨[], rfl⟩
  | cons x xs ih =>
    by_cases h : hasNl (x :: xs) = true
    · obtain ⟨t, ht⟩ := ih
      exact ⟨t, by simp only [consumed_cons, h, if_true, List.cons_append, ht]⟩
    · exact ⟨x :: xs, by simp [consumed_cons, h]⟩

theorem consumed_snoc_nl (l : Bytes) : consumed (l ++ [10]) = l ++ [10] := by
  induction l with
  | nil => simp [consumed]
  | cons x xs ih =>
    have : hasNl (x :: (xs ++ [10])) = true := by simp [hasNl]
    show consumed (x :: (xs ++ [10])) = _
    simp only [consumed_cons, this, if_true, ih, List.cons_append]


theorem hasBad_append (pre b : Bytes) (st : Bool) :
    hasBadFrom st (pre ++ 10 :: b) = (hasBadFrom st (pre ++ [10]) || hasBadFrom true b) := by
  induction pre generalizing st with
  | nil => simp [hasBadFrom]
  | cons x xs ih => simp [hasBadFrom, ih, Bool.or_assoc]

theorem hasBad_single (l : Bytes) (h : ∀ b ∈ l, b ≠ 10) (st : Bool) :
    hasBadFrom st (l ++ [10]) = (st && l.head? == some 33) := by
  induction l generalizing st with
  | nil => simp [hasBadFrom]
  | cons x xs ih =>
    have hx : (x == 10) = false := by simpa using h x (by simp)
    simp [hasBadFrom, hx, ih (fun b hb => h b (by simp [hb]))]

theorem lines_append (pre b cur : Bytes) :
    linesAux cur (pre ++ 10 :: b) = linesAux cur (pre ++ [10]) ++ linesAux [] b := by
  induction pre generalizing cur with
  | nil => simp [linesAux]
  | cons x xs ih =>
    cases hx : x == 10 <;> simp [linesAux, hx, ih]

theorem lines_single (l cur : Bytes) (h : ∀ b ∈ l, b ≠ 10) :
    linesAux cur (l ++ [10]) = [cur.reverse ++ l] := by
  induction l generalizing cur with
  | nil => simp [linesAux]
  | cons x xs ih =>
    have hx : (x == 10) = false := by simpa using h x (by simp)
    have := ih (x :: cur) (fun b hb => h b (by simp [hb]))
    simp only [List.cons_append, linesAux, hx]
    simpa using this

theorem tag_no_nl (u : Url) (hu : UrlClean u) : ∀ b ∈ infoUrlTag ++ u, b ≠ 10 := by
  intro b hb
  rcases List.mem_append.mp hb with h | h
  · exact (by decide : ∀ b ∈ infoUrlTag, b ≠ 10) b h
  · exact (hu b h).1

theorem trailer_not_bad (u : Url) (hu : UrlClean u) : hasBadFrom true (trailer u) = false := by
  rw [trailer, hasBad_single _ (tag_no_nl u hu)]
  simp [infoUrlTag]

theorem isInfoUrl_tag (u : Url) : isInfoUrl (infoUrlTag ++ u) = true := by
  rw [isInfoUrl, List.isPrefixOf_iff_prefix]
  exact List.prefix_append _ _


theorem parse_some {b : Bytes} {t : Sym} (h : parse b = some t) : wholeOk b = true ∧ t = symOf b := by
  unfold parse at h
  by_cases hw : wholeOk b = true
  · simp [hw] at h; exact ⟨hw, h.symm⟩
  · simp [hw] at h

theorem wholeOk_iff (b : Bytes) :
    wholeOk b = true ↔ b ≠ [] ∧ consumed b = b ∧ hasBadFrom true b = false := by
  simp [wholeOk, and_assoc]

theorem feed_some {s s' : St} {b cb : Bytes} (h : feed s b = some (s', cb)) :
    s'.seen = s.seen ++ b ∧ cb = (consumed (s.seen ++ b)).drop (consumed s.seen).length := by
  simp only [feed] at h
  split at h
  · cases h
  · cases h; exact ⟨rfl, rfl⟩

theorem finish_some {s : St} {fin : Bytes} {t : Sym} (h : finish s = some (fin, t)) :
    fin = [] ∧ parse s.seen = some t := by
  unfold finish at h
  split at h
  · cases h
  next t' hp => cases h; exact ⟨rfl, hp⟩

theorem run_inv (rx : List Bytes) (s : St) (cb : Bytes) (h : model.runRev rx = some (s, cb)) :
    s.seen = bodyOf rx ∧ cb = consumed s.seen := by
  induction rx generalizing s cb with
  | nil => cases h; exact ⟨rfl, rfl⟩
  | cons b older ih =>
    obtain ⟨s0, cb0, d, hr, hf, rfl⟩ := runRev_cons_eq_some.mp h
    obtain ⟨hseen, rfl⟩ := ih s0 cb0 hr
    obtain ⟨hs, rfl⟩ := feed_some hf
    obtain ⟨t, ht⟩ := consumed_append s0.seen b
    exact ⟨by rw [hs, hseen]; rfl, by rw [hs, ht, List.drop_left]⟩

theorem laws : ParserLaws model where
  callback_prefix := by
    intro rx s cb h
    obtain ⟨hseen, rfl⟩ := run_inv rx s cb h
    rw [← hseen]
    refine ⟨consumed_prefix s.seen, fun fin t hf => ?_⟩
    obtain ⟨rfl, hp⟩ := finish_some hf
    rw [((wholeOk_iff s.seen).mp (parse_some hp).1).2.1, List.append_nil]
  chunk_independent := by
    intro rx cb t _ h
    obtain ⟨s, cb0, fin, hr, hf, _⟩ := stream_eq_some.mp h
    rw [← (run_inv rx s cb0 hr).1]
    exact (finish_some hf).2
  info_url_trailer := by
    intro body t u hu hends _ hp
    obtain ⟨pre, rfl⟩ := hends
    obtain ⟨hw, rfl⟩ := parse_some hp
    have hbad := ((wholeOk_iff _).mp hw).2.2
    have e : pre ++ [10] ++ trailer u = pre ++ 10 :: trailer u := by simp
    have hw' : wholeOk (pre ++ 10 :: trailer u) = true := by
      rw [wholeOk_iff]
      refine ⟨by simp, ?_, ?_⟩
      · have : pre ++ 10 :: trailer u = (pre ++ [10] ++ infoUrlTag ++ u) ++ [10] := by simp [trailer]
        rw [this, consumed_snoc_nl]
      · rw [hasBad_append, hbad, trailer_not_bad u hu]; rfl
    have hl : linesAux [] (pre ++ 10 :: trailer u) = linesAux [] (pre ++ [10]) ++ [infoUrlTag ++ u] := by
      rw [lines_append, trailer, lines_single _ _ (tag_no_nl u hu)]
      rfl
    show parse (pre ++ [10] ++ trailer u) = some { symOf (pre ++ [10]) with url := some u }
    rw [e, parse, hw', if_pos rfl]
    simp only [symOf, hl, List.filter_append, List.filter_cons, List.filter_nil, isInfoUrl_tag]
    simp [infoUrlTag]

end MdModel.CacheFs.Toy
