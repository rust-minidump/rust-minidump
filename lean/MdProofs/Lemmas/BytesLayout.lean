/-
  The positions the hand-written views (`RawModule.ofVals`,
  `Thread.ofVals`, `readException`, ...) read with `fld v i` are the fields they are meant to be, in
  the layouts regenerated from `minidump-common/src/format.rs` on every check
  (`translators/layouts.py`). A reordered, retyped, added or removed field in format.rs makes one of
  these statements false, i.e. `lake build` fails before any case is run. Each holds by unfolding the
  generated table (`rfl`: string literals are compared as literals; deciding the equalities would
  UTF-8-encode every name). First the wire size of each record, which readers, encoder and
  `record_sizes` all take from here.
-/
import MdModel.Dump
import MdModel.Gen.LayoutsC02
namespace MdModel.Dump
open MdModel.Gen.Layouts

theorem size_header : Layout.size MINIDUMP_HEADER = 32 := by decide
theorem size_directory : Layout.size MINIDUMP_DIRECTORY = 12 := by decide
theorem size_thread : Layout.size MINIDUMP_THREAD = 48 := by decide
theorem size_module : Layout.size MINIDUMP_MODULE = 108 := by decide
theorem size_memdesc : Layout.size MINIDUMP_MEMORY_DESCRIPTOR = 16 := by decide
theorem size_memdesc64 : Layout.size MINIDUMP_MEMORY_DESCRIPTOR64 = 16 := by decide
theorem size_meminfo : Layout.size MINIDUMP_MEMORY_INFO = 48 := by decide
theorem size_threadname : Layout.size MINIDUMP_THREAD_NAME = 12 := by decide
theorem size_unloaded : Layout.size MINIDUMP_UNLOADED_MODULE = 24 := by decide
theorem size_exception : Layout.size MINIDUMP_EXCEPTION_STREAM = 168 := by decide
open MdModel.Gen.LayoutsC02 in
theorem size_handleData : Layout.size MINIDUMP_HANDLE_DATA_STREAM = 16 := by decide
theorem size_handle1 : Layout.size MINIDUMP_HANDLE_DESCRIPTOR = 32 := by decide
theorem size_handle2 : Layout.size MINIDUMP_HANDLE_DESCRIPTOR_2 = 40 := by decide
theorem size_objinfo : Layout.size MINIDUMP_HANDLE_OBJECT_INFORMATION = 12 := by decide
theorem size_crashpadInfo : Layout.size MINIDUMP_CRASHPAD_INFO = 52 := by decide
theorem size_modinfo : Layout.size MINIDUMP_MODULE_CRASHPAD_INFO = 28 := by decide
theorem size_link : Layout.size MINIDUMP_MODULE_CRASHPAD_INFO_LINK = 12 := by decide
theorem size_dictEntry : Layout.size MINIDUMP_SIMPLE_STRING_DICTIONARY_ENTRY = 8 := by decide
theorem size_annotation : Layout.size MINIDUMP_ANNOTATION = 12 := by decide

open MdModel.Gen.LayoutsC02 in
theorem misc_sizes :
    Layout.size MINIDUMP_MISC_INFO = 24 ∧ Layout.size MINIDUMP_MISC_INFO_2 = 44 ∧ Layout.size MINIDUMP_MISC_INFO_3 = 232 ∧
    Layout.size MINIDUMP_MISC_INFO_4 = 832 ∧ Layout.size MINIDUMP_MISC_INFO_5 = 1364 := by decide +kernel

def fieldAt (l : Layout) (i : Nat) : Option (String × Nat) := l[i]?

theorem header_layout :
    MINIDUMP_HEADER = [("signature", 4), ("version", 4), ("stream_count", 4), ("stream_directory_rva", 4),
      ("checksum", 4), ("time_date_stamp", 4), ("flags", 8)] := rfl

theorem directory_layout :
    MINIDUMP_DIRECTORY = [("stream_type", 4), ("location.data_size", 4), ("location.rva", 4)] := rfl

theorem location_layout : MINIDUMP_LOCATION_DESCRIPTOR = [("data_size", 4), ("rva", 4)] := rfl

theorem thread_layout :
    MINIDUMP_THREAD = [("thread_id", 4), ("suspend_count", 4), ("priority_class", 4), ("priority", 4), ("teb", 8),
      ("stack.start_of_memory_range", 8), ("stack.memory.data_size", 4), ("stack.memory.rva", 4),
      ("thread_context.data_size", 4), ("thread_context.rva", 4)] := rfl

theorem module_layout_used :
    fieldAt MINIDUMP_MODULE 0 = some ("base_of_image", 8) ∧ fieldAt MINIDUMP_MODULE 1 = some ("size_of_image", 4) ∧
    fieldAt MINIDUMP_MODULE 2 = some ("checksum", 4) ∧ fieldAt MINIDUMP_MODULE 3 = some ("time_date_stamp", 4) ∧
    fieldAt MINIDUMP_MODULE 4 = some ("module_name_rva", 4) ∧
    fieldAt MINIDUMP_MODULE 18 = some ("cv_record.data_size", 4) ∧ fieldAt MINIDUMP_MODULE 19 = some ("cv_record.rva", 4) ∧
    fieldAt MINIDUMP_MODULE 20 = some ("misc_record.data_size", 4) ∧ fieldAt MINIDUMP_MODULE 21 = some ("misc_record.rva", 4) ∧
    MINIDUMP_MODULE.length = 26 :=
  ⟨rfl, rfl, rfl, rfl, rfl, rfl, rfl, rfl, rfl, rfl⟩

theorem unloaded_module_layout :
    MINIDUMP_UNLOADED_MODULE = [("base_of_image", 8), ("size_of_image", 4), ("checksum", 4), ("time_date_stamp", 4),
      ("module_name_rva", 4)] := rfl

theorem memory_descriptor_layout :
    MINIDUMP_MEMORY_DESCRIPTOR = [("start_of_memory_range", 8), ("memory.data_size", 4), ("memory.rva", 4)] := rfl

theorem memory_descriptor64_layout :
    MINIDUMP_MEMORY_DESCRIPTOR64 = [("start_of_memory_range", 8), ("data_size", 8)] := rfl

theorem memory_info_layout :
    MINIDUMP_MEMORY_INFO = [("base_address", 8), ("allocation_base", 8), ("allocation_protection", 4), ("__alignment1", 4),
      ("region_size", 8), ("state", 4), ("protection", 4), ("_type", 4), ("__alignment2", 4)] := rfl

theorem thread_name_layout : MINIDUMP_THREAD_NAME = [("thread_id", 4), ("thread_name_rva", 8)] := rfl

theorem thread_info_layout_used :
    fieldAt MINIDUMP_THREAD_INFO 0 = some ("thread_id", 4) ∧ Layout.size MINIDUMP_THREAD_INFO = 64 :=
  ⟨rfl, rfl⟩

theorem object_info_layout :
    MINIDUMP_HANDLE_OBJECT_INFORMATION = [("next_info_rva", 4), ("info_type", 4), ("size_of_info", 4)] := rfl

theorem handle_descriptor_layout :
    MINIDUMP_HANDLE_DESCRIPTOR = [("handle", 8), ("type_name_rva", 4), ("object_name_rva", 4), ("attributes", 4),
      ("granted_access", 4), ("handle_count", 4), ("pointer_count", 4)] ∧
    MINIDUMP_HANDLE_DESCRIPTOR_2 = [("handle", 8), ("type_name_rva", 4), ("object_name_rva", 4), ("attributes", 4),
      ("granted_access", 4), ("handle_count", 4), ("pointer_count", 4), ("object_info_rva", 4), ("reserved0", 4)] :=
  ⟨rfl, rfl⟩

theorem exception_layout_used :
    fieldAt MINIDUMP_EXCEPTION_STREAM 0 = some ("thread_id", 4) ∧
    fieldAt MINIDUMP_EXCEPTION_STREAM 2 = some ("exception_record.exception_code", 4) ∧
    fieldAt MINIDUMP_EXCEPTION_STREAM 3 = some ("exception_record.exception_flags", 4) ∧
    fieldAt MINIDUMP_EXCEPTION_STREAM 4 = some ("exception_record.exception_record", 8) ∧
    fieldAt MINIDUMP_EXCEPTION_STREAM 5 = some ("exception_record.exception_address", 8) ∧
    fieldAt MINIDUMP_EXCEPTION_STREAM 6 = some ("exception_record.number_parameters", 4) ∧
    fieldAt MINIDUMP_EXCEPTION_STREAM 8 = some ("exception_record.exception_information[0]", 8) ∧
    fieldAt MINIDUMP_EXCEPTION_STREAM 22 = some ("exception_record.exception_information[14]", 8) ∧
    fieldAt MINIDUMP_EXCEPTION_STREAM 23 = some ("thread_context.data_size", 4) ∧
    fieldAt MINIDUMP_EXCEPTION_STREAM 24 = some ("thread_context.rva", 4) ∧
    MINIDUMP_EXCEPTION_STREAM.length = 25 :=
  ⟨rfl, rfl, rfl, rfl, rfl, rfl, rfl, rfl, rfl, rfl, rfl⟩

theorem guid_layout :
    GUID = [("data1", 4), ("data2", 2), ("data3", 2), ("data4[0]", 1), ("data4[1]", 1), ("data4[2]", 1), ("data4[3]", 1),
      ("data4[4]", 1), ("data4[5]", 1), ("data4[6]", 1), ("data4[7]", 1)] := rfl

theorem crashpad_layouts_used :
    fieldAt MINIDUMP_CRASHPAD_INFO 0 = some ("version", 4) ∧
    fieldAt MINIDUMP_CRASHPAD_INFO 23 = some ("simple_annotations.data_size", 4) ∧
    fieldAt MINIDUMP_CRASHPAD_INFO 24 = some ("simple_annotations.rva", 4) ∧
    fieldAt MINIDUMP_CRASHPAD_INFO 25 = some ("module_list.data_size", 4) ∧
    fieldAt MINIDUMP_CRASHPAD_INFO 26 = some ("module_list.rva", 4) ∧
    MINIDUMP_MODULE_CRASHPAD_INFO_LINK = [("minidump_module_list_index", 4), ("location.data_size", 4), ("location.rva", 4)] ∧
    MINIDUMP_MODULE_CRASHPAD_INFO = [("version", 4), ("list_annotations.data_size", 4), ("list_annotations.rva", 4),
      ("simple_annotations.data_size", 4), ("simple_annotations.rva", 4), ("annotation_objects.data_size", 4),
      ("annotation_objects.rva", 4)] ∧
    MINIDUMP_SIMPLE_STRING_DICTIONARY_ENTRY = [("key", 4), ("value", 4)] ∧
    MINIDUMP_ANNOTATION = [("name", 4), ("ty", 2), ("_reserved", 2), ("value", 4)] ∧
    ANNOTATION_TYPE_INVALID = 0 ∧ ANNOTATION_TYPE_STRING = 1 ∧ ANNOTATION_TYPE_USER_DEFINED = 0x8000 :=
  ⟨rfl, rfl, rfl, rfl, rfl, rfl, rfl, rfl, rfl, rfl, rfl, rfl⟩

theorem constants_as_documented :
    MINIDUMP_SIGNATURE = 0x504d444d ∧ MINIDUMP_VERSION = 0xa793 ∧ CV_SIGNATURE_PDB70 = 0x53445352 ∧
    CV_SIGNATURE_PDB20 = 0x3031424e ∧ CV_SIGNATURE_ELF = 0x4270454c ∧ OBJECT_INFO_TYPE_COUNT = 10 :=
  ⟨rfl, rfl, rfl, rfl, rfl, rfl⟩

end MdModel.Dump
