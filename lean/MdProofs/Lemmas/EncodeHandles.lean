/-
  C02: the handle-data stream reads back: header, descriptors of either kind, the two optional
  names, and the object-information chain (walked with the visited set and the fuel of C01's model).
-/
import MdProofs.Lemmas.EncodeStreams
namespace MdModel.Encode
open MdModel MdModel.Dump MdModel.Gen.Layouts MdModel.Gen.LayoutsC02

theorem encInfos_cons (e : Endian) (base : Nat) (i : MObjInfo) (rest : List MObjInfo) :
    encInfos e base (i :: rest) = encFields e MINIDUMP_HANDLE_OBJECT_INFORMATION
      [if rest.isEmpty then 0 else base + 12, i.ty, i.size] ++ encInfos e (base + 12) rest := by
  cases rest <;> simp [encInfos]

theorem encInfos_length (e : Endian) (infos : List MObjInfo) (base : Nat) : (encInfos e base infos).length = 12 * infos.length := by
  induction infos generalizing base with
  | nil => rfl
  | cons i rest ih => rw [encInfos_cons, List.length_append, encFields_length, size_objinfo, ih, List.length_cons]; omega

theorem encOptString_length (e : Endian) (o : Option (List Nat)) : (encOptString e o).length = optStringSize o := by
  cases o <;> simp [encOptString, optStringSize, encString_length]

theorem oobHandle_length (e : Endian) (v2 : Bool) (off : Nat) (h : MHandle) :
    (oobHandle e v2 off h).length = oobHandleSize v2 h := by
  simp [oobHandle, oobHandleSize, encOptString_length, encInfos_length, Nat.add_assoc]

theorem oobHandles_length (e : Endian) (v2 : Bool) (hs : List MHandle) (off : Nat) :
    (oobHandles e v2 off hs).length = oobHandlesSize v2 hs := by
  induction hs generalizing off <;> simp [oobHandles, oobHandlesSize, oobHandle_length, *]

theorem handleRecs_length (v2 : Bool) (hs : List MHandle) (off : Nat) : (handleRecs v2 off hs).length = hs.length := by
  induction hs generalizing off <;> simp [handleRecs, *]

theorem handleLayout_size (v2 : Bool) : Layout.size (handleLayout v2) = handleDescSize v2 := by
  cases v2
  · exact size_handle1
  · exact size_handle2

def OptValidName : Option (List Nat) → Prop
  | none => True
  | some n => ValidName n

def HandleFits (h : MHandle) : Prop :=
  h.handle < 2 ^ 64 ∧ h.attributes < 2 ^ 32 ∧ h.grantedAccess < 2 ^ 32 ∧ h.handleCount < 2 ^ 32 ∧ h.pointerCount < 2 ^ 32 ∧
  OptValidName h.typeName ∧ OptValidName h.objectName ∧
  ∀ i ∈ h.infos, i.ty < OBJECT_INFO_TYPE_COUNT ∧ i.size < 2 ^ 32

theorem handleRec_fits {all : List UInt8} (hall : all.length < 2 ^ 32) (e : Endian) (v2 : Bool) (off : Nat) (h : MHandle)
    (hf : HandleFits h) (hh : Has all off (oobHandle e v2 off h)) : Fits (handleLayout v2) (handleRec v2 off h) := by
  obtain ⟨h1, h2, h3, h4, h5, _, _, _⟩ := hf
  have hle := hh.length_le
  rw [oobHandle_length] at hle
  unfold oobHandleSize at hle
  have ht : optOff h.typeName off < 2 ^ 32 := by
    cases h.typeName <;> simp [optOff] <;> omega
  have ho : optOff h.objectName (off + optStringSize h.typeName) < 2 ^ 32 := by
    cases h.objectName <;> simp [optOff] <;> omega
  cases v2 with
  | false =>
    simp only [handleLayout, handleRec, MINIDUMP_HANDLE_DESCRIPTOR, Bool.false_eq_true, if_false, List.append_nil, Fits,
      pow_256_4, pow_256_8]
    exact ⟨h1, ht, ho, h2, h3, h4, h5, trivial⟩
  | true =>
    simp only [handleLayout, handleRec, MINIDUMP_HANDLE_DESCRIPTOR_2, if_true, List.cons_append, List.nil_append, Fits,
      pow_256_4, pow_256_8]
    refine ⟨h1, ht, ho, h2, h3, h4, h5, ?_, by decide, trivial⟩
    split <;> omega

theorem readObjectInfo_enc {all : Bytes} {e : Endian} {base next ty size : Nat} (hb : 0 < base)
    (h : Has all.toList base (encFields e MINIDUMP_HANDLE_OBJECT_INFORMATION [next, ty, size]))
    (hn : next < 2 ^ 32) (ht : ty < OBJECT_INFO_TYPE_COUNT) (hs : size < 2 ^ 32) :
    readObjectInfo all e base = some ⟨next, ty, size⟩ := by
  have hfit : Fits MINIDUMP_HANDLE_OBJECT_INFORMATION [next, ty, size] := by
    simp only [MINIDUMP_HANDLE_OBJECT_INFORMATION, Fits, pow_256_4]
    have : OBJECT_INFO_TYPE_COUNT = 10 := rfl
    exact ⟨hn, by omega, hs, trivial⟩
  have hrd := readFields_has hfit h
  unfold readObjectInfo
  rw [if_neg (by omega)]
  simp only [hrd, fld, List.getD_cons_zero, List.getD_cons_succ, ht, if_true]

theorem walkChain_enc {all : Bytes} (e : Endian) (hall : all.size < 2 ^ 32) :
    ∀ (infos : List MObjInfo) (base fuel : Nat) (seen : List Nat) (acc : List ObjInfo),
      0 < base → Has all.toList base (encInfos e base infos) → infos.length < fuel →
      (∀ r ∈ seen, r < base) → (∀ i ∈ infos, i.ty < OBJECT_INFO_TYPE_COUNT ∧ i.size < 2 ^ 32) →
      ∃ r, walkChain all e fuel (if infos.isEmpty then 0 else base) seen acc = some (acc.reverse ++ r) ∧
        r.map (fun o => (o.ty, o.size)) = infos.map (fun i => (i.ty, i.size))
  | [], _, f + 1, _, _, _, _, _, _, _ => ⟨[], by simp [walkChain], rfl⟩
  | i :: rest, base, f + 1, seen, acc, hb, h, hfuel, hseen, hok => by
    obtain ⟨hty, hsz⟩ := hok i (by simp)
    rw [encInfos_cons] at h
    have hnew : seen.contains base = false := by
      rw [Bool.eq_false_iff]
      intro hc
      have := hseen base (List.contains_iff_mem.mp hc)
      omega
    have hle := h.size_le
    rw [List.length_append, encFields_length, size_objinfo, encInfos_length] at hle
    have hrd := readObjectInfo_enc hb h.left (by split <;> omega) hty hsz
    obtain ⟨r, hr1, hr2⟩ := walkChain_enc e hall rest (base + 12) f (base :: seen)
      (⟨if rest.isEmpty then 0 else base + 12, i.ty, i.size⟩ :: acc) (by omega)
      (h.after ((encFields_length ..).trans size_objinfo)) (by simpa using hfuel)
      (fun x hx => by
        rcases List.mem_cons.mp hx with rfl | hx
        · omega
        · have := hseen x hx; omega)
      (fun x hx => hok x (by simp [hx]))
    refine ⟨⟨if rest.isEmpty then 0 else base + 12, i.ty, i.size⟩ :: r, ?_, by simp [hr2]⟩
    simp only [List.isEmpty_cons, Bool.false_eq_true, if_false, walkChain, hnew, hrd]
    rw [if_neg (by omega), hr1]
    simp

theorem walkChain_zero {all : Bytes} (e : Endian) (fuel : Nat) : walkChain all e (fuel + 1) 0 [] [] = some [] := by
  simp [walkChain]

theorem handleString_opt {all : Bytes} {e : Endian} {off : Nat} (o : Option (List Nat)) (hoff : 0 < off) (hv : OptValidName o)
    (h : Has all.toList off (encOptString e o)) (hall : all.size < 2 ^ 32) :
    (handleString all e (optOff o off)).res = .ok o := by
  cases o with
  | none => simp [handleString, optOff]
  | some n =>
    show (handleString all e off).res = _
    unfold handleString
    rw [if_neg (by omega), res_bind_ok (readStringUtf16_enc hv h hall)]
    rfl

theorem readHandleDescriptor_enc (ms : MemSizes) {s all : Bytes} {e : Endian} {v2 : Bool} {soff off : Nat} {h : MHandle}
    (hs : Has s.toList soff (encFields e (handleLayout v2) (handleRec v2 off h))) (hf : HandleFits h) (hoff : 0 < off)
    (hoob : Has all.toList off (oobHandle e v2 off h)) (hall : all.size < 2 ^ 32) :
    ∃ r, (readHandleDescriptor ms s all e (handleDescSize v2) soff).res = .ok (some r) ∧ rhandleOf r = reportHandle v2 h := by
  have hrd := readFields_has (handleRec_fits (by simpa using hall) e v2 off h hf hoob) hs
  obtain ⟨_, _, _, _, _, hvt, hvo, hinfos⟩ := hf
  unfold oobHandle at hoob
  have htn := handleString_opt h.typeName hoff hvt hoob.left.left hall
  have hon := handleString_opt h.objectName (Nat.add_pos_left hoff _) hvo
    (hoob.left.after (encOptString_length e h.typeName)) hall
  have e1 : fld (handleRec v2 off h) 1 = optOff h.typeName off := rfl
  have e2 : fld (handleRec v2 off h) 2 = optOff h.objectName (off + optStringSize h.typeName) := rfl
  unfold readHandleDescriptor
  cases v2 with
  | false =>
    simp only [handleDescSize, Bool.false_eq_true, if_false, size_handle1, if_true,
      show readFields MINIDUMP_HANDLE_DESCRIPTOR s soff e = _ from hrd]
    rw [e1, res_bind_ok htn, e2, res_bind_ok hon]
    refine ⟨_, rfl, ?_⟩
    simp [rhandleOf, reportHandle, handleRec, fld, handleInfos]
  | true =>
    simp only [handleDescSize, if_true, size_handle1, size_handle2, show ¬ ((40 : Nat) = 32) by decide, if_false,
      show readFields MINIDUMP_HANDLE_DESCRIPTOR_2 s soff e = _ from hrd]
    have e7 : fld (handleRec true off h) 7 =
        (if h.infos.isEmpty then 0 else off + optStringSize h.typeName + optStringSize h.objectName) := rfl
    rw [e1, res_bind_ok htn, e2, res_bind_ok hon, e7]
    have hchain : Has all.toList (off + optStringSize h.typeName + optStringSize h.objectName)
        (encInfos e (off + optStringSize h.typeName + optStringSize h.objectName) h.infos) := by
      simpa only [List.length_append, encOptString_length, ← Nat.add_assoc, handleInfos, if_true] using hoob.right
    have hle := hchain.size_le
    rw [encInfos_length] at hle
    obtain ⟨r, hr1, hr2⟩ := walkChain_enc e hall h.infos _ (all.size + 1) [] [] (by omega) hchain (by omega) (by simp) hinfos
    rw [List.reverse_nil, List.nil_append] at hr1
    simp only [hr1]
    rw [res_bind_ok (res_alloc _ _ _)]
    refine ⟨_, rfl, ?_⟩
    simp [rhandleOf, reportHandle, handleRec, fld, handleInfos, hr2]

theorem readHandles_enc (ms : MemSizes) {s all : Bytes} {e : Endian} {v2 : Bool} (hall : all.size < 2 ^ 32) :
    ∀ (hs : List MHandle) (soff off : Nat), (∀ h ∈ hs, HandleFits h) → 0 < off →
      Has s.toList soff (encRecords e (handleLayout v2) (handleRecs v2 off hs)) →
      Has all.toList off (oobHandles e v2 off hs) →
      ∃ r, (readHandles ms s all e (handleDescSize v2) hs.length soff).res = .ok r ∧
        r.map rhandleOf = hs.map (reportHandle v2)
  | [], _, _, _, _, _, _ => ⟨[], rfl, rfl⟩
  | h :: hs, soff, off, hf, hoff, hrec, hoob => by
    rw [handleRecs, encRecords_cons] at hrec
    have hle := hrec.size_le
    obtain ⟨x, hx1, hx2⟩ := readHandleDescriptor_enc ms hrec.left (hf h (by simp)) hoff hoob.left hall
    obtain ⟨r, hr1, hr2⟩ := readHandles_enc ms hall hs (soff + handleDescSize v2) (off + oobHandleSize v2 h)
      (fun h' hh' => hf h' (by simp [hh'])) (Nat.add_pos_left hoff _)
      (hrec.after ((encFields_length ..).trans (handleLayout_size v2))) (hoob.after (oobHandle_length e v2 off h))
    refine ⟨x :: r, ?_, by simp [hx2, hr2]⟩
    simp only [List.length_cons, readHandles]
    rw [if_neg (by omega), res_bind_ok hx1]
    simp only
    rw [res_bind_ok hr1]
    rfl

theorem handleRecs_fits {all : List UInt8} (hall : all.length < 2 ^ 32) (e : Endian) (v2 : Bool) :
    ∀ (hs : List MHandle) (off : Nat), (∀ h ∈ hs, HandleFits h) → Has all off (oobHandles e v2 off hs) →
      ∀ r ∈ handleRecs v2 off hs, Fits (handleLayout v2) r := by
  intro hs
  induction hs with
  | nil => intro off _ _ r hr; cases hr
  | cons h hs ih =>
    intro off hf hoob r hr
    rw [handleRecs, List.mem_cons] at hr
    rcases hr with rfl | hr
    · exact handleRec_fits hall e v2 off h (hf h (by simp)) hoob.left
    · exact ih _ (fun h' hh' => hf h' (by simp [hh'])) (hoob.after (oobHandle_length e v2 off h)) r hr

theorem readHandleData_enc (ms : MemSizes) {s all : Bytes} {e : Endian} {off : Nat} {x : MHandleData}
    (hs : s.toList = encHandleData e off x) (hf : ∀ h ∈ x.handles, HandleFits h) (hoff : 0 < off)
    (hoob : Has all.toList off (oobHandles e x.v2 off x.handles)) (hall : all.size < 2 ^ 32) (hsz : s.size < 2 ^ 32) :
    ∃ r, (readHandleData ms s all e).res = .ok r ∧ r.map rhandleOf = x.handles.map (reportHandle x.v2) := by
  have hlen : s.size = 16 + x.handles.length * handleDescSize x.v2 := by
    have := congrArg List.length hs
    simpa [encHandleData, handleRecs_length, handleLayout_size, size_handleData] using this
  have hd : handleDescSize x.v2 = 32 ∨ handleDescSize x.v2 = 40 := by cases x.v2 <;> simp [handleDescSize]
  have hcnt := Nat.le_mul_of_pos_right x.handles.length (show 0 < handleDescSize x.v2 by omega)
  have hh : Has s.toList 0 (encNat e 4 16 ++ (encNat e 4 (handleDescSize x.v2) ++ (encNat e 4 x.handles.length ++
      (encNat e 4 0 ++ encRecords e (handleLayout x.v2) (handleRecs x.v2 off x.handles))))) :=
    Has.prefix0 (rest := []) (by simp [hs, encHandleData, MINIDUMP_HANDLE_DATA_STREAM, encFields])
  obtain ⟨h0, hh⟩ := hh.scalar (by decide)
  obtain ⟨h4, hh⟩ := hh.scalar (by omega)
  obtain ⟨h8, hh⟩ := hh.scalar (by omega)
  obtain ⟨r, hr1, hr2⟩ := readHandles_enc ms (v2 := x.v2) hall x.handles 16 off hf hoff
    (hh.after (encNat_length e 4 0)) hoob
  refine ⟨r, ?_, hr2⟩
  unfold readHandleData
  simp only [show readU32 s 0 e = _ from h0, show readU32 s 4 e = _ from h4, show readU32 s 8 e = _ from h8,
    ensureCountInBound_in (show x.handles.length * handleDescSize x.v2 + 16 ≤ s.size by omega) hsz]
  rw [if_neg (by rw [size_handle1, size_handle2]; omega), res_bind_ok (res_alloc _ _ _)]
  exact hr1

end MdModel.Encode
