/-
  The register file of a context as the unwinders of each context kind read it: the canonical names of
  instruction, stack and frame pointer; `raw` / `set` / `has` / `get` see a name through its canonical name
  only (`raw_of_canon`, `set_of_canon`, `Ctx.has_of_canon`, `Ctx.get_of_canon`: ARM and ARM64 read `r11` /
  `r13` / `x29`), x86 and x86-64 test literal names (`has_eq_hasLit`), MIPS32 truncates; and `RView`: what
  every technique's step lemma assumes of a frame's registers — the per-frame invariant of the chain
  inductions of C04 — with its frame pointer as each unwinder reads it (`RView.get_fp`, `RView.lastBp`).
  Before them `aliasTable`: `canon` and `aliases` of an architecture as look-ups in one table of (alias,
  register) rows (`canon_eq`, `aliases_eq`), so that what relates the two is read off the rows; table and
  lemmas are in namespace `CfiBridge`: the bridge's C06 walker record takes its alias rows from the table
  (`walkerOf`, CfiBridgeInst).
-/
import MdModel.Walk.Layout
import MdProofs.Lemmas.Walk
namespace MdModel.CfiBridge
open MdModel

/-- `memoize_register`'s alias arms, per context type -/
def aliasTable : Walk.Arch → List (String × String)
  | .arm => [("r11", "fp"), ("r13", "sp"), ("r14", "lr"), ("r15", "pc")]
  | .arm64 | .arm64old => [("x29", "fp"), ("x30", "lr")]
  | _ => []

theorem canon_eq (a : Walk.Arch) (n : String) :
    a.canon n = match (aliasTable a).lookup n with
                | some c => some c
                | none => if a.registers.contains n then some n else none := by
  have step : ∀ (x y : String) (tbl : List (String × String)) (l d : Option String),
      (l = match tbl.lookup n with
           | some c => some c
           | none => d) →
      (if n = x then some y else l) =
        match ((x, y) :: tbl).lookup n with
        | some c => some c
        | none => d := by
    intro x y tbl l d hl
    rw [List.lookup_cons]
    by_cases h : n = x
    · simp only [h, if_true, beq_self_eq_true]
    · simp only [h, if_false, beq_eq_false_iff_ne.mpr h, hl]
  cases a
  case arm => exact step _ _ _ _ _ (step _ _ _ _ _ (step _ _ _ _ _ (step _ _ _ _ _ rfl)))
  case arm64 | arm64old => exact step _ _ _ _ _ (step _ _ _ _ _ rfl)
  all_goals rfl

theorem aliases_eq (a : Walk.Arch) (n : String) :
    a.aliases n = match (aliasTable a).find? (fun p => n = p.1 ∨ n = p.2) with
                  | some p => [p.1, p.2]
                  | none => [n] := by
  have step : ∀ (x y : String) (tbl : List (String × String)) (l : List String),
      (l = match tbl.find? (fun p => n = p.1 ∨ n = p.2) with
           | some p => [p.1, p.2]
           | none => [n]) →
      (if n = x ∨ n = y then [x, y] else l) =
        match ((x, y) :: tbl).find? (fun p => n = p.1 ∨ n = p.2) with
        | some p => [p.1, p.2]
        | none => [n] := by
    intro x y tbl l hl
    rw [List.find?_cons]
    by_cases h : n = x ∨ n = y
    · simp only [h, if_true, decide_true]
    · simp only [h, if_false, decide_false, hl]
  cases a
  case arm => exact step _ _ _ _ (step _ _ _ _ (step _ _ _ _ (step _ _ _ _ rfl)))
  case arm64 | arm64old => exact step _ _ _ _ (step _ _ _ _ rfl)
  all_goals rfl

theorem aliasTable_ok (a : Walk.Arch) :
    ∀ p ∈ aliasTable a, a.registers.contains p.1 = false ∧ a.registers.contains p.2 = true := by
  cases a <;> decide +kernel

theorem aliasTable_pair (a : Walk.Arch) :
    ∀ p ∈ aliasTable a, a.aliases p.1 = [p.1, p.2] ∧ a.aliases p.2 = [p.1, p.2] ∧
      a.canon p.1 = some p.2 ∧ a.canon p.2 = some p.2 := by
  cases a <;> decide +kernel

theorem plain_canon (regs : List String) (n s : String)
    (h : (if regs.contains n = true then some n else none) = some s) : n = s ∧ regs.contains s = true := by
  split at h
  · rename_i hc; cases h; exact ⟨rfl, hc⟩
  · cases h

theorem canon_mem (a : Walk.Arch) (n s : String) (h : a.canon n = some s) : a.registers.contains s = true := by
  rw [canon_eq] at h
  cases hl : (aliasTable a).lookup n with
  | some c =>
    have hm := (aliasTable_ok a (n, c) (List.mem_of_lookup_eq_some hl)).2
    rw [hl] at h; cases h
    exact hm
  | none =>
    rw [hl] at h
    exact (plain_canon _ n s h).2

theorem canon_idem (a : Walk.Arch) (n s : String) (h : a.canon n = some s) : a.canon s = some s := by
  have hs := canon_mem a n s h
  rw [canon_eq]
  cases hl : (aliasTable a).lookup s with
  | none => simp only [hs, if_true]
  | some c =>
    -- a register name is not an alias name
    exact absurd ((aliasTable_ok a (s, c) (List.mem_of_lookup_eq_some hl)).1.symm.trans hs) Bool.false_ne_true

theorem ne_alias_target (a : Walk.Arch) (n : String) (hc : a.registers.contains n = false) :
    ∀ p ∈ aliasTable a, n ≠ p.2 :=
  fun p hp e => by rw [e, (aliasTable_ok a p hp).2] at hc; cases hc

/-- `register_is_valid` looks a name up under the names of its canonical register; a name the
    context type does not know is its own only alias -/
theorem aliases_of_canon (a : Walk.Arch) (n : String) :
    a.aliases n = match a.canon n with
      | some s => a.aliases s
      | none => [n] := by
  rw [canon_eq]
  cases hl : (aliasTable a).lookup n with
  | some c =>
    obtain ⟨h1, h2, _⟩ := aliasTable_pair a (n, c) (List.mem_of_lookup_eq_some hl)
    exact h1.trans h2.symm
  | none =>
    by_cases hc : a.registers.contains n = true
    · simp only [hc, if_true]
    · rw [if_neg hc, aliases_eq, List.find?_eq_none.mpr]
      intro p hp
      have h1 : ¬ n = p.1 := fun e => by
        have := List.lookup_eq_none_iff.mp hl p hp
        simp [e] at this
      simpa [h1] using ne_alias_target a n (by simpa using hc) p hp

theorem aliases_canon (a : Walk.Arch) (n s : String) (h : a.canon n = some s) : a.aliases n = a.aliases s := by
  rw [aliases_of_canon, h]

end MdModel.CfiBridge

namespace MdModel.Walk
open MdModel

theorem canon_of_mem_aliases {a : Arch} {r n : String} (h : n ∈ a.aliases r) : a.canon n = a.canon r := by
  rw [CfiBridge.aliases_eq] at h
  split at h
  · rename_i p hf
    obtain ⟨_, _, h3, h4⟩ := CfiBridge.aliasTable_pair a p (List.mem_of_find?_eq_some hf)
    have key : ∀ m, m = p.1 ∨ m = p.2 → a.canon m = some p.2 := by rintro m (rfl | rfl) <;> assumption
    rw [key n (by simpa using h), key r (by simpa using List.find?_some hf)]
  · rw [List.mem_singleton.mp h]

theorem mem_registers_of_canon {a : Arch} {r : String} (h : a.canon r = some r) : r ∈ a.registers :=
  List.contains_iff_mem.mp (CfiBridge.canon_mem a r r h)

theorem spName_canon (a : Arch) : a.canon a.spName = some a.spName := by cases a <;> decide +kernel

theorem fpName_canon (a : Arch) : a.canon a.fpName = some a.fpName := by cases a <;> decide +kernel

theorem ipName_canon (a : Arch) : a.canon a.ipName = some a.ipName := by cases a <;> decide

theorem fpName_ne_ip (a : Arch) : a.fpName ≠ a.ipName := by cases a <;> decide

theorem fpName_ne_sp (a : Arch) : a.fpName ≠ a.spName := by cases a <;> decide

theorem spName_ne_ip (a : Arch) : a.spName ≠ a.ipName := by cases a <;> decide

theorem fpName_arm64 {a : Arch} (h : a = .arm64 ∨ a = .arm64old) : a.fpName = "fp" := by
  rcases h with h | h <;> subst h <;> rfl

theorem canon_calleeSaved {a : Arch} {r : String} (h : a.calleeSaved.contains r = true) :
    a.canon r = some r ∧ r ≠ a.ipName := by
  have hall : a.calleeSaved.all (fun r => a.canon r == some r && r != a.ipName) = true := by
    cases a <;> decide +kernel
  simpa using List.all_eq_true.mp hall r (by simpa using h)

theorem raw_of_canon {a : Arch} {r s : String} (c : Ctx) (h : a.canon r = some s) :
    c.raw a r = if s = a.ipName then c.ip else if s = a.spName then c.sp else assocGet c.rest s := by
  simp only [Ctx.raw, h]

theorem set_of_canon {a : Arch} {r s : String} (c : Ctx) (v : Nat) (h : a.canon r = some s) :
    c.set a r v = some (if s = a.ipName then { c with ip := v } else if s = a.spName then { c with sp := v }
      else { c with rest := assocSet c.rest s v }) := by
  simp only [Ctx.set, h]
  split
  · rfl
  · split <;> rfl

theorem raw_sp (a : Arch) (c : Ctx) : c.raw a a.spName = c.sp := by
  rw [raw_of_canon c (spName_canon a), if_neg (spName_ne_ip a), if_pos rfl]

theorem raw_ipName (a : Arch) (c : Ctx) : c.raw a a.ipName = c.ip := by
  rw [raw_of_canon c (ipName_canon a), if_pos rfl]

theorem raw_rest {a : Arch} {r : String} (c : Ctx) (hc : a.canon r = some r) (hip : r ≠ a.ipName)
    (hsp : r ≠ a.spName) : c.raw a r = assocGet c.rest r := by
  rw [raw_of_canon c hc, if_neg hip, if_neg hsp]

theorem raw_arm_r11 (c : Ctx) : c.raw .arm "r11" = c.raw .arm "fp" := rfl

theorem raw_arm64_x29 {a : Arch} (ha : a = .arm64 ∨ a = .arm64old) (c : Ctx) : c.raw a "x29" = c.raw a "fp" := by
  rcases ha with rfl | rfl <;> rfl

/-- x86, x86-64 and MIPS have no aliases: `has` is the literal test -/
theorem has_eq_hasLit {a : Arch} (ha : a = .x86 ∨ a = .amd64 ∨ a = .mips32 ∨ a = .mips64) (c : Ctx) {r : String}
    (hr : a.canon r = some r) : c.has a r = c.hasLit r := by
  unfold Ctx.has Ctx.hasLit
  cases c.valid with
  | none => simp [hr]
  | some V => rcases ha with rfl | rfl | rfl | rfl <;> simp [Arch.aliases]

theorem Ctx.has_of_canon {a : Arch} {n s : String} (c : Ctx) (h : a.canon n = some s) : c.has a n = c.has a s := by
  unfold Ctx.has
  rw [CfiBridge.aliases_canon a n s h, h, CfiBridge.canon_idem a n s h]

theorem Ctx.get_of_canon {a : Arch} {n s : String} (c : Ctx) (h : a.canon n = some s) : c.get a n = c.get a s := by
  unfold Ctx.get
  rw [Ctx.has_of_canon c h, raw_of_canon c h, raw_of_canon c (CfiBridge.canon_idem a n s h)]

theorem effArch_of_m64 {a : Arch} {c : Ctx} (h : c.m64 = (a == .mips64)) : effArch a c = a := by
  cases a <;> simp_all [effArch, Arch.isMips]

theorem m64_of_eff {a : Arch} {c : Ctx} (h : effArch a c = a) (hm : a.isMips = true) : c.m64 = (a == .mips64) := by
  unfold effArch at h
  rw [if_pos hm] at h
  cases hc : c.m64 <;> rw [hc] at h <;> subst h <;> rfl

/-- what the unwinders of `a` see of a frame's registers: the stack pointer valid with value `s`,
    the frame pointer valid with value `v` (`b = some v`) or not valid (`b = none`), whether the frame
    is the context frame (it selects the scan window), the MIPS mode -/
structure RView (a : Arch) (f : Frame) (s : Nat) (b : Option Nat) (fst : Bool) : Prop where
  /-- on MIPS the context's mode is the walk's -/
  eff : effArch a f.ctx = a
  sp : f.ctx.sp = s
  /-- MIPS32 reads its 64-bit slots truncated -/
  fit : a = .mips32 → s ≤ U32MAX
  vsp : f.ctx.has a a.spName = true
  fp : b = if f.ctx.has a a.fpName then some (f.ctx.raw a a.fpName) else none
  first : fst = true ↔ f.trust = .context

namespace RView
variable {a : Arch} {f : Frame} {sp : Nat} {fp : Option Nat} {first : Bool} (hv : RView a f sp fp first)
include hv

theorem symbolise (env : Env) : RView a (symbolise env f) sp fp first :=
  ⟨hv.eff, hv.sp, hv.fit, hv.vsp, hv.fp, hv.first⟩

theorem get_sp : f.ctx.get a a.spName = some sp := by
  by_cases hm : a = .mips32
  · exact Ctx.get_of_fits hv.vsp ((raw_sp a _).trans hv.sp) (by subst hm; exact hv.fit rfl)
  · exact (Ctx.get_of_has hv.vsp hm).trans (congrArg some ((raw_sp a _).trans hv.sp))

theorem fp_some {b : Nat} (hb : fp = some b) : f.ctx.has a a.fpName = true ∧ f.ctx.raw a a.fpName = b := by
  have h := hv.fp
  rw [hb] at h
  by_cases hl : f.ctx.has a a.fpName = true
  · simp only [hl, if_true, Option.some.injEq] at h
    exact ⟨hl, h.symm⟩
  · simp [hl] at h

/-- x86, x86-64: the unwinders test the literal names -/
theorem lit_sp (ha : a = .x86 ∨ a = .amd64) : f.ctx.hasLit a.spName = true :=
  has_eq_hasLit (ha.imp_right Or.inl) f.ctx (spName_canon a) ▸ hv.vsp

theorem lit_fp (ha : a = .x86 ∨ a = .amd64) {b : Nat} (hb : fp = some b) :
    f.ctx.hasLit a.fpName = true ∧ f.ctx.raw a a.fpName = b :=
  has_eq_hasLit (ha.imp_right Or.inl) f.ctx (fpName_canon a) ▸ hv.fp_some hb

/-- … so the frame pointer their scanners start from is the view's -/
theorem lastBp (ha : a = .x86 ∨ a = .amd64) :
    (if f.ctx.hasLit a.fpName = true then some (f.ctx.raw a a.fpName) else none) = fp :=
  has_eq_hasLit (ha.imp_right Or.inl) f.ctx (fpName_canon a) ▸ hv.fp.symm

/-- off MIPS32 (which truncates) the view's frame pointer is what `get_register` returns under any of its names -/
theorem get_fp {n : String} (hn : a.canon n = some a.fpName) (hm : a ≠ .mips32) : f.ctx.get a n = fp := by
  rw [Ctx.get_of_canon _ hn, hv.fp, Ctx.get, if_neg hm]

/-- ARM64 reads `x29` / `sp` -/
theorem get_arm64 (ha : a = .arm64 ∨ a = .arm64old) {b : Nat} (hb : fp = some b) :
    f.ctx.get a "x29" = some b ∧ f.ctx.get a "sp" = some sp := by
  rcases ha with rfl | rfl <;> exact ⟨(hv.get_fp rfl (by decide)).trans hb, hv.get_sp⟩

end RView

/-- ARM reads `r11` / `r13` -/
theorem RView.get_r13 {f : Frame} {sp : Nat} {fp : Option Nat} {first : Bool} (hv : RView .arm f sp fp first) :
    f.ctx.get .arm "r13" = some sp :=
  (Ctx.get_of_canon _ rfl).trans hv.get_sp

theorem RView.get_arm {f : Frame} {sp b : Nat} {fp : Option Nat} {first : Bool} (hv : RView .arm f sp fp first)
    (hb : fp = some b) : f.ctx.get .arm "r11" = some b ∧ f.ctx.get .arm "r13" = some sp :=
  ⟨(hv.get_fp rfl (by decide)).trans hb, hv.get_r13⟩

/-- the frame's own register file: all registers valid (`valid = none`) -/
theorem rview_context (a : Arch) (c : Ctx) (hv : c.valid = none) (hm : effArch a c = a)
    (hfit : a = .mips32 → c.sp ≤ U32MAX) :
    RView a (Frame.ofCtx c .context) c.sp (some (c.raw a a.fpName)) true := by
  have hhas : ∀ n, (a.canon n).isSome = true → (Frame.ofCtx c .context).ctx.has a n = true := fun n hn => by
    simp only [Frame.ofCtx, Ctx.has, hv, hn]
  refine ⟨hm, rfl, hfit, hhas _ (by rw [spName_canon]; rfl), ?_, ⟨fun _ => rfl, fun _ => rfl⟩⟩
  rw [hhas _ (by rw [fpName_canon]; rfl)]; rfl

end MdModel.Walk
