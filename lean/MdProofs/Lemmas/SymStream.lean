/-
  Lemmas about the buffer state machine `MdModel.Stream` (for every line parser `Ops`).
  An iteration is the recovery block followed by the tail (`step = tail ∘ recover`); `parse_async`
  awaits its chunk between the two, so everything is proved about `recover` and about `tail`.
  What a block does is said once, by a relation between the state before and the result
  (`RecoverTo`, `ParseTo`, `TailTo`, each with its `_to` theorem); the invariant, the measure, the
  absence of panics and the growth of the callback log are case analyses of the relations, and so
  are the iterations of `SymChunk` and `SymDrop`.
-/
import MdModel.Stream
namespace MdModel.Stream
open MdModel


/-- `half` is what the shift rule of `consume` maintains. -/
structure Buf.Inv (b : Buf) : Prop where
  fits : b.pos + b.data.length ≤ b.cap
  half : b.pos ≤ b.cap / 2
  capPos : 0 < b.cap

theorem Buf.shift_data (b : Buf) : b.shift.data = b.data := by
  unfold Buf.shift; split <;> rfl
theorem Buf.shift_cap (b : Buf) : b.shift.cap = b.cap := by
  unfold Buf.shift; split <;> rfl
theorem Buf.shift_pos (b : Buf) : b.shift.pos = 0 := by
  unfold Buf.shift; split
  · rfl
  · omega

theorem Buf.consume_data (b : Buf) (n : Nat) : (b.consume n).data = b.data.drop n := by
  unfold Buf.consume Buf.availableData
  have : b.data.drop (min n b.data.length) = b.data.drop n := by
    by_cases h : n ≤ b.data.length
    · rw [Nat.min_eq_left h]
    · have h' : b.data.length ≤ n := by omega
      rw [Nat.min_eq_right h', List.drop_length, List.drop_eq_nil_of_le h']
  simp only []
  split
  · rw [Buf.shift_data]; exact this
  · exact this

theorem Buf.consume_cap (b : Buf) (n : Nat) : (b.consume n).cap = b.cap := by
  unfold Buf.consume; simp only []; split
  · rw [Buf.shift_cap]
  · rfl

theorem Buf.consume_inv (b : Buf) (n : Nat) (h : b.Inv) : (b.consume n).Inv := by
  obtain ⟨h1, h2, h3⟩ := h
  unfold Buf.consume
  dsimp only
  split
  · refine ⟨?_, ?_, ?_⟩
    · rw [Buf.shift_pos, Buf.shift_data, Buf.shift_cap]
      simp only [List.length_drop, Buf.availableData]; omega
    · rw [Buf.shift_pos]; omega
    · rw [Buf.shift_cap]; exact h3
  · next hgt =>
    refine ⟨?_, ?_, h3⟩
    · simp only [List.length_drop, Buf.availableData]; omega
    · simp only [Buf.availableData] at hgt ⊢; omega

theorem Buf.fill_data (b : Buf) (chunk : Bytes) (h : chunk.length ≤ b.availableSpace) :
    (b.fill chunk).data = b.data ++ chunk := by
  unfold Buf.fill
  simp only [Nat.min_eq_left h, List.take_length]
  split
  · rw [Buf.shift_data]
  · rfl

theorem Buf.fill_cap (b : Buf) (chunk : Bytes) : (b.fill chunk).cap = b.cap := by
  unfold Buf.fill; simp only []; split
  · rw [Buf.shift_cap]
  · rfl

theorem Buf.fill_inv (b : Buf) (chunk : Bytes) (h : b.Inv) : (b.fill chunk).Inv := by
  obtain ⟨h1, h2, h3⟩ := h
  have hlen : (chunk.take (min chunk.length b.availableSpace)).length ≤ b.cap - (b.pos + b.data.length) := by
    simp only [List.length_take, Buf.availableSpace, Buf.end_]; omega
  unfold Buf.fill
  simp only []
  split
  · refine ⟨?_, ?_, ?_⟩
    · rw [Buf.shift_pos, Buf.shift_data, Buf.shift_cap]; simp only [List.length_append]; omega
    · rw [Buf.shift_pos]; omega
    · rw [Buf.shift_cap]; exact h3
  · refine ⟨?_, h2, h3⟩
    simp only [List.length_append]; omega

theorem Buf.grow_data (b : Buf) (n : Nat) : (b.grow n).data = b.data := by
  unfold Buf.grow; split <;> rfl

theorem Buf.grow_inv (b : Buf) (n : Nat) (h : b.Inv) : (b.grow n).Inv := by
  obtain ⟨h1, h2, h3⟩ := h
  unfold Buf.grow; split
  · exact ⟨h1, h2, h3⟩
  · next hlt =>
    refine ⟨?_, ?_, ?_⟩ <;> simp only <;> omega

theorem Buf.grow_pos (b : Buf) (n : Nat) : (b.grow n).pos = b.pos := by
  unfold Buf.grow; split <;> rfl

theorem Buf.grow_cap (b : Buf) (n : Nat) (h : b.cap ≤ n) : (b.grow n).cap = n := by
  unfold Buf.grow; split
  · exact Nat.le_antisymm h ‹_›
  · rfl

theorem Buf.grow_cap_le (b : Buf) (n m : Nat) (hb : b.cap ≤ m) (hn : n ≤ m) : (b.grow n).cap ≤ m := by
  unfold Buf.grow; split
  · exact hb
  · exact hn

theorem readChunk_spec (space : Nat) (unread : Bytes) (sched : List Nat) :
    (readChunk space unread sched).1 ++ (readChunk space unread sched).2.1 = unread ∧
    (readChunk space unread sched).1.length ≤ space ∧
    ((readChunk space unread sched).1.length = 0 → space = 0 ∨ unread = []) := by
  unfold readChunk
  split
  · next h =>
    refine ⟨by simp, by simp, fun _ => ?_⟩
    rcases h with h | h
    · exact Or.inl h
    · exact Or.inr (List.isEmpty_iff.mp h)
  · next h =>
    have hs : space ≠ 0 := fun e => h (Or.inl e)
    have hu : unread ≠ [] := fun e => h (Or.inr (by simp [e]))
    have hul : 0 < unread.length := List.length_pos_iff.mpr hu
    split <;> refine ⟨List.take_append_drop _ _, ?_, ?_⟩ <;> simp only [List.length_take] <;> omega

theorem firstNL_some_split {w : Bytes} {i : Nat} (h : firstNL w = some i) :
    NL ∉ w.take i ∧ w = w.take i ++ NL :: w.drop (i + 1) := by
  induction w generalizing i with
  | nil => simp [firstNL] at h
  | cons b rest ih =>
    unfold firstNL at h
    split at h
    · next hb => cases h; simp [hb]
    · next hb =>
      cases hr : firstNL rest with
      | none => simp [hr] at h
      | some j =>
        simp [hr] at h; subst h
        obtain ⟨h1, h2⟩ := ih hr
        refine ⟨?_, ?_⟩
        · simp only [List.take_succ_cons]
          intro hm; rcases List.mem_cons.mp hm with e | e
          · exact hb e.symm
          · exact h1 e
        · simp only [List.take_succ_cons, List.drop_succ_cons, List.cons_append]
          rw [← h2]

theorem firstNL_lt {w : Bytes} {i : Nat} (h : firstNL w = some i) : i < w.length := by
  have := congrArg List.length (firstNL_some_split h).2
  simp only [List.length_append, List.length_take, List.length_cons, List.length_drop] at this
  omega

theorem cbBytes_push {σ} (s : St σ) (c : Bytes) (s' : St σ) (h : s'.cb = c :: s.cb) :
    cbBytes s' = cbBytes s ++ c := by
  simp [cbBytes, h]


/-- holds at every point of the loop body -/
structure Mid {σ} (maxCap : Nat) (input : Bytes) (s : St σ) : Prop where
  buf : s.buf.Inv
  capLe : s.buf.cap ≤ maxCap
  split : cbBytes s ++ s.buf.data ++ s.unread = input
  total : s.totalConsumed = (cbBytes s).length

/-- holds at the head of every iteration -/
structure Inv {σ} (maxCap : Nat) (input : Bytes) (s : St σ) : Prop extends Mid maxCap input s where
  fully : s.fullyConsumed = true → s.inRecovery = false → s.buf.data = []

theorem init_inv {σ} (maxCap initCap : Nat) (ps : σ) (input : Bytes) (sched : List Nat)
    (h0 : 0 < initCap) (hle : initCap ≤ maxCap) : Inv maxCap input (init initCap ps input sched) := by
  refine ⟨⟨⟨?_, ?_, ?_⟩, ?_, ?_, ?_⟩, ?_⟩ <;> simp [init, Buf.withCapacity, cbBytes] <;> omega

theorem cbBytes_eq {σ} {a b : St σ} (h : a.cb = b.cb) : cbBytes a = cbBytes b := by
  simp only [cbBytes, h]

theorem space_pos_of_empty (b : Buf) (hb : b.Inv) (hd : b.data = []) : b.availableSpace > 0 := by
  have h1 := hb.half; have h2 := hb.capPos
  simp only [Buf.availableSpace, Buf.end_, hd, List.length_nil, Nat.add_zero]
  omega

/-- the state after the `if in_panic_recovery { .. }` block -/
def recover {σ} (ops : Ops σ) (s : St σ) : St σ := if s.inRecovery then recoverBlock ops s else s

/-- the rest of an iteration: `read` + `fill`, then the `size == 0` branch or the parser -/
def tail {σ} (maxCap : Nat) (ops : Ops σ) (s1 : St σ) : Sum (St σ) (Out σ × St σ) :=
  if (readBlock s1).2.length = 0 then
    zeroBlock maxCap ops (decide (s1.buf.availableSpace > 0)) (readBlock s1).1
  else parseBlock ops { (readBlock s1).1 with triedToGrow := false }

theorem step_eq_tail {σ} (maxCap : Nat) (ops : Ops σ) (s : St σ) :
    step maxCap ops s = tail maxCap ops (recover ops s) := rfl

theorem recover_of_notRec {σ} (ops : Ops σ) (s : St σ) (h : s.inRecovery = false) : recover ops s = s := by
  unfold recover; rw [if_neg (by rw [h]; exact Bool.false_ne_true)]

/-! The result of a block of the loop body is a variable with field equations: unfolding a block on
  a compound state makes every later `show`/`rw` carry (and the unifier unfold) the whole state. -/

/-- `r` is `s` after a `read` that delivered `chunk`, the `fill`, and `tried_to_grow = false` if bytes
    arrived -/
structure ReadTo {σ} (s r : St σ) (chunk : Bytes) : Prop where
  cb : r.cb = s.cb
  ps : r.ps = s.ps
  fully : r.fullyConsumed = s.fullyConsumed
  tried0 : chunk = [] → r.triedToGrow = s.triedToGrow
  tried1 : chunk ≠ [] → r.triedToGrow = false
  inRec : r.inRecovery = s.inRecovery
  just : r.justFinished = s.justFinished
  total : r.totalConsumed = s.totalConsumed
  cap : r.buf.cap = s.buf.cap
  data : r.buf.data = s.buf.data ++ chunk
  unread : chunk ++ r.unread = s.unread
  bufInv : s.buf.Inv → r.buf.Inv
  /-- the contract of `Read`: 0 bytes only into an empty slice or at the end of the input -/
  zero : chunk.length = 0 → s.buf.availableSpace = 0 ∨ s.unread = []

theorem tail_read {σ} (maxCap : Nat) (ops : Ops σ) (s : St σ) : ∃ m chunk, ReadTo s m chunk ∧
    tail maxCap ops s = if chunk = [] then zeroBlock maxCap ops (decide (s.buf.availableSpace > 0)) m
      else parseBlock ops m := by
  obtain ⟨r1, r2, r3⟩ := readChunk_spec s.buf.availableSpace s.unread s.sched
  unfold tail readBlock
  generalize readChunk s.buf.availableSpace s.unread s.sched = c at r1 r2 r3
  dsimp only
  by_cases hz : c.1 = []
  · refine ⟨{ s with buf := s.buf.fill c.1, unread := c.2.1, sched := c.2.2 }, c.1, ?_, ?_⟩
    · exact ⟨rfl, rfl, rfl, fun _ => rfl, fun h => absurd hz h, rfl, rfl, rfl, Buf.fill_cap _ _,
        Buf.fill_data _ _ r2, r1, Buf.fill_inv _ _, r3⟩
    · rw [if_pos hz, if_pos (by rw [hz]; rfl)]
  · refine ⟨{ s with buf := s.buf.fill c.1, unread := c.2.1, sched := c.2.2, triedToGrow := false }, c.1, ?_, ?_⟩
    · exact ⟨rfl, rfl, rfl, fun h => absurd h hz, fun _ => rfl, rfl, rfl, rfl, Buf.fill_cap _ _,
        Buf.fill_data _ _ r2, r1, Buf.fill_inv _ _, r3⟩
    · rw [if_neg hz, if_neg (fun h => hz (List.eq_nil_of_length_eq_zero h))]

theorem ReadTo.data0 {σ} {s r : St σ} (h : ReadTo s r []) : r.buf.data = s.buf.data := by
  rw [h.data, List.append_nil]

theorem ReadTo.unread0 {σ} {s r : St σ} (h : ReadTo s r []) : r.unread = s.unread := h.unread

/-- a zero-length read with an empty window (so there was space) has hit the end of the input -/
theorem ReadTo.at_end {σ} {s r : St σ} (h : ReadTo s r []) (hb : s.buf.Inv) (hd : s.buf.data = []) :
    s.unread = [] :=
  (h.zero rfl).resolve_left (by have := space_pos_of_empty s.buf hb hd; omega)

theorem ReadTo.rest {σ} {s r : St σ} {chunk : Bytes} (h : ReadTo s r chunk) :
    r.buf.data ++ r.unread = s.buf.data ++ s.unread := by
  rw [h.data, List.append_assoc, h.unread]

/-- when the parser block is reached (`TailTo.parse`) its window is not empty, and it is reached with
    `tried_to_grow` set only by a zero-length read right after a recovery that followed a growth -/
theorem ReadTo.parsed {σ} {s m : St σ} {chunk : Bytes} (h : ReadTo s m chunk)
    (hc : chunk ≠ [] ∨ chunk = [] ∧ m.justFinished = true ∧ m.buf.data ≠ []) :
    m.buf.data ≠ [] ∧ (s.triedToGrow = false ∨ s.justFinished = false → m.triedToGrow = false) := by
  rcases hc with hc | ⟨rfl, hj, hd⟩
  · exact ⟨by rw [h.data]; exact fun e => hc (List.append_eq_nil_iff.mp e).2, fun _ => h.tried1 hc⟩
  · refine ⟨hd, fun e => e.elim (h.tried0 rfl).trans fun e => ?_⟩
    rw [h.just, e] at hj; cases hj

theorem ReadTo.mid {σ} {maxCap : Nat} {input : Bytes} {s r : St σ} {chunk : Bytes} (h : ReadTo s r chunk)
    (hm : Mid maxCap input s) : Mid maxCap input r := by
  obtain ⟨hb, hc, hs, ht⟩ := hm
  refine ⟨h.bufInv hb, h.cap ▸ hc, ?_, ?_⟩
  · rw [← hs, ← h.unread, h.data, cbBytes_eq h.cb]; simp only [List.append_assoc]
  · rw [h.total, cbBytes_eq h.cb]; exact ht

/-- `s'` is `m` after the callback was given the first `n` bytes of the window and they were
    consumed: the success exit of `parseBlock` and both exits of `recoverBlock` -/
structure Took {σ} (m s' : St σ) (n : Nat) : Prop where
  le : n ≤ m.buf.data.length
  cb : s'.cb = m.buf.data.take n :: m.cb
  data : s'.buf.data = m.buf.data.drop n
  cap : s'.buf.cap = m.buf.cap
  bufInv : m.buf.Inv → s'.buf.Inv
  unread : s'.unread = m.unread
  total : s'.totalConsumed = m.totalConsumed + n
  tried : s'.triedToGrow = m.triedToGrow
  fully : s'.fullyConsumed = true ↔ s'.buf.data = []

theorem Took.bytes {σ} {m s' : St σ} {n : Nat} (h : Took m s' n) :
    cbBytes s' = cbBytes m ++ m.buf.data.take n := cbBytes_push m _ s' h.cb

theorem Took.mid {σ} {maxCap : Nat} {input : Bytes} {m s' : St σ} {n : Nat} (h : Took m s' n)
    (hm : Mid maxCap input m) : Mid maxCap input s' := by
  obtain ⟨hb, hc, hs, ht⟩ := hm
  refine ⟨h.bufInv hb, h.cap ▸ hc, ?_, ?_⟩
  · rw [h.bytes, h.data, h.unread, List.append_assoc (cbBytes m), List.take_append_drop]; exact hs
  · have := h.le
    rw [h.bytes, h.total, ht, List.length_append, List.length_take]; omega

theorem Took.inv {σ} {maxCap : Nat} {input : Bytes} {m s' : St σ} {n : Nat} (h : Took m s' n)
    (hm : Mid maxCap input m) : Inv maxCap input s' :=
  ⟨h.mid hm, fun hf _ => h.fully.mp hf⟩

theorem Took.length_le {σ} {m s' : St σ} {n : Nat} (h : Took m s' n) :
    s'.buf.data.length ≤ m.buf.data.length := by
  rw [h.data, List.length_drop]; omega

/-- what the `if in_panic_recovery { .. }` block does -/
inductive RecoverTo {σ} (ops : Ops σ) (s : St σ) : St σ → Prop where
  | idle : s.inRecovery = false → RecoverTo ops s s
  /-- the newline is in the window: recovery ends -/
  | found {idx s1} : s.inRecovery = true → firstNL s.buf.data = some idx → Took s s1 (idx + 1) →
      s1.ps = ops.bumpLine s.ps → s1.inRecovery = false → s1.justFinished = true → RecoverTo ops s s1
  /-- no newline: the whole window is discarded -/
  | lost {s1} : s.inRecovery = true → firstNL s.buf.data = none → Took s s1 s.buf.data.length →
      s1.ps = s.ps → s1.inRecovery = true → s1.justFinished = s.justFinished →
      s1.fullyConsumed = true → s1.buf.data = [] → RecoverTo ops s s1

theorem recover_to {σ} (ops : Ops σ) (s : St σ) : RecoverTo ops s (recover ops s) := by
  unfold recover
  cases hr : s.inRecovery with
  | false => rw [if_neg Bool.false_ne_true]; exact .idle hr
  | true =>
    rw [if_pos rfl]
    unfold recoverBlock
    dsimp only
    cases hf : firstNL s.buf.data with
    | some idx =>
      exact .found hr hf ⟨firstNL_lt hf, rfl, Buf.consume_data _ _, Buf.consume_cap _ _, Buf.consume_inv _ _,
        rfl, rfl, rfl, List.isEmpty_iff⟩ rfl rfl rfl
    | none =>
      have hd : (s.buf.consume s.buf.data.length).data = [] := by rw [Buf.consume_data, List.drop_length]
      exact .lost hr hf ⟨Nat.le_refl _, rfl, Buf.consume_data _ _, Buf.consume_cap _ _, Buf.consume_inv _ _,
        rfl, rfl, rfl, ⟨fun _ => hd, fun _ => rfl⟩⟩ rfl hr rfl rfl hd

theorem parseBlock_rec {σ} (ops : Ops σ) (m : St σ) (h : m.inRecovery = true) : parseBlock ops m = .inl m := by
  unfold parseBlock; rw [if_pos h]

/-- what the parser block does on the window of `m` -/
inductive ParseTo {σ} (ops : Ops σ) (m : St σ) : Sum (St σ) (Out σ × St σ) → Prop where
  | skip : m.inRecovery = true → ParseTo ops m (.inl m)
  | took {n ps' s'} : m.inRecovery = false → ops.parseMore m.ps m.buf.data = .ok n ps' → Took m s' n →
      s'.ps = ps' → s'.inRecovery = false → s'.justFinished = false → ParseTo ops m (.inl s')
  | failed {out} : m.inRecovery = false →
      (match ops.parseMore m.ps m.buf.data with
        | .ok n _ => m.buf.data.length < n ∧ out = .panic "callback(&input[..consumed])"
        | .err k l => out = .err k l
        | .panic e => out = .panic e) →
      ParseTo ops m (.inr (out, { m with justFinished := false }))

theorem parseBlock_to {σ} (ops : Ops σ) (m : St σ) : ParseTo ops m (parseBlock ops m) := by
  cases hnr : m.inRecovery with
  | true => rw [parseBlock_rec ops m hnr]; exact .skip hnr
  | false =>
    unfold parseBlock
    rw [if_neg (by rw [hnr]; exact Bool.false_ne_true)]
    dsimp only
    cases hpm : ops.parseMore m.ps m.buf.data with
    | err k l => exact .failed hnr (by rw [hpm])
    | panic e => exact .failed hnr (by rw [hpm])
    | ok n ps' =>
      dsimp only
      by_cases hgt : n > m.buf.data.length
      · rw [if_pos hgt]; exact .failed hnr (by rw [hpm]; exact ⟨hgt, rfl⟩)
      · rw [if_neg hgt]
        have hle : n ≤ m.buf.data.length := Nat.le_of_not_gt hgt
        refine .took hnr hpm ⟨hle, rfl, Buf.consume_data _ _, Buf.consume_cap _ _,
          Buf.consume_inv _ _, rfl, rfl, rfl, ?_⟩ rfl hnr rfl
        show (m.buf.data.length == n) = true ↔ (m.buf.consume n).data = []
        rw [Buf.consume_data, beq_iff_eq, List.drop_eq_nil_iff]
        omega

/-- What the rest of an iteration does from the state `s1` that the recovery block left; `m` is `s1`
    after the read. The last five are the `size == 0` branch when the parser does not run. -/
inductive TailTo {σ} (maxCap : Nat) (ops : Ops σ) (s1 : St σ) : Sum (St σ) (Out σ × St σ) → Prop where
  /-- bytes arrived, or none did but recovery has just found its newline and left bytes behind it -/
  | parse {m chunk res} : ReadTo s1 m chunk → (chunk ≠ [] ∨ chunk = [] ∧ m.justFinished = true ∧ m.buf.data ≠ []) →
      ParseTo ops m res → TailTo maxCap ops s1 res
  | ok {m} : ReadTo s1 m [] → (m.justFinished = true → m.buf.data = []) → m.fullyConsumed = true →
      TailTo maxCap ops s1 (.inr (.ok m.ps, m))
  /-- the buffer is full at the limit: the loop enters recovery -/
  | limit {m} : ReadTo s1 m [] → (m.justFinished = true → m.buf.data = []) → m.fullyConsumed = false →
      m.triedToGrow = false → s1.buf.availableSpace = 0 → satDouble m.buf.cap > maxCap →
      TailTo maxCap ops s1 (.inl { m with inRecovery := true })
  | grow {m} : ReadTo s1 m [] → (m.justFinished = true → m.buf.data = []) → m.fullyConsumed = false →
      m.triedToGrow = false → s1.buf.availableSpace = 0 → satDouble m.buf.cap ≤ maxCap →
      TailTo maxCap ops s1 (.inl { m with buf := m.buf.grow (satDouble m.buf.cap), triedToGrow := true })
  | empty {m} : ReadTo s1 m [] → (m.justFinished = true → m.buf.data = []) → m.fullyConsumed = false →
      (m.triedToGrow = true ∨ s1.buf.availableSpace > 0) → m.totalConsumed = 0 →
      TailTo maxCap ops s1 (.inr (.err errEmpty 0, m))
  | eof {m} : ReadTo s1 m [] → (m.justFinished = true → m.buf.data = []) → m.fullyConsumed = false →
      (m.triedToGrow = true ∨ s1.buf.availableSpace > 0) → m.totalConsumed ≠ 0 →
      TailTo maxCap ops s1 (.inr (.err errEof (ops.lines m.ps), m))

theorem tail_to {σ} (maxCap : Nat) (ops : Ops σ) (s1 : St σ) : TailTo maxCap ops s1 (tail maxCap ops s1) := by
  obtain ⟨m, chunk, hR, e⟩ := tail_read maxCap ops s1
  have idle : ¬(m.justFinished && !m.buf.data.isEmpty) = true → m.justFinished = true → m.buf.data = [] :=
    fun hj h => by simpa [h] using hj
  have had : ¬(!m.triedToGrow && !decide (s1.buf.availableSpace > 0)) = true →
      m.triedToGrow = true ∨ s1.buf.availableSpace > 0 := fun hg => by
    cases h : m.triedToGrow with
    | true => exact Or.inl rfl
    | false => simp [h] at hg; exact Or.inr (by omega)
  rw [e]
  by_cases hz : chunk = []
  · subst hz
    rw [if_pos rfl]
    fun_cases zeroBlock maxCap ops (decide (s1.buf.availableSpace > 0)) m
    case case1 h =>
      simp only [Bool.and_eq_true, Bool.not_eq_true', List.isEmpty_eq_false_iff] at h
      exact .parse hR (Or.inr ⟨rfl, h⟩) (parseBlock_to ops m)
    case case2 hj hfc => exact .ok hR (idle hj) hfc
    case case3 hj hfc hg _ hc =>
      simp only [Bool.and_eq_true, Bool.not_eq_true', decide_eq_false_iff_not] at hg
      exact .limit hR (idle hj) (Bool.eq_false_iff.mpr hfc) hg.1 (by omega) hc
    case case4 hj hfc hg _ hc =>
      simp only [Bool.and_eq_true, Bool.not_eq_true', decide_eq_false_iff_not] at hg
      exact .grow hR (idle hj) (Bool.eq_false_iff.mpr hfc) hg.1 (by omega) (Nat.le_of_not_gt hc)
    case case5 hj hfc hg ht => exact .empty hR (idle hj) (Bool.eq_false_iff.mpr hfc) (had hg) ht
    case case6 hj hfc hg ht => exact .eof hR (idle hj) (Bool.eq_false_iff.mpr hfc) (had hg) ht
  · rw [if_neg hz]
    exact .parse hR (Or.inl hz) (parseBlock_to ops m)

/-- a statement about both exits of a block, at a result that goes on -/
theorem goes_on {σ} {A : St σ → Prop} {B : Out σ → St σ → Prop} {s : St σ} (h : A s) :
    (∀ s', (.inl s : Sum (St σ) (Out σ × St σ)) = .inl s' → A s') ∧
    (∀ out sf, (.inl s : Sum (St σ) (Out σ × St σ)) = .inr (out, sf) → B out sf) :=
  ⟨fun _ e => by cases e; exact h, fun _ _ e => by cases e⟩

theorem returns {σ} {A : St σ → Prop} {B : Out σ → St σ → Prop} {out : Out σ} {sf : St σ} (h : B out sf) :
    (∀ s', (.inr (out, sf) : Sum (St σ) (Out σ × St σ)) = .inl s' → A s') ∧
    (∀ o f, (.inr (out, sf) : Sum (St σ) (Out σ × St σ)) = .inr (o, f) → B o f) :=
  ⟨fun _ e => (by cases e), fun _ _ e => by cases e; exact h⟩

theorem RecoverTo.mid {σ} {maxCap : Nat} {input : Bytes} {ops : Ops σ} {s s1 : St σ} (hr : RecoverTo ops s s1)
    (h : Inv maxCap input s) : Mid maxCap input s1 ∧ (s1.fullyConsumed = true → s1.buf.data = []) := by
  cases hr with
  | idle hr => exact ⟨h.toMid, fun hf => h.fully hf hr⟩
  | _ _ _ t => exact ⟨t.mid h.toMid, t.fully.mp⟩

theorem ParseTo.spec {σ} {maxCap : Nat} {input : Bytes} {ops : Ops σ} {m : St σ} {res : Sum (St σ) (Out σ × St σ)}
    (hp : ParseTo ops m res) (h : Mid maxCap input m) :
    (∀ s', res = .inl s' → Inv maxCap input s') ∧
    (∀ out sf, res = .inr (out, sf) → Mid maxCap input sf ∧ ∀ ps, out ≠ .ok ps) := by
  cases hp with
  | skip hr => exact goes_on ⟨h, fun _ h2 => by rw [hr] at h2; cases h2⟩
  | took _ _ t => exact goes_on (t.inv h)
  | failed _ ho =>
    refine returns ⟨{ h with }, fun ps hps => ?_⟩
    subst hps
    split at ho
    · cases ho.2
    · cases ho
    · cases ho

theorem TailTo.spec {σ} {maxCap : Nat} {input : Bytes} {ops : Ops σ} {s1 : St σ} {res : Sum (St σ) (Out σ × St σ)}
    (h : TailTo maxCap ops s1 res)
    (hm1 : Mid maxCap input s1) (hf1 : s1.fullyConsumed = true → s1.buf.data = []) :
    (∀ s', res = .inl s' → Inv maxCap input s') ∧
    (∀ out sf, res = .inr (out, sf) →
      Mid maxCap input sf ∧ ∀ ps, out = .ok ps → sf.buf.data = [] ∧ sf.unread = [] ∧ s1.unread = []) := by
  cases h with
  | parse hR _ hp =>
    obtain ⟨p1, p2⟩ := hp.spec (hR.mid hm1)
    exact ⟨p1, fun out sf h => ⟨(p2 out sf h).1, fun ps hps => absurd hps ((p2 out sf h).2 ps)⟩⟩
  | ok hR _ hfc =>
    -- fully consumed, so the window is empty, so the read hit the end
    have hd1 : s1.buf.data = [] := hf1 (hR.fully ▸ hfc)
    have hu1 : s1.unread = [] := hR.at_end hm1.buf hd1
    exact returns ⟨hR.mid hm1, fun _ _ => ⟨hR.data0.trans hd1, hR.unread0.trans hu1, hu1⟩⟩
  | empty hR => exact returns ⟨hR.mid hm1, fun _ h => by cases h⟩
  | eof hR => exact returns ⟨hR.mid hm1, fun _ h => by cases h⟩
  | limit hR _ hfc => exact goes_on ⟨{ hR.mid hm1 with }, fun hf => Bool.noConfusion (hfc.symm.trans hf)⟩
  | grow hR _ hfc _ _ hcap =>
    obtain ⟨hb, hc, hs, ht⟩ := hR.mid hm1
    refine goes_on ⟨⟨Buf.grow_inv _ _ hb, Buf.grow_cap_le _ _ _ hc hcap, ?_, ht⟩,
      fun hf => Bool.noConfusion (hfc.symm.trans hf)⟩
    show _ ++ (Buf.grow _ _).data ++ _ = input
    rw [Buf.grow_data]; exact hs

theorem step_spec {σ} (maxCap : Nat) (input : Bytes) (ops : Ops σ) (s0 : St σ)
    (h : Inv maxCap input s0) :
    (∀ s', step maxCap ops s0 = .inl s' → Inv maxCap input s') ∧
    (∀ out sf, step maxCap ops s0 = .inr (out, sf) →
      Mid maxCap input sf ∧ ∀ ps, out = .ok ps → sf.buf.data = [] ∧ sf.unread = []) := by
  obtain ⟨hm1, hf1⟩ := (recover_to ops s0).mid h
  obtain ⟨t1, t2⟩ := (tail_to maxCap ops _).spec hm1 hf1
  rw [step_eq_tail]
  exact ⟨t1, fun out sf hs => ⟨(t2 out sf hs).1, fun ps hps =>
    ⟨((t2 out sf hs).2 ps hps).1, ((t2 out sf hs).2 ps hps).2.1⟩⟩⟩


def flagsM {σ} (s : St σ) : Nat :=
  (if s.justFinished then 1 else 0) + (if s.triedToGrow then 0 else 1) + (if s.inRecovery then 0 else 1)

/-- Termination measure of the loop: a read moves bytes from `unread` (8 each) to the window (4 each);
    a consume drops window bytes and raises the flags by at most 3; a zero-length read that goes on
    lowers exactly one flag. -/
def measure {σ} (s : St σ) : Nat := 8 * s.unread.length + 4 * s.buf.data.length + flagsM s

theorem flagsM_le {σ} (s : St σ) : flagsM s ≤ 3 := by
  unfold flagsM
  cases s.justFinished <;> cases s.triedToGrow <;> cases s.inRecovery <;> decide

theorem flagsM_mono {σ} (a b : St σ) (hj : a.justFinished = true → b.justFinished = true)
    (ht : a.triedToGrow = b.triedToGrow) (hr : a.inRecovery = b.inRecovery) : flagsM a ≤ flagsM b := by
  unfold flagsM; rw [ht, hr]
  cases h1 : a.justFinished <;> cases h2 : b.justFinished <;> simp_all

theorem flagsM_just {σ} (a b : St σ) (ha : a.justFinished = false) (hb : b.justFinished = true)
    (ht : a.triedToGrow = b.triedToGrow) (hr : a.inRecovery = b.inRecovery) : flagsM a + 1 ≤ flagsM b := by
  unfold flagsM; rw [ht, hr, ha, hb]; simp; omega

theorem flagsM_tried {σ} (a b : St σ) (hj : a.justFinished = b.justFinished)
    (ha : a.triedToGrow = true) (hb : b.triedToGrow = false)
    (hr : a.inRecovery = b.inRecovery) : flagsM a + 1 ≤ flagsM b := by
  unfold flagsM; rw [hj, hr, ha, hb]; simp; omega

theorem flagsM_rec {σ} (a b : St σ) (hj : a.justFinished = b.justFinished)
    (ht : a.triedToGrow = b.triedToGrow)
    (ha : a.inRecovery = true) (hb : b.inRecovery = false) : flagsM a + 1 ≤ flagsM b := by
  unfold flagsM; rw [hj, ht, ha, hb]; simp

theorem RecoverTo.measure_le {σ} {ops : Ops σ} {s s1 : St σ} (hr : RecoverTo ops s s1) :
    measure s1 ≤ measure s ∧ (s1.inRecovery = true → s1.fullyConsumed = true ∧ s1.buf.data = []) := by
  unfold measure
  cases hr with
  | idle hr => exact ⟨Nat.le_refl _, fun h => by rw [hr] at h; cases h⟩
  | found _ _ t _ hir =>
    refine ⟨?_, fun h => by rw [hir] at h; cases h⟩
    have := t.le; have := flagsM_le s1
    rw [t.unread, t.data, List.length_drop]; omega
  | lost hr _ t _ hir hjf hfc hd =>
    refine ⟨?_, fun _ => ⟨hfc, hd⟩⟩
    have := flagsM_mono s1 s (fun h => hjf ▸ h) t.tried (hir.trans hr.symm)
    rw [t.unread, hd]; simp only [List.length_nil]; omega

theorem ParseTo.flags {σ} {ops : Ops σ} {m s' : St σ} (hp : ParseTo ops m (.inl s')) :
    s'.unread = m.unread ∧ s'.buf.data.length ≤ m.buf.data.length ∧
    s'.triedToGrow = m.triedToGrow ∧ s'.inRecovery = m.inRecovery ∧
    (m.inRecovery = false → s'.justFinished = false) := by
  cases hp with
  | skip hr => exact ⟨rfl, Nat.le_refl _, rfl, rfl, fun h => by rw [hr] at h; cases h⟩
  | took hr _ t _ hir hjf => exact ⟨t.unread, t.length_le, t.tried, hir.trans hr.symm, fun _ => hjf⟩

theorem ReadTo.measure0 {σ} {s r : St σ} (h : ReadTo s r []) : measure r = measure s := by
  unfold measure flagsM
  rw [h.unread0, h.data0, h.just, h.tried0 rfl, h.inRec]

theorem TailTo.measure_lt {σ} {maxCap : Nat} {ops : Ops σ} {s1 s' : St σ} (ht : TailTo maxCap ops s1 (.inl s'))
    (hrec : s1.inRecovery = true → s1.fullyConsumed = true ∧ s1.buf.data = []) : measure s' < measure s1 := by
  have hnr {m : St σ} (hR : ReadTo s1 m []) (hx : m.fullyConsumed = false ∨ m.buf.data ≠ []) :
      m.inRecovery = false := by
    cases hr : m.inRecovery with
    | false => rfl
    | true =>
      obtain ⟨h1, h2⟩ := hrec (hR.inRec ▸ hr)
      rcases hx with hx | hx
      · rw [hR.fully, h1] at hx; cases hx
      · exact absurd (hR.data0.trans h2) hx
  cases ht with
  | @parse m chunk _ hR hc hp =>
    obtain ⟨p1, p2, p3, p4, p6⟩ := hp.flags
    rcases hc with hc | ⟨rfl, hj, hd⟩
    · have hul : s1.unread.length = chunk.length + m.unread.length := by rw [← hR.unread, List.length_append]
      have hdl : m.buf.data.length = s1.buf.data.length + chunk.length := by rw [hR.data, List.length_append]
      have := flagsM_le s'
      have := List.length_pos_iff.mpr hc
      unfold measure; rw [p1]; omega
    · -- no bytes arrived: the parser runs right after a finished recovery
      have := flagsM_just s' m (p6 (hnr hR (Or.inr hd))) hj p3 p4
      rw [← hR.measure0]; unfold measure; rw [p1]; omega
  | @limit m hR _ hfc =>
    have := flagsM_rec { m with inRecovery := true } m rfl rfl rfl (hnr hR (Or.inl hfc))
    rw [← hR.measure0]; unfold measure
    show 8 * m.unread.length + 4 * m.buf.data.length + flagsM _ < _
    omega
  | @grow m hR _ _ htg =>
    have := flagsM_tried { m with buf := m.buf.grow (satDouble m.buf.cap), triedToGrow := true } m
      rfl rfl htg rfl
    rw [← hR.measure0]; unfold measure
    show 8 * m.unread.length + 4 * (m.buf.grow _).data.length + flagsM _ < _
    rw [Buf.grow_data]; omega

theorem step_measure {σ} (maxCap : Nat) (ops : Ops σ) (s0 s' : St σ)
    (h : step maxCap ops s0 = .inl s') : measure s' < measure s0 :=
  have hr := (recover_to ops s0).measure_le
  Nat.lt_of_lt_of_le ((h ▸ tail_to maxCap ops _ : TailTo maxCap ops _ (.inl s')).measure_lt hr.2) hr.1

theorem run_terminates {σ} (maxCap : Nat) (ops : Ops σ) (fuel : Nat) (s : St σ) (h : measure s < fuel) :
    ∃ r, run maxCap ops fuel s = some r := by
  fun_induction run maxCap ops fuel s with
  | case1 => omega
  | case2 _ s s' hs ih => exact ih (by have := step_measure maxCap ops s s' hs; omega)
  | case3 _ _ r => exact ⟨r, rfl⟩

theorem measure_init {σ} (initCap : Nat) (ps : σ) (input : Bytes) (sched : List Nat) :
    measure (init initCap ps input sched) < fuelFor input := by
  simp [measure, flagsM, init, fuelFor, Buf.withCapacity]

theorem run_induct {σ} {maxCap : Nat} {ops : Ops σ} {P : St σ → Prop} {R : Out σ → St σ → Prop}
    (hstep : ∀ s, P s → (∀ s', step maxCap ops s = .inl s' → P s') ∧
      (∀ out sf, step maxCap ops s = .inr (out, sf) → R out sf))
    (fuel : Nat) (s : St σ) (out : Out σ) (sf : St σ) (hP : P s)
    (h : run maxCap ops fuel s = some (out, sf)) : R out sf := by
  fun_induction run maxCap ops fuel s with
  | case1 => cases h
  | case2 _ s s' hs ih => exact ih ((hstep s hP).1 s' hs) h
  | case3 _ s r hs => cases h; exact (hstep s hP).2 out sf hs

theorem run_total {σ} {maxCap : Nat} {ops : Ops σ} {P : St σ → Out σ → Prop}
    (hstep : ∀ s o, P s o → (∃ sf, step maxCap ops s = .inr (o, sf)) ∨
      (∃ s', step maxCap ops s = .inl s' ∧ P s' o))
    (fuel : Nat) (s : St σ) (o : Out σ) (hP : P s o) (hm : measure s < fuel) :
    ∃ sf, run maxCap ops fuel s = some (o, sf) := by
  obtain ⟨⟨out, sf⟩, hr⟩ := run_terminates maxCap ops fuel s hm
  have : out = o := by
    refine run_induct (P := fun s => P s o) (R := fun out _ => out = o) (fun s hs => ?_) fuel s out sf hP hr
    rcases hstep s o hs with ⟨sf, h⟩ | ⟨s', h, hP'⟩
    · exact ⟨fun _ e => (by rw [h] at e; cases e), fun _ _ e => (by rw [h] at e; cases e; rfl)⟩
    · exact ⟨fun _ e => (by rw [h] at e; cases e; exact hP'), fun _ _ e => (by rw [h] at e; cases e)⟩
  exact ⟨sf, this ▸ hr⟩

inductive Reach {σ} (maxCap : Nat) (ops : Ops σ) (s0 : St σ) : St σ → Prop where
  | refl : Reach maxCap ops s0 s0
  | step {s s'} : Reach maxCap ops s0 s → step maxCap ops s = .inl s' → Reach maxCap ops s0 s'

theorem reach_inv {σ} {maxCap : Nat} {input : Bytes} {ops : Ops σ} {s0 s : St σ}
    (h0 : Inv maxCap input s0) (hr : Reach maxCap ops s0 s) : Inv maxCap input s := by
  induction hr with
  | refl => exact h0
  | step _ hs ih => exact (step_spec maxCap input ops _ ih).1 _ hs

theorem run_spec {σ} (maxCap : Nat) (input : Bytes) (ops : Ops σ) :
    ∀ (fuel : Nat) (s : St σ) (out : Out σ) (sf : St σ), Inv maxCap input s →
      run maxCap ops fuel s = some (out, sf) →
      Mid maxCap input sf ∧ ∀ ps, out = .ok ps → sf.buf.data = [] ∧ sf.unread = [] :=
  run_induct (step_spec maxCap input ops)

/-- All the machine asks of a parser: from a state in `Q`, `parse_more` on any window either takes no more than the
    window and stays in `Q`, or fails with an error (a panic is neither). The second clause is there because the
    machine itself changes the parser state in one place: recovery counts the line it skipped (`bumpLine`). -/
def ParserSafe {σ} (ops : Ops σ) (Q : σ → Prop) : Prop :=
  (∀ st w, Q st → (∃ n st', ops.parseMore st w = .ok n st' ∧ n ≤ w.length ∧ Q st') ∨
      (∃ k l, ops.parseMore st w = .err k l)) ∧
  (∀ st, Q st → Q (ops.bumpLine st))

theorem RecoverTo.safe {σ} {ops : Ops σ} {Q : σ → Prop} {s s1 : St σ} (hr : RecoverTo ops s s1)
    (hP : ParserSafe ops Q) (hs : Q s.ps) : Q s1.ps := by
  cases hr with
  | idle => exact hs
  | found _ _ _ hps => rw [hps]; exact hP.2 _ hs
  | lost _ _ _ hps => rw [hps]; exact hs

theorem ParseTo.safe {σ} {ops : Ops σ} {Q : σ → Prop} {m : St σ} {res : Sum (St σ) (Out σ × St σ)}
    (hp : ParseTo ops m res) (hP : ParserSafe ops Q) (hs : Q m.ps) :
    (∀ s', res = .inl s' → Q s'.ps) ∧
    (∀ out sf, res = .inr (out, sf) → (∀ e, out ≠ .panic e) ∧ ∀ ps, out = .ok ps → Q ps) := by
  cases hp with
  | skip => exact goes_on hs
  | took _ hpm _ hps =>
    rcases hP.1 m.ps m.buf.data hs with ⟨n, st', hpm', _, hq⟩ | ⟨k, l, hpm'⟩
    · rw [hpm'] at hpm; cases hpm; exact goes_on (hps ▸ hq)
    · rw [hpm'] at hpm; cases hpm
  | failed _ ho =>
    rcases hP.1 m.ps m.buf.data hs with ⟨n, st', hpm, hn, _⟩ | ⟨k, l, hpm⟩
    · rw [hpm] at ho; exact absurd ho.1 (Nat.not_lt_of_le hn)
    · rw [hpm] at ho; subst ho
      exact returns ⟨fun _ h => (nomatch h), fun _ h => nomatch h⟩

theorem TailTo.safe {σ} {maxCap : Nat} {ops : Ops σ} {Q : σ → Prop} {s1 : St σ} {res : Sum (St σ) (Out σ × St σ)}
    (h : TailTo maxCap ops s1 res) (hP : ParserSafe ops Q) (hs : Q s1.ps) :
    (∀ s', res = .inl s' → Q s'.ps) ∧
    (∀ out sf, res = .inr (out, sf) → (∀ e, out ≠ .panic e) ∧ ∀ ps, out = .ok ps → Q ps) := by
  have h2 {m chunk} (hR : ReadTo s1 m chunk) : Q m.ps := hR.ps ▸ hs
  cases h with
  | parse hR _ hp => exact hp.safe hP (h2 hR)
  | ok hR => exact returns ⟨fun _ h => (nomatch h), fun _ h => by cases h; exact h2 hR⟩
  | empty => exact returns ⟨fun _ h => (nomatch h), fun _ h => nomatch h⟩
  | eof => exact returns ⟨fun _ h => (nomatch h), fun _ h => nomatch h⟩
  | limit hR => have := h2 hR; exact goes_on this
  | grow hR => have := h2 hR; exact goes_on this

theorem step_safe {σ} (maxCap : Nat) (ops : Ops σ) (Q : σ → Prop) (hP : ParserSafe ops Q) (s : St σ)
    (hs : Q s.ps) :
    (∀ s', step maxCap ops s = .inl s' → Q s'.ps) ∧
    (∀ out sf, step maxCap ops s = .inr (out, sf) → (∀ e, out ≠ .panic e) ∧ ∀ ps, out = .ok ps → Q ps) :=
  (tail_to maxCap ops _).safe hP ((recover_to ops s).safe hP hs)

theorem run_safe {σ} (maxCap : Nat) (ops : Ops σ) (Q : σ → Prop) (hP : ParserSafe ops Q) :
    ∀ (fuel : Nat) (s : St σ) (out : Out σ) (sf : St σ), Q s.ps → run maxCap ops fuel s = some (out, sf) →
      (∀ e, out ≠ .panic e) ∧ ∀ ps, out = .ok ps → Q ps :=
  run_induct (P := fun s => Q s.ps) (step_safe maxCap ops Q hP)


def CbExt {σ} (s s' : St σ) : Prop := ∃ new, s'.cb = new ++ s.cb

theorem CbExt.refl {σ} (s : St σ) : CbExt s s := ⟨[], rfl⟩
theorem CbExt.trans {σ} {a b c : St σ} (h1 : CbExt a b) (h2 : CbExt b c) : CbExt a c := by
  obtain ⟨n1, e1⟩ := h1
  obtain ⟨n2, e2⟩ := h2
  exact ⟨n2 ++ n1, by rw [e2, e1, List.append_assoc]⟩
theorem CbExt.of_eq {σ} {a b : St σ} (h : b.cb = a.cb) : CbExt a b := ⟨[], h⟩
theorem Took.cbExt {σ} {m s' : St σ} {n : Nat} (h : Took m s' n) : CbExt m s' := ⟨[_], h.cb⟩

theorem RecoverTo.cb {σ} {ops : Ops σ} {s s1 : St σ} (hr : RecoverTo ops s s1) : CbExt s s1 := by
  cases hr with
  | idle => exact CbExt.refl s
  | _ _ _ t => exact t.cbExt

theorem ParseTo.cb {σ} {ops : Ops σ} {s0 m : St σ} {res : Sum (St σ) (Out σ × St σ)} (hp : ParseTo ops m res)
    (h0 : CbExt s0 m) : (∀ s', res = .inl s' → CbExt s0 s') ∧ (∀ out sf, res = .inr (out, sf) → CbExt s0 sf) := by
  cases hp with
  | skip => exact goes_on h0
  | took _ _ t => exact goes_on (h0.trans t.cbExt)
  | failed => exact returns h0

theorem TailTo.cb {σ} {maxCap : Nat} {ops : Ops σ} {s1 : St σ} {res : Sum (St σ) (Out σ × St σ)}
    (h : TailTo maxCap ops s1 res) :
    (∀ s', res = .inl s' → CbExt s1 s') ∧ (∀ out sf, res = .inr (out, sf) → CbExt s1 sf) := by
  cases h with
  | parse hR _ hp => exact hp.cb (CbExt.of_eq hR.cb)
  | ok hR => exact returns (CbExt.of_eq hR.cb)
  | empty hR => exact returns (CbExt.of_eq hR.cb)
  | eof hR => exact returns (CbExt.of_eq hR.cb)
  | limit hR => exact goes_on (CbExt.of_eq hR.cb)
  | grow hR => exact goes_on (CbExt.of_eq hR.cb)

end MdModel.Stream
