/-
  What one step of a `locate_symbols` call (`MdModel.CacheFs`) can do to the cache and to its own
  state (`step_spec`), and what a whole run can (`runTask_spec`). Everything
  is for an arbitrary `ParserModel`, with `ParserLaws` where the end of a response is concerned.
-/
import MdModel.CacheFs
namespace MdModel.CacheFs

variable {P : ParserModel}

/-- Local invariant of a call: the server being talked to is one of the configured ones, the parser
    state is the one reached on the chunks received, and a live temp file holds exactly the bytes
    the parser handed to the tee callback. -/
def PhaseInv (req : Req) : Phase P → Prop
  | .awaitStatus u rest => ∃ pre, req.urls = pre ++ u :: rest
  | .streaming u rest temp nl ps rx =>
    (∃ pre, req.urls = pre ++ u :: rest) ∧
    ∃ cb, P.runRev rx = some (ps, cb) ∧ (∀ t, temp = some t → t = cb) ∧ nl = updNl false cb
  | _ => True

theorem updNl_append (nl : Bool) (a b : Bytes) : updNl (updNl nl a) b = updNl nl (a ++ b) := by
  unfold updNl
  rw [List.getLast?_append]
  cases b.getLast? <;> cases a.getLast? <;> simp

theorem updNl_endsNl {cb : Bytes} (h : updNl false cb = true) : EndsNl cb := by
  unfold updNl at h
  cases hl : cb.getLast? with
  | none => simp [hl] at h
  | some x =>
    simp [hl] at h
    subst h
    exact List.getLast?_eq_some_iff.mp hl

theorem tee_some {temp : Option Bytes} {cb : Bytes} {w : Bool} {t : Bytes}
    (h : tee temp cb w = some t) : ∃ t0, temp = some t0 ∧ t = t0 ++ cb := by
  cases temp with
  | none => simp [tee] at h
  | some t0 =>
    cases w <;> simp [tee] at h
    exact ⟨t0, rfl, h.symm⟩

theorem runRev_cons_eq_some {b : Bytes} {rx : List Bytes} {s' : P.σ} {cb' : Bytes} :
    P.runRev (b :: rx) = some (s', cb') ↔
      ∃ s cb d, P.runRev rx = some (s, cb) ∧ P.feed s b = some (s', d) ∧ cb' = cb ++ d := by
  constructor
  · intro h
    simp only [ParserModel.runRev] at h
    split at h
    · cases h
    next s cb hr =>
      split at h
      · cases h
      next s2 d hf => cases h; exact ⟨s, cb, d, hr, hf, rfl⟩
  · rintro ⟨s, cb, d, hr, hf, rfl⟩
    simp only [ParserModel.runRev, hr, hf]

theorem stream_eq_some {rx : List Bytes} {out : Bytes} {t : P.Sym} :
    P.stream rx = some (out, t) ↔
      ∃ s cb fin, P.runRev rx = some (s, cb) ∧ P.finish s = some (fin, t) ∧ out = cb ++ fin := by
  constructor
  · intro h
    unfold ParserModel.stream at h
    split at h
    · cases h
    next s cb hr =>
      split at h
      · cases h
      next fin t' hf => cases h; exact ⟨s, cb, fin, hr, hf, rfl⟩
  · rintro ⟨s, cb, fin, hr, hf, rfl⟩
    simp only [ParserModel.stream, hr, hf]

theorem bodyOf_append (xs ys : List Bytes) : bodyOf (xs ++ ys) = bodyOf ys ++ bodyOf xs := by
  induction xs with
  | nil => simp [bodyOf]
  | cons x xs ih => simp [bodyOf, ih]

theorem bodyOf_reverse (xs : List Bytes) : bodyOf xs.reverse = xs.flatten := by
  induction xs with
  | nil => rfl
  | cons x xs ih => simp [bodyOf_append, bodyOf, ih]

theorem Cache.set_self (c : Cache) (p : Path) (n : Option Node) : c.set p n p = n := by
  simp [Cache.set]

theorem Cache.set_ne (c : Cache) {p q : Path} (n : Option Node) (h : q ≠ p) : c.set p n q = c q := by
  simp [Cache.set, h]

/-- `commit_cache_file` leaves the cache as it is, puts the new file at the name, or — when the
    old entry was removed and `persist_noclobber` then failed — leaves the name empty -/
theorem commit_cases (c : Cache) (p : Path) (u : Url) (t : Bytes) (io : CommitIo) :
    commit c p u t io = c ∨ commit c p u t io = c.set p (some (.file (t ++ trailer u))) ∨
      commit c p u t io = c.set p none := by
  unfold commit
  split
  · exact .inl rfl
  · split
    · split
      · exact .inr (.inl rfl)
      · exact .inl rfl
    · exact .inl rfl
    · exact .inl rfl
    · split
      · exact .inl rfl
      · split
        · exact .inr (.inl rfl)
        · exact .inr (.inr rfl)

theorem Cache.set_eq_some {c : Cache} {p q : Path} {m : Option Node} {n : Node} (h : c.set p m q = some n) :
    c q = some n ∨ q = p ∧ m = some n := by
  by_cases hq : q = p
  · exact .inr ⟨hq, by rw [← h, hq, Cache.set_self]⟩
  · exact .inl (by rw [← h, Cache.set_ne c _ hq])

theorem commit_ne (c : Cache) {p q : Path} (u : Url) (t : Bytes) (io : CommitIo) (hq : q ≠ p) :
    commit c p u t io q = c q := by
  rcases commit_cases c p u t io with h | h | h <;> rw [h]
  all_goals exact Cache.set_ne c _ hq

theorem commit_entry {c : Cache} {p q : Path} {u : Url} {t : Bytes} {io : CommitIo} {n : Node}
    (h : commit c p u t io q = some n) : c q = some n ∨ q = p ∧ n = .file (t ++ trailer u) := by
  rcases commit_cases c p u t io with e | e | e <;> rw [e] at h
  · exact .inl h
  · exact (Cache.set_eq_some h).imp_right fun ⟨hq, hn⟩ => ⟨hq, (Option.some.inj hn).symm⟩
  · exact (Cache.set_eq_some h).imp_right fun ⟨_, hn⟩ => nomatch hn

theorem step_done (c : Cache) (req : Req) (r : Result) (e : Ev) :
    step (P := P) c req (.done r) e = (c, .done r) := by
  cases e <;> rfl

theorem step_dropped (c : Cache) (req : Req) (e : Ev) :
    step (P := P) c req .dropped e = (c, .dropped) := by
  cases e <;> rfl

theorem step_chunk_some {c : Cache} {req : Req} {u : Url} {rest : List Url} {temp : Option Bytes} {nl : Bool}
    {ps ps' : P.σ} {rx : List Bytes} {b cb : Bytes} {w : Bool} (h : P.feed ps b = some (ps', cb)) :
    step c req (.streaming u rest temp nl ps rx) (.chunk b w) =
      (c, .streaming u rest (tee temp cb w) (updNl nl cb) ps' (b :: rx)) := by
  simp only [step, h]

theorem step_eof_commit {c : Cache} {req : Req} {u : Url} {rest : List Url} {temp : Option Bytes} {nl : Bool}
    {ps : P.σ} {rx : List Bytes} {fin tt : Bytes} {t : P.Sym} {io : CommitIo}
    (h : P.finish ps = some (fin, t)) (ht : tee temp fin io.writeOk = some tt) (hn : updNl nl fin = true) :
    step c req (.streaming u rest temp nl ps rx) (.eof io) =
      (commit c req.path u tt io, .done (.downloaded rx u)) := by
  simp only [step, h, ht, hn, if_true]

theorem runTask_append (c : Cache) (req : Req) (ph : Phase P) (es fs : List Ev) :
    runTask c req ph (es ++ fs) = runTask (runTask c req ph es).1 req (runTask c req ph es).2 fs := by
  induction es generalizing c ph with
  | nil => rfl
  | cons e es ih => simp [runTask, ih]

theorem runTask_fixed {c : Cache} {req : Req} {ph : Phase P} (h : ∀ e, step c req ph e = (c, ph)) (es : List Ev) :
    runTask c req ph es = (c, ph) := by
  induction es with
  | nil => rfl
  | cons e es ih => simp [runTask, h, ih]

theorem runTask_done (c : Cache) (req : Req) (r : Result) (es : List Ev) :
    runTask (P := P) c req (.done r) es = (c, .done r) :=
  runTask_fixed (step_done c req r) es

theorem runTask_dropped (c : Cache) (req : Req) (es : List Ev) :
    runTask (P := P) c req .dropped es = (c, .dropped) :=
  runTask_fixed (step_dropped c req) es

theorem step_quiet (c : Cache) (req : Req) (ph : Phase P) (e : Ev) :
    (step c req ph e).1 = c ∨ ∃ rx u, (step c req ph e).2 = .done (.downloaded rx u) := by
  fun_cases step c req ph e <;> first | exact .inl rfl | exact .inr ⟨_, _, rfl⟩

/-- no law of the parser and no invariant of the call is needed for "no `downloaded`, no change" -/
theorem runTask_quiet (c : Cache) (req : Req) (ph : Phase P) (es : List Ev)
    (hfail : ∀ rx u, (runTask c req ph es).2 ≠ .done (.downloaded rx u)) : (runTask c req ph es).1 = c := by
  induction es generalizing c ph with
  | nil => rfl
  | cons e es ih =>
    simp only [runTask] at hfail ⊢
    rcases step_quiet c req ph e with h | ⟨rx, u, h⟩
    · exact (ih _ _ hfail).trans h
    · rw [h, runTask_done] at hfail; exact absurd rfl (hfail rx u)

theorem runTask_drop (c : Cache) (req : Req) (ph : Phase P) (fs : List Ev) :
    runTask c req ph (.drop :: fs) = (c, .dropped) ∨
      ∃ r, ph = .done r ∧ runTask c req ph (.drop :: fs) = (c, .done r) := by
  cases ph <;> simp [runTask, step, runTask_done, runTask_dropped]

theorem mem_urls_of_split {req : Req} {u : Url} {rest : List Url} (h : ∃ pre, req.urls = pre ++ u :: rest) :
    u ∈ req.urls ∧ ∃ pre, req.urls = pre ++ rest := by
  obtain ⟨pre, h⟩ := h
  exact ⟨by simp [h], pre ++ [u], by simp [h]⟩

theorem eof_complete (hl : ParserLaws P) {req : Req} {u : Url} {rest : List Url} {temp : Option Bytes}
    {nl : Bool} {ps : P.σ} {rx : List Bytes} {fin : Bytes} {t : P.Sym}
    (h : PhaseInv req (.streaming u rest temp nl ps rx)) (hf : P.finish ps = some (fin, t)) :
    P.stream rx = some (bodyOf rx, t) ∧ (∀ w tt, tee temp fin w = some tt → tt = bodyOf rx) ∧
      (updNl nl fin = true → EndsNl (bodyOf rx)) := by
  obtain ⟨_, cb, hrun, htemp, rfl⟩ := h
  have hbody : cb ++ fin = bodyOf rx := (hl.callback_prefix rx ps cb hrun).2 fin t hf
  refine ⟨stream_eq_some.mpr ⟨ps, cb, fin, hrun, hf, hbody.symm⟩, ?_, ?_⟩
  · intro w tt ht
    obtain ⟨t0, h0, rfl⟩ := tee_some ht
    rw [htemp t0 h0, hbody]
  · intro hn
    rw [updNl_append, hbody] at hn
    exact updNl_endsNl hn

/-- **What one step does**, branch by branch of `step`. Either it leaves the cache alone, keeps the
    invariant and yields no `downloaded` result that was not there; or the call was streaming the
    response of `u` with chunks `rx`, the event is end-of-response, the streaming parse of exactly
    these chunks returned `Ok(t)`, the result is `downloaded rx u`, and — the only way the cache is
    ever touched — if the temp file is still there and the body ends in a line feed, the cache
    becomes `commit … (whole body) …`. -/
theorem step_spec (hl : ParserLaws P) (c : Cache) (req : Req) (ph : Phase P) (e : Ev)
    (h : PhaseInv req ph) :
    ((step c req ph e).1 = c ∧ PhaseInv req (step c req ph e).2 ∧
      ∀ rx u, (step c req ph e).2 = .done (.downloaded rx u) → ph = .done (.downloaded rx u)) ∨
    ∃ u rx io t, e = .eof io ∧ u ∈ req.urls ∧
      P.stream rx = some (bodyOf rx, t) ∧ (step c req ph e).2 = .done (.downloaded rx u) ∧
      ((step c req ph e).1 = c ∨
        EndsNl (bodyOf rx) ∧ (step c req ph e).1 = commit c req.path u (bodyOf rx) io) := by
  have next : ∀ {rest : List Url}, (∃ pre, req.urls = pre ++ rest) →
      PhaseInv (P := P) req (nextUrl rest) ∧
        ∀ rx u, nextUrl (P := P) rest = .done (.downloaded rx u) → ph = .done (.downloaded rx u) := by
    intro rest hs
    cases rest with
    | nil => exact ⟨trivial, nofun⟩
    | cons u r => exact ⟨hs, nofun⟩
  -- the cases are the branches of `step`, in the order of its definition
  fun_cases step c req ph e
  -- `start`: served locally; to the first server; dropped
  case case1 => exact .inl ⟨rfl, trivial, nofun⟩
  case case2 => exact .inl ⟨rfl, next ⟨[], rfl⟩⟩
  case case3 => exact .inl ⟨rfl, trivial, nofun⟩
  -- `awaitStatus`: error status; response head; network error; dropped
  case case4 | case6 => exact .inl ⟨rfl, next (mem_urls_of_split h).2⟩
  case case5 u rest code createOk _ =>
    refine .inl ⟨rfl, ⟨h, [], rfl, ?_, rfl⟩, nofun⟩
    intro t ht
    cases createOk <;> simp at ht
    exact ht
  case case7 => exact .inl ⟨rfl, trivial, nofun⟩
  -- `streaming`, a chunk: the parser fails; it goes on
  case case8 => exact .inl ⟨rfl, next (mem_urls_of_split h.1).2⟩
  case case9 u rest temp nl ps rx b w ps' cb' hf =>
    obtain ⟨hu, cb, hrun, htemp, rfl⟩ := h
    refine .inl ⟨rfl, ⟨hu, cb ++ cb', runRev_cons_eq_some.mpr ⟨ps, cb, cb', hrun, hf, rfl⟩, ?_,
      updNl_append ..⟩, nofun⟩
    intro t ht
    obtain ⟨t0, h0, rfl⟩ := tee_some ht
    rw [htemp t0 h0]
  -- `streaming`, end of the response: the parser fails; `Ok` without a temp file; `Ok` and the
  -- commit; `Ok` with a body that does not end in a line feed
  case case10 => exact .inl ⟨rfl, next (mem_urls_of_split h.1).2⟩
  case case11 u rest temp nl ps rx io fin t hf _ =>
    exact .inr ⟨u, rx, io, t, rfl, (mem_urls_of_split h.1).1, (eof_complete hl h hf).1, rfl, .inl rfl⟩
  case case12 u rest temp nl ps rx io fin t hf tt ht hn =>
    obtain ⟨hs, htee, hnl⟩ := eof_complete hl h hf
    exact .inr ⟨u, rx, io, t, rfl, (mem_urls_of_split h.1).1, hs, rfl, .inr ⟨hnl hn, by rw [htee _ _ ht]⟩⟩
  case case13 u rest temp nl ps rx io fin t hf _ _ _ =>
    exact .inr ⟨u, rx, io, t, rfl, (mem_urls_of_split h.1).1, (eof_complete hl h hf).1, rfl, .inl rfl⟩
  -- `streaming`: network error; dropped
  case case14 => exact .inl ⟨rfl, next (mem_urls_of_split h.1).2⟩
  case case15 => exact .inl ⟨rfl, trivial, nofun⟩
  -- every other event leaves the call as it is
  case case16 => exact .inl ⟨rfl, h, fun _ _ hd => hd⟩

theorem step_inv (hl : ParserLaws P) (c : Cache) (req : Req) (ph : Phase P) (e : Ev) (h : PhaseInv req ph) :
    PhaseInv req (step c req ph e).2 := by
  rcases step_spec hl c req ph e h with ⟨_, h', _⟩ | ⟨_, _, _, _, _, _, _, hd, _⟩
  · exact h'
  · rw [hd]; trivial

/-- **What a whole run does**: `step_spec` is closed under composition, because the one step that is
    not quiet ends the call (`runTask_done`). -/
theorem runTask_spec (hl : ParserLaws P) (c : Cache) (req : Req) (ph : Phase P) (h : PhaseInv req ph)
    (es : List Ev) :
    ((runTask c req ph es).1 = c ∧ PhaseInv req (runTask c req ph es).2 ∧
      ∀ rx u, (runTask c req ph es).2 = .done (.downloaded rx u) → ph = .done (.downloaded rx u)) ∨
    ∃ u rx io t, u ∈ req.urls ∧ P.stream rx = some (bodyOf rx, t) ∧
      (runTask c req ph es).2 = .done (.downloaded rx u) ∧
      ((runTask c req ph es).1 = c ∨
        EndsNl (bodyOf rx) ∧ (runTask c req ph es).1 = commit c req.path u (bodyOf rx) io) := by
  induction es generalizing c ph with
  | nil => exact .inl ⟨rfl, h, fun _ _ hd => hd⟩
  | cons e es ih =>
    simp only [runTask]
    rcases step_spec hl c req ph e h with ⟨hc, h', hq⟩ | ⟨u, rx, io, t, _, hu, hs, hd, hc⟩
    · have := ih (step c req ph e).1 _ h'
      rw [hc] at this ⊢
      exact this.imp_left fun ⟨h1, h2, h3⟩ => ⟨h1, h2, fun rx u hd => hq rx u (h3 rx u hd)⟩
    · rw [hd, runTask_done]
      exact .inr ⟨u, rx, io, t, hu, hs, rfl, hc⟩

theorem runTask_inv (hl : ParserLaws P) (c : Cache) (req : Req) (ph : Phase P) (es : List Ev)
    (h : PhaseInv req ph) : PhaseInv req (runTask c req ph es).2 := by
  rcases runTask_spec hl c req ph h es with ⟨_, h', _⟩ | ⟨_, _, _, _, _, _, hd, _⟩
  · exact h'
  · rw [hd]; trivial

theorem PhaseInv.temp_prefix (hl : ParserLaws P) {req : Req} {ph : Phase P} (hinv : PhaseInv req ph) {t : Bytes}
    (h : ph.temp = some t) :
    ∃ u rest temp nl ps rx, ph = .streaming u rest temp nl ps rx ∧ ∃ more, t ++ more = bodyOf rx := by
  cases ph with
  | streaming u rest temp nl ps rx =>
    obtain ⟨_, cb, hrun, htemp, _⟩ := hinv
    exact ⟨u, rest, temp, nl, ps, rx, rfl, htemp t h ▸ (hl.callback_prefix rx ps cb hrun).1⟩
  | _ => cases h

/-- `r`: the chunks, newest first -/
theorem runTask_chunks (c : Cache) (req : Req) (u : Url) (rest : List Url) {rx0 : List Bytes} {s0 : P.σ}
    {cb0 : Bytes} (h0 : P.runRev rx0 = some (s0, cb0)) :
    ∀ (r : List Bytes) {s1 : P.σ} {cb1 : Bytes}, P.runRev (r ++ rx0) = some (s1, cb1) →
      runTask c req (.streaming u rest (some cb0) (updNl false cb0) s0 rx0) (r.reverse.map fun b => Ev.chunk b true) =
        (c, .streaming u rest (some cb1) (updNl false cb1) s1 (r ++ rx0))
  | [], s1, cb1, h1 => by
    rw [List.nil_append, h0] at h1
    cases h1
    rfl
  | b :: r, s1, cb1, h1 => by
    obtain ⟨s, cb, d, hr, hf, rfl⟩ := runRev_cons_eq_some.mp h1
    rw [List.reverse_cons, List.map_append, runTask_append, runTask_chunks c req u rest h0 r hr]
    simp only [List.map_cons, List.map_nil, runTask, step_chunk_some hf, tee, if_true, updNl_append]
    rfl

theorem runTask_download (c : Cache) (req : Req) (u : Url) (rest : List Url) (chunks : List Bytes) (t : P.Sym)
    (hurls : req.urls = u :: rest) (hlocal : req.localHit = none) (hfree : c req.path = none)
    (hnl : EndsNl chunks.flatten) (hs : P.stream chunks.reverse = some (chunks.flatten, t)) :
    runTask (P := P) c req .start
      ([.lookup, .status 200 true] ++ (chunks.map fun b => Ev.chunk b true) ++ [.eof ⟨true, true, true, true⟩]) =
    (c.set req.path (some (.file (chunks.flatten ++ trailer u))), .done (.downloaded chunks.reverse u)) := by
  obtain ⟨s1, cb1, fin, hr, hfin, hcb⟩ := stream_eq_some.mp hs
  have hnl' : updNl (updNl false cb1) fin = true := by
    obtain ⟨pre, hpre⟩ := hnl
    rw [updNl_append, ← hcb, hpre]
    simp [updNl]
  have e12 : runTask (P := P) c req .start [.lookup, .status 200 true] =
      (c, .streaming u rest (some []) (updNl false []) P.init []) := by
    simp [runTask, step, lookupLocal, hlocal, hfree, hurls, nextUrl, isErrorStatus, updNl]
  have e3 := runTask_chunks c req u rest (rx0 := []) rfl chunks.reverse (by rwa [List.append_nil])
  rw [List.reverse_reverse, List.append_nil] at e3
  rw [runTask_append, runTask_append, e12, e3]
  simp only [runTask]
  rw [step_eof_commit hfin (tt := chunks.flatten) (by simp [tee, hcb]) hnl']
  simp [commit, hfree]

theorem getElem?_set_fst {α β : Type} (l : List (α × β)) (i : Nat) (a : α) (b b' : β)
    (h : l[i]? = some (a, b)) : (l.set i (a, b')).map Prod.fst = l.map Prod.fst := by
  obtain ⟨hi, he⟩ := List.getElem?_eq_some_iff.mp h
  rw [List.map_set, ← congrArg Prod.fst he, ← List.getElem_map Prod.fst (h := by simpa using hi),
    List.set_getElem_self]

end MdModel.CacheFs
