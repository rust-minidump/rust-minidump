import MdModel.Encode
import MdProofs.Lemmas.RangeMapIdx
namespace MdModel.Encode
open MdModel MdModel.RangeMap

/-- `r` shares no address with `x` (or `x` has no valid range: empty, or reaching past 2^64-1) -/
def Apart (r x : MRegion) : Prop :=
  x.bytes.length = 0 ∨ x.base + x.bytes.length > U64MAX ∨ x.base + x.bytes.length ≤ r.base ∨
  r.base + r.bytes.length ≤ x.base

theorem memoryByteAt_some {rs : List MRegion} {a : Nat} {b : UInt8} (h : memoryByteAt rs a = some b) :
    ∃ r ∈ rs, r.base + r.bytes.length ≤ U64MAX ∧ r.base ≤ a ∧ r.bytes[a - r.base]? = some b := by
  unfold memoryByteAt at h
  split at h
  · cases h
  · rename_i i hget
    obtain ⟨x, hx, _, hmax, hlo, _⟩ :=
      get_idx_mkRange_sound (base := MRegion.base) (size := fun r => r.bytes.length) hget
    simp only [hx, regionByte, if_neg (Nat.not_lt.mpr hlo)] at h
    exact ⟨x, List.mem_of_getElem? hx, hmax, hlo, h⟩

end MdModel.Encode
