/-
  Bridge C06 ↔ walker model, part 5: `walk_with_stack_cfi` and `SymbolFile::walk_frame`.

  `WalkerSim x W`: the walker model's `CfiIn` (architecture, callee context, stack memory) and the
  C06 model's `Walker` record answer every question `walk_with_stack_cfi` asks in the same way.
  `OutSimAt`: a caller register is valid with the same value on both sides.

  The real `CfiStackWalker` (and the walker model) store the CFA and the return address in the
  stack-pointer and instruction-pointer registers, where a later rule (`$rsp: …`) can overwrite or
  clear them; the C06 `Walker` keeps them in two separate slots. `seedFwd` expresses the former in
  terms of the latter: the caller's register file starts with `sp ↦ cfa`, `ip ↦ ra`.
-/
import MdProofs.Lemmas.CfiBridgeParse
import MdProofs.Lemmas.CfiView
import MdProofs.Lemmas.WalkCommon
import MdProofs.Lemmas.WalkTables
namespace MdModel.CfiBridge
open MdModel

structure WalkerSim (x : Walk.CfiIn) (W : Cfi.Walker) : Prop where
  env : EnvSim x W.env
  /-- `memoize_register`: same canonical name (or none) for every name -/
  memo : ∀ n : String, W.memo (utf8 n) = (x.arch.canon n).map utf8
  /-- `C::Register::try_from(u64)`: same register width -/
  fits : ∀ v : UInt64, W.fits v = decide (v.toNat ≤ x.arch.regMax)

/-- the `fun o (n, e) => …` of `Walk.walkCfi` -/
def stepW (x : Walk.CfiIn) (cfa : Nat) (o : Walk.CfiOut) (p : String × List Walk.ETok) : Walk.CfiOut :=
  match Walk.evalCfi x (some cfa) p.2 [] with
  | some v =>
    (match o.setReg x.arch p.1 v with
     | some o' => o'
     | none => o.clearReg x.arch p.1)
  | none => o.clearReg x.arch p.1

/-- the walker after `set_cfa(cfa)?; set_ra(ra)?` -/
def afterCfaRa (a : Walk.Arch) (o : Walk.CfiOut) (cfa ra : Nat) : Walk.CfiOut :=
  { o with ctx := { o.ctx with sp := cfa, ip := ra },
           valid := Walk.setInsert (Walk.setInsert o.valid a.spName) a.ipName }

/-- the value stored for register `s`, valid or not; what one rule does to it is `rawC_stepW` (`MdProofs.Lemmas.CfiEnv`) -/
def rawC (a : Walk.Arch) (c : Walk.Ctx) (s : String) : Nat :=
  if s = a.ipName then c.ip else if s = a.spName then c.sp else Walk.assocGet c.rest s

/-- the caller's register `s` as the walker model holds it: unknown unless marked valid, else its value (instruction and
    stack pointer from the context's own fields, any other from its list) -/
def viewW (a : Walk.Arch) (o : Walk.CfiOut) (s : String) : Option Nat :=
  if o.valid.contains s then some (rawC a o.ctx s) else none

def OutSimAt (a : Walk.Arch) (o : Walk.CfiOut) (c : Cfi.Caller) (s : String) : Prop :=
  (c.get (utf8 s)).map UInt64.toNat = viewW a o s

theorem filter_ne_contains (l : List String) (m s : String) :
    (l.filter (· ≠ m)).contains s = (!decide (s = m) && l.contains s) := by
  by_cases hs : s = m <;> simp [hs]

theorem setReg_spec (a : Walk.Arch) (o : Walk.CfiOut) (n : String) (v : Nat) :
    o.setReg a n v =
      match a.canon n with
      | none => none
      | some m =>
        if v > a.regMax then none
        else some { ctx := (if m = a.ipName then { o.ctx with ip := v }
                            else if m = a.spName then { o.ctx with sp := v }
                            else { o.ctx with rest := Walk.assocSet o.ctx.rest m v }),
                    valid := Walk.setInsert o.valid m } := by
  unfold Walk.CfiOut.setReg Walk.Ctx.set
  cases a.canon n with
  | none => rfl
  | some m =>
    simp only
    by_cases hv : v > a.regMax
    · simp only [hv, if_true]
    · simp only [hv, if_false]
      by_cases h1 : m = a.ipName
      · subst h1; simp only [if_true]
      · by_cases h2 : m = a.spName
        · subst h2; simp only [h1, if_true, if_false]
        · simp only [h1, h2, if_false]

theorem rawC_write (a : Walk.Arch) (c : Walk.Ctx) (m s : String) (v : Nat) :
    rawC a (if m = a.ipName then { c with ip := v }
            else if m = a.spName then { c with sp := v }
            else { c with rest := Walk.assocSet c.rest m v }) s = if s = m then v else rawC a c s := by
  unfold rawC
  by_cases h1 : m = a.ipName
  · subst h1
    by_cases hs : s = a.ipName <;> simp [hs]
  · by_cases h2 : m = a.spName
    · subst h2
      by_cases hs : s = a.spName <;> by_cases hi : s = a.ipName <;> simp_all
    · by_cases hs : s = m
      · subst hs; simp [h1, h2, Walk.assocGet_assocSet]
      · simp [h1, h2, hs, Walk.assocGet_assocSet]

theorem viewW_setReg (a : Walk.Arch) (o o' : Walk.CfiOut) (n m : String) (v : Nat) (s : String)
    (hm : a.canon n = some m) (h : o.setReg a n v = some o') :
    viewW a o' s = if s = m then some v else viewW a o s := by
  rw [setReg_spec, hm] at h
  simp only at h
  split at h
  · cases h
  · cases h
    simp only [viewW, Walk.setInsert_contains, rawC_write]
    by_cases hs : s = m <;> simp [hs]

theorem setReg_none_iff (a : Walk.Arch) (o : Walk.CfiOut) (n : String) (v : Nat) :
    o.setReg a n v = none ↔ (a.canon n = none ∨ v > a.regMax) := by
  rw [setReg_spec]
  cases a.canon n with
  | none => simp
  | some m =>
    simp only
    split <;> simp_all

theorem viewW_clearReg (a : Walk.Arch) (o : Walk.CfiOut) (n : String) (s : String) :
    viewW a (o.clearReg a n) s = if a.canon n = some s then none else viewW a o s := by
  unfold Walk.CfiOut.clearReg
  cases hm : a.canon n with
  | none => simp
  | some m =>
    unfold viewW
    simp only [filter_ne_contains, Option.some.injEq]
    by_cases hs : s = m
    · subst hs; simp
    · simp [hs, Ne.symm hs]

theorem viewW_stepW (x : Walk.CfiIn) (cfa : Nat) (o : Walk.CfiOut) (p : String × List Walk.ETok) (s : String) :
    viewW x.arch (stepW x cfa o p) s =
      Cfi.ruleView (fun v => decide (v ≤ x.arch.regMax)) (x.arch.canon p.1) s
        (Walk.evalCfi x (some cfa) p.2 []) (viewW x.arch o s) := by
  unfold stepW Cfi.ruleView
  cases he : Walk.evalCfi x (some cfa) p.2 [] with
  | none => simp only [viewW_clearReg, Option.filter_none]
  | some v =>
    simp only [setReg_spec, Option.filter_some]
    cases hm : x.arch.canon p.1 with
    | none => simp [viewW_clearReg, hm]
    | some m =>
      by_cases hv : v > x.arch.regMax
      · have : ¬ v ≤ x.arch.regMax := by omega
        simp [hv, this, viewW_clearReg, hm]
      · have hle : v ≤ x.arch.regMax := by omega
        simp only [hv, if_false, viewW, Walk.setInsert_contains, rawC_write, Option.some.injEq, hle, decide_true, if_true]
        by_cases hs : s = m
        · subst hs; simp
        · simp [hs, Ne.symm hs]

theorem viewW_foldl (x : Walk.CfiIn) (cfa : Nat) (lw : List (String × List Walk.ETok)) (o : Walk.CfiOut)
    (s : String) :
    viewW x.arch (lw.foldl (stepW x cfa) o) s =
      lw.foldl (fun v p => Cfi.ruleView (fun v => decide (v ≤ x.arch.regMax)) (x.arch.canon p.1) s
        (Walk.evalCfi x (some cfa) p.2 []) v) (viewW x.arch o s) :=
  (List.foldl_hom (viewW x.arch · s) (H := fun o p => (viewW_stepW x cfa o p s).symm)).symm

theorem stepW_order_independent (x : Walk.CfiIn) (cfa : Nat) (lw₁ lw₂ : List (String × List Walk.ETok))
    (hperm : lw₁.Perm lw₂) (o : Walk.CfiOut) (s : String)
    (hone : ∀ p ∈ lw₁, ∀ q ∈ lw₁, x.arch.canon p.1 = some s → x.arch.canon q.1 = some s → p = q) :
    viewW x.arch (lw₁.foldl (stepW x cfa) o) s = viewW x.arch (lw₂.foldl (stepW x cfa) o) s := by
  rw [viewW_foldl, viewW_foldl]
  exact hperm.foldl_eq' (fun p hp q hq z => Cfi.ruleView_comm _ s _ _ _ _ z
    fun h1 h2 => by rw [hone p hp q hq h1 h2]) _

theorem stepW_tracks (x : Walk.CfiIn) (W : Cfi.Walker) (h : WalkerSim x W) (cfa : UInt64) (s : String)
    (o : Walk.CfiOut) (pw : String × List Walk.ETok) (pc : Cfi.Name × Cfi.Expr)
    (hp : fC pc = fW pw) (hwf : ∀ t ∈ pw.2, ETokWf t) (c : Option UInt64)
    (hs : c.map UInt64.toNat = viewW x.arch o s) :
    (Cfi.upd W cfa (utf8 s) c pc).map UInt64.toNat = viewW x.arch (stepW x cfa.toNat o pw) s := by
  obtain ⟨n, e⟩ := pc
  obtain rfl : n = utf8 pw.1 := congrArg Prod.fst hp
  rw [viewW_stepW, ← hs, upd_view W (fits := fun v => decide (v ≤ x.arch.regMax)) h.fits cfa (h.memo pw.1),
    ← evalCfi_bridge x W.env h.env (some cfa) pw.2 e (congrArg Prod.snd hp) hwf]
  rfl

/-- the caller's register file with which the C06 `Walker` starts, once the CFA and the return
    address are stored the way `CfiStackWalker::set_cfa` / `set_ra` store them: in the
    stack-pointer and instruction-pointer registers -/
def seedFwd (a : Walk.Arch) (fwd : List (Cfi.Name × UInt64)) (cfa ra : UInt64) : List (Cfi.Name × UInt64) :=
  (utf8 a.ipName, ra) :: Cfi.eraseName ((utf8 a.spName, cfa) :: Cfi.eraseName fwd (utf8 a.spName)) (utf8 a.ipName)

/-- it is the list the C06 model's `stack` protocol entry (the real `CfiStackWalker` through
    `walk_stack`) starts its second walk with -/
theorem seedFwd_eq_storeCfaRa (a : Walk.Arch) (fwd : List (Cfi.Name × UInt64)) (cfa ra : UInt64) :
    seedFwd a fwd cfa ra = Cfi.storeCfaRa (utf8 a.spName) (utf8 a.ipName) fwd cfa ra := rfl

theorem viewW_afterCfaRa (a : Walk.Arch) (o : Walk.CfiOut) (cfa ra : Nat) (s : String) :
    viewW a (afterCfaRa a o cfa ra) s =
      if s = a.ipName then some ra else if s = a.spName then some cfa else viewW a o s := by
  unfold viewW afterCfaRa rawC
  simp only [Walk.setInsert_contains]
  by_cases h1 : s = a.ipName
  · subst h1; simp
  · by_cases h2 : s = a.spName
    · subst h2; simp [h1]
    · simp [h1, h2]

theorem seed_sim (a : Walk.Arch) (o : Walk.CfiOut) (fwd : List (Cfi.Name × UInt64)) (cfa ra : UInt64)
    (s : String) (h : s = a.spName ∨ s = a.ipName ∨ OutSimAt a o ⟨none, none, fwd⟩ s) :
    OutSimAt a (afterCfaRa a o cfa.toNat ra.toNat) ⟨some cfa, some ra, seedFwd a fwd cfa ra⟩ s := by
  unfold OutSimAt Cfi.Caller.get
  rw [viewW_afterCfaRa]
  exact lookup_storeCfaRa_view a.spName a.ipName s fwd cfa ra _ h

theorem otherRules_wf {rs : List (Walk.CfiReg × List Walk.ETok)} (hwf : ∀ p ∈ rs, ∀ t ∈ p.2, ETokWf t) :
    ∀ p ∈ Walk.otherRules rs, ∀ t ∈ p.2, ETokWf t := by
  intro p hp
  unfold Walk.otherRules at hp
  obtain ⟨q, hq, hqp⟩ := List.mem_filterMap.mp hp
  obtain ⟨k, e⟩ := q
  cases k <;> simp at hqp
  subst hqp
  exact hwf _ hq

theorem map_eq_map_cases {α β γ} {f : α → γ} {g : β → γ} {a : Option α} {b : Option β}
    (h : a.map f = b.map g) : (a = none ∧ b = none) ∨ ∃ x y, a = some x ∧ b = some y ∧ f x = g y :=
  match a, b, h with
  | none, none, _ => .inl ⟨rfl, rfl⟩
  | some _, some _, h => .inr ⟨_, _, rfl, rfl, Option.some.inj h⟩
  | none, some _, h => nomatch h
  | some _, none, h => nomatch h

/-- **`walk_with_stack_cfi`, lock-step.** For related walkers the two models go through the same
    stages: both fail to parse, or lack `.cfa`/`.ra`, or fail to evaluate them (the CFA rule
    without a CFA, the return address with it), or reject their width — or both succeed with the
    same CFA and return address, and then the walker model's result is its loop (`stepW`) over a
    rule list that is, name by name and rule by rule, the C06 model's sorted list. -/
theorem walkCfi_core (x : Walk.CfiIn) (W : Cfi.Walker) (h : WalkerSim x W) (o0 : Walk.CfiOut)
    (init : String) (adds : List String) :
    (Cfi.walkCfi W ((init :: adds).map utf8) = none ∧ Walk.walkCfi x o0 init adds = none) ∨
    ∃ m cfaE raE cfa ra rs, Cfi.Stages W ((init :: adds).map utf8) m cfaE raE cfa ra ∧ MapRel rs m ∧
      Walk.walkCfi x o0 init adds =
        some (((Walk.otherRules rs).mergeSort fun p q => Walk.strLe p.1 q.1).foldl (stepW x cfa.toNat)
          (afterCfaRa x.arch o0 cfa.toNat ra.toNat)) := by
  unfold Walk.walkCfi
  rw [Cfi.walkCfi_eq]
  dsimp only
  rcases (parseAll_bridge (init :: adds) [] [] MapRel.nil).cases with ⟨hw, hc⟩ | ⟨rs, m, hw, hc, hrel⟩
  · left; rw [hw, hc]; exact ⟨rfl, rfl⟩
  rw [hw, hc]
  dsimp only [Option.bind_some]
  rcases map_eq_map_cases (hrel.lookup .cfa) with
    ⟨(hcc : m.get .cfa = none), hwc⟩ | ⟨cfaE, cfaW, (hcc : m.get .cfa = some cfaE), hwc, hl1⟩
  · left; rw [hwc, hcc]; exact ⟨rfl, rfl⟩
  rcases map_eq_map_cases (hrel.lookup .ra) with
    ⟨(hcr : m.get .ra = none), hwr⟩ | ⟨raE, raW, (hcr : m.get .ra = some raE), hwr, hl2⟩
  · left; rw [hwc, hwr, hcc, hcr]; exact ⟨rfl, rfl⟩
  rw [hwc, hwr, hcc, hcr]
  dsimp only [Option.bind_some]
  have e1 := evalCfi_bridge x W.env h.env none cfaW cfaE hl1 (hrel.wf _ (List.mem_of_lookup_eq_some hwc))
  rw [Option.map_none] at e1
  rw [e1]
  cases hcfa : Cfi.evalCfi W.env none cfaE with
  | none => left; exact ⟨rfl, rfl⟩
  | some cfa =>
    have e2 := evalCfi_bridge x W.env h.env (some cfa) raW raE hl2 (hrel.wf _ (List.mem_of_lookup_eq_some hwr))
    simp only [Option.map_some, Option.bind_some] at e2 ⊢
    rw [e2]
    cases hra : Cfi.evalCfi W.env (some cfa) raE with
    | none => left; exact ⟨rfl, rfl⟩
    | some ra =>
      simp only [Option.map_some, Option.bind_some, h.fits, decide_eq_true_eq]
      by_cases hf : cfa.toNat ≤ x.arch.regMax ∧ ra.toNat ≤ x.arch.regMax
      · right
        have hn : ¬ (cfa.toNat > x.arch.regMax ∨ ra.toNat > x.arch.regMax) := by omega
        refine ⟨m, cfaE, raE, cfa, ra, rs, ⟨hc, hcc, hcr, hcfa, hra, ?_, ?_⟩, hrel, ?_⟩
        · rw [h.fits]; exact decide_eq_true hf.1
        · rw [h.fits]; exact decide_eq_true hf.2
        · rw [if_neg hn]; rfl
      · left
        have hn : cfa.toNat > x.arch.regMax ∨ ra.toNat > x.arch.regMax := by omega
        rw [if_pos hn, if_neg hf]
        exact ⟨rfl, rfl⟩

def seeded (a : Walk.Arch) (W : Cfi.Walker) (cfa ra : UInt64) : Cfi.Walker :=
  { W with fwd := seedFwd a W.fwd cfa ra }

/-- **`walk_with_stack_cfi`, register by register.** For related walkers the two models fail
    together; when they succeed, C06's stages give the rule map, the CFA and the return address,
    and the walker model's view of every register (the stack pointer, the instruction pointer, and
    every register on which the initial states agreed) is C06's `upd` folded over the remaining
    rules, started from `sp ↦ cfa, ip ↦ ra` over the forwarded registers. -/
theorem walkCfi_view (x : Walk.CfiIn) (W : Cfi.Walker) (h : WalkerSim x W) (o0 : Walk.CfiOut)
    (init : String) (adds : List String) :
    (Cfi.walkCfi W ((init :: adds).map utf8) = none ∧ Walk.walkCfi x o0 init adds = none) ∨
    ∃ m cfaE raE cfa ra o, Cfi.Stages W ((init :: adds).map utf8) m cfaE raE cfa ra ∧
      Walk.walkCfi x o0 init adds = some o ∧
      ∀ s, (s = x.arch.spName ∨ s = x.arch.ipName ∨ OutSimAt x.arch o0 W.caller0 s) →
        ((Cfi.sortOthers (Cfi.others m)).foldl (Cfi.upd W cfa (utf8 s))
          (Cfi.lookupName (seedFwd x.arch W.fwd cfa ra) (utf8 s))).map UInt64.toNat = viewW x.arch o s := by
  rcases walkCfi_core x W h o0 init adds with hn | ⟨m, cfaE, raE, cfa, ra, rs, hst, hrel, hw⟩
  · exact .inl hn
  · refine .inr ⟨m, cfaE, raE, cfa, ra, _, hst, hw, fun s hs => ?_⟩
    exact fold_tracks W cfa (utf8 s) (viewW x.arch · s) (stepW x cfa.toNat) fW fC _ _ (others_sorted_eq hrel)
      (fun pw hpw o pc hp c =>
        stepW_tracks x W h cfa s o pw pc hp (otherRules_wf hrel.wf pw (List.mem_mergeSort.mp hpw)) c)
      _ _ (seed_sim x.arch o0 W.fwd cfa ra s hs)

/-- **`walkCfi ≙ walkCfi`.** For related walkers, on every INIT text and every list of delta
    texts: the two models fail together; when they succeed, the C06 model's CFA and return address
    are the values the walker model stored in the stack pointer and the instruction pointer
    before the remaining rules ran, and — running the C06 model with those two stored as registers
    (`seeded`) — every caller register is valid with the same value, or unknown, on both sides
    (at `sp`, `ip`, and at every register on which the initial states agreed). -/
theorem walkCfi_bridge (x : Walk.CfiIn) (W : Cfi.Walker) (h : WalkerSim x W) (o0 : Walk.CfiOut)
    (init : String) (adds : List String) :
    (Cfi.walkCfi W ((init :: adds).map utf8) = none → Walk.walkCfi x o0 init adds = none) ∧
    ∀ c, Cfi.walkCfi W ((init :: adds).map utf8) = some c →
      ∃ cfa ra o c', c.cfa = some cfa ∧ c.ra = some ra ∧
        Walk.walkCfi x o0 init adds = some o ∧
        Cfi.walkCfi (seeded x.arch W cfa ra) ((init :: adds).map utf8) = some c' ∧
        c'.cfa = some cfa ∧ c'.ra = some ra ∧
        ∀ s, (s = x.arch.spName ∨ s = x.arch.ipName ∨ OutSimAt x.arch o0 W.caller0 s) →
          OutSimAt x.arch o c' s := by
  rcases walkCfi_view x W h o0 init adds with ⟨hc, hw⟩ | ⟨m, cfaE, raE, cfa, ra, o, hst, hw, hview⟩
  · exact ⟨fun _ => hw, fun c hC => nomatch hc.symm.trans hC⟩
  · obtain ⟨c, hC, hc1, hc2, _⟩ := Cfi.walkCfi_of_stages hst
    -- the stages do not look at the forwarded registers
    obtain ⟨c', hC', hc1', hc2', hget⟩ := Cfi.walkCfi_of_stages (w := seeded x.arch W cfa ra) hst
    refine ⟨fun hn => (nomatch hC.symm.trans hn), fun c₀ hc₀ => ?_⟩
    cases hC.symm.trans hc₀
    exact ⟨cfa, ra, o, c', hc1, hc2, hw, hC', hc1', hc2', fun s hs => (congrArg _ (hget _)).trans (hview s hs)⟩

def recOf (r : Walk.CfiRec) : Cfi.CfiRec :=
  ⟨r.addr, r.size, utf8 r.init, r.adds.map fun p => (p.1, utf8 p.2)⟩

/-- the delta rules of `r` that both models hand to `walkCfi` after the INIT rule at offset `a` (`walkFrame_reduce`) -/
def selOf (r : Walk.CfiRec) (a : Nat) : List String :=
  ((r.adds.mergeSort Walk.addLe).takeWhile fun p => p.1 ≤ a).map (·.2)

def gAdd (p : Nat × String) : Nat × Cfi.Bytes := (p.1, utf8 p.2)

theorem ruleLe_gAdd (p q : Nat × String) : Cfi.ruleLe (gAdd p) (gAdd q) = Walk.addLe p q := by
  simp only [Cfi.ruleLe, Walk.addLe, gAdd, strLe_enc]
  rfl

/-- **`add_rules.sort()`**: insertion sort by (address, bytes) = merge sort by (address, `String`) -/
theorem sortAdds_map (adds : List (Nat × String)) :
    Cfi.sortAdds (adds.map gAdd) = (adds.mergeSort Walk.addLe).map gAdd := by
  rw [Cfi.sortAdds, Cfi.sortBy_map Walk.addLe Cfi.ruleLe gAdd ruleLe_gAdd, Cfi.sortBy_eq_mergeSort]
  · exact fun a b c => ruleLe_gAdd a b ▸ ruleLe_gAdd b c ▸ ruleLe_gAdd a c ▸ Cfi.ruleLe_trans _ _ _
  · exact fun a b => ruleLe_gAdd a b ▸ ruleLe_gAdd b a ▸ Bool.or_eq_true .. ▸ Cfi.ruleLe_total _ _

theorem linesAt_recOf (r : Walk.CfiRec) (a : Nat) :
    Cfi.linesAt (recOf r) a = (r.init :: selOf r a).map utf8 := by
  unfold Cfi.linesAt Cfi.selectAdds recOf selOf
  have : (r.adds.map fun p => (p.1, utf8 p.2)) = r.adds.map gAdd := rfl
  simp only [this, sortAdds_map, List.map_cons, List.cons.injEq, true_and, List.takeWhile_map, List.map_map]
  rfl

/-- C08 → here: the record the walker's CFI table returns for an address covers that address in
    the C06 model's sense (`StackInfoCfi::memory_range().contains(addr)`) -/
theorem covers_of_cfiTable (sf : Walk.SymFile) (a i : Nat) (rec : Walk.CfiRec)
    (hget : RangeMap.get (Walk.cfiTable sf) a = some i) (hrec : sf.cfis[i]? = some rec) :
    (recOf rec).covers a = true := by
  obtain ⟨c, hc, h3, h4, hlo, hhi⟩ := Walk.cfiTable_sound hget
  cases hc.symm.trans hrec
  simp only [Cfi.CfiRec.covers, recOf, Bool.and_eq_true, bne_iff_ne, ne_eq]
  refine ⟨⟨⟨?_, decide_eq_true ?_⟩, decide_eq_true ?_⟩, decide_eq_true ?_⟩ <;> omega

theorem walkFrame_reduce (sf : Walk.SymFile) (modBase : Nat) (x : Walk.CfiIn) (o : Walk.CfiOut)
    (W : Cfi.Walker) (i : Nat) (rec : Walk.CfiRec) (hge : ¬ W.instr < modBase)
    (hget : RangeMap.get (Walk.cfiTable sf) (W.instr - modBase) = some i) (hrec : sf.cfis[i]? = some rec) :
    Walk.walkFrameCfi sf (Walk.cfiTable sf) modBase x o W.instr =
        Walk.walkCfi x o rec.init (selOf rec (W.instr - modBase)) ∧
    Cfi.walkFrame (recOf rec) modBase W =
        Cfi.walkCfi W ((rec.init :: selOf rec (W.instr - modBase)).map utf8) := by
  constructor
  · unfold Walk.walkFrameCfi
    simp only [hge, if_false, hget, hrec]
    rfl
  · unfold Cfi.walkFrame
    simp only [hge, if_false, covers_of_cfiTable sf _ i rec hget hrec, if_true, linesAt_recOf]

/-- **`walkFrameCfi ≙ walkFrame`.** With the walker model's own CFI table (`cfiTable sf`, C08's
    range map): below the module base, or when no record covers the address, the walker model
    finds no caller; when the table yields record `rec`, the walker model's `walk_frame` and the
    C06 model's on `recOf rec` are related exactly as in `walkCfi_bridge`. -/
theorem walkFrame_bridge (sf : Walk.SymFile) (modBase : Nat) (x : Walk.CfiIn) (o0 : Walk.CfiOut)
    (W : Cfi.Walker) (h : WalkerSim x W) :
    (W.instr < modBase → Walk.walkFrameCfi sf (Walk.cfiTable sf) modBase x o0 W.instr = none ∧
        ∀ r, Cfi.walkFrame r modBase W = none) ∧
    (RangeMap.get (Walk.cfiTable sf) (W.instr - modBase) = none →
        Walk.walkFrameCfi sf (Walk.cfiTable sf) modBase x o0 W.instr = none) ∧
    (∀ i rec, ¬ W.instr < modBase → RangeMap.get (Walk.cfiTable sf) (W.instr - modBase) = some i →
        sf.cfis[i]? = some rec →
        match Cfi.walkFrame (recOf rec) modBase W with
        | none => Walk.walkFrameCfi sf (Walk.cfiTable sf) modBase x o0 W.instr = none
        | some c =>
          ∃ cfa ra o c', c.cfa = some cfa ∧ c.ra = some ra ∧
            Walk.walkFrameCfi sf (Walk.cfiTable sf) modBase x o0 W.instr = some o ∧
            Cfi.walkFrame (recOf rec) modBase (seeded x.arch W cfa ra) = some c' ∧
            c'.cfa = some cfa ∧ c'.ra = some ra ∧
            ∀ s, (s = x.arch.spName ∨ s = x.arch.ipName ∨ OutSimAt x.arch o0 W.caller0 s) →
              OutSimAt x.arch o c' s) := by
  refine ⟨?_, ?_, ?_⟩
  · intro hlt
    constructor
    · unfold Walk.walkFrameCfi; simp [hlt]
    · intro r; unfold Cfi.walkFrame; simp [hlt]
  · intro hnone
    unfold Walk.walkFrameCfi
    by_cases hlt : W.instr < modBase <;> simp [hlt, hnone]
  · intro i rec hge hget hrec
    obtain ⟨hw, hc⟩ := walkFrame_reduce sf modBase x o0 W i rec hge hget hrec
    rw [hw, hc]
    have hb := walkCfi_bridge x W h o0 rec.init (selOf rec (W.instr - modBase))
    cases hres : Cfi.walkCfi W ((rec.init :: selOf rec (W.instr - modBase)).map utf8) with
    | none => exact hb.1 hres
    | some c =>
      obtain ⟨cfa, ra, o, c', h1, h2, h3, h4, h5, h6, h7⟩ := hb.2 c hres
      refine ⟨cfa, ra, o, c', h1, h2, h3, ?_, h5, h6, h7⟩
      rw [(walkFrame_reduce sf modBase x o0 (seeded x.arch W cfa ra) i rec hge hget hrec).2]
      exact h4

end MdModel.CfiBridge
