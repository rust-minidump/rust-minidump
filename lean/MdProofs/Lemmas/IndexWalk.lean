/-
  For C14: a context whose stack pointer lies outside the selected stack memory walks
  to the context frame alone (`framesOf_sp_outside`; the symboliser of `envOf` does not depend on
  the selected memory). The memory list's range table is index-valued (`RangeMap.idx`), so the
  lookup `memAt` is read through `Lemmas/RangeMapIdx`.
-/
import MdProofs.Lemmas.IndexUnloaded
import MdProofs.Lemmas.WalkSym
namespace MdModel.Walk
open MdModel

theorem walk_sp_outside (env : Env) (m : Mem) (c : Ctx) (h : m.inRange c.sp = false) :
    walk env (some m) c = [symbolise env (Frame.ofCtx c .context)] := by
  cases hu : usedMem (some m) with
  | none => exact walk_of_unused c hu
  | some m' =>
    obtain ⟨hm, _⟩ := usedMem_some hu
    cases hm
    rw [walk_of_used c hu]
    exact walkLoop_stop (.inl h)

theorem symbolise_congr (e1 e2 : Env) (h : e1.symb = e2.symb) (f : Frame) : symbolise e1 f = symbolise e2 f := by
  unfold symbolise; rw [h]

theorem inRange_with_be (m : Mem) (b : Bool) (a : Nat) : ({ m with be := b } : Mem).inRange a = m.inRange a := rfl

end MdModel.Walk
namespace MdModel.Index
open MdModel MdModel.RangeMap
open MdModel.Walk (Mem)

theorem envOf_symb_indep (d : Dump) (s1 s2 : Option Mem) : (envOf d s1).symb = (envOf d s2).symb := by
  unfold envOf
  simp only
  split <;> rfl

theorem envOf_symb_fst (d : Dump) (sel : Option Mem) (instr : Nat) :
    ((envOf d sel).symb instr).1 = Walk.moduleAt (Walk.modTable (worldOf d).mods) instr := by
  unfold envOf
  simp only
  split
  · exact Walk.symbOf_fst _ _ _ instr
  · exact Walk.symbOfW_fst _ _ _ _ instr

theorem walkMem_none (d : Dump) : walkMem d none = none := by
  unfold walkMem; split <;> rfl

theorem walkMem_some (d : Dump) (m : Mem) :
    walkMem d (some m) = if (unwinderOf d.arch).isSome then some { m with be := d.bigEndian } else none := rfl

theorem framesOf_sp_outside (d : Dump) (m : Mem) (c : Walk.Ctx)
    (h : ¬ (m.base ≤ c.sp ∧ c.sp < m.base + m.size)) :
    framesOf d (some m) c = framesOf d none c := by
  unfold framesOf
  rw [walkMem_none, Walk.walk_none, walkMem_some]
  split
  · rw [Walk.walk_sp_outside]
    · rw [Walk.symbolise_congr _ _ (envOf_symb_indep d (some m) none) _]
    · rw [Walk.inRange_with_be]
      cases hin : m.inRange c.sp with
      | false => rfl
      | true => exact absurd ((Walk.inRange_iff _ _).mp hin).2.2 h
  · rw [Walk.walk_none, Walk.symbolise_congr _ _ (envOf_symb_indep d (some m) none) _]

theorem memAt_eq_some {rs : List Mem} {a : Nat} {r : Mem} :
    memAt rs a = some r ↔
      ∃ i, get (safeVec (idx (fun m => mkRange m.base m.size) rs)) a = some i ∧ rs[i]? = some r :=
  Option.bind_eq_some_iff

theorem hasWord_none (sp : Nat) : hasWord none sp = false := rfl

end MdModel.Index
