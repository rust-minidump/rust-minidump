/-
  For C04 (MdProofs/C04Gen.lean): the frame-pointer GENERATOR of the `chain` engine as
  a Lean function (`gfpWords` / `gfpChain`, MdModel/Walk/LayoutGen.lean), generically in the
  architecture (x86, x86-64 non-Windows, ARM on iOS, ARM64 both layouts), and `preFp` of it for ALL
  parameters: one record / the outermost record per architecture, then an induction on the calls for a
  symbolic word size.

  The x86-64 frame-pointer layout of the model (`le8`, `wordsMem`, `wAddr`, `fpTail`, `fpWords`,
  `fpChain`, MdModel/Walk/Layout.lean — the driver evaluates it and the `chain` engine compares it
  with every generated x86-64 `fp` case) is the 8-byte instance of that layout (`wordsMem_eq` …
  `fpChain_eq`), so `preFp` of it for all generator parameters (`preFp_layout`, used by
  MdProofs/C04Mixed.lean) is `preFp_layout_gen` at `.amd64`.
-/
import MdProofs.Lemmas.WalkGenMem
namespace MdModel.Walk
open MdModel

theorem gfpTail_pos (p base tail f : Nat) (calls : List (Nat × Nat)) : 0 < (gfpTail p base tail f calls).length := by
  cases calls with
  | nil => exact Nat.zero_lt_succ _
  | cons c _ => exact Nat.zero_lt_succ _

theorem gfpTail_nil (p base tail f : Nat) : gfpTail p base tail f [] = List.replicate (tail + 3) 0 := by
  rw [gfpTail, Nat.add_comm 1 tail]; rfl

theorem linkFp_layout (a : Arch) (ha : a.hasFp = true) (os : Os) (hos : a = .amd64 → os ≠ .windows)
    (hios : a = .arm → os = .ios) (mask : Nat) (mem : Mem) (base s f gap ret : Nat)
    (hbase : 16 < base) (hsf : s ≤ f) (htop : pAddr a.ptr base (f + 2 + gap) + 32 ≤ a.regMax)
    (hr_fp : mem.read (pAddr a.ptr base f) a.ptr = some (pAddr a.ptr base (f + 2 + gap)))
    (hr_ret : mem.read (pAddr a.ptr base (f + 1)) a.ptr = some ret)
    (hr_nfp : (mem.read (pAddr a.ptr base (f + 2 + gap)) a.ptr).isSome = true)
    (hr_sp : (mem.read (pAddr a.ptr base (f + 2)) a.ptr).isSome = true)
    (hret : 4096 ≤ ret) (hrok : retOkFp a mask ret = true)
    (hmask : (a = .arm64 ∨ a = .arm64old) →
      pAddr a.ptr base (f + 2 + gap) &&& mask = pAddr a.ptr base (f + 2 + gap)) :
    linkFp a os mask mem (pAddr a.ptr base s) (pAddr a.ptr base f)
      { ret := ret, sp := pAddr a.ptr base (f + 2), fp := some (pAddr a.ptr base (f + 2 + gap)) } = true := by
  have hU : U64MAX = 18446744073709551615 := rfl
  have hU32 : U32MAX = 4294967295 := rfl
  rw [pAddr_add, Nat.mul_one] at hr_ret
  -- the address arithmetic, for any word size: what the five unwinders' checks need
  have hp := ptr_pos a
  have h1 : pAddr a.ptr base s ≤ pAddr a.ptr base f := pAddr_le hsf
  have g3 : pAddr a.ptr base (f + 2) = pAddr a.ptr base f + a.ptr * 2 := pAddr_add ..
  have g6 : pAddr a.ptr base (f + 2) ≤ pAddr a.ptr base (f + 2 + gap) := pAddr_le (Nat.le_add_right _ _)
  have h4 : base ≤ pAddr a.ptr base f := Nat.le_add_right _ _
  have g1 : pAddr a.ptr base s < pAddr a.ptr base (f + 2) := by omega
  have g2 : pAddr a.ptr base f < a.regMax - a.ptr * 2 := by omega
  have g4 : pAddr a.ptr base f ≠ 0 := by omega
  have g5 : pAddr a.ptr base f + a.ptr * 2 ≤ pAddr a.ptr base (f + 2) := Nat.le_of_eq g3.symm
  have g7 : pAddr a.ptr base (f + 2) ≤ a.regMax := by omega
  cases a <;> simp only [Arch.hasFp, Bool.false_eq_true] at ha
  · -- x86
    have hp : Arch.x86.ptr = 4 := rfl
    rw [hp] at hr_fp hr_ret hr_nfp hr_sp ⊢
    simp only [linkFp, Option.isSome_some, Option.getD_some, Bool.and_eq_true, decide_eq_true_eq, beq_iff_eq,
      true_and, and_true, hr_fp, hr_ret, hU32]
    exact ⟨⟨hret, g1⟩, g2, g3⟩
  · -- x86-64
    have hp : Arch.amd64.ptr = 8 := rfl
    rw [hp] at hr_fp hr_ret hr_nfp hr_sp ⊢
    have g3' : pAddr 8 base (f + 2) = pAddr 8 base f + 16 := g3
    have e8 : pAddr 8 base (f + 2) - 8 = pAddr 8 base f + 8 := by rw [g3']; rfl
    have e16 : pAddr 8 base (f + 2) - 16 = pAddr 8 base f := by rw [g3', Nat.add_sub_cancel]
    have hrcan : nonCanonAmd64 ret = false := by simpa [retOkFp] using hrok
    simp only [linkFp, Option.isSome_some, Option.getD_some, Bool.and_eq_true, decide_eq_true_eq, beq_iff_eq,
      if_neg (hos rfl), Bool.not_eq_true', e8, e16, Nat.sub_self, Nat.zero_div, List.range_zero, List.all_nil,
      Nat.mul_zero, Nat.add_zero, true_and, and_true, hr_fp, hr_ret, hr_nfp, hr_sp, hrcan, hU]
    exact ⟨⟨hret, g1⟩, ⟨⟨⟨g2, g5⟩, g3⟩, g6⟩, g7⟩
  · -- ARM (iOS)
    have hp : Arch.arm.ptr = 4 := rfl
    rw [hp] at hr_fp hr_ret hr_nfp hr_sp ⊢
    simp only [linkFp, Option.isSome_some, Option.getD_some, Bool.and_eq_true, decide_eq_true_eq, beq_iff_eq,
      true_and, and_true, hr_fp, hr_ret, hU32, hios rfl]
    exact ⟨⟨hret, g1⟩, ⟨g4, g2⟩, g3⟩
  case arm64 | arm64old =>
    simp only [Arch.ptr] at hr_fp hr_ret hr_nfp hr_sp hmask ⊢
    have hr2 : (ret &&& mask = ret) ∧ nonCanonArm64 ret = false := by simpa [retOkFp] using hrok
    simp only [linkFp, Option.isSome_some, Option.getD_some, Bool.and_eq_true, decide_eq_true_eq, beq_iff_eq,
      true_and, hr_fp, hr_ret, hU, hmask (by decide), hr2.1, hr2.2, Bool.not_false, and_true]
    exact ⟨⟨hret, g1⟩, ⟨g4, g2⟩, g3⟩

theorem endFp_layout (a : Arch) (ha : a.hasFp = true) (os : Os) (hios : a = .arm → os = .ios)
    (mem : Mem) (base s f : Nat) (hbase : 16 < mem.base) (htop : pAddr a.ptr base f + 32 ≤ a.regMax)
    (hz : zerosFrom mem a.ptr (pAddr a.ptr base s) = true)
    (hr0 : mem.read (pAddr a.ptr base f) a.ptr = some 0)
    (hr1 : mem.read (pAddr a.ptr base (f + 1)) a.ptr = some 0) :
    endFp a os mem (pAddr a.ptr base s) (pAddr a.ptr base f) = true := by
  have hlt : pAddr a.ptr base f < a.regMax - a.ptr * 2 := by
    have : a.ptr ≤ 8 := by cases a <;> decide
    omega
  rw [pAddr_add, Nat.mul_one] at hr1
  simp only [endFp, Bool.and_eq_true, decide_eq_true_eq]
  refine ⟨⟨hbase, hz⟩, ?_⟩
  cases a <;> simp only [Arch.hasFp, Bool.false_eq_true] at ha
  case arm =>
    simp only [Arch.ptr] at hr0 hr1 ⊢
    simp only [hr0, hr1, hios rfl, beq_self_eq_true, Bool.and_true, decide_true, Bool.true_and]
    exact decide_eq_true hlt
  all_goals
    simp only [Arch.ptr, Consts.ptr_x86, Consts.ptr_amd64] at hr0 hr1 ⊢
    simp only [hr0, hr1, beq_self_eq_true, Bool.true_and]
    exact decide_eq_true hlt

/-- the induction: `ws = pre ++ zeros ++ gfpTail …`, the callee's stack pointer at word `s = pre.length`,
    its frame pointer `z` zero words further up -/
theorem preFp_gen_aux (a : Arch) (ha : a.hasFp = true) (os : Os) (hos : a = .amd64 → os ≠ .windows)
    (hios : a = .arm → os = .ios) (mask base tail : Nat) (ws : List Nat)
    (hbase : 16 < base) (htop : base + a.ptr * ws.length + 32 ≤ a.regMax)
    (hmask : (a = .arm64 ∨ a = .arm64old) → ∀ i, i < ws.length → pAddr a.ptr base i &&& mask = pAddr a.ptr base i) :
    ∀ (calls : List (Nat × Nat)) (s z : Nat) (pre : List Nat),
      ws = pre ++ (List.replicate z 0 ++ gfpTail a.ptr base tail (s + z) calls) → pre.length = s →
      (∀ c ∈ calls, 4096 ≤ c.2 ∧ c.2 ≤ a.regMax ∧ retOkFp a mask c.2 = true) →
      preFp a os mask (wordsMemP a.ptr base ws) (pAddr a.ptr base s) (pAddr a.ptr base (s + z))
        (gfpChain a.ptr base (s + z) calls) = true := by
  have hp := ptr_pos a
  have hpow := regMax_succ a
  have h64 := regMax_le_u64 a
  have haddr : ∀ i, i ≤ ws.length → pAddr a.ptr base i + 32 ≤ a.regMax := fun i hi =>
    Nat.le_trans (Nat.add_le_add_right (pAddr_le hi) 32) htop
  intro calls
  induction calls with
  | nil =>
    intro s z pre hws hpl _
    -- the zeros below the outermost record `(0, 0)`, the record and the zeros behind it: one block of zeros
    rw [gfpTail_nil, List.replicate_append_replicate] at hws
    have hws' : ws = pre ++ (List.replicate (z + (tail + 3)) 0 ++ []) := by rw [hws, List.append_nil]
    have hr : ∀ j, j < 2 → (wordsMemP a.ptr base ws).read (pAddr a.ptr base (s + (z + j))) a.ptr = some 0 :=
      fun j hj => read_block hws' hpl (by rw [List.length_replicate]; omega) (getD_replicate_zero _ _)
        (Nat.pow_pos (by decide))
    simp only [preFp, gfpChain, Bool.or_eq_true]
    exact Or.inr (endFp_layout a ha os hios _ base s (s + z) hbase
      (haddr _ (by rw [hws']; exact length_block hpl (by rw [List.length_replicate]; omega)))
      (zerosFrom_tail hp hws hpl) (hr 0 (by omega)) (hr 1 (by omega)))
  | cons c rest ih =>
    intro s z pre hws hpl hrets
    obtain ⟨gap, ret⟩ := c
    obtain ⟨hr4096, hrmax, hrok⟩ := hrets (gap, ret) List.mem_cons_self
    -- the record is a block of two words above the `z` zeros; the frame above starts behind it
    have hws' : ws = (pre ++ List.replicate z 0) ++ ([pAddr a.ptr base (s + z + 2 + gap), ret] ++
        (List.replicate gap 0 ++ gfpTail a.ptr base tail (s + z + 2 + gap) rest)) := by
      rw [hws, gfpTail]; simp only [List.append_assoc]
    have hpl' : (pre ++ List.replicate z 0).length = s + z := by rw [List.length_append, hpl, List.length_replicate]
    have hlen : s + z + 2 + gap < ws.length := by
      have := gfpTail_pos a.ptr base tail (s + z + 2 + gap) rest
      rw [hws']; simp only [List.length_append, hpl', List.length_replicate, List.length_cons, List.length_nil]; omega
    have hrec := ih (s + z + 2) gap ((pre ++ List.replicate z 0) ++ [pAddr a.ptr base (s + z + 2 + gap), ret])
      (by rw [hws']; simp only [List.append_assoc]) (by rw [List.length_append, hpl']; rfl)
      (fun c hc => hrets c (List.mem_cons_of_mem _ hc))
    have hnfp := haddr _ (Nat.le_of_lt hlen)
    simp only [preFp, gfpChain, Bool.and_eq_true, Option.getD_some]
    exact ⟨⟨wordsMemP_inRange a.ptr base ws s hp (by omega) (by omega),
      linkFp_layout a ha os hos hios mask _ base s (s + z) gap ret hbase (Nat.le_add_right s z) hnfp
        (read_block hws' hpl' (j := 0) (by simp) rfl (by omega))
        (read_block hws' hpl' (j := 1) (by simp) rfl (by omega))
        (read_wordsMemP_isSome a.ptr base ws _ hlen) (read_wordsMemP_isSome a.ptr base ws _ (by omega))
        hr4096 hrok (fun h => hmask h _ hlen)⟩, hrec⟩

theorem preFp_layout_gen (a : Arch) (ha : a.hasFp = true) (os : Os) (hos : a = .amd64 → os ≠ .windows)
    (hios : a = .arm → os = .ios) (mask base s0 f0 tail : Nat) (calls : List (Nat × Nat))
    (hbase : 16 < base) (hs : s0 ≤ f0)
    (htop : base + a.ptr * (gfpWords a.ptr base f0 tail calls).length + 32 ≤ a.regMax)
    (hmask : (a = .arm64 ∨ a = .arm64old) →
      ∃ k, mask = 2 ^ k - 1 ∧ base + a.ptr * (gfpWords a.ptr base f0 tail calls).length ≤ 2 ^ k)
    (hrets : ∀ c ∈ calls, 4096 ≤ c.2 ∧ c.2 ≤ a.regMax ∧ retOkFp a mask c.2 = true) :
    preFp a os mask (wordsMemP a.ptr base (gfpWords a.ptr base f0 tail calls)) (pAddr a.ptr base s0)
      (pAddr a.ptr base f0) (gfpChain a.ptr base f0 calls) = true := by
  obtain ⟨z, rfl⟩ := Nat.exists_eq_add_of_le hs
  refine preFp_gen_aux a ha os hos hios mask base tail (gfpWords a.ptr base (s0 + z) tail calls) hbase htop
    (fun h i hi => ?_) calls s0 z (List.replicate s0 0)
    (by rw [gfpWords, ← List.replicate_append_replicate, List.append_assoc]) List.length_replicate hrets
  obtain ⟨k, hk, hle⟩ := hmask h
  rw [hk, Nat.and_two_pow_sub_one_eq_mod]
  apply Nat.mod_eq_of_lt
  have hpp := ptr_pos a
  simp only [pAddr]
  have : a.ptr * (i + 1) ≤ a.ptr * (gfpWords a.ptr base (s0 + z) tail calls).length := Nat.mul_le_mul_left _ hi
  rw [Nat.mul_succ] at this; omega

theorem walk_layout_fp_generated_any (env : Env) (a : Arch) (harch : env.arch = a) (ha : a.hasFp = true)
    (hos : a = .amd64 → env.os ≠ .windows) (hios : a = .arm → env.os = .ios)
    (hcfi : ∀ f g, env.cfi f g = none) (base s0 f0 tail : Nat) (calls : List (Nat × Nat)) (ctx : Ctx)
    (hv : ctx.valid = none) (hsp : ctx.sp = pAddr a.ptr base s0) (hfp : ctx.raw a a.fpName = pAddr a.ptr base f0)
    (hbase : 16 < base) (hs : s0 ≤ f0)
    (htop : base + a.ptr * (gfpWords a.ptr base f0 tail calls).length + 32 ≤ a.regMax)
    (hmask : (a = .arm64 ∨ a = .arm64old) →
      ∃ k, env.mask = 2 ^ k - 1 ∧ base + a.ptr * (gfpWords a.ptr base f0 tail calls).length ≤ 2 ^ k)
    (hrets : ∀ c ∈ calls, 4096 ≤ c.2 ∧ c.2 ≤ a.regMax ∧ retOkFp a env.mask c.2 = true) :
    walk env (some (wordsMemP a.ptr base (gfpWords a.ptr base f0 tail calls))) ctx =
      symbolise env (Frame.ofCtx ctx .context) :: expectedFp env a (gfpChain a.ptr base f0 calls) := by
  have hlen : 0 < (gfpWords a.ptr base f0 tail calls).length := by
    have := gfpTail_pos a.ptr base tail f0 calls
    rw [gfpWords, List.length_append]; omega
  have hm : (wordsMemP a.ptr base (gfpWords a.ptr base f0 tail calls)).range?.isSome = true :=
    wordsMemP_range a.ptr base _ (ptr_pos a) hlen (by have := regMax_le_u64 a; omega)
  refine walk_layout_fp_any env a harch ha hos hcfi _ hm ctx hv _ ?_
  rw [hsp, hfp]
  exact preFp_layout_gen a ha env.os hos hios env.mask base s0 f0 tail calls hbase hs htop hmask hrets

theorem wordsMem_eq (base : Nat) (ws : List Nat) : wordsMem base ws = wordsMemP 8 base ws := rfl

theorem wAddr_eq (base i : Nat) : wAddr base i = pAddr 8 base i := rfl

theorem fpTail_eq (base tail : Nat) : ∀ (calls : List (Nat × Nat)) (f : Nat),
    fpTail base tail f calls = gfpTail 8 base tail f calls
  | [], _ => rfl
  | (gap, _) :: rest, f => by simp only [fpTail, gfpTail, fpTail_eq base tail rest (f + 2 + gap), wAddr_eq]

theorem fpWords_eq (base f0 tail : Nat) (calls : List (Nat × Nat)) :
    fpWords base f0 tail calls = gfpWords 8 base f0 tail calls := by
  simp only [fpWords, gfpWords, fpTail_eq]

theorem fpChain_eq (base : Nat) : ∀ (calls : List (Nat × Nat)) (f : Nat),
    fpChain base f calls = gfpChain 8 base f calls
  | [], _ => rfl
  | (gap, _) :: rest, f => by simp only [fpChain, gfpChain, fpChain_eq base rest (f + 2 + gap), wAddr_eq]

theorem wordsMem_size (base : Nat) (ws : List Nat) : (wordsMem base ws).size = 8 * ws.length :=
  wordsMemP_size 8 base ws

theorem read_wordsMem (base : Nat) (ws : List Nat) (i : Nat) (hi : i < ws.length)
    (hw : ws[i]?.getD 0 < 18446744073709551616) :
    (wordsMem base ws).read (base + 8 * i) 8 = some (ws[i]?.getD 0) :=
  read_wordsMemP 8 base ws i hi hw

theorem preFp_layout (os : Os) (hos : os ≠ .windows) (mask base s0 f0 tail : Nat) (calls : List (Nat × Nat))
    (hbase : 16 < base) (hs : s0 ≤ f0)
    (htop : base + 8 * (fpWords base f0 tail calls).length + 32 ≤ U64MAX)
    (hrets : ∀ c ∈ calls, 4096 ≤ c.2 ∧ c.2 ≤ U64MAX ∧ nonCanonAmd64 c.2 = false) :
    preFp .amd64 os mask (wordsMem base (fpWords base f0 tail calls)) (wAddr base s0) (wAddr base f0)
      (fpChain base f0 calls) = true := by
  rw [fpWords_eq] at htop
  rw [wordsMem_eq, fpWords_eq, fpChain_eq, wAddr_eq, wAddr_eq]
  refine preFp_layout_gen .amd64 rfl os (fun _ => hos) (fun h => by cases h) mask base s0 f0 tail calls hbase hs htop
    (fun h => by rcases h with h | h <;> cases h) (fun c hc => ?_)
  obtain ⟨h1, h2, h3⟩ := hrets c hc
  exact ⟨h1, h2, by simp only [retOkFp, h3, Bool.not_false]⟩

end MdModel.Walk
