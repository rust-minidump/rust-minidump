/-
  The proof kit for the reader monad `MdModel.Dump.M`: what the checked primitives and `readScalar`/`readFields`
  return, the judgement `Run` on a reader computation with its rules — each reader has one lemma under it, proved
  by one walk over its body — and the sum of the requests in a log (`totalBytes`).
-/
import MdModel.Dump
import MdProofs.Lemmas.Word
namespace MdModel.Dump
open MdModel

def NoPanic {α : Type} (m : M α) : Prop := ∀ s, m.res ≠ .panic s

def AllocsLe {α : Type} (B : Nat) (m : M α) : Prop := ∀ a ∈ m.allocs, a.bytes ≤ B

/-- what the properties ask of a reader of rust-minidump: no panic, and no allocation request above `B` bytes -/
def Safe {α : Type} (B : Nat) (m : M α) : Prop := NoPanic m ∧ AllocsLe B m

theorem M.bind_def {α β : Type} (x : M α) (f : α → M β) : x >>= f = M.bind' x f := rfl
theorem M.pure_def {α : Type} (a : α) : (pure a : M α) = M.pure' a := rfl

theorem M.catch_allocs {α : Type} (x : M α) : (M.catch' x).allocs = x.allocs := by
  unfold M.catch'; cases x.res <;> rfl

theorem res_bind {α β : Type} (x : M α) (f : α → M β) :
    (x >>= f).res = match x.res with
      | .ok a => (f a).res
      | .err e => .err e
      | .panic s => .panic s := by
  rw [M.bind_def]; unfold M.bind'
  cases x.res <;> rfl

theorem res_bind_ok {α β : Type} {x : M α} {f : α → M β} {a : α} (h : x.res = .ok a) :
    (x >>= f).res = (f a).res := by
  rw [res_bind, h]

theorem bind_ok {α β : Type} {x : M α} {f : α → M β} {v : β} (h : (x >>= f).res = .ok v) :
    ∃ a, x.res = .ok a ∧ (f a).res = .ok v := by
  rw [res_bind] at h
  cases hres : x.res with
  | ok a => rw [hres] at h; exact ⟨a, rfl, h⟩
  | err e => rw [hres] at h; cases h
  | panic s => rw [hres] at h; cases h

theorem Safe.mono {α : Type} {B B' : Nat} {m : M α} (h : Safe B m) (hle : B ≤ B') : Safe B' m :=
  ⟨h.1, fun a ha => Nat.le_trans (h.2 a ha) hle⟩

theorem checkedAdd_some {a b v : Nat} (h : checkedAdd a b = some v) : v = a + b ∧ a + b ≤ U64MAX := by
  unfold checkedAdd at h
  split at h
  · cases h; exact ⟨rfl, by assumption⟩
  · cases h

theorem checkedMul_some {a b v : Nat} (h : checkedMul a b = some v) : v = a * b ∧ a * b ≤ U64MAX := by
  unfold checkedMul at h
  split at h
  · cases h; exact ⟨rfl, by assumption⟩
  · cases h

theorem checkedSub_some {a b v : Nat} (h : checkedSub a b = some v) : v = a - b ∧ b ≤ a := by
  unfold checkedSub at h
  split at h
  · cases h; exact ⟨rfl, by assumption⟩
  · cases h

theorem leNat_lt : ∀ l : List UInt8, leNat l < 256 ^ l.length
  | [] => Nat.one_pos
  | x :: xs => Nat.byte_add_lt x.toNat_lt (leNat_lt xs)

theorem decodeNat_lt (e : Endian) (l : List UInt8) : decodeNat e l < 256 ^ l.length := by
  cases e with
  | little => exact leNat_lt l
  | big =>
    have := leNat_lt l.reverse
    simpa [decodeNat] using this

theorem readScalar_eq_some {b : Bytes} {off w v : Nat} {e : Endian} :
    readScalar b off w e = some v ↔ off + w ≤ b.size ∧ decodeNat e (b.extract off (off + w)).toList = v := by
  unfold readScalar
  split
  · exact ⟨fun h => (nomatch h), fun h => by omega⟩
  · split
    · exact ⟨fun h => (nomatch h), fun h => by omega⟩
    · exact ⟨fun h => ⟨by omega, Option.some.inj h⟩, fun h => congrArg some h.2⟩

theorem readScalar_some {b : Bytes} {off w v : Nat} {e : Endian} (h : readScalar b off w e = some v) :
    off + w ≤ b.size :=
  (readScalar_eq_some.mp h).1

theorem readScalar_fits {b : Bytes} {off w : Nat} (e : Endian) (h : off + w ≤ b.size) :
    ∃ v, readScalar b off w e = some v :=
  ⟨_, readScalar_eq_some.mpr ⟨h, rfl⟩⟩

theorem readScalar_lt {b : Bytes} {off w v : Nat} {e : Endian} (h : readScalar b off w e = some v) :
    v < 256 ^ w := by
  obtain ⟨hb, rfl⟩ := readScalar_eq_some.mp h
  have := decodeNat_lt e (b.extract off (off + w)).toList
  rwa [Array.length_toList, Array.size_extract, Nat.min_eq_left hb, Nat.add_sub_cancel_left] at this

theorem readU32_some {b : Bytes} {off v : Nat} {e : Endian} (h : readU32 b off e = some v) :
    off + 4 ≤ b.size ∧ v < 4294967296 := by
  unfold readU32 at h
  exact ⟨readScalar_some h, by have := readScalar_lt h; simpa using this⟩

theorem readU64_some {b : Bytes} {off v : Nat} {e : Endian} (h : readU64 b off e = some v) :
    off + 8 ≤ b.size ∧ v ≤ U64MAX := by
  unfold readU64 at h
  refine ⟨readScalar_some h, ?_⟩
  have := readScalar_lt h
  have h2 : (256 : Nat) ^ 8 = 18446744073709551616 := by decide
  rw [h2] at this
  unfold U64MAX; omega

theorem Layout.size_cons (f : String × Nat) (rest : Gen.Layouts.Layout) :
    Layout.size (f :: rest) = f.2 + Layout.size rest := by
  simp [Layout.size]

theorem readFields_cons_some {f : String × Nat} {rest : Gen.Layouts.Layout} {b : Bytes} {off : Nat} {e : Endian}
    {vs : List Nat} :
    readFields (f :: rest) b off e = some vs ↔
      ∃ v vs', readScalar b off f.2 e = some v ∧ readFields rest b (off + f.2) e = some vs' ∧ vs = v :: vs' := by
  obtain ⟨n, w⟩ := f
  simp only [readFields]
  cases readScalar b off w e with
  | none => simp
  | some v =>
    cases readFields rest b (off + w) e with
    | none => simp
    | some vs' => simp [eq_comm]

/-- the empty record is read at any offset, beyond the end of the buffer too: hence `hne` -/
theorem readFields_some {l : Gen.Layouts.Layout} {b : Bytes} {off : Nat} {e : Endian} {vs : List Nat}
    (hne : l ≠ []) (h : readFields l b off e = some vs) : off + Layout.size l ≤ b.size := by
  induction l generalizing off vs with
  | nil => exact absurd rfl hne
  | cons f rest ih =>
    obtain ⟨v, vs', hv, hvs, -⟩ := readFields_cons_some.mp h
    have h1 := readScalar_some hv
    rw [Layout.size_cons]
    cases rest with
    | nil => exact h1
    | cons g rest' => have := ih (List.cons_ne_nil _ _) hvs; omega

theorem readFields_length {l : Gen.Layouts.Layout} {b : Bytes} {off : Nat} {e : Endian} {vs : List Nat}
    (h : readFields l b off e = some vs) : vs.length = l.length := by
  induction l generalizing off vs with
  | nil => cases h; rfl
  | cons f rest ih =>
    obtain ⟨v, vs', -, hvs, rfl⟩ := readFields_cons_some.mp h
    simp [ih hvs]

theorem readFields_fits (l : Gen.Layouts.Layout) (b : Bytes) (off : Nat) (e : Endian) (h : off + Layout.size l ≤ b.size) :
    ∃ vs, readFields l b off e = some vs := by
  induction l generalizing off with
  | nil => exact ⟨[], rfl⟩
  | cons f rest ih =>
    rw [Layout.size_cons] at h
    obtain ⟨v, hv⟩ := readScalar_fits (b := b) (off := off) (w := f.2) e (by omega)
    obtain ⟨vs, hvs⟩ := ih (off + f.2) (by omega)
    exact ⟨v :: vs, readFields_cons_some.mpr ⟨v, vs, hv, hvs, rfl⟩⟩

theorem readFields_short {l : Gen.Layouts.Layout} {b : Bytes} {off : Nat} {e : Endian} (hne : l ≠ [])
    (h : b.size < off + Layout.size l) : readFields l b off e = none := by
  cases hr : readFields l b off e with
  | none => rfl
  | some vs => have := readFields_some hne hr; omega

/-- `M.loop` written with `bind` (`loop_eq`): the form the loop rules (`run_loop`, `charged_loop`) are proved on,
    each from its own `bind` rule, without the reversed accumulator of `M.loopGo`. -/
def loopFrom {σ : Type} (step : σ → Nat → M σ) : Nat → Nat → σ → M σ
  | 0, _, s => pure s
  | todo + 1, i, s => step s i >>= fun s' => loopFrom step todo (i + 1) s'

theorem loopGo_eq {σ : Type} (step : σ → Nat → M σ) : ∀ (todo i : Nat) (s : σ) (rev : List Alloc),
    M.loopGo step todo i s rev = ⟨(loopFrom step todo i s).res, rev.reverse ++ (loopFrom step todo i s).allocs⟩ := by
  intro todo
  induction todo with
  | zero => intro i s rev; simp [M.loopGo, loopFrom, M.pure_def, M.pure']
  | succ t ih =>
    intro i s rev
    simp only [M.loopGo, loopFrom, M.bind_def, M.bind']
    cases (step s i).res with
    | ok s' => simp [ih]
    | err e => simp
    | panic p => simp

theorem loop_eq {σ : Type} (n : Nat) (init : σ) (step : σ → Nat → M σ) : M.loop n init step = loopFrom step n 0 init := by
  simp [M.loop, loopGo_eq]

/-! ## The judgement

`M α` is a writer, so a run is its outcome and its allocation log, and everything the properties say of a reader is one
triple: a postcondition for each of the three outcomes and two bounds on the log. A reader is walked once, with the
rules below. -/

/-- Whatever the input: `m` logs at most `N` requests, a value it returns satisfies `P`, it ends in an error only if
    `E` (`E = False`: an accessor outside `get_stream`, where a reader's error has become a value; `E = True`: a stream
    reader) and in a panic only if `F`; under the side conditions `H` (element sizes bounded, file shorter than
    `isize::MAX`) no request exceeds `B` bytes, on every path, the panicking one included. `H` is a parameter, not a
    hypothesis of the lemmas, so that the count and the postconditions come out unconditionally from the same walk. -/
structure RunF {α : Type} (H : Prop) (B N : Nat) (m : M α) (P : α → Prop) (E F : Prop) : Prop where
  cnt : m.allocs.length ≤ N
  ok : ∀ a, m.res = .ok a → P a
  err : ∀ e, m.res = .err e → E
  panic : ∀ s, m.res = .panic s → F
  big : H → AllocsLe B m

/-- The usual case: under `H` there is no panic either. Only the Linux-maps path, which does panic on hostile text,
    states an `F` of its own. -/
abbrev Run {α : Type} (H : Prop) (B N : Nat) (m : M α) (P : α → Prop) (E : Prop) : Prop := RunF H B N m P E (¬ H)

namespace RunF
variable {α : Type} {H : Prop} {B N : Nat} {m : M α} {P : α → Prop} {E F : Prop}

theorem noPanic (h : Run H B N m P E) (hH : H) : ∀ site, m.res ≠ .panic site := fun s hs => h.panic s hs hH
theorem safe (h : Run H B N m P E) (hH : H) : Safe B m := ⟨h.noPanic hH, h.big hH⟩
theorem allocs_nil (h : RunF H B 0 m P E F) : m.allocs = [] := List.eq_nil_of_length_eq_zero (Nat.le_zero.mp h.cnt)

theorem value (h : Run H B N m P False) (hH : H) : ∃ a, m.res = .ok a ∧ P a := by
  cases hr : m.res with
  | ok a => exact ⟨a, rfl, h.ok a hr⟩
  | err e => exact (h.err e hr).elim
  | panic s => exact absurd hH (h.panic s hr)

theorem mono {N' : Nat} (h : RunF H B N m P E F) (hle : N ≤ N') : RunF H B N' m P E F :=
  ⟨Nat.le_trans h.cnt hle, h.ok, h.err, h.panic, h.big⟩

theorem imp {H' : Prop} {P' : α → Prop} {E' F' : Prop} (h : RunF H B N m P E F) (hH : H' → H) (hP : ∀ a, P a → P' a)
    (hE : E → E') (hF : F → F') : RunF H' B N m P' E' F' :=
  ⟨h.cnt, fun a ha => hP a (h.ok a ha), fun e he => hE (h.err e he), fun s hs => hF (h.panic s hs), fun h' => h.big (hH h')⟩

theorem post {P' : α → Prop} (h : RunF H B N m P E F) (hP : ∀ a, P a → P' a) : RunF H B N m P' E F :=
  h.imp id hP id id

theorem under {H' : Prop} (h : Run H B N m P E) (hH : H' → H) : Run H' B N m P E :=
  h.imp hH (fun _ hp => hp) id (fun hn h' => hn (hH h'))

theorem calm (h : Run True B N m P E) : RunF True B N m P E F :=
  h.imp id (fun _ hp => hp) id (fun hn => absurd trivial hn)

end RunF

section rules
variable {α β : Type} {H : Prop} {B N : Nat} {E F : Prop}

theorem run_pure {P : α → Prop} {a : α} (h : P a) : RunF H B N (pure a : M α) P E F :=
  ⟨Nat.zero_le _, fun _ ha => (by cases ha; exact h), fun _ he => (nomatch he), fun _ hs => (nomatch hs),
   fun _ _ ha => (nomatch ha)⟩

theorem run_fail {P : α → Prop} (e : Err) (h : E) : RunF H B N (M.fail e : M α) P E F :=
  ⟨Nat.zero_le _, fun _ ha => (nomatch ha), fun _ _ => h, fun _ hs => (nomatch hs), fun _ _ ha => (nomatch ha)⟩

/-- a panic site is passed by showing `F`: for `Run`, that `H` excludes the branch -/
theorem run_panic {P : α → Prop} (site : String) (h : F) : RunF H B N (M.panic site : M α) P E F :=
  ⟨Nat.zero_le _, fun _ ha => (nomatch ha), fun _ he => (nomatch he), fun _ _ => h, fun _ _ ha => (nomatch ha)⟩

theorem run_alloc {n sz : Nat} {ex : Bool} (h : H → n * sz ≤ B) : RunF H B 1 (M.alloc n sz ex) (fun _ => True) E F :=
  ⟨Nat.le_refl _, fun _ _ => trivial, fun _ he => (nomatch he), fun _ hs => (nomatch hs),
   fun hH a ha => (by cases List.mem_singleton.mp ha; exact h hH)⟩

theorem run_bind {A C : Nat} {x : M α} {f : α → M β} {P : α → Prop} {Q : β → Prop}
    (hx : RunF H B A x P E F) (hf : ∀ a, P a → RunF H B C (f a) Q E F) : RunF H B (A + C) (x >>= f) Q E F := by
  have hx1 := hx.cnt
  rw [M.bind_def]
  unfold M.bind'
  cases hres : x.res with
  | ok a =>
    have hfa := hf a (hx.ok a hres)
    have := hfa.cnt
    exact ⟨(by simp only [List.length_append]; omega), hfa.ok, hfa.err, hfa.panic,
      fun hH al hal => (List.mem_append.mp hal).elim (hx.big hH al) (hfa.big hH al)⟩
  | err e => exact ⟨(by simp only; omega), fun _ h => (nomatch h), fun _ _ => hx.err e hres, fun _ h => (nomatch h), hx.big⟩
  | panic s => exact ⟨(by simp only; omega), fun _ h => (nomatch h), fun _ h => (nomatch h), fun _ _ => hx.panic s hres, hx.big⟩

theorem run_bind0 {x : M α} {f : α → M β} {P : α → Prop} {Q : β → Prop}
    (hx : RunF H B 0 x P E F) (hf : ∀ a, P a → RunF H B N (f a) Q E F) : RunF H B N (x >>= f) Q E F :=
  (run_bind hx hf).mono (Nat.le_of_eq (Nat.zero_add N))

theorem run_map {x : M α} {g : α → β} {P : α → Prop} {Q : β → Prop}
    (hx : RunF H B N x P E F) (hg : ∀ a, P a → Q (g a)) : RunF H B N (x >>= fun a => pure (g a)) Q E F :=
  (run_bind hx (C := 0) fun a ha => run_pure (hg a ha)).mono (Nat.le_refl _)

theorem run_ite {P : α → Prop} {c : Prop} [Decidable c] {x y : M α}
    (hx : c → RunF H B N x P E F) (hy : ¬c → RunF H B N y P E F) : RunF H B N (if c then x else y) P E F := by
  by_cases h : c
  · rw [if_pos h]; exact hx h
  · rw [if_neg h]; exact hy h

/-- `get_stream`'s `.ok()`: the error becomes a value, so the result is error free whatever `x` was -/
theorem run_catch {P : α → Prop} {E' : Prop} {x : M α} (hx : RunF H B N x P E F) :
    RunF H B N (M.catch' x) (fun r => ∀ a, r = .ok a → P a) E' F := by
  unfold M.catch'
  cases hres : x.res with
  | ok a =>
    exact ⟨hx.cnt, fun r hr a' ha' => (by cases hr; cases ha'; exact hx.ok a hres), fun _ h => (nomatch h),
      fun _ h => (nomatch h), hx.big⟩
  | err e =>
    exact ⟨hx.cnt, fun r hr a' ha' => (by cases hr; cases ha'), fun _ h => (nomatch h), fun _ h => (nomatch h), hx.big⟩
  | panic s =>
    exact ⟨hx.cnt, fun _ h => (nomatch h), fun _ h => (nomatch h), fun _ _ => hx.panic s hres, hx.big⟩

theorem run_ofOption (e : Err) (o : Option α) : RunF H B N (M.ofOption e o) (fun a => o = some a) True F := by
  cases o with
  | none => exact run_fail e trivial
  | some a => exact run_pure rfl

theorem run_ofExcept (o : Except Err α) : RunF H B N (M.ofExcept o) (fun a => o = .ok a) True F := by
  cases o with
  | error e => exact run_fail e trivial
  | ok a => exact run_pure rfl

theorem run_usizeAdd (site : String) {a b : Nat} (h : H → a + b ≤ USIZE_MAX) :
    Run H B 0 (usizeAdd site a b) (· = a + b) E := by
  unfold usizeAdd
  exact run_ite (fun _ => run_pure rfl) (fun hn => run_panic _ (fun hH => hn (h hH)))

theorem run_usizeSub (site : String) {a b : Nat} (h : H → b ≤ a) :
    Run H B 0 (usizeSub site a b) (fun v => v = a - b ∧ b ≤ a) E := by
  unfold usizeSub
  exact run_ite (fun hc => run_pure ⟨rfl, hc⟩) (fun hn => run_panic _ (fun hH => hn (h hH)))

theorem run_sliceRange (site : String) {b : Bytes} {lo hi : Nat} (h : H → lo ≤ hi ∧ hi ≤ b.size) :
    Run H B 0 (sliceRange site b lo hi) (fun s => s = b.extract lo hi ∧ lo ≤ hi ∧ hi ≤ b.size) E := by
  unfold sliceRange
  exact run_ite (fun hc => run_pure ⟨rfl, hc⟩) (fun hn => run_panic _ (fun hH => hn (h hH)))

theorem run_loop {σ : Type} (n : Nat) (init : σ) (step : σ → Nat → M σ) (I : σ → Nat → Prop) (c : Nat)
    (h0 : I init 0) (h : ∀ s i, i < n → I s i → RunF H B c (step s i) (fun s' => I s' (i + 1)) E F) :
    RunF H B (n * c) (M.loop n init step) (fun s => I s n) E F := by
  have go : ∀ (todo i : Nat) (s : σ), i + todo = n → I s i →
      RunF H B (todo * c) (loopFrom step todo i s) (fun s => I s n) E F := by
    intro todo
    induction todo with
    | zero => intro i s hn hI; exact run_pure (by rw [← hn]; exact hI)
    | succ t ih =>
      intro i s hn hI
      exact (run_bind (h s i (by omega) hI) (fun s' hs' => ih (i + 1) s' (by omega) hs')).mono
        (by rw [Nat.succ_mul]; omega)
  rw [loop_eq]
  exact go n 0 init (by omega) h0

/-- `f` is `mapM` written out by recursion: each element is run with `g`, the results are collected with `h`. -/
theorem run_mapM {γ : Type} (f : List α → M (List β)) {g : α → M γ} {h : α → γ → β}
    (h0 : f [] = pure []) (hc : ∀ x xs, f (x :: xs) = g x >>= fun r => f xs >>= fun rest => pure (h x r :: rest)) :
    ∀ xs, (∀ x ∈ xs, RunF H B 0 (g x) (fun _ => True) E F) → RunF H B 0 (f xs) (fun _ => True) E F := by
  intro xs
  induction xs with
  | nil => intro _; rw [h0]; exact run_pure trivial
  | cons x xs ih =>
    intro hg
    rw [hc]
    exact run_bind0 (hg x List.mem_cons_self) fun _ _ =>
      run_bind0 (ih fun y hy => hg y (List.mem_cons_of_mem _ hy)) fun _ _ => run_pure trivial

end rules

/-! ## The sum of a log

The sum of the requests in an allocation log: of a reader under `Run` it is at most count times largest request
(`RunF.total`; for the stream readers the count is a constant per stream plus a constant per entry the stream can
back, and the largest request a multiple of the file length: at most quadratic), and it adds up along `bind`. The
Crashpad-info stream, whose count is not linear, brings a sum of its own (`MdProofs.Lemmas.BytesCrashpad`). -/

def totalBytes (as : List Alloc) : Nat := (as.map Alloc.bytes).sum

theorem totalBytes_nil : totalBytes [] = 0 := rfl

theorem totalBytes_le (as : List Alloc) (B : Nat) (h : ∀ a ∈ as, a.bytes ≤ B) : totalBytes as ≤ as.length * B := by
  induction as with
  | nil => simp [totalBytes]
  | cons a rest ih =>
    have h1 := h a (List.mem_cons_self)
    have h2 := ih (fun x hx => h x (List.mem_cons_of_mem _ hx))
    simp only [totalBytes, List.map_cons, List.sum_cons, List.length_cons] at *
    rw [Nat.add_mul]
    omega

theorem totalBytes_append (xs ys : List Alloc) : totalBytes (xs ++ ys) = totalBytes xs + totalBytes ys := by
  simp [totalBytes, List.sum_append]

theorem RunF.total {α : Type} {H : Prop} {B N : Nat} {m : M α} {P : α → Prop} {E F : Prop} (h : RunF H B N m P E F)
    (hH : H) : totalBytes m.allocs ≤ N * B :=
  Nat.le_trans (totalBytes_le _ _ (h.big hH)) (Nat.mul_le_mul_right _ h.cnt)

theorem total_pure {α : Type} (a : α) : totalBytes (pure a : M α).allocs = 0 := rfl

theorem total_bind {α β : Type} {A C : Nat} {x : M α} {f : α → M β}
    (hx : totalBytes x.allocs ≤ A) (hf : ∀ a, x.res = .ok a → totalBytes (f a).allocs ≤ C) :
    totalBytes (x >>= f).allocs ≤ A + C := by
  rw [M.bind_def]
  unfold M.bind'
  cases hres : x.res with
  | ok a => have := hf a hres; simp only [totalBytes_append]; omega
  | err e => simp only; omega
  | panic s => simp only; omega

theorem total_bind_pure {α β : Type} {A : Nat} {x : M α} (g : α → β) (h : totalBytes x.allocs ≤ A) :
    totalBytes (x >>= fun a => (pure (g a) : M β)).allocs ≤ A :=
  total_bind (C := 0) h (fun _ _ => Nat.le_of_eq (total_pure _))

end MdModel.Dump
