/-
  For C04 (generators as Lean functions, MdProofs/C04Gen.lean): a stack memory given as a list of
  `p`-byte words (`wordsMemP`, MdModel/Walk/LayoutGen.lean), for ANY word size `p`.
-/
import MdModel.Walk.LayoutGen
import MdProofs.Lemmas.WalkChain
namespace MdModel.Walk
open MdModel

theorem leP_length (p v : Nat) : (leP p v).length = p := by simp [leP]

theorem flatMap_leP_length (p : Nat) (ws : List Nat) : (ws.flatMap (leP p)).length = p * ws.length := by
  induction ws with
  | nil => rfl
  | cons w ws ih =>
    rw [List.flatMap_cons, List.length_append, leP_length, ih, List.length_cons, Nat.mul_succ]
    omega

theorem wordsMemP_size (p base : Nat) (ws : List Nat) : (wordsMemP p base ws).size = p * ws.length := by
  simp only [wordsMemP, Mem.size, List.size_toArray, flatMap_leP_length]

theorem wordsMemP_base (p base : Nat) (ws : List Nat) : (wordsMemP p base ws).base = base := rfl

theorem flatMap_leP_get (p : Nat) (ws : List Nat) : ∀ (i j : Nat), i < ws.length → j < p →
    (ws.flatMap (leP p))[p * i + j]? = (leP p (ws[i]?.getD 0))[j]? := by
  induction ws with
  | nil => intro i j hi; cases hi
  | cons w ws ih =>
    intro i j hi hj
    simp only [List.flatMap_cons]
    cases i with
    | zero =>
      simp only [Nat.mul_zero, Nat.zero_add, List.getElem?_cons_zero, Option.getD_some]
      rw [List.getElem?_append_left (by rw [leP_length]; exact hj)]
    | succ i =>
      have hi' : i < ws.length := by simpa using hi
      rw [List.getElem?_append_right (by rw [leP_length, Nat.mul_succ]; omega)]
      have : p * (i + 1) + j - (leP p w).length = p * i + j := by rw [leP_length, Nat.mul_succ]; omega
      rw [this, ih i j hi' hj]
      simp

theorem leP_get (p v j : Nat) (hj : j < p) : (leP p v)[j]? = some (UInt8.ofNat (v / 256 ^ j % 256)) := by
  simp [leP, hj]

theorem wordsMemP_byte (p base : Nat) (ws : List Nat) (i j : Nat) (hi : i < ws.length) (hj : j < p) :
    (wordsMemP p base ws).byte (p * i + j) = (ws[i]?.getD 0) / 256 ^ j % 256 := by
  unfold Mem.byte wordsMemP
  simp only [List.getElem?_toArray, flatMap_leP_get p ws i j hi hj, leP_get p _ j hj, Option.getD_some]
  have : (ws[i]?.getD 0) / 256 ^ j % 256 < 256 := Nat.mod_lt _ (by decide)
  simp [Nat.mod_eq_of_lt this]

theorem leAt_digits (m : Mem) : ∀ (n off v : Nat), (∀ j, j < n → m.byte (off + j) = v / 256 ^ j % 256) →
    m.leAt off n = v % 256 ^ n
  | 0, _, _, _ => by simp [Mem.leAt, Nat.mod_one]
  | n + 1, off, v, h => by
    have h0 : m.byte off = v % 256 := by have := h 0 (by omega); simpa using this
    have ih := leAt_digits m n (off + 1) (v / 256) (fun j hj => by
      have := h (j + 1) (by omega)
      rw [show off + 1 + j = off + (j + 1) by omega, this, Nat.pow_succ, Nat.mul_comm, Nat.div_div_eq_div_mul])
    simp only [Mem.leAt, h0, ih]
    rw [Nat.pow_succ, Nat.mul_comm (256 ^ n) 256, Nat.mod_mul]

theorem wordsMemP_word_inside (p base : Nat) (ws : List Nat) (i : Nat) (hi : i < ws.length) :
    (wordsMemP p base ws).base ≤ base + p * i ∧
      base + p * i - (wordsMemP p base ws).base + p ≤ (wordsMemP p base ws).size := by
  have : p * (i + 1) ≤ p * ws.length := Nat.mul_le_mul_left p hi
  rw [Nat.mul_succ] at this
  rw [wordsMemP_base, wordsMemP_size]
  omega

theorem read_wordsMemP (p base : Nat) (ws : List Nat) (i : Nat) (hi : i < ws.length)
    (hw : ws[i]?.getD 0 < 256 ^ p) :
    (wordsMemP p base ws).read (base + p * i) p = some (ws[i]?.getD 0) := by
  obtain ⟨h1, h2⟩ := wordsMemP_word_inside p base ws i hi
  refine Mem.read_eq_some_iff.mpr ⟨h1, h2, ?_⟩
  rw [wordsMemP_base, Nat.add_sub_cancel_left, Mem.wordAt_le _ _ _ rfl,
    leAt_digits _ p (p * i) (ws[i]?.getD 0) (fun j hj => wordsMemP_byte p base ws i j hi hj)]
  exact (Nat.mod_eq_of_lt hw).symm

theorem read_wordsMemP_isSome (p base : Nat) (ws : List Nat) (i : Nat) (hi : i < ws.length) :
    ((wordsMemP p base ws).read (base + p * i) p).isSome = true := by
  obtain ⟨h1, h2⟩ := wordsMemP_word_inside p base ws i hi
  exact Option.isSome_iff_exists.mpr ⟨_, Mem.read_eq_some_iff.mpr ⟨h1, h2, rfl⟩⟩

theorem wordsMemP_range (p base : Nat) (ws : List Nat) (hp : 0 < p) (hl : 0 < ws.length)
    (htop : base + p * ws.length ≤ U64MAX) : (wordsMemP p base ws).range?.isSome = true := by
  have : 0 < p * ws.length := Nat.mul_pos hp hl
  simp only [Mem.range?, wordsMemP_size, wordsMemP_base]
  rw [if_neg (by omega), if_neg (by omega)]
  rfl

theorem wordsMemP_inRange (p base : Nat) (ws : List Nat) (i : Nat) (hp : 0 < p) (hi : i < ws.length)
    (htop : base + p * ws.length ≤ U64MAX) : (wordsMemP p base ws).inRange (pAddr p base i) = true := by
  have h1 : p * (i + 1) ≤ p * ws.length := Nat.mul_le_mul_left p hi
  rw [Nat.mul_succ] at h1
  rw [inRange_iff, wordsMemP_size, wordsMemP_base, pAddr]
  omega

theorem wordsMemP_not_inRange (p base : Nat) (ws : List Nat) (i : Nat) (hi : ws.length ≤ i) :
    (wordsMemP p base ws).inRange (pAddr p base i) = false := by
  have h1 : p * ws.length ≤ p * i := Nat.mul_le_mul_left p hi
  rw [← Bool.not_eq_true, inRange_iff, wordsMemP_size, wordsMemP_base, pAddr]
  omega

theorem wordsMemP_zerosFrom (p base : Nat) (ws : List Nat) (s : Nat) (hp : 0 < p)
    (hz : ∀ i, s ≤ i → i < ws.length → ws[i]?.getD 0 = 0) :
    zerosFrom (wordsMemP p base ws) p (pAddr p base s) = true := by
  simp only [zerosFrom, wordsMemP_base, wordsMemP_size, Bool.and_eq_true, List.all_eq_true,
    List.mem_range, beq_iff_eq, pAddr]
  refine ⟨decide_eq_true (Nat.le_add_right _ _), ?_⟩
  intro j hj
  have hlt : s + j < ws.length := by
    have hj' : j * p < base + p * ws.length - (base + p * s) := by
      have := (Nat.lt_div_iff_mul_lt hp).mp hj
      omega
    have h2 : p * (s + j) < p * ws.length := by
      rw [Nat.mul_add, Nat.mul_comm p j]; omega
    exact Nat.lt_of_mul_lt_mul_left h2
  have ha : base + p * s + j * p = base + p * (s + j) := by rw [Nat.mul_add, Nat.mul_comm p j]; omega
  rw [ha, read_wordsMemP p base ws (s + j) hlt (by rw [hz _ (by omega) hlt]; exact Nat.pow_pos (by decide)),
    hz _ (by omega) hlt]

theorem getD_replicate_zero (n i : Nat) : (List.replicate n 0)[i]?.getD 0 = 0 := by
  by_cases h : i < n
  · simp [h]
  · simp [h]

theorem pAddr_add (p base s n : Nat) : pAddr p base (s + n) = pAddr p base s + p * n := by
  simp only [pAddr, Nat.mul_add, Nat.add_assoc]

theorem pAddr_sub (p base s : Nat) {n k : Nat} (h : k ≤ n) :
    pAddr p base (s + n) - k * p = pAddr p base (s + (n - k)) := by
  obtain ⟨m, rfl⟩ : ∃ m, n = m + k := ⟨n - k, by omega⟩
  rw [Nat.add_sub_cancel, ← Nat.add_assoc, pAddr_add, Nat.mul_comm p k, Nat.add_sub_cancel]

theorem pAddr_le {p base i j : Nat} (h : i ≤ j) : pAddr p base i ≤ pAddr p base j :=
  Nat.add_le_add_left (Nat.mul_le_mul_left p h) base

theorem length_block {pre blk post : List Nat} {s j : Nat} (hpl : pre.length = s) (hj : j ≤ blk.length) :
    s + j ≤ (pre ++ (blk ++ post)).length := by
  simp only [List.length_append, hpl]; omega

theorem read_block {p base : Nat} {ws pre blk post : List Nat} {s j v : Nat} (hws : ws = pre ++ (blk ++ post))
    (hpl : pre.length = s) (hj : j < blk.length) (hv : blk[j]?.getD 0 = v) (hw : v < 256 ^ p) :
    (wordsMemP p base ws).read (pAddr p base (s + j)) p = some v := by
  subst hws hpl
  have hg : (pre ++ (blk ++ post))[pre.length + j]?.getD 0 = v := by
    rwa [List.getElem?_append_right (Nat.le_add_right _ _), Nat.add_sub_cancel_left, List.getElem?_append_left hj]
  have h := read_wordsMemP p base _ (pre.length + j) (length_block rfl hj) (hg ▸ hw)
  rwa [hg] at h

theorem zerosFrom_tail {p base : Nat} {ws pre : List Nat} {s tail : Nat} (hp : 0 < p)
    (hws : ws = pre ++ List.replicate tail 0) (hpl : pre.length = s) :
    zerosFrom (wordsMemP p base ws) p (pAddr p base s) = true := by
  refine wordsMemP_zerosFrom p base ws s hp fun i h1 _ => ?_
  rw [hws, List.getElem?_append_right (by omega)]
  exact getD_replicate_zero _ _

theorem regMax_le_u64 (a : Arch) : a.regMax ≤ U64MAX := by cases a <;> decide

end MdModel.Walk
