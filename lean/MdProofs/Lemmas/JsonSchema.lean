/-
  The schema predicate `check` (C15 `conforms`) on what `print_json` prints: one lemma per type constructor of `Ty`
  and per combinator of the printers (`check_optJ`, `check_arr_map`; an object literal member by member:
  `checkFields_mkObj`, `checkFields_eq_none`, `checkFields_insert`), then one per printer of `MdModel.Json`, under
  the ranges the Rust field types guarantee (`FrameTyped`, `RegsTyped`, `ThreadTyped`, `ExcTyped`, of which C15
  `Typed` is made). Each enumeration is the image of a constructor list under the printer's naming function
  (`trust_names` … `inconsistency_names`): `check_enum` needs one direction, C15 `enumerations_exact` both.
-/
import MdProofs.Lemmas.Json
namespace MdModel.Json
open MdModel
open MdModel.Process (mapO_mem)

theorem check_null (w : Nat) (t : Ty) (p : String) : check w t .null p = none := by
  cases t <;> simp [check]

theorem optJ_some {α : Type} (f : α → Json) (a : α) : optJ f (some a) = f a := rfl
theorem optJ_none {α : Type} (f : α → Json) : optJ f none = .null := rfl

theorem check_optJ {α : Type} (w : Nat) (t : Ty) (f : α → Json) (o : Option α) (p : String)
    (h : ∀ a, o = some a → check w t (f a) p = none) : check w t (optJ f o) p = none := by
  cases o with
  | none => exact check_null w t p
  | some a => exact h a rfl

@[simp] theorem check_str (w : Nat) (s : String) (p : String) : check w .str (.str s) p = none := by
  simp [check]

@[simp] theorem check_optStr (w : Nat) (o : Option String) (p : String) : check w .str (optStr o) p = none :=
  check_optJ w .str .str o p fun s _ => check_str w s p

@[simp] theorem check_bool (w : Nat) (b : Bool) (p : String) : check w .bool (.bool b) p = none := by
  simp [check]

@[simp] theorem check_boolTrue (w : Nat) (p : String) : check w .boolTrue (.bool true) p = none := by
  simp [check]

theorem check_u32 (w n : Nat) (p : String) (h : n ≤ U32MAX) : check w .u32 (.nat n) p = none := by
  simp [check, isU32, JNum.ofNat, h]

theorem check_u64 (w n : Nat) (p : String) (h : n ≤ U64MAX) : check w .u64 (.nat n) p = none := by
  simp [check, isU64, JNum.ofNat, h]

theorem check_optNat_u32 (w : Nat) (o : Option Nat) (p : String) (h : ∀ n, o = some n → n ≤ U32MAX) :
    check w .u32 (optNat o) p = none :=
  check_optJ w .u32 Json.nat o p fun n hn => check_u32 w n p (h n hn)

theorem firstSome_none {α : Type} (f : α → Nat → Option String) (xs : List α) (i : Nat)
    (h : ∀ x ∈ xs, ∀ k, f x k = none) : firstSome f xs i = none := by
  induction xs generalizing i with
  | nil => rfl
  | cons x xs ih =>
    simp only [firstSome, h x (by simp)]
    exact ih (i + 1) (fun y hy => h y (by simp [hy]))

theorem check_arr (w : Nat) (t : Ty) (xs : List Json) (p : String)
    (h : ∀ x ∈ xs, ∀ q, check w t x q = none) : check w (.arr t) (.arr xs) p = none := by
  simp only [check]
  exact firstSome_none _ xs 0 (fun x hx k => h x hx _)

theorem check_arr_map {α : Type} (w : Nat) (t : Ty) (f : α → Json) (l : List α) (p : String)
    (h : ∀ a ∈ l, ∀ q, check w t (f a) q = none) : check w (.arr t) (.arr (l.map f)) p = none :=
  check_arr w t _ p fun x hx q => by
    obtain ⟨a, ha, rfl⟩ := List.mem_map.mp hx
    exact h a ha q

theorem check_arr_map_or_null {α : Type} (w : Nat) (t : Ty) (f : α → Json) (l : List α) (p : String)
    (h : ∀ a ∈ l, ∀ q, check w t (f a) q = none) :
    check w (.arr t) (if l = [] then Json.null else .arr (l.map f)) p = none := by
  split
  · exact check_null _ _ _
  · exact check_arr_map w t f l p h

theorem check_obj (w : Nat) (fields : List (String × Ty)) (kvs : List (String × Json)) (p : String) :
    check w (.obj fields) (.obj kvs) p = checkFields w fields kvs p := by
  simp [check]

theorem checkFields_mkObj (w : Nat) (fields : List (String × Ty)) (lits : List (String × Json)) (p : String) :
    check w (.obj fields) (mkObj lits) p =
      checkFields w fields (lits.foldl (fun m kv => insertKV kv.1 kv.2 m) []) p :=
  check_obj w fields _ p

theorem checkFields_eq_none (w : Nat) (fields : List (String × Ty)) (kvs : List (String × Json)) (p : String) :
    checkFields w fields kvs p = none ↔
      ∀ kt ∈ fields, ∀ v, getKV kt.1 kvs = some v → check w kt.2 v (p ++ "." ++ kt.1) = none := by
  induction fields with
  | nil => simp [checkFields]
  | cons a fields ih =>
    obtain ⟨k, t⟩ := a
    simp only [checkFields, List.forall_mem_cons, ← ih]
    cases hk : getKV k kvs with
    | none => simp
    | some v => cases hc : check w t v (p ++ "." ++ k) <;> simp [hc]

theorem checkFields_insert (w : Nat) (fields : List (String × Ty)) (kvs : List (String × Json))
    (p k : String) (v : Json) (hold : checkFields w fields kvs p = none)
    (hnew : ∀ t, (k, t) ∈ fields → check w t v (p ++ "." ++ k) = none) :
    checkFields w fields (insertKV k v kvs) p = none := by
  rw [checkFields_eq_none] at hold ⊢
  intro kt hkt v' hv'
  rw [getKV_insertKV] at hv'
  split at hv'
  · rename_i hk
    cases hv'
    rw [hk]
    exact hnew kt.2 (hk ▸ hkt)
  · exact hold kt hkt v' hv'

theorem isHexString_hexPad (w pad v : Nat) (hv : v ≤ U64MAX) (hw : w ≤ max pad 1) :
    isHexString w (hexPad pad v) = true := by
  obtain ⟨hne, hall, hlen, hval⟩ := padLeft_hexDigits pad v
  have h1 : 1 ≤ (hexDigits v).length := List.length_pos_iff.mpr (digitsB_ne_nil 16 v)
  simp only [isHexString, hexPad_toList, hall, hlen, hval, Bool.and_eq_true, decide_eq_true_eq,
    Bool.not_eq_true', List.isEmpty_eq_false_iff]
  exact ⟨⟨⟨hne, trivial⟩, by omega⟩, hv⟩

theorem isHexString_hexAddr (pw : PW) (v : Nat) (hv : v ≤ U64MAX) :
    isHexString pw.digits (hexAddr pw v) = true :=
  isHexString_hexPad pw.digits pw.digits v hv (by omega)

theorem check_hexA (pw : PW) (v : Nat) (p : String) (hv : v ≤ U64MAX) :
    check pw.digits .hexA (.str (hexAddr pw v)) p = none := by
  simp [check, isHexString_hexAddr pw v hv]

theorem check_hexN (w pad v : Nat) (p : String) (hv : v ≤ U64MAX) :
    check w .hexN (.str (hexPad pad v)) p = none := by
  simp [check, isHexString_hexPad 1 pad v hv (by omega)]

theorem check_optHex (pw : PW) (o : Option Nat) (p : String) (h : ∀ n, o = some n → n ≤ U64MAX) :
    check pw.digits .hexA (optJ (fun n => Json.str (hexAddr pw n)) o) p = none :=
  check_optJ _ _ _ o p fun n hn => check_hexA pw n p (h n hn)

theorem trust_names : trustDocumented ++ trustUndocumented =
    [Trust.context, .cfi, .framePointer, .scan, .cfiScan, .preWalked, .none].map Trust.name := rfl

theorem cpu_names : cpuDocumented ++ cpuUndocumented =
    [Cpu.x86, .amd64, .ppc, .ppc64, .sparc, .arm, .arm64, .unknown, .mips, .mips64].map Cpu.name := rfl

theorem os_names : osDocumented =
    [Os.windows, .macos, .ios, .linux, .solaris, .android, .ps3, .nacl].map Os.longName := rfl

theorem accessType_names : accessTypeDocumented =
    [AccessType.read, .write, .readWrite].map AccessType.lower := rfl

theorem inconsistency_names : inconsistencyDocumented =
    [Inconsistency.intDivByZeroNotPossible, .privInstructionCrashWithoutPrivInstruction,
     .nonCanonicalAddressFalselyReported, .accessViolationWhenAccessAllowed,
     .crashingAccessNotFoundInMemoryAccesses].map Inconsistency.name := rfl

theorem Trust.name_mem (t : Trust) : t.name ∈ trustDocumented ++ trustUndocumented :=
  trust_names ▸ List.mem_map_of_mem (by cases t <;> simp)

theorem Cpu.name_mem (c : Cpu) : c.name ∈ cpuDocumented ++ cpuUndocumented :=
  cpu_names ▸ List.mem_map_of_mem (by cases c <;> simp)

theorem Inconsistency.name_mem (i : Inconsistency) : i.name ∈ inconsistencyDocumented :=
  inconsistency_names ▸ List.mem_map_of_mem (by cases i <;> simp)

theorem AccessType.lower_mem (a : AccessType) (h : a ≠ .underivable) : a.lower ∈ accessTypeDocumented :=
  accessType_names ▸ List.mem_map_of_mem (by cases a <;> simp at h ⊢)

theorem Os.longName_mem (o : Os) (h : ∀ n, o ≠ .unknown n) : o.longName ∈ osDocumented :=
  os_names ▸ List.mem_map_of_mem (by
    cases o with
    | unknown n => exact absurd rfl (h n)
    | _ => simp)

theorem exists_of_mem_map {α : Type} {f : α → String} {l : List α} {vals : List String}
    (h : vals = l.map f) (v : String) (hv : v ∈ vals) : ∃ a, f a = v := by
  obtain ⟨a, _, ha⟩ := List.mem_map.mp (h ▸ hv)
  exact ⟨a, ha⟩

theorem check_enum (w : Nat) (vals : List String) (orHex : Bool) (s p : String) (h : s ∈ vals) :
    check w (.enum vals orHex) (.str s) p = none := by
  simp [check, h]

/-- `StackFrame`: `instruction : u64`, `source_line : u32`, inline lines `u32`; every
    `unloaded_modules` value is a non-empty `BTreeSet<u64>` (iteration strictly ascending; the
    processor only creates an entry together with its first offset). -/
structure FrameTyped (f : FrameM) : Prop where
  instr : f.instruction ≤ U64MAX
  line : ∀ n, f.sourceLine = some n → n ≤ U32MAX
  inl : ∀ i ∈ f.inlines, ∀ n, i.line = some n → n ≤ U32MAX
  unl : ∀ m ∈ f.unloaded, m.2 ≠ [] ∧ ascending m.2 = true ∧ ∀ o ∈ m.2, o ≤ U64MAX

def RegsTyped (c : RegCtx) : Prop := ∀ r ∈ c.gpr, r.2 ≤ U64MAX

theorem check_trust (w : Nat) (t : Trust) (p : String) : check w trustTy (.str t.name) p = none :=
  check_enum w _ _ _ p t.name_mem

theorem check_inlines (w : Nat) (l : List InlineM) (p : String)
    (h : ∀ i ∈ l, ∀ n, i.line = some n → n ≤ U32MAX) :
    check w (.arr (.obj [("function", .str), ("file", .str), ("line", .u32)]))
      (if l = [] then Json.null else .arr (l.map inlineJson)) p = none :=
  check_arr_map_or_null _ _ _ l p fun i hi q => by
    simp [inlineJson, checkFields_mkObj, checkFields, getKV_insertKV, check_optNat_u32 _ _ _ (h i hi)]

theorem hexStringValue_hexAddr (pw : PW) (o : Nat) : hexStringValue (.str (hexAddr pw o)) = o := by
  simp only [hexStringValue, hexAddr, hexPad_toList, List.drop_succ_cons, List.drop_zero]
  exact (padLeft_hexDigits _ o).2.2.2

theorem check_offsets (pw : PW) (offs : List Nat) (p : String)
    (h : offs ≠ [] ∧ ascending offs = true ∧ ∀ o ∈ offs, o ≤ U64MAX) :
    check pw.digits .offsets (.arr (offs.map fun o => .str (hexAddr pw o))) p = none := by
  have h1 : (offs.map fun o => Json.str (hexAddr pw o)).all (isHexJ pw.digits) = true := by
    simp only [List.all_map, List.all_eq_true]
    intro o ho
    simp only [Function.comp, isHexJ]
    exact isHexString_hexAddr pw o (h.2.2 o ho)
  have h2 : (offs.map fun o => Json.str (hexAddr pw o)).isEmpty = false := by
    cases offs with
    | nil => exact absurd rfl h.1
    | cons a b => rfl
  have h3 : (offs.map fun o => Json.str (hexAddr pw o)).map hexStringValue = offs := by
    simp [List.map_map, Function.comp_def, hexStringValue_hexAddr]
  simp [check, h1, h2, h3, h.2.1]

theorem check_unloadedRefs (pw : PW) (l : List (String × List Nat)) (p : String)
    (h : ∀ m ∈ l, m.2 ≠ [] ∧ ascending m.2 = true ∧ ∀ o ∈ m.2, o ≤ U64MAX) :
    check pw.digits (.arr (.obj [("module", .str), ("offsets", .offsets)]))
      (if l = [] then Json.null else .arr (l.map (unloadedRefJson pw))) p = none :=
  check_arr_map_or_null _ _ _ l p fun m hm q => by
    simp [unloadedRefJson, checkFields_mkObj, checkFields, getKV_insertKV, check_offsets pw m.2 _ (h m hm)]

theorem check_frameJson (pw : PW) (i : Nat) (f : FrameM) (j : Json) (h : frameJson pw i f = .ok j)
    (ht : FrameTyped f) (hi : i ≤ U32MAX) (p : String) :
    check pw.digits (.obj frameFields) j p = none := by
  obtain ⟨_, _, rfl⟩ := (frameJson_ok pw i f j).mp h
  have hoff : ∀ base q, check pw.digits .hexA (offsetJ pw f.instruction base) q = none := fun base q =>
    check_optJ _ _ _ base q fun _ _ => check_hexA pw _ q (Nat.le_trans (Nat.sub_le _ _) ht.instr)
  have hmod := fun q => check_optJ pw.digits .str (fun m : String × Nat => .str (basename m.1)) f.module q
    fun m _ => check_str _ _ q
  rw [checkFields_mkObj]
  simp [frameLits, frameFields, checkFields, getKV_insertKV, getKV, check_u32 _ _ _ hi, hoff,
    check_hexA pw _ _ ht.instr, check_optNat_u32 _ _ _ ht.line, check_trust, hmod,
    check_unloadedRefs pw _ _ ht.unl, check_inlines _ _ _ ht.inl]

structure ThreadTyped (t : ThreadM) : Prop where
  tid : t.threadId ≤ U32MAX
  nframes : t.frames.length ≤ U32MAX
  frames : ∀ f ∈ t.frames, FrameTyped f

theorem check_framesJson (pw : PW) (fs : List FrameM) (i0 : Nat) (js : List Json)
    (h : framesJson pw i0 fs = .ok js) (ht : ∀ f ∈ fs, FrameTyped f) (hn : i0 + fs.length ≤ U32MAX + 1) :
    ∀ x ∈ js, ∀ q, check pw.digits (.obj frameFields) x q = none := by
  rw [framesJson_eq_mapO] at h
  intro x hx q
  obtain ⟨p, hp, hok⟩ := mapO_mem h x hx
  obtain ⟨_, hhi, hf⟩ := List.mem_zipIdx hp
  exact check_frameJson pw p.2 p.1 x hok (ht _ (hf ▸ List.getElem_mem _)) (by omega) q

theorem check_threadJson (pw : PW) (t : ThreadM) (tj : Json) (h : threadJson pw t = .ok tj)
    (ht : ThreadTyped t) (p : String) : check pw.digits (.obj threadFields) tj p = none := by
  obtain ⟨fs, hfs, rfl⟩ := (threadJson_ok pw t tj).mp h
  have hfr := check_arr pw.digits (.obj frameFields) fs (p ++ "." ++ "frames")
    (check_framesJson pw t.frames 0 fs hfs ht.frames (by have := ht.nframes; omega))
  rw [checkFields_mkObj]
  simp [threadFields, checkFields, getKV_insertKV, check_u32 _ _ _ ht.tid,
    check_u32 _ _ _ ht.nframes, hfr]

theorem insertKV_mem (k : String) (v : Json) (m : List (String × Json)) (x : String × Json)
    (h : x ∈ insertKV k v m) : x = (k, v) ∨ x ∈ m := by
  induction m with
  | nil => simpa [insertKV] using h
  | cons a m ih => grind [insertKV]

theorem foldl_insertKV_mem (lits acc : List (String × Json)) (x : String × Json)
    (h : x ∈ lits.foldl (fun m kv => insertKV kv.1 kv.2 m) acc) : x ∈ lits ∨ x ∈ acc :=
  lits.foldlRecOn _ (motive := fun m => x ∈ m → x ∈ lits ∨ x ∈ acc) .inr
    (fun _ ih a ha hx => (insertKV_mem _ _ _ _ hx).elim (fun e => .inl (e ▸ ha)) ih) h

theorem check_registers (w : Nat) (c : RegCtx) (hc : RegsTyped c) (p : String) :
    check w .regs (registersJson c) p = none := by
  simp only [registersJson, mkObj, check]
  rw [if_pos]
  simp only [List.all_eq_true]
  intro x hx
  rcases foldl_insertKV_mem _ _ _ hx with h | h
  · obtain ⟨r, hr, rfl⟩ := List.mem_map.mp h
    simp only [isHexJ]
    exact isHexString_hexPad 1 _ _ (hc r (List.mem_filter.mp hr).1) (by omega)
  · cases h

/-- the copy conforms because the entry it copies does: `registers` goes into frame 0, then the
    changed `frames` and `threads_index` are inserted -/
theorem check_crashingCopy (w : Nat) (tj c regs : Json) (i : Nat) (fs : List Json)
    (hc : crashingCopy tj regs i = some c)
    (htj : ∀ q, check w (.obj threadFields) tj q = none)
    (hframes : tj.get "frames" = some (.arr fs))
    (hfs : ∀ x ∈ fs, ∀ q, check w (.obj frameFields) x q = none)
    (hregs : ∀ q, check w .regs regs q = none) (hi : i ≤ U32MAX) (p : String) :
    check w (.obj (("threads_index", .u32) :: threadFields)) c p = none := by
  obtain ⟨kvs, f0, rest, rfl, hget, rfl⟩ := (crashingCopy_eq_some _ _ _ _).mp hc
  simp only [Json.get, hget, Option.some.injEq, Json.arr.injEq] at hframes
  subst hframes
  have hF : ∀ t, ("frames", t) ∈ threadFields →
      check w t (.arr (.obj (insertKV "registers" regs f0) :: rest)) (p ++ "." ++ "frames") = none := by
    intro t ht
    obtain rfl : t = .arr (.obj frameFields) := by simpa [threadFields] using ht
    apply check_arr
    intro x hx q
    rcases List.mem_cons.mp hx with rfl | h
    · rw [check_obj]
      refine checkFields_insert _ _ _ _ _ _ ((check_obj ..).symm.trans (hfs _ (by simp) q)) fun t ht => ?_
      obtain rfl : t = .regs := by simpa [frameFields] using ht
      exact hregs _
    · exact hfs x (by simp [h]) q
  rw [check_obj]
  have h1 := checkFields_insert w threadFields kvs p "frames" _ ((check_obj ..).symm.trans (htj p)) hF
  have h2 := checkFields_insert w threadFields _ p "threads_index" (.nat i) h1
    (by intro t ht; simp [threadFields] at ht)
  simp only [checkFields, getKV_insertKV, if_true, check_u32 _ _ _ hi]
  exact h2

structure ExcTyped (e : ExcInfo) : Prop where
  address : e.address ≤ U64MAX
  adjNon : ∀ v, e.adjusted = some (.nonCanonical v) → v ≤ U64MAX
  adjNull : ∀ v, e.adjusted = some (.nullOffset v) → v ≤ U64MAX
  mem : ∀ l, e.memAccesses = some l → ∀ a ∈ l, a.address ≤ U64MAX ∧ ∀ n, a.size = some n → n ≤ U32MAX
  ip : ∀ a g, e.ipUpdate = some (.update a g) → a ≤ U64MAX
  flips : ∀ b ∈ e.bitFlips, b.address ≤ U64MAX ∧ b.nearby ≤ U32MAX

theorem check_moduleJson (pw : PW) (ci : List (String × String)) (ss : List (String × Stats))
    (m : ModuleM) (j : Json) (h : moduleJson pw ci ss m = .ok j) (p : String) :
    check pw.digits (.obj moduleFields) j p = none := by
  simp only [moduleJson, obind_ok, checkedAdd_ok, Outcome.ok.injEq] at h
  obtain ⟨_, ⟨hle, rfl⟩, rfl⟩ := h
  rw [checkFields_mkObj]
  simp [moduleFields, checkFields, getKV_insertKV, check_hexA pw m.base _ (by omega),
    check_hexA pw (m.base + m.size) _ hle]

theorem check_unloadedJson (pw : PW) (ci : List (String × String))
    (m : UnloadedM) (j : Json) (h : unloadedJson pw ci m = .ok j) (p : String) :
    check pw.digits (.obj unloadedFields) j p = none := by
  simp only [unloadedJson, obind_ok, checkedAdd_ok, Outcome.ok.injEq] at h
  obtain ⟨_, ⟨hle, rfl⟩, rfl⟩ := h
  rw [checkFields_mkObj]
  simp [unloadedFields, checkFields, getKV_insertKV, check_hexA pw m.base _ (by omega),
    check_hexA pw (m.base + m.size) _ hle]

theorem check_handleJson (w : Nat) (h : HandleM) (hh : h.handle ≤ U64MAX) (p : String) :
    check w (.obj handleFields) (handleJson h) p = none := by
  simp [handleFields, handleJson, checkFields_mkObj, checkFields, getKV_insertKV, check_u64 _ _ _ hh]

theorem check_systemInfo (w : Nat) (s : SysInfo) (hos : ∀ v, s.os ≠ .unknown v)
    (hc : s.cpuCount ≤ U32MAX) (hm : ∀ n, s.microcode = some n → n ≤ U64MAX) (p : String) :
    check w (.obj systemInfoFields) (systemInfoJson s) p = none := by
  have hosj : ∀ q, check w osTy (.str s.os.longName) q = none :=
    fun q => check_enum w _ _ _ q (s.os.longName_mem hos)
  have hcpu : ∀ q, check w cpuTy (.str s.cpu.name) q = none :=
    fun q => check_enum w _ _ _ q s.cpu.name_mem
  have hmc := fun q => check_optJ w .hexN (fun n : Nat => Json.str (hexPad 0 n)) s.microcode q
    fun n hn => check_hexN w 0 n q (hm n hn)
  simp [systemInfoFields, systemInfoJson, checkFields_mkObj, checkFields, getKV_insertKV, hosj, hcpu, hmc,
    check_u32 _ _ _ hc]

theorem check_lsb (w : Nat) (l : Lsb) (p : String) :
    check w (.obj lsbFields)
      (mkObj [("id", .str l.id), ("release", .str l.release), ("codename", .str l.codename),
              ("description", .str l.description)]) p = none := by
  simp [lsbFields, checkFields_mkObj, checkFields, getKV_insertKV]

theorem check_macRecord (pw : PW) (r : MacRecord) (p : String)
    (h1 : ∀ n, r.thread = some n → n ≤ U64MAX) (h2 : ∀ n, r.dialogMode = some n → n ≤ U64MAX)
    (h3 : ∀ n, r.abortCause = some n → n ≤ U64MAX) :
    check pw.digits (.obj macRecordFields) (macRecordJson pw r) p = none := by
  simp [macRecordFields, macRecordJson, checkFields_mkObj, checkFields, getKV_insertKV, check_optHex pw _ _ h1,
    check_optHex pw _ _ h2, check_optHex pw _ _ h3]

theorem check_memAccess (pw : PW) (a : MemAccess) (p : String) (ha : a.address ≤ U64MAX)
    (hs : ∀ n, a.size = some n → n ≤ U32MAX) :
    check pw.digits (.obj memAccessFields) (memAccessJson pw a) p = none := by
  have hty : a.ty ≠ .underivable → ∀ q, check pw.digits accessTy (.str a.ty.lower) q = none :=
    fun hne q => check_enum _ _ _ _ q (a.ty.lower_mem hne)
  unfold memAccessJson
  by_cases hg : a.guard = true <;> by_cases ht : a.ty = .underivable <;>
    simp [memAccessFields, hg, ht, checkFields_mkObj, checkFields, getKV_insertKV, getKV, check_hexA pw _ _ ha,
      check_optNat_u32 _ _ _ hs, hty]

theorem check_ipUpdate (pw : PW) (u : IpUpdate) (p : String)
    (h : ∀ a g, u = .update a g → a ≤ U64MAX) :
    check pw.digits (.obj ipUpdateFields) (ipUpdateJson pw u) p = none := by
  cases u with
  | noUpdate => exact check_null _ _ _
  | update a g =>
    cases g <;>
      simp [ipUpdateFields, ipUpdateJson, checkFields_mkObj, checkFields, getKV_insertKV, getKV, check_hexA pw _ _ (h a _ rfl)]

theorem check_bitFlip (pw : PW) (b : BitFlip) (p : String) (ha : b.address ≤ U64MAX) (hn : b.nearby ≤ U32MAX) :
    check pw.digits (.obj bitFlipFields) (bitFlipJson pw b) p = none := by
  have hconf := fun q => check_optJ pw.digits .f32 Json.num b.confidence q fun n _ => by simp [check]
  simp [bitFlipFields, bitFlipJson, checkFields_mkObj, checkFields, getKV_insertKV, check_hexA pw _ _ ha,
    check_u32 _ _ _ hn, hconf]

theorem check_adjusted (pw : PW) (a : Adjusted) (p : String)
    (h1 : ∀ v, a = .nonCanonical v → v ≤ U64MAX) (h2 : ∀ v, a = .nullOffset v → v ≤ U64MAX) :
    check pw.digits .adjusted (adjustedJson pw a) p = none := by
  cases a with
  | nonCanonical v =>
    simp [adjustedJson, mkObj, check, checkAdjusted, getKV_insertKV, getKV, isAbsent,
      isHexString_hexAddr pw v (h1 v rfl)]
  | nullOffset v =>
    simp [adjustedJson, mkObj, check, checkAdjusted, getKV_insertKV, getKV, isAbsent,
      isHexString_hexAddr pw v (h2 v rfl)]

theorem check_inconsistency (w : Nat) (i : Inconsistency) (p : String) :
    check w inconsistencyTy (.str i.name) p = none :=
  check_enum w _ _ _ p i.name_mem

/-- every member of `crash_info` is `null` without an exception record (`check_optJ`), so the
    literal is looked at once, with the exception record as a variable -/
theorem check_crashInfo (pw : PW) (s : StateModel) (p : String)
    (he : ∀ e, s.exc = some e → ExcTyped e) (hreq : ∀ n, s.requestingThread = some n → n ≤ U32MAX) :
    check pw.digits (.obj crashInfoFields) (crashInfoJson pw s) p = none := by
  -- the printed value of each member (the `fun` of `optJ`) is found by unification
  have hty := fun q => check_optJ pw.digits .str _ s.exc q fun (e : ExcInfo) _ => check_str _ e.reason q
  have haddr := fun q => check_optJ pw.digits .hexA _ s.exc q fun e h => check_hexA pw _ q (he e h).address
  have hadj := fun q => check_optJ pw.digits .adjusted _ s.exc q fun e h =>
    check_optJ _ _ _ e.adjusted q fun a ha =>
      check_adjusted pw a q (fun v hv => (he e h).adjNon v (by rw [ha, hv]))
        (fun v hv => (he e h).adjNull v (by rw [ha, hv]))
  have hins := fun q => check_optJ pw.digits .str _ s.exc q fun (e : ExcInfo) _ => check_optStr _ e.instruction q
  have hmem := fun q => check_optJ pw.digits (.arr (.obj memAccessFields)) _ s.exc q fun e h =>
    check_optJ _ _ _ e.memAccesses q fun l hl => check_arr_map _ _ _ l q fun a ha q' =>
      check_memAccess pw a q' ((he e h).mem l hl a ha).1 ((he e h).mem l hl a ha).2
  have hip := fun q => check_optJ pw.digits (.obj ipUpdateFields) _ s.exc q fun e h =>
    check_optJ _ _ _ e.ipUpdate q fun u hu =>
      check_ipUpdate pw u q fun a g hag => (he e h).ip a g (by rw [hu, hag])
  have hflips := fun q => check_optJ pw.digits (.arr (.obj bitFlipFields)) _ s.exc q fun e h =>
    check_arr_map_or_null _ _ _ e.bitFlips q fun b hb q' =>
      check_bitFlip pw b q' ((he e h).flips b hb).1 ((he e h).flips b hb).2
  have hinc := fun q => check_optJ pw.digits (.arr inconsistencyTy) _ s.exc q fun (e : ExcInfo) _ =>
    check_arr_map _ _ _ e.inconsistencies q fun i _ q' => check_inconsistency _ i q'
  simp [crashInfoFields, crashInfoJson, checkFields_mkObj, checkFields, getKV_insertKV,
    check_optNat_u32 _ _ _ hreq, hty, haddr, hadj, hins, hmem, hip, hflips, hinc]

end MdModel.Json
