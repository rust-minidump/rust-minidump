/-
  C04 — the side condition `gcfiSide` of `preCfi_layout` from RECORD-LEVEL facts.

  `gcfiSide` speaks about `cfiRecordAt`: the module table (`into_rangemap_safe` of the module
  ranges) and the module's CFI range table (sort, drop overlaps, binary search). For one-module
  worlds (the generator's `tidy_world` with one module, incl. the appended leaf FUNC/CFI pair) it
  is reduced to a linear `find?` over the list of STACK CFI records (`cfiCover`), under
  `OneModOk`: the module has a range, every record has one and lies inside the module, the records
  are pairwise disjoint.

  For worlds of SEVERAL modules (`tidy_world`: 1–3 modules, the list possibly permuted): `worldOkB`
  (modules with ranges, pairwise disjoint; every symbol file's STACK CFI records non-empty, inside
  its module, pairwise disjoint) turns the module-table and CFI-range-table lookups of
  `cfiRecordAt` into two linear searches (`modFind`, `cfiCover`): `cfiRecordAt_world`,
  `gcfiSide_of_world`.
-/
import MdProofs.Lemmas.WalkCfiRecordAt
import MdModel.Walk.LayoutGen
namespace MdModel.Walk
open MdModel MdModel.RangeMap

/-- record-level well-formedness of a one-module world: what `tidy_world` arranges -/
structure OneModOk (m : Module) (sf : SymFile) : Prop where
  hm : 0 < m.size ∧ m.base + m.size ≤ U64MAX
  hfit : ∀ c ∈ sf.cfis, 0 < c.size ∧ c.addr + c.size ≤ m.size
  hdisj : sf.cfis.Pairwise fun c d => c.addr + c.size ≤ d.addr ∨ d.addr + d.size ≤ c.addr

theorem mkRange_some {b s : Nat} (h0 : 0 < s) (h1 : b + s ≤ U64MAX) :
    mkRange b s = some ⟨b, b + s - 1⟩ :=
  mkRange_eq_some.mpr ⟨h0, h1, rfl⟩

/-- the records lie inside the module, so the module-relative test of the table is `CfiRec.covers` -/
theorem cfiTable_find {m : Module} {sf : SymFile} (hok : OneModOk m sf) {instr : Nat} (hge : m.base ≤ instr) :
    (RangeMap.get (cfiTable sf) (instr - m.base)).bind (sf.cfis[·]?) = cfiCover m sf instr := by
  rw [cfiTable_eq, get_idx_bind_eq_find? (fun _ _ _ => mkRange_ok)
    (hok.hdisj.imp (apart_mkRange CfiRec.addr CfiRec.size))]
  refine (find?_covers fun c hc => ?_).symm
  have := hok.hfit c hc
  have := hok.hm
  rw [covers_mkRange CfiRec.addr CfiRec.size]
  simp only [CfiRec.covers, Bool.and_eq_true, decide_eq_true_eq]
  omega

theorem cfiRecordAt_of_moduleAt {w : World} {i instr : Nat} {m : Module} {sf : SymFile}
    (hmod : moduleAt (modTable w.mods) instr = some i) (hm : w.mods[i]? = some m)
    (hsf : (w.syms[i]?).join = some sf) (hok : OneModOk m sf) (hge : m.base ≤ instr) :
    cfiRecordAt w instr = cfiCover m sf instr :=
  (cfiRecordAt_eq hmod hm hsf hge).trans (cfiTable_find hok hge)

theorem cfiRecordAt_one_cover (w : World) (m : Module) (sf : SymFile) (hok : OneModOk m sf)
    (hmods : w.mods = [m]) (hsyms : w.syms = [some sf]) (instr : Nat)
    (hin : m.base ≤ instr ∧ instr < m.base + m.size) : cfiRecordAt w instr = cfiCover m sf instr := by
  refine cfiRecordAt_of_moduleAt (i := 0) ?_ (by rw [hmods]; rfl) (by rw [hsyms]; rfl) hok hin.1
  rw [hmods]
  exact moduleAt_of_isolated [] [] m _ instr (mkRange_some hok.hm.1 hok.hm.2) (fun _ h => nomatch h)
    ⟨hin.1, by simp only; omega⟩

theorem cfiRecordAt_one_some (w : World) (m : Module) (sf : SymFile) (hok : OneModOk m sf)
    (hmods : w.mods = [m]) (hsyms : w.syms = [some sf]) (instr : Nat) (rec : CfiRec)
    (h : cfiCover m sf instr = some rec) : cfiRecordAt w instr = some rec := by
  -- a record that covers `instr` lies inside the module, so `instr` does
  have hcov := List.find?_some h
  have hf := hok.hfit rec (List.mem_of_find?_eq_some h)
  simp only [CfiRec.covers, Bool.and_eq_true, decide_eq_true_eq] at hcov
  rw [cfiRecordAt_one_cover w m sf hok hmods hsyms instr (by omega), h]

theorem cfiRecordAt_one_none (w : World) (m : Module) (sf : SymFile) (hok : OneModOk m sf)
    (hmods : w.mods = [m]) (hsyms : w.syms = [some sf]) (instr : Nat)
    (hin : m.base ≤ instr ∧ instr < m.base + m.size)
    (h : cfiCover m sf instr = none) : cfiRecordAt w instr = none := by
  rw [cfiRecordAt_one_cover w m sf hok hmods hsyms instr hin, h]

theorem gcfiSide_of_one (w : World) (m : Module) (sf : SymFile) (hok : OneModOk m sf)
    (hmods : w.mods = [m]) (hsyms : w.syms = [some sf]) (a : Arch) (frames : List CfiFr) :
    ∀ (instr : Nat) (first : Bool), gcfiSideOne m sf a instr first frames = true →
      gcfiSide w a instr first frames = true := by
  induction frames with
  | nil =>
    intro instr first h
    simp only [gcfiSideOne, Bool.and_eq_true, decide_eq_true_eq, Option.isNone_iff_eq_none] at h
    simp only [gcfiSide, Option.isNone_iff_eq_none]
    exact cfiRecordAt_one_none w m sf hok hmods hsyms instr ⟨h.1.1, h.1.2⟩ h.2
  | cons c rest ih =>
    intro instr first h
    simp only [gcfiSideOne, Bool.and_eq_true] at h
    obtain ⟨h1, h2⟩ := h
    cases hc : cfiCover m sf instr with
    | none => rw [hc] at h1; cases h1
    | some rec =>
      rw [hc] at h1
      simp only [gcfiSide, cfiRecordAt_one_some w m sf hok hmods hsyms instr rec hc, Bool.and_eq_true]
      exact ⟨by simpa only [Bool.and_eq_true] using h1, ih _ _ h2⟩

theorem pairwise_of_disjB (l : List CfiRec) (h : disjB l = true) :
    l.Pairwise fun c d => c.addr + c.size ≤ d.addr ∨ d.addr + d.size ≤ c.addr := by
  induction l with
  | nil => exact List.Pairwise.nil
  | cons c rest ih =>
    simp only [disjB, Bool.and_eq_true, List.all_eq_true, Bool.or_eq_true, decide_eq_true_eq] at h
    exact List.pairwise_cons.mpr ⟨h.1, ih h.2⟩

theorem oneModOk_of_B (m : Module) (sf : SymFile) (h : oneModOkB m sf = true) : OneModOk m sf := by
  simp only [oneModOkB, Bool.and_eq_true, List.all_eq_true, decide_eq_true_eq] at h
  exact ⟨⟨h.1.1.1, h.1.1.2⟩, h.1.2, pairwise_of_disjB _ h.2⟩

theorem pairwise_of_modsDisjB (l : List Module) (h : modsDisjB l = true) :
    l.Pairwise fun c d => c.base + c.size ≤ d.base ∨ d.base + d.size ≤ c.base := by
  induction l with
  | nil => exact List.Pairwise.nil
  | cons c rest ih =>
    simp only [modsDisjB, Bool.and_eq_true, List.all_eq_true, Bool.or_eq_true, decide_eq_true_eq] at h
    exact List.pairwise_cons.mpr ⟨h.1, ih h.2⟩

/-- modules that are disjoint and have ranges: the module table is the linear search `modFind` runs
    (`get_idx_eq_find?`), and `cfiRecordAt_of_moduleAt` does the rest -/
theorem cfiRecordAt_world (w : World) (hok : worldOkB w = true) (instr : Nat) (m : Module) (sf : SymFile)
    (h : modFind w instr = some (m, sf)) : cfiRecordAt w instr = cfiCover m sf instr := by
  simp only [worldOkB, Bool.and_eq_true, List.all_eq_true, decide_eq_true_eq] at hok
  obtain ⟨⟨hdisj, hval⟩, hsyms⟩ := hok
  have hmt : moduleAt (modTable w.mods) instr = (w.mods.zipIdx.find? fun x => x.1.has instr).map (·.2) := by
    refine (get_idx_eq_find? (fun _ _ _ => mkRange_ok)
      ((pairwise_of_modsDisjB _ hdisj).imp (apart_mkRange Module.base Module.size)) instr).trans ?_
    refine congrArg (Option.map _) (find?_covers (rng := fun p : Module × Nat => mkRange p.1.base p.1.size)
      fun p hp => ?_).symm
    have := hval p.1 (List.mem_of_getElem? (List.mem_zipIdx_iff_getElem?.mp hp))
    rw [covers_mkRange (fun p : Module × Nat => p.1.base) (fun p => p.1.size)]
    simp only [Module.has, Bool.and_eq_true, decide_eq_true_eq]
    omega
  unfold modFind at h
  cases hf : w.mods.zipIdx.find? (fun x => x.1.has instr) with
  | none => rw [hf] at h; cases h
  | some x =>
    obtain ⟨m', i⟩ := x
    rw [hf] at h hmt
    obtain ⟨sf', hsf, rfl, rfl⟩ : ∃ sf', (w.syms[i]?).join = some sf' ∧ m' = m ∧ sf' = sf := by
      simpa only [Option.map_eq_some_iff, Prod.mk.injEq] using h
    have hmem := List.mem_of_find?_eq_some hf
    have hhas := List.find?_some hf
    simp only [Module.has, Bool.and_eq_true, decide_eq_true_eq] at hhas
    have hone := hsyms (m', i) hmem
    simp only [hsf] at hone
    exact cfiRecordAt_of_moduleAt hmt (List.mem_zipIdx_iff_getElem?.mp hmem) hsf (oneModOk_of_B _ _ hone) hhas.1

theorem gcfiSide_of_world (w : World) (hok : worldOkB w = true) (a : Arch) (frames : List CfiFr) :
    ∀ (instr : Nat) (first : Bool), gcfiSideW w a instr first frames = true →
      gcfiSide w a instr first frames = true := by
  induction frames with
  | nil =>
    intro instr first h
    simp only [gcfiSideW] at h
    cases hm : modFind w instr with
    | none => rw [hm] at h; cases h
    | some x =>
      obtain ⟨m, sf⟩ := x
      rw [hm] at h
      simp only [gcfiSide, cfiRecordAt_world w hok instr m sf hm]
      exact h
  | cons c rest ih =>
    intro instr first h
    simp only [gcfiSideW, Bool.and_eq_true] at h
    obtain ⟨h1, h2⟩ := h
    cases hm : modFind w instr with
    | none => rw [hm] at h1; simp at h1
    | some x =>
      obtain ⟨m, sf⟩ := x
      rw [hm] at h1
      simp only [Option.bind_some] at h1
      simp only [gcfiSide, cfiRecordAt_world w hok instr m sf hm, Bool.and_eq_true]
      exact ⟨by simpa only [Bool.and_eq_true] using h1, ih _ _ h2⟩

end MdModel.Walk
