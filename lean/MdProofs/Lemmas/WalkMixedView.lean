/-
  C04, chains whose technique changes from frame to frame: the architecture-independent view of a
  frame in `PreW`'s per-frame state (`MView`), what is asserted of a produced frame (`FrameIsA`),
  and the STACK CFI step for any context kind under any validity set (`step_cfi_arch`).

  x86 walks whose symbol files carry STACK WIN records go through `cfiWalkW` and have their own
  view (`WinView`, WalkWinChainStep) — see WalkMixedX86.
-/
import MdProofs.Lemmas.WalkMixedCfi
import MdProofs.Lemmas.WalkWinChain
namespace MdModel.Walk
open MdModel

/-- the label `walk_stack` gives a frame of technique `e.tech` (STACK WIN frames are labelled `cfi`) -/
def techTrust (e : Exp) : Trust :=
  if e.tech = "win" ∨ e.tech = "cfi" then .cfi else if e.tech = "fp" then .fp else .scan

theorem techTrust_cfi {e : Exp} (h : e.tech = "cfi") : techTrust e = .cfi := by simp [techTrust, h]
theorem techTrust_fp {e : Exp} (h : e.tech = "fp") : techTrust e = .fp := by simp [techTrust, h]
theorem techTrust_scan {e : Exp} (h : e.tech = "scan") : techTrust e = .scan := by simp [techTrust, h]

theorem techTrust_win {e : Exp} (h : e.tech = "win") : techTrust e = .cfi := by simp [techTrust, h]

theorem techTrust_ne_context (e : Exp) : techTrust e ≠ .context := by
  unfold techTrust; split
  · decide
  · split <;> decide

/-- **what C04 asserts of one produced frame** (any context kind): technique label, return
    address, stack pointer, lookup address `ret - adj`, ip / sp valid, the frame pointer valid
    exactly when the chain says so and then with the generated value, every claimed register valid
    with its generated value -/
structure FrameIsA (a : Arch) (t : Trust) (e : Exp) (f : Frame) : Prop where
  ip : f.ctx.ip = e.ret
  sp : f.ctx.sp = e.sp
  trust : f.trust = t
  instr : f.instruction = e.ret - a.adj
  m64 : f.ctx.m64 = (a == .mips64)
  vip : f.ctx.has a a.ipName = true
  vsp : f.ctx.has a a.spName = true
  fp : e.fp = if f.ctx.has a a.fpName then some (f.ctx.raw a a.fpName) else none
  regs : ∀ p ∈ e.regs, f.ctx.has a p.1 = true ∧ f.ctx.raw a p.1 = p.2 ∧ p.2 ≤ a.regMax
  spmax : e.sp ≤ a.regMax
  retmax : e.ret ≤ a.regMax
  fpmax : ∀ v, e.fp = some v → v ≤ a.regMax

structure MView (w : World) (a : Arch) (f : Frame) (st : MState) : Prop where
  m64 : f.ctx.m64 = (a == .mips64)
  instr : f.instruction = st.instr
  sp : f.ctx.sp = st.sp
  spmax : st.sp ≤ a.regMax
  vsp : f.ctx.has a a.spName = true
  fp : st.fp = if f.ctx.has a a.fpName then some (f.ctx.raw a a.fpName) else none
  fpmax : ∀ v, st.fp = some v → v ≤ a.regMax
  regs : ∀ r v, st.regs.lookup r = some v → f.ctx.has a r = true ∧ f.ctx.raw a r = v ∧ v ≤ a.regMax
  trust : st.first = true ↔ f.trust = .context
  lr : st.first = true → a.leafOk = true → st.lr = f.ctx.raw a (lrName a) ∧
    (f.ctx.has a (lrName a) = true ∨
      ∀ rec, cfiRecordAt w st.instr = some rec → tokenize rec.init ≠ leafToks a)

theorem MView.eff {w : World} {a : Arch} {f : Frame} {st : MState} (hv : MView w a f st) :
    effArch a f.ctx = a := effArch_of_m64 hv.m64

theorem MView.symbolise {w : World} {a : Arch} {f : Frame} {st : MState} (env : Env) (hv : MView w a f st) :
    MView w a (symbolise env f) st :=
  ⟨hv.m64, hv.instr, hv.sp, hv.spmax, hv.vsp, hv.fp, hv.fpmax, hv.regs, hv.trust, hv.lr⟩

theorem MView.next {w : World} {a : Arch} {env : Env} {st : MState} {t : Trust} {e : Exp} {f' : Frame}
    (hg : FrameIsA a t e f') (ht : t ≠ .context) : MView w a f' (nextState env a st e) := by
  refine ⟨hg.m64, hg.instr, hg.sp, hg.spmax, hg.vsp, hg.fp, hg.fpmax, ?_, ?_, ?_⟩
  · intro r v hl
    exact hg.regs (r, v) (List.mem_of_lookup_eq_some hl)
  · constructor
    · intro h; cases h
    · intro h; rw [hg.trust] at h; exact absurd h ht
  · intro h; cases h

theorem preMixedFrom_eq_preChain (w : World) (wins : List (List Win.Rec)) (env : Env) (a : Arch) (os : Os) (mem : Mem) :
    ∀ (chain : List Exp) (st : MState),
      preMixedFrom w wins env a os mem st chain =
        preChain (fun st => mem.inRange st.sp) (linkMixed w wins env a os mem) (endMixed w wins a os mem)
          (nextState env a) st chain
  | [], _ => rfl
  | e :: rest, st => by
    simp only [preMixedFrom, preChain, preMixedFrom_eq_preChain w wins env a os mem rest]

theorem mem_forwarded {a : Arch} {c : Ctx} {r : String} :
    r ∈ forwarded a c ↔ a.calleeSaved.contains r = true ∧ c.has a r = true := by
  have key : ∀ (a : Arch), (a = .x86 ∨ a = .amd64 ∨ a = .mips32 ∨ a = .mips64) →
      ((r ∈ a.calleeSaved ∧ c.hasLit r = true) ↔ a.calleeSaved.contains r = true ∧ c.has a r = true) := by
    intro a ha
    constructor
    · rintro ⟨h1, h2⟩
      have hc : a.calleeSaved.contains r = true := by simpa using h1
      exact ⟨hc, by rw [has_eq_hasLit ha c (canon_calleeSaved hc).1]; exact h2⟩
    · rintro ⟨h1, h2⟩
      refine ⟨by simpa using h1, ?_⟩
      rw [has_eq_hasLit ha c (canon_calleeSaved h1).1] at h2; exact h2
  cases a
  case arm => simp [forwarded]
  case arm64 => simp [forwarded]
  case arm64old => simp [forwarded]
  all_goals
    simp only [forwarded, List.mem_filter]
    exact key _ (by simp)

theorem lrName_canon {a : Arch} (h : a.leafOk = true) : a.canon (lrName a) = some (lrName a) := by
  cases a <;> simp [Arch.leafOk] at h <;> decide

theorem MView.get_sp {w : World} {a : Arch} {f : Frame} {st : MState} (hv : MView w a f st) :
    f.ctx.get a a.spName = some st.sp :=
  Ctx.get_of_fits hv.vsp ((raw_sp a _).trans hv.sp) hv.spmax

theorem plainValid_canonOut {a : Arch} {mem : Mem} {c : Ctx} {o0 : CfiOut} {cfa ret : Nat} {saved : List (String × Nat)}
    (hV0 : ∀ n, n ∈ o0.valid ↔ a.calleeSaved.contains n = true ∧ c.has a n = true)
    (hsv : ∀ g ∈ saved, a.calleeSaved.contains g.1 = true ∧ g.1 ≠ a.spName) :
    PlainValid a (canonOut a mem o0 cfa ret saved).valid := by
  intro n hn
  rcases (canonOut_valid n).mp hn with h | h | h | h
  · exact Or.inl ((hV0 n).mp h).1
  · exact Or.inr (Or.inl h)
  · exact Or.inr (Or.inr h)
  · obtain ⟨g', hg', rfl⟩ := List.mem_map.mp h
    exact Or.inl (hsv g' hg').1

/-- **the caller context `get_caller_by_cfi` makes of a canonical record asserts the expected
    frame**: `o0` = the caller half the walker started from (the callee's values, the callee-saved
    registers valid in the callee), `c'` = what `get_caller_by_cfi` returns for the rules' result,
    the remaining hypotheses = what `walkCfi_of_link` says of the record and the expected frame -/
theorem cfiRes_frameIsA {a : Arch} {mask : Nat} {mem : Mem} {c c' : Ctx} {st : MState} {e : Exp} {o0 : CfiOut}
    {ret0 : Nat} {saved : List (String × Nat)}
    (hV0 : ∀ n, n ∈ o0.valid ↔ a.calleeSaved.contains n = true ∧ c.has a n = true)
    (hR0 : ∀ r, a.calleeSaved.contains r = true → r ≠ a.spName → o0.ctx.raw a r = c.raw a r)
    (hm0 : o0.ctx.m64 = (a == .mips64))
    (res : CfiRes a mask (canonOut a mem o0 e.sp ret0 saved) c')
    (hfp : st.fp = if c.has a a.fpName then some (c.raw a a.fpName) else none)
    (hfpmax : ∀ v, st.fp = some v → v ≤ a.regMax)
    (hregs : ∀ r v, a.calleeSaved.contains r = true → st.regs.lookup r = some v →
      c.has a r = true ∧ c.raw a r = v ∧ v ≤ a.regMax)
    (hspm : e.sp ≤ a.regMax) (hretm : e.ret ≤ a.regMax)
    (hret0 : maskOf a mask ret0 = e.ret) (hnd : (saved.map (·.1)).Nodup)
    (hsv : ∀ g ∈ saved, a.calleeSaved.contains g.1 = true ∧ g.1 ≠ a.spName)
    (hfpc : match saved.lookup a.fpName with
      | some lit => e.fp = some (maskOf a mask (slotWord a mem e.sp lit))
      | none => e.fp = st.fp.map (maskOf a mask))
    (hregsc : ∀ p ∈ e.regs, a.calleeSaved.contains p.1 = true ∧ p.1 ≠ a.spName ∧ p.1 ≠ a.fpName ∧
      (match saved.lookup p.1 with
        | some lit => slotWord a mem e.sp lit = p.2
        | none => st.regs.lookup p.1 = some p.2)) :
    FrameIsA a .cfi e { ctx := c', trust := .cfi, instruction := c'.ip - a.adj } := by
  have hplain := plainValid_canonOut (mem := mem) (cfa := e.sp) (ret := ret0) hV0 hsv
  have hip' : c'.ip = e.ret := by
    rw [res.ip, ← maskOf_eq_stripOf]; exact hret0
  have hhas : ∀ r, a.canon r = some r → (c'.has a r = true ↔
      (a.calleeSaved.contains r = true ∧ c.has a r = true) ∨ r = a.spName ∨ r = a.ipName ∨ r ∈ saved.map (·.1)) := by
    intro r hr
    rw [has_of_plain res.valid hplain hr, List.contains_iff_mem, canonOut_valid, hV0]
  have hraw : ∀ r, a.calleeSaved.contains r = true → r ≠ a.spName →
      c'.raw a r = (if r = a.fpName ∧ c'.has a r = true then stripOf a mask else id)
        (match saved.lookup r with
          | some lit => slotWord a mem e.sp lit
          | none => c.raw a r) := by
    intro r hr hrsp
    obtain ⟨hc, hip⟩ := canon_calleeSaved hr
    rw [res.raw r hc hip hrsp, canonOut_raw hnd hc hip hrsp, has_of_plain res.valid hplain hc, hR0 r hr hrsp]
    split <;> rfl
  have hfpcs := fpName_calleeSaved a
  refine ⟨hip', res.sp, rfl, by rw [hip'], by rw [res.m64]; exact hm0, ?_, ?_, ?_, ?_, hspm, hretm, ?_⟩
  · exact (hhas _ (ipName_canon a)).mpr (Or.inr (Or.inr (Or.inl rfl)))
  · exact (hhas _ (spName_canon a)).mpr (Or.inr (Or.inl rfl))
  · -- the frame pointer
    have hfpraw := hraw a.fpName hfpcs.1 hfpcs.2
    cases hlk : saved.lookup a.fpName with
    | some lit =>
      rw [hlk] at hfpc hfpraw
      have hval : c'.has a a.fpName = true :=
        (hhas _ (fpName_canon a)).mpr (Or.inr (Or.inr (Or.inr (List.mem_map.mpr ⟨_, List.mem_of_lookup_eq_some hlk, rfl⟩))))
      rw [hval, if_pos rfl, hfpc, hfpraw, hval, if_pos ⟨rfl, rfl⟩, maskOf_eq_stripOf]
    | none =>
      rw [hlk] at hfpc hfpraw
      have hnot : a.fpName ∉ saved.map (·.1) := List.lookup_eq_none_iff_not_mem_keys.mp hlk
      have hiff : c'.has a a.fpName = true ↔ c.has a a.fpName = true := by
        rw [hhas _ (fpName_canon a)]
        constructor
        · rintro (h | h | h | h)
          · exact h.2
          · exact absurd h hfpcs.2
          · exact absurd h (fpName_ne_ip a)
          · exact absurd h hnot
        · intro h; exact Or.inl ⟨hfpcs.1, h⟩
      rw [hfpc, hfp]
      by_cases hf : c.has a a.fpName = true
      · have hval := hiff.mpr hf
        rw [hf, hval, if_pos rfl, if_pos rfl, hfpraw, hval, if_pos ⟨rfl, rfl⟩, Option.map_some, maskOf_eq_stripOf]
      · have hval : ¬ c'.has a a.fpName = true := fun h => hf (hiff.mp h)
        simp only [hf, hval, if_false, Option.map_none, Bool.false_eq_true]
  · -- the claimed registers
    intro p hp
    obtain ⟨h1, h2, h3, h4⟩ := hregsc p hp
    obtain ⟨hc, _⟩ := canon_calleeSaved h1
    have hpraw := hraw p.1 h1 h2
    rw [if_neg (fun h => h3 h.1)] at hpraw
    cases hlk : saved.lookup p.1 with
    | some lit =>
      rw [hlk] at h4 hpraw
      refine ⟨(hhas _ hc).mpr (Or.inr (Or.inr (Or.inr (List.mem_map.mpr ⟨_, List.mem_of_lookup_eq_some hlk, rfl⟩)))), ?_, ?_⟩
      · rw [hpraw]; exact h4
      · rw [← h4]
        exact slotWord_le a mem e.sp lit
    | none =>
      rw [hlk] at h4 hpraw
      obtain ⟨q1, q2, q3⟩ := hregs p.1 p.2 h1 h4
      exact ⟨(hhas _ hc).mpr (Or.inl ⟨h1, q1⟩), by rw [hpraw]; exact q2, q3⟩
  · -- the claimed frame pointer fits the register
    intro v hev
    cases hlk : saved.lookup a.fpName with
    | some lit =>
      rw [hlk, hev] at hfpc
      injection hfpc with hfpc
      rw [hfpc]
      exact maskOf_le _ (slotWord_le a mem e.sp lit)
    | none =>
      rw [hlk, hev] at hfpc
      cases hsf : st.fp with
      | none => rw [hsf] at hfpc; cases hfpc
      | some x =>
        rw [hsf] at hfpc
        simp only [Option.map_some, Option.some.injEq] at hfpc
        rw [hfpc]
        exact maskOf_le _ (hfpmax x hsf)

theorem step_cfi_arch {env : Env} {a : Arch} {w : World} {mem : Mem} (harch : env.arch = a)
    (hcfi : ∀ f g, env.cfi f g = cfiOf a w (modTable w.mods) (cfiTables w) env.mask mem f g)
    {f : Frame} {g : Option Frame} {st : MState} {e : Exp} (hv : MView w a f st)
    (hret : 4096 ≤ e.ret) (hspm : e.sp ≤ a.regMax) (hretm : e.ret ≤ a.regMax)
    (hlt : st.sp < e.sp ∨ (st.first = true ∧ a.leafOk = true ∧ st.sp = e.sp))
    (hl : linkCfiM w a env.mask mem st e = true) :
    ∃ f', step env mem f g = some f' ∧ FrameIsA a .cfi e f' := by
  have heff := hv.eff
  -- the callee's link register as the evaluator reads it
  have hlr : st.first = true → a.leafOk = true → st.lr ≤ a.regMax →
      (f.ctx.get a (lrName a) = some st.lr ∨
        ∀ rec, cfiRecordAt w st.instr = some rec → tokenize rec.init ≠ leafToks a) := by
    intro h1 h2 h3
    obtain ⟨e1, e2⟩ := hv.lr h1 h2
    rcases e2 with e2 | e2
    · exact Or.inl (Ctx.get_of_fits e2 e1.symm h3)
    · exact Or.inr e2
  obtain ⟨rec, ret0, saved, hrec, hadds, hwalk, hret0, hnd, hsv, hfpc, hregsc⟩ :=
    walkCfi_of_link hl hv.get_sp hspm hlr { ctx := f.ctx, valid := forwarded a f.ctx }
  have hcw : cfiWalk a w (modTable w.mods) (cfiTables w) mem f =
      some (canonOut a mem { ctx := f.ctx, valid := forwarded a f.ctx } e.sp ret0 saved) := by
    rw [cfiWalk_of_record a w mem f rec (by rw [hv.instr]; exact hrec) hadds]; exact hwalk
  have hV0 : ∀ n, n ∈ forwarded a f.ctx ↔ a.calleeSaved.contains n = true ∧ f.ctx.has a n = true :=
    fun _ => mem_forwarded
  obtain ⟨c', hc', res⟩ := cfiOf_res (mask := env.mask) (g := g) heff hv.vsp hcw (plainValid_canonOut hV0 hsv)
  have hfr := cfiRes_frameIsA (c := f.ctx) hV0 (fun _ _ _ => rfl) hv.m64 res hv.fp hv.fpmax
    (fun r v _ h => hv.regs r v h) hspm hretm hret0 hnd hsv hfpc hregsc
  subst harch
  refine ⟨_, step_cfi_accept (by rw [hcfi]; exact hc') (by rw [hfr.ip]; exact hret) ?_, hfr⟩
  rw [show c'.sp = e.sp from hfr.sp, hv.sp]
  rcases hlt with h | ⟨h1, h2, h3⟩
  · exact Or.inl h
  · exact Or.inr ⟨h2, hv.trust.mp h1, h3.symm⟩

/-- what `PreW` says besides the chain itself -/
theorem PreW_spec {w : World} {wins : List (List Win.Rec)} {env : Env} {a : Arch} {os : Os} {mem : Mem} {ctx : Ctx}
    {chain : List Exp} (h : PreW w wins env a os mem ctx chain = true) :
    mem.range?.isSome = true ∧ ctx.has a a.ipName = true ∧ ctx.has a a.spName = true ∧
    ctx.m64 = (a == .mips64) ∧ (∀ r ∈ a.registers, ctx.raw a r ≤ a.regMax) ∧
    (a.leafOk = true → (ctx.has a (lrName a) = true ∨
      ∀ rec, cfiRecordAt w ctx.ip = some rec → tokenize rec.init ≠ leafToks a)) ∧
    preMixedFrom w wins env a os mem (initState a ctx) chain = true := by
  simp only [PreW, Bool.and_eq_true, beq_iff_eq, Bool.or_eq_true, Bool.not_eq_true'] at h
  obtain ⟨⟨⟨⟨⟨⟨⟨hm, _⟩, hip⟩, hsp⟩, h64⟩, hfit⟩, hleaf⟩, hp⟩ := h
  refine ⟨hm, hip, hsp, h64, ?_, ?_, hp⟩
  · intro r hr
    exact of_decide_eq_true (List.all_eq_true.mp hfit r hr)
  · intro hl
    rcases hleaf with (h | h) | h
    · rw [hl] at h; cases h
    · exact Or.inl h
    · right
      intro rec hrec
      rw [hrec] at h
      simpa using h

end MdModel.Walk
