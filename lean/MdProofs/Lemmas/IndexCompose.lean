/-
  For `MdProofs/C14Compose.lean`: what is needed to put the state's call stacks
  (`stack_walk`, `frame_of_walk`, `stack_pair_of_walk` of `Lemmas/Index`) and C14's `env_spec` under the
  per-walk theorems of C06 (`walk_frames_follow_c06`) and C11 (`SymbEnv.follows_c11`,
  `instr_ok_follows_c11`).

  * the start context of every walk satisfies C06's `CtxOk` when the dump's context records hold `u64`
    registers (`DumpRegsOk`, `startCtx_regsOk`, `toCtx_ok`);
  * a walker fact: a frame of trust `scan` of ANY walk has a return address the environment's
    by-symbols validation accepted (`walk_scan_instrOk`: `walk_forall` over `step_cases`, the scanners
    through `byScan_valid`);
  * both branches of `envOf` validate and symbolise with the world's tables (`envOf_instrOk`, `envOf_symb`).
-/
import MdProofs.C14
import MdProofs.C06Env
import MdProofs.C11Walk
namespace MdModel.Index
open MdModel
open MdModel.Walk (Mem)

/-- every register of a context record is a `u64` (what any context read from dump bytes satisfies;
    the abstract `Dump` carries naturals) -/
def RegsOk (r : Regs) : Prop :=
  r.ip < 2 ^ 64 ∧ r.sp < 2 ^ 64 ∧ r.fp < 2 ^ 64 ∧ ∀ p ∈ r.rest, p.2 < 2 ^ 64

theorem toCtx_ok (a : Walk.Arch) (arch : Nat) (r : Regs) (h : RegsOk r) :
    CfiBridge.CtxOk a (toCtx arch r) := by
  obtain ⟨h1, h2, h3, h4⟩ := h
  refine ⟨trivial, h1, h2, ?_⟩
  intro p hp
  simp only [toCtx] at hp
  split at hp
  · rcases List.mem_cons.mp hp with rfl | hp
    · exact h3
    · exact h4 p hp
  · cases hp

def DumpRegsOk (d : Dump) : Prop :=
  (∀ e c, d.exc = some (e, some c) → RegsOk c) ∧
  ∀ ts, d.threads = some ts → ∀ t ∈ ts, ∀ c, t.ctx = some c → RegsOk c

theorem dumpRegsOk_single (d : Dump) (t : Thread) (hexc : d.exc = none) (hth : d.threads = some [t])
    (h : ∀ c, t.ctx = some c → RegsOk c) : DumpRegsOk d := by
  refine ⟨fun e c he => ?_, ?_⟩
  · rw [hexc] at he; cases he
  intro ts hts t' ht c hc
  rw [hth] at hts
  cases hts
  rw [List.mem_singleton.mp ht] at hc
  exact h c hc

theorem readCtx_some {d : Dump} {c : Option Regs} {r : Regs} (h : readCtx d c = some r) : c = some r := by
  unfold readCtx at h
  split at h
  · exact h
  · cases h

theorem startCtx_regsOk (d : Dump) (ts : List Thread) (hth : d.threads = some ts) (hd : DumpRegsOk d)
    (t : Thread) (ht : t ∈ ts) (r : Regs) (hr : startCtx d t = some r) : RegsOk r := by
  have hthread : ∀ r, readCtx d t.ctx = some r → RegsOk r :=
    fun r h => hd.2 ts hth t ht r (readCtx_some h)
  have hexc : ∀ r, excCtx d = some r → RegsOk r := by
    intro r h
    unfold excCtx at h
    split at h
    · rename_i e c he
      exact hd.1 e r (by rw [he, readCtx_some h])
    · cases h
  unfold startCtx at hr
  split at hr
  · cases hr
  · split at hr
    · cases he : excCtx d with
      | none => rw [he] at hr; exact hthread r (by simpa using hr)
      | some r' =>
        rw [he] at hr
        simp only [Option.orElse_some, Option.some.injEq] at hr
        subst hr
        exact hexc _ he
    · exact hthread r hr

end MdModel.Index

namespace MdModel.Walk

theorem step_scan_valid {env : Env} {mem : Mem} {callee f : Frame} {grand : Option Frame}
    (h : step env mem callee grand = some f) (ht : f.trust = .scan) :
    instrValid env (effArch env.arch callee.ctx) f.ctx.ip = true := by
  obtain ⟨c, t, he, hc⟩ := step_cases h
  obtain ⟨rfl, rfl, _⟩ := epilogue_spec he
  rcases hc with ⟨h1, _⟩ | ⟨h1, _⟩ | ⟨_, _, _, hs⟩
  · rw [h1] at ht; cases ht
  · rw [h1] at ht; cases ht
  · exact byScan_valid hs

theorem walk_scan_instrOk (env : Env) (mem : Option Mem) (ctx : Ctx) :
    ∀ x ∈ walk env mem ctx, x.trust = .scan → env.instrOk x.ctx.ip = true := by
  refine walk_forall (fun ht => nomatch ht) fun m p g f' _ hstep ht => ?_
  have := step_scan_valid hstep ht
  unfold instrValid at this
  simp only [Bool.and_eq_true] at this
  exact this.2

end MdModel.Walk

namespace MdModel.Index
open MdModel

theorem envOf_instrOk (d : Dump) (sel : Option Walk.Mem) :
    (envOf d sel).instrOk =
      Walk.instrOkOf (worldOf d) (Walk.modTable (worldOf d).mods) (SymBridge.ftblsOf (worldOf d)) := by
  obtain ⟨-, -, h1, h2, -⟩ := env_spec d sel
  cases hn : Walk.noWins (winsOf d) with
  | true => rw [h1 hn]; exact (SymBridge.mkEnv_instrOk _ _ _ [] _).1
  | false => rw [h2 hn]; exact (SymBridge.mkEnv_instrOk _ _ _ _ _).2

theorem envOf_symb (d : Dump) (sel : Option Walk.Mem) :
    SymBridge.SymbEnv (envOf d sel) (worldOf d) (winsOf d) := by
  obtain ⟨-, -, h1, h2, -⟩ := env_spec d sel
  cases hn : Walk.noWins (winsOf d) with
  | true => rw [h1 hn]; exact SymBridge.symbEnv_mkEnv _ _ _ _ hn
  | false => rw [h2 hn]; exact SymBridge.symbEnv_mkEnvW _ _ _ _ _

end MdModel.Index
