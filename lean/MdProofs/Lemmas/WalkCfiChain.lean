/-
  C04 / C06, `get_caller_by_cfi` (`cfiOf`) of the walker model, for the chains and for C06 inside the
  walk environment (Lemmas/CfiEnv, MdProofs/C06Env.lean): its equation `cfiOf_eq` (validity test,
  `cfiWalk`, pointer-authentication strip; `spValid` and `stripPA` name the first and the last, which
  `cfiOf` has inline per context kind), its look-ups (`cfiWalk_mkEnv`; `cfiWalk_eq`: module table,
  symbol file and CFI range table find the record `cfiRecordAt` finds), and what it returns around a
  `walk_frame` result whose validity set holds only canonical names (`cfiOf_of_walk` → `cfiCaller`,
  for any such set: there `stripPA` is the model's `stripOf` of pc and of a valid fp; `cfiOf_of_none`).
-/
import MdProofs.Lemmas.WalkRegs
namespace MdModel.CfiBridge
open MdModel

theorem cfiTables_get (w : Walk.World) (i : Nat) :
    (Walk.cfiTables w)[i]? = (w.syms[i]?).map fun s => match s with
      | some sf => Walk.cfiTable sf
      | none => [] := by
  unfold Walk.cfiTables
  rw [List.getElem?_map]
  congr 1

theorem cfiWalk_mkEnv (a : Walk.Arch) (w : Walk.World) (mem : Walk.Mem) (callee : Walk.Frame) :
    Walk.cfiWalk a w (Walk.modTable w.mods) (Walk.cfiTables w) mem callee =
      match Walk.moduleAt (Walk.modTable w.mods) callee.instruction with
      | none => none
      | some i =>
        match w.mods[i]?, w.syms[i]? with
        | some m, some (some sf) =>
          Walk.walkFrameCfi sf (Walk.cfiTable sf) m.base ⟨a, callee.ctx, mem⟩
            ⟨callee.ctx, Walk.forwarded a callee.ctx⟩ callee.instruction
        | _, _ => none := by
  unfold Walk.cfiWalk
  cases Walk.moduleAt (Walk.modTable w.mods) callee.instruction with
  | none => rfl
  | some i =>
    simp only [cfiTables_get]
    cases w.mods[i]? with
    | none => rfl
    | some m =>
      cases w.syms[i]? with
      | none => rfl
      | some s =>
        cases s with
        | none => rfl
        | some sf => rfl

/-- the stack-pointer validity test every `get_caller_by_cfi` starts with -/
def spValid (a : Walk.Arch) (c : Walk.Ctx) : Bool :=
  match a with
  | .x86 => c.hasLit "esp"
  | .amd64 => c.hasLit "rsp"
  | .arm => c.has a "r13"
  | _ => c.has a "sp"

/-- ARM64's pointer-authentication stripping at the end of `get_caller_by_cfi`: pc always, lr and
    fp when they are valid; every other architecture returns the context as it is -/
def stripPA (a : Walk.Arch) (mask : Nat) (r : Walk.Ctx) : Walk.Ctx :=
  match a with
  | .arm64 | .arm64old =>
    let r := { r with ip := r.ip &&& mask }
    let r := if r.has a "x30" then (r.set a "x30" (r.raw a "x30" &&& mask)).getD r else r
    let r := if r.has a "x29" then (r.set a "x29" (r.raw a "x29" &&& mask)).getD r else r
    r
  | _ => r

theorem cfiOf_eq (arch : Walk.Arch) (w : Walk.World) (mtbl : List RangeMap.Entry)
    (ctbls : List (List RangeMap.Entry)) (mask : Nat) (mem : Walk.Mem) (callee : Walk.Frame)
    (grand : Option Walk.Frame) :
    Walk.cfiOf arch w mtbl ctbls mask mem callee grand =
      if !spValid (Walk.effArch arch callee.ctx) callee.ctx then none
      else (Walk.cfiWalk (Walk.effArch arch callee.ctx) w mtbl ctbls mem callee).map fun o =>
        stripPA (Walk.effArch arch callee.ctx) mask { o.ctx with valid := some o.valid } := by
  unfold Walk.cfiOf
  simp only
  generalize Walk.effArch arch callee.ctx = a
  show (if !spValid a callee.ctx then none else _) = _
  split
  · rfl
  · cases Walk.cfiWalk a w mtbl ctbls mem callee with
    | none => rfl
    | some o => cases a <;> rfl

/-- the test is `register_is_valid(sp)`: ARM32 asks for `r13`, an alias of `sp`; x86 / x86-64 look the name up literally -/
theorem spValid_eq (a : Walk.Arch) (c : Walk.Ctx) : spValid a c = c.has a a.spName := by
  cases a <;> simp only [spValid, Walk.Ctx.has, Walk.Ctx.hasLit, Walk.Arch.spName] <;>
    cases c.valid <;> simp [Walk.Arch.aliases, Walk.Arch.canon, Walk.Arch.registers]

end MdModel.CfiBridge

namespace MdModel.Walk
open MdModel

theorem walkFrameCfi_eq (sf : SymFile) (base : Nat) (x : CfiIn) (o : CfiOut) (instr : Nat) :
    walkFrameCfi sf (cfiTable sf) base x o instr =
      (if instr < base then none
       else match RangeMap.get (cfiTable sf) (instr - base) with
         | some j => sf.cfis[j]?
         | none => none).bind fun rec =>
        walkCfi x o rec.init (((rec.adds.mergeSort addLe).takeWhile fun p => p.1 ≤ instr - base).map (·.2)) := by
  simp only [walkFrameCfi]
  split
  · rfl
  · cases RangeMap.get (cfiTable sf) (instr - base) with
    | none => rfl
    | some j => dsimp only; cases sf.cfis[j]? <;> rfl

/-- **`get_caller_by_cfi` looks up what `cfiRecordAt` looks up** (module table, symbol file, CFI range
    table): `walk_frame` evaluates the record `cfiRecordAt` finds, on a fresh `CfiStackWalker` (caller =
    callee's registers, validity = the forwarded callee-saved ones). `base`: the module's base address,
    which only the selection of delta lines looks at. -/
theorem cfiWalk_eq (a : Arch) (w : World) (mem : Mem) (f : Frame) :
    ∃ base, cfiWalk a w (modTable w.mods) (cfiTables w) mem f =
      (cfiRecordAt w f.instruction).bind fun rec =>
        walkCfi { arch := a, callee := f.ctx, mem := mem } { ctx := f.ctx, valid := forwarded a f.ctx } rec.init
          (((rec.adds.mergeSort addLe).takeWhile fun p => p.1 ≤ f.instruction - base).map (·.2)) := by
  rw [CfiBridge.cfiWalk_mkEnv]
  unfold cfiRecordAt
  cases moduleAt (modTable w.mods) f.instruction with
  | none => exact ⟨0, rfl⟩
  | some i =>
    dsimp only
    cases w.mods[i]? with
    | none => exact ⟨0, rfl⟩
    | some m =>
      refine ⟨m.base, ?_⟩
      cases w.syms[i]? with
      | none => rfl
      | some s =>
        cases s with
        | none => rfl
        | some sf => exact walkFrameCfi_eq ..

theorem cfiWalk_of_record (a : Arch) (w : World) (mem : Mem) (f : Frame) (rec : CfiRec)
    (h : cfiRecordAt w f.instruction = some rec) (hadds : rec.adds = []) :
    cfiWalk a w (modTable w.mods) (cfiTables w) mem f =
      walkCfi { arch := a, callee := f.ctx, mem := mem } { ctx := f.ctx, valid := forwarded a f.ctx }
        rec.init [] := by
  obtain ⟨_, he⟩ := cfiWalk_eq a w mem f
  rw [he, h, Option.bind_some, hadds, List.mergeSort_nil, List.takeWhile_nil, List.map_nil]

theorem cfiRecordAt_cases {w : World} {instr : Nat} {rec : CfiRec} (h : cfiRecordAt w instr = some rec) :
    ∃ i m sf j, moduleAt (modTable w.mods) instr = some i ∧ w.mods[i]? = some m ∧
      w.syms[i]? = some (some sf) ∧ ¬ instr < m.base ∧
      RangeMap.get (cfiTable sf) (instr - m.base) = some j ∧ sf.cfis[j]? = some rec := by
  unfold cfiRecordAt at h
  split at h
  · cases h
  · rename_i i hi
    split at h
    · rename_i m sf hm hsf
      have hs : w.syms[i]? = some (some sf) := Option.join_eq_some_iff.mp hsf
      split at h
      · cases h
      · rename_i hlt
        split at h
        · rename_i j hj
          exact ⟨i, m, sf, j, hi, hm, hs, hlt, hj, h⟩
        · cases h
    · cases h

/-- a validity set holding only canonical names of callee-saved registers, sp and ip (what
    `callee_forwarded_regs` and the canonical rules produce) -/
def PlainValid (a : Arch) (V : List String) : Prop :=
  ∀ n ∈ V, a.calleeSaved.contains n = true ∨ n = a.spName ∨ n = a.ipName

theorem stripOf_eq (a : Arch) (mask v : Nat) :
    stripOf a mask v = if a = .arm64 ∨ a = .arm64old then v &&& mask else v := by
  cases a <;> simp [stripOf]

/-- the caller context `get_caller_by_cfi` makes of the caller half `o` that `walk_frame` leaves: on
    ARM64 the ptr-auth bits of pc and of a VALID frame pointer are stripped (lr is never valid) -/
def cfiCaller (a : Arch) (mask : Nat) (o : CfiOut) : Ctx :=
  { ip := stripOf a mask o.ctx.ip, sp := o.ctx.sp,
    rest := if (a = .arm64 ∨ a = .arm64old) ∧ o.valid.contains "fp" = true then
        assocSet o.ctx.rest "fp" (assocGet o.ctx.rest "fp" &&& mask) else o.ctx.rest,
    valid := some o.valid, m64 := o.ctx.m64 }

theorem cfiOf_of_walk {a : Arch} {w : World} {mask : Nat} {mem : Mem} {f : Frame} {g : Option Frame} {o : CfiOut}
    (heff : effArch a f.ctx = a) (hsp : f.ctx.has a a.spName = true)
    (hw : cfiWalk a w (modTable w.mods) (cfiTables w) mem f = some o)
    (hV : PlainValid a o.valid) :
    cfiOf a w (modTable w.mods) (cfiTables w) mask mem f g = some (cfiCaller a mask o) := by
  rw [CfiBridge.cfiOf_eq, heff, CfiBridge.spValid_eq, hsp, hw]
  unfold CfiBridge.stripPA cfiCaller
  simp only [Bool.not_true, Bool.false_eq_true, if_false, Option.map_some]
  by_cases ha : a = .arm64 ∨ a = .arm64old
  · -- neither alias name nor `lr` is in such a set
    have hnot : ∀ n, (a.calleeSaved.contains n = false ∧ n ≠ a.spName ∧ n ≠ a.ipName) → n ∉ o.valid := by
      intro n h hm
      rcases hV n hm with h' | h' | h'
      · rw [h.1] at h'; cases h'
      · exact h.2.1 h'
      · exact h.2.2 h'
    have e29 : "x29" ∉ o.valid := hnot _ (by rcases ha with rfl | rfl <;> decide)
    have e30 : "x30" ∉ o.valid := hnot _ (by rcases ha with rfl | rfl <;> decide)
    have elr : "lr" ∉ o.valid := hnot _ (by rcases ha with rfl | rfl <;> decide)
    have hx30 : ∀ (c : Ctx), c.valid = some o.valid → c.has a "x30" = false := by
      intro c hc
      rcases ha with rfl | rfl <;> simp [Ctx.has, hc, Arch.aliases, e30, elr]
    have hx29 : ∀ (c : Ctx), c.valid = some o.valid → c.has a "x29" = o.valid.contains "fp" := by
      intro c hc
      rcases ha with rfl | rfl <;> simp [Ctx.has, hc, Arch.aliases, e29]
    have hraw29 : ∀ (c : Ctx), c.raw a "x29" = assocGet c.rest "fp" := by
      intro c; rcases ha with rfl | rfl <;> rfl
    have hset29 : ∀ (c : Ctx) (v : Nat), c.set a "x29" v = some { c with rest := assocSet c.rest "fp" v } := by
      intro c v; rcases ha with rfl | rfl <;> rfl
    have hstrip : stripOf a mask o.ctx.ip = o.ctx.ip &&& mask := by rcases ha with rfl | rfl <;> rfl
    rw [hstrip]
    rcases ha with rfl | rfl
    all_goals
      simp only [Bool.false_eq_true, if_false, hx30, hx29, hraw29, hset29, Option.getD_some]
      by_cases hfp : o.valid.contains "fp" = true
      · rw [if_pos hfp, if_pos ⟨by decide, hfp⟩]
      · rw [if_neg hfp, if_neg fun h => hfp h.2]
  · cases a
    case arm64 | arm64old => exact absurd (by decide) ha
    all_goals rfl

theorem cfiOf_of_none {a : Arch} {w : World} {mask : Nat} {mem : Mem} {f : Frame} {g : Option Frame}
    (h : cfiRecordAt w f.instruction = none) :
    cfiOf a w (modTable w.mods) (cfiTables w) mask mem f g = none := by
  obtain ⟨_, he⟩ := cfiWalk_eq (effArch a f.ctx) w mem f
  rw [CfiBridge.cfiOf_eq, he, h]
  exact ite_self _

end MdModel.Walk
