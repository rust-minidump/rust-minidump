/-
  For MdProofs.C07Walker: C07's caller record (`Win.Caller`) simulates the caller half of the real
  x86 walker (`MdModel.CfiWalker.CfiStackWalker` at CONTEXT_X86) through whole lists of
  `set_caller_register` / `clear_caller_register` calls (lifting `x86_win_caller_refines`), through a
  whole routine (`plan_refines`), the record selection (`winResult_refines`) and the STACK CFI
  fallback (`Refines.orElseCfi`).
-/
import MdProofs.C06Walker
import MdProofs.C07
import MdModel.WinWalker
namespace MdModel.WinWalker
open MdModel MdModel.CfiWalker MdModel.Win MdModel.Gen.Regs MdModel.Regs

def SameCallee (w w' : CfiStackWalker) : Prop := ∃ st vs, w' = w.withCaller st vs

theorem SameCallee.rfl' (w : CfiStackWalker) : SameCallee w w := ⟨w.callerCtx, w.callerValidity, rfl⟩

theorem SameCallee.trans {a b c : CfiStackWalker} (h1 : SameCallee a b) (h2 : SameCallee b c) :
    SameCallee a c := by
  obtain ⟨s1, v1, rfl⟩ := h1
  obtain ⟨s2, v2, rfl⟩ := h2
  exact ⟨s2, v2, rfl⟩

theorem SameCallee.readOf {w w' : CfiStackWalker} (h : SameCallee w w') : readOf w' = readOf w := by
  obtain ⟨st, vs, rfl⟩ := h; rfl

theorem SameCallee.cpu {w w' : CfiStackWalker} (h : SameCallee w w') : w'.cpu = w.cpu := by
  obtain ⟨st, vs, rfl⟩ := h; rfl

def Sim (w : CfiStackWalker) (c : Caller) : Prop := ∀ s ∈ x86Regs, WinSim w c s

theorem Sim.log {w : CfiStackWalker} {c : Caller} (h : Sim w c) (l : List (String × Nat)) :
    Sim w { c with log := l } := h

theorem Sim.frame {w w' : CfiStackWalker} {c c' : Caller} (h : Sim w c) (h' : Sim w' c') {r : String}
    (hr : r ∈ x86Regs) (hf : (r ∈ c'.valid → r ∈ c.valid) ∧ c'.vals.get r = c.vals.get r)
    (hin : r ∈ w'.callerValidity) :
    r ∈ w.callerValidity ∧ rawOf .X86 w'.callerCtx r = rawOf .X86 w.callerCtx r := by
  have h1 := (h' r hr).1.mpr hin
  have h0 := hf.1 h1
  have e1 := (h' r hr).2 h1
  rw [hf.2, (h r hr).2 h0] at e1
  exact ⟨(h r hr).1.mp h0, by simpa using e1.symm⟩

/-- an outcome `R` on the real walker matches C07's outcome `r` on the record: they panic together,
    return the same `Some`/`None`, only the caller half of `w` changed, and the results agree on the
    ten registers -/
def Refines (w : CfiStackWalker) (r : Outcome (Bool × Caller)) (R : Outcome (Bool × CfiStackWalker)) : Prop :=
  (∀ s, r = .panic s → R = .panic s) ∧
  (∀ b c', r = .ok (b, c') → ∃ w', R = .ok (b, w') ∧ SameCallee w w' ∧ Sim w' c')

theorem Refines.ok {w w' : CfiStackWalker} {c' : Caller} (b : Bool) (hsc : SameCallee w w') (hs : Sim w' c') :
    Refines w (.ok (b, c')) (.ok (b, w')) :=
  ⟨fun _ h => (by cases h), fun _ _ h => by cases h; exact ⟨w', rfl, hsc, hs⟩⟩

theorem Refines.panic (w : CfiStackWalker) (s : String) : Refines w (.panic s) (.panic s) :=
  ⟨fun _ h => by cases h; rfl, fun _ _ h => by cases h⟩

theorem set_step (w : CfiStackWalker) (hx : w.cpu = .ctx .X86) (c : Caller) (hsim : Sim w c)
    (name : String) (v : Nat) :
    ∃ b w', w.setCallerRegister name v = .ok (b, w') ∧ SameCallee w w' ∧
      (match c.set name v with
       | none => b = false ∧ w' = w
       | some c' => b = true ∧ Sim w' c') := by
  obtain ⟨st, vs, hset, hfail, _⟩ := setCallerRegister_view w name v
  obtain ⟨b, w', h1, hb, hs⟩ := (x86_win_caller_refines w hx c hsim name v).1
  obtain ⟨rfl, rfl⟩ := Prod.mk.inj (Outcome.ok.inj (hset.symm.trans h1))
  refine ⟨_, _, hset, ⟨st, vs, rfl⟩, ?_⟩
  unfold Caller.set
  cases hc : c.setCore name v with
  | none => rw [hc] at hb; exact ⟨hb, hfail hb⟩
  | some c' => rw [hc] at hb; exact ⟨hb, Sim.log (hs c' hc) _⟩

theorem applySets_refines (sets : List (String × Nat)) :
    ∀ (w : CfiStackWalker) (_ : w.cpu = .ctx .X86) (c : Caller) (_ : Sim w c),
      ∃ w', applySetsReal w sets = .ok ((applySets c sets).1, w') ∧ SameCallee w w' ∧
        Sim w' (applySets c sets).2 := by
  induction sets with
  | nil => intro w _ c hsim; exact ⟨w, rfl, SameCallee.rfl' w, hsim⟩
  | cons e rest ih =>
    intro w hx c hsim
    obtain ⟨n, v⟩ := e
    obtain ⟨b, w1, h1, hsc, hm⟩ := set_step w hx c hsim n v
    simp only [applySetsReal, applySets, h1]
    cases hc : c.set n v with
    | none =>
      rw [hc] at hm
      obtain ⟨rfl, rfl⟩ := hm
      exact ⟨w1, rfl, SameCallee.rfl' w1, hsim⟩
    | some c' =>
      rw [hc] at hm
      obtain ⟨rfl, hs'⟩ := hm
      obtain ⟨w2, h2, hsc2, hs2⟩ := ih w1 (hsc.cpu.trans hx) c' hs'
      exact ⟨w2, h2, hsc.trans hsc2, hs2⟩

theorem clearAll_refines (names : List String) :
    ∀ (w : CfiStackWalker) (_ : w.cpu = .ctx .X86) (c : Caller) (_ : Sim w c),
      ∃ w', clearAllReal names w = .ok w' ∧ SameCallee w w' ∧ Sim w' (clearAll names c) := by
  induction names with
  | nil => intro w _ c hsim; exact ⟨w, rfl, SameCallee.rfl' w, hsim⟩
  | cons n t ih =>
    intro w hx c hsim
    obtain ⟨vs, hcl, _⟩ := clearCallerRegister_view w n
    obtain ⟨w1, h1, hs1⟩ := (x86_win_caller_refines w hx c hsim n 0).2
    have hsc : SameCallee w w1 := ⟨_, vs, Outcome.ok.inj (h1.symm.trans hcl)⟩
    obtain ⟨w2, h2, hsc2, hs2⟩ := ih w1 (hsc.cpu.trans hx) (c.clear n) hs1
    refine ⟨w2, ?_, hsc.trans hsc2, ?_⟩
    · simp only [clearAllReal, h1]; exact h2
    · simpa [clearAll] using hs2

/-- `f`: the program string or the fpo formulae -/
theorem plan_refines (names : List String) (w : CfiStackWalker) (hx : w.cpu = .ctx .X86) (c : Caller)
    (hsim : Sim w c) (f : Walker → Outcome Plan) :
    Refines w
      (match f (readOf w) with
       | .panic s => .panic s
       | .ok p => .ok (runPlan (clearAll names c) p))
      (match clearAllReal names w with
       | .panic s => .panic s
       | .ok w1 =>
         match f (readOf w1) with
         | .panic s => .panic s
         | .ok p => runPlanReal w1 p) := by
  obtain ⟨w1, h1, hsc1, hs1⟩ := clearAll_refines names w hx c hsim
  simp only [h1, hsc1.readOf]
  cases f (readOf w) with
  | panic s => exact Refines.panic w s
  | ok p =>
    obtain ⟨w2, h2, hsc2, hs2⟩ := applySets_refines p.sets w1 (hsc1.cpu.trans hx) _ hs1
    simp only [runPlanReal, h2, runPlan]
    exact Refines.ok _ (hsc1.trans hsc2) (by simpa [runPlan] using hs2)

/-- a STACK CFI continuation on the real walker and its C07 counterpart act alike -/
def CfiRefines (cfiR : Option Script) (cfi : Option (Caller → Option Caller)) : Prop :=
  match cfiR, cfi with
  | none, none => True
  | some f, some g => ∀ w c, w.cpu = .ctx .X86 → Sim w c →
      match g c with
      | some c' => ∃ w', f w = .ok (true, w') ∧ SameCallee w w' ∧ Sim w' c'
      | none => ∃ w', f w = .ok (false, w')
  | _, _ => False

theorem winResult_refines (w : CfiStackWalker) (hx : w.cpu = .ctx .X86) (c : Caller) (hsim : Sim w c)
    (names : List String) (fd fpo : Option SInfo) :
    Refines w (winResult names fd fpo (readOf w) c) (winResultReal names fd fpo w) := by
  unfold winResult winResultReal
  cases fd with
  | some i =>
    simp only [walkFramedata, walkFramedataReal]
    cases i.thing with
    | abp x => exact Refines.panic w _
    | prog expr => exact plan_refines names w hx c hsim (evalWin expr i.info)
  | none =>
    cases fpo with
    | none => exact Refines.ok false (SameCallee.rfl' w) hsim
    | some i =>
      simp only [walkFpo, walkFpoReal]
      cases i.thing with
      | prog x => exact Refines.panic w _
      | abp x => exact plan_refines names w hx c hsim (fpoPlan i.info x)

/-- `Refines` passes through `win_stack_result.or_else(|| walk_with_stack_cfi(..))`: a success is final on
    both sides, after a `None` the continuations run on related walkers -/
theorem Refines.orElseCfi {w : CfiStackWalker} {r : Outcome (Bool × Caller)} {R : Outcome (Bool × CfiStackWalker)}
    (h : Refines w r R) (hx : w.cpu = .ctx .X86) {cfiR : Option Script} {cfi : Option (Caller → Option Caller)}
    (hcfi : CfiRefines cfiR cfi) : Refines w (Win.orElseCfi cfi r) (orElseCfiReal cfiR R) := by
  obtain ⟨hp, hok⟩ := h
  cases r with
  | panic s =>
    rw [hp s rfl]
    exact Refines.panic w s
  | ok r =>
    obtain ⟨b, c1⟩ := r
    obtain ⟨w1, h1, hsc1, hs1⟩ := hok b c1 rfl
    rw [h1]
    cases b with
    | true => exact Refines.ok true hsc1 hs1
    | false =>
      cases cfiR with
      | none =>
        cases cfi with
        | some g => exact hcfi.elim
        | none => exact Refines.ok false hsc1 hs1
      | some f =>
        cases cfi with
        | none => exact hcfi.elim
        | some g =>
          have h := hcfi w1 c1 (hsc1.cpu.trans hx) hs1
          simp only [Win.orElseCfi, orElseCfiReal]
          cases hg : g c1 with
          | none =>
            rw [hg] at h
            obtain ⟨w2, h2⟩ := h
            simp only [h2]
            exact Refines.ok false hsc1 hs1
          | some c2 =>
            rw [hg] at h
            obtain ⟨w2, h2, hsc2, hs2⟩ := h
            simp only [h2]
            exact Refines.ok true (hsc1.trans hsc2) hs2

/-- the record C07's theorems are about, read off the real walker: the ten cells of CONTEXT_X86 and
    the part of the validity set that names them -/
def callerOf (w : CfiStackWalker) : Caller :=
  { vals := x86Regs.map fun s => (s, UInt32.ofNat (rawOf .X86 w.callerCtx s))
    valid := x86Regs.filter fun s => w.callerValidity.contains s
    clears := []
    log := [] }

theorem callerOf_sim (w : CfiStackWalker)
    (hcells : ∀ s ∈ x86Regs, rawOf .X86 w.callerCtx s < 2 ^ 32) : Sim w (callerOf w) := by
  intro s hs
  unfold WinSim callerOf
  simp only [List.mem_filter, List.contains_iff_mem]
  refine ⟨⟨fun h => h.2, fun h => ⟨hs, h⟩⟩, fun _ => ?_⟩
  rw [Vars.get_map, if_pos hs]
  simp only [Option.map_some, Option.some.injEq]
  rw [UInt32.toNat_ofNat']
  exact Nat.mod_eq_of_lt (hcells s hs)

end MdModel.WinWalker
