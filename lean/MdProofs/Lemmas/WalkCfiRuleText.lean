/-
  C04: the renderings of the canonical STACK CFI rules (`canonicalRule`, `leafRule`: the dumper's
  spelling, what the Rust generator emits) tokenize to the token lists the precondition is stated on
  (`canonicalToks`, `leafToks`), for every frame size below 2^63.

  The rule text is a few fixed pieces around the decimal frame size. A blank separates the tokens
  on its two sides whatever they are (`tokenize_append_blank`), a decimal numeral is one literal
  token (`tokenize_nat`, through core's `Nat.ofDigitChars_ten_toDigits`); what is left are
  the fixed pieces, tokenized per architecture by kernel evaluation. They are turned into character
  lists first (`String.toList_ofList` rewrites a literal at no cost): `String.toList` itself decodes
  UTF-8 in the kernel and is by far the dearest step of an evaluation on strings.
-/
import MdModel.Walk.Layout
namespace MdModel.Walk
open MdModel

theorem splitWsAux_append_ws (l1 l2 : List Char) (c : Char) (hc : isWs c = true) :
    ∀ cur, splitWsAux (l1 ++ c :: l2) cur = splitWsAux l1 cur ++ splitWsAux l2 [] := by
  induction l1 with
  | nil =>
    intro cur
    simp only [List.nil_append, splitWsAux, hc, if_true]
    split <;> rfl
  | cons d l1 ih =>
    intro cur
    simp only [List.cons_append, splitWsAux, ih]
    split
    · split <;> rfl
    · rfl

theorem tokenize_append_blank (s t : String) : tokenize (s ++ " " ++ t) = tokenize s ++ tokenize t := by
  have hb : " ".toList = [' '] := String.toList_ofList
  simp only [tokenize, splitWsL, String.toList_append, hb, List.append_assoc, List.singleton_append,
    splitWsAux_append_ws _ _ ' ' rfl, List.map_append]

theorem splitWsAux_noWs (D : List Char) (hws : ∀ c ∈ D, isWs c = false) :
    ∀ cur, (D ≠ [] ∨ cur ≠ []) → splitWsAux D cur = [cur.reverse ++ D] := by
  induction D with
  | nil =>
    intro cur h
    have hc : cur ≠ [] := h.resolve_left (fun h => h rfl)
    simp [splitWsAux, hc]
  | cons d D ih =>
    intro cur _
    have hd := hws d List.mem_cons_self
    simp only [splitWsAux, hd, Bool.false_eq_true, if_false]
    rw [ih (fun c hc => hws c (List.mem_cons_of_mem _ hc)) (d :: cur) (Or.inr (List.cons_ne_nil _ _))]
    simp

theorem classifyRL_toDigits (n : Nat) (hn : n < 2 ^ 63) : classifyRL (Nat.toDigits 10 n) = .tok (.lit n) := by
  have hdig : ∀ c ∈ Nat.toDigits 10 n, c.isDigit = true := fun c hc =>
    Nat.isDigit_of_mem_toDigits (by decide) (by decide) hc
  have hne : Nat.toDigits 10 n ≠ [] := Nat.toDigits_ne_nil
  have hval : (Nat.toDigits 10 n).foldl (fun acc c => acc * 10 + (c.toNat - '0'.toNat)) 0 = n := by
    have := Nat.ofDigitChars_ten_toDigits (n := n)
    rw [Nat.ofDigitChars_eq_foldl] at this
    simpa only [Nat.mul_comm] using this
  generalize Nat.toDigits 10 n = D at hdig hne hval
  -- a character that is no digit does not occur in `D`
  have hnot : ∀ x : Char, x.isDigit = false → x ∉ D := fun x hx hm => by rw [hdig x hm] at hx; cases hx
  have hcons : ∀ (x : Char) (l : List Char), x.isDigit = false → D ≠ x :: l := fun x l hx h =>
    hnot x hx (h ▸ List.mem_cons_self)
  have hlast : D.getLast? ≠ some ':' := fun h => hnot ':' (by decide) (List.mem_of_getLast? h)
  have hdollar : D.contains '$' = false := by
    simpa using hnot '$' (by decide)
  have hparse : parseI64L D = some n := by
    unfold parseI64L
    have hall : D.all Char.isDigit = true := List.all_eq_true.mpr hdig
    split
    rename_i neg ds heq
    split at heq
    · exact absurd List.mem_cons_self (hnot '-' (by decide))
    · exact absurd List.mem_cons_self (hnot '+' (by decide))
    · cases heq
      have h1 : ¬ (D.isEmpty = true ∨ (!D.all Char.isDigit) = true) := by simp [hne, hall]
      simp only [if_neg h1, hval, Bool.false_eq_true, if_false, if_pos hn]
  simp only [classifyRL, if_neg hlast, classifyL, if_neg (hcons '+' _ (by decide)), if_neg (hcons '-' _ (by decide)),
    if_neg (hcons '*' _ (by decide)), if_neg (hcons '/' _ (by decide)), if_neg (hcons '%' _ (by decide)),
    if_neg (hcons '@' _ (by decide)), if_neg (hcons '^' _ (by decide)), if_neg (hcons '.' _ (by decide)), hdollar,
    hparse, Bool.false_eq_true, if_false]

theorem tokenize_nat (n : Nat) (hn : n < 2 ^ 63) : tokenize (toString n) = [.tok (.lit n)] := by
  have hws : ∀ c ∈ Nat.toDigits 10 n, isWs c = false := fun c hc => by
    have hd := Nat.isDigit_of_mem_toDigits (by decide) (by decide) hc
    cases hw : isWs c with
    | false => rfl
    | true =>
      simp only [isWs, Bool.or_eq_true, decide_eq_true_eq] at hw
      rcases hw with (((rfl | rfl) | rfl) | rfl) | rfl <;> exact absurd hd (by decide)
  rw [tokenize, show (toString n).toList = _ from Nat.toList_repr, splitWsL,
    splitWsAux_noWs _ hws [] (Or.inl Nat.toDigits_ne_nil)]
  simp only [List.reverse_nil, List.nil_append, List.map_cons, List.map_nil, classifyRL_toDigits n hn]

theorem tokenize_num (s t : String) (n : Nat) (hn : n < 2 ^ 63) :
    tokenize (s ++ " " ++ toString n ++ " " ++ t) = tokenize s ++ .tok (.lit n) :: tokenize t := by
  rw [show s ++ " " ++ toString n ++ " " ++ t = s ++ " " ++ (toString n ++ " " ++ t) by
    simp only [String.append_assoc], tokenize_append_blank, tokenize_append_blank, tokenize_nat n hn]
  rfl

/-- `$` in front of register names on x86, x86-64 and MIPS -/
def ruleSigil (a : Arch) : String := if a = .x86 ∨ a = .amd64 ∨ a.isMips then "$" else ""

theorem tokenize_cfaPiece (a : Arch) :
    tokenize (".cfa: " ++ ruleSigil a ++ a.spName) = [.label .cfa, .tok (spTok a)] := by
  cases a <;> simp only [tokenize, ruleSigil, Arch.spName, Arch.isMips, String.toList_append, reduceCtorEq, or_self,
    or_true, true_or, Bool.false_eq_true, if_true, if_false] <;>
    rw [String.toList_ofList, String.toList_ofList, String.toList_ofList] <;> decide +kernel

theorem tokenize_raPiece (a : Arch) :
    tokenize ("+ .ra: .cfa -" ++ toString a.ptr ++ " + ^") =
      [.tok .add, .label .ra, .tok .cfa, .tok (.lit (2 ^ 64 - a.ptr)), .tok .add, .tok .deref] := by
  simp only [tokenize, String.toList_append]
  rw [String.toList_ofList, String.toList_ofList, show (toString a.ptr).toList = _ from Nat.toList_repr]
  cases a <;> decide +kernel

theorem tokenize_fpPiece (a : Arch) :
    tokenize (ruleSigil a ++ a.fpName ++ ": .cfa -" ++ toString (2 * a.ptr) ++ " + ^") =
      [.label (.other a.fpName), .tok .cfa, .tok (.lit (2 ^ 64 - 2 * a.ptr)), .tok .add, .tok .deref] := by
  cases a <;> simp only [tokenize, ruleSigil, Arch.fpName, Arch.isMips, String.toList_append, reduceCtorEq, or_self,
    or_true, true_or, Bool.false_eq_true, if_true, if_false] <;>
    rw [String.toList_ofList, String.toList_ofList, String.toList_ofList, String.toList_ofList,
      show ∀ n : Nat, (toString n).toList = _ from fun _ => Nat.toList_repr] <;> decide +kernel

theorem tokenize_canonicalRule (a : Arch) (n : Nat) (hn : n < 2 ^ 63) (b : Bool) :
    tokenize (canonicalRule a n b) = canonicalToks a n b := by
  -- the text re-bracketed around the frame size (`" + .ra: .cfa -"` is `" " ++ "+ .ra: .cfa -"`)
  have hbase : canonicalRule a n false =
      ".cfa: " ++ ruleSigil a ++ a.spName ++ " " ++ toString n ++ " " ++ ("+ .ra: .cfa -" ++ toString a.ptr ++ " + ^") := by
    show ".cfa: " ++ ruleSigil a ++ a.spName ++ " " ++ toString n ++ (" " ++ "+ .ra: .cfa -") ++ toString a.ptr ++ " + ^" = _
    simp only [String.append_assoc]
  cases b
  · rw [hbase, tokenize_num _ _ n hn, tokenize_cfaPiece, tokenize_raPiece]
    rfl
  · have htrue : canonicalRule a n true = ".cfa: " ++ ruleSigil a ++ a.spName ++ " " ++ toString n ++ " " ++
        ("+ .ra: .cfa -" ++ toString a.ptr ++ " + ^" ++ " " ++
          (ruleSigil a ++ a.fpName ++ ": .cfa -" ++ toString (2 * a.ptr) ++ " + ^")) := by
      show canonicalRule a n false ++ " " ++ ruleSigil a ++ a.fpName ++ ": .cfa -" ++ toString (2 * a.ptr) ++ " + ^" = _
      rw [hbase]
      simp only [String.append_assoc]
    rw [htrue, tokenize_num _ _ n hn, tokenize_append_blank, tokenize_cfaPiece, tokenize_raPiece, tokenize_fpPiece]
    rfl

theorem tokenize_leafRule (a : Arch) : tokenize (leafRule a) = leafToks a := by
  cases a <;> simp only [tokenize, leafRule, Arch.isMips, Bool.false_eq_true, if_true, if_false] <;>
    rw [show ∀ s : String, (toString s).toList = s.toList from fun _ => rfl, String.toList_ofList] <;>
    decide +kernel

end MdModel.Walk
