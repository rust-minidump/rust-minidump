/-
  Bridge C06 ↔ walker model, part 3: the expression evaluator.

  `MdModel.Walk.evalCfi` (classified tokens, `Nat` values reduced modulo 2^64 by hand) and
  `MdModel.Cfi.evalToks` (`UInt64`) are the same function of the token list, the register file,
  the memory and the CFA, once the environments are related (`EnvSim`) — for token lists of any
  length and any content.
-/
import MdProofs.Lemmas.CfiBridgeLex
import MdProofs.Lemmas.Cfi
namespace MdModel.CfiBridge
open MdModel

/-- **Simulation relation on what an expression can observe.** The walker model reads callee
    registers by name (`String`) and stack memory by address (`Nat`); the C06 model by UTF-8 name
    and `UInt64` address. Related = same answers, as numbers. (Hence every value the walker side
    can read is `< 2^64`.) -/
structure EnvSim (x : Walk.CfiIn) (env : Cfi.Env) : Prop where
  reg : ∀ n : String, x.reg n = (env.reg (utf8 n)).map UInt64.toNat
  deref : ∀ a : UInt64, x.deref a.toNat = (env.deref a).map UInt64.toNat

/-- literals are 64-bit values (true of every token the lexer produces: `classifyL_wf`) -/
def ETokWf : Walk.ETok → Prop
  | .lit v => v < 2 ^ 64
  | _ => True

theorem classifyL_wf (tok : List Char) : ETokWf (Walk.classifyL tok) := by
  by_cases h : tok ∈ fixedL
  · simp only [fixedL, List.mem_cons, List.not_mem_nil, or_false] at h
    rcases h with rfl | rfl | rfl | rfl | rfl | rfl | rfl | rfl | rfl <;> trivial
  · rw [classifyL_of_not_fixed tok h]
    split
    · trivial
    · split
      · exact parseI64L_lt tok _ ‹_›
      · trivial

def walkBin : Cfi.BinOp → Nat → Nat → Option Nat
  | .add, l, r => some ((l + r) % Walk.W64)
  | .sub, l, r => some ((l + Walk.W64 - r) % Walk.W64)
  | .mul, l, r => some ((l * r) % Walk.W64)
  | .div, l, r => if r = 0 then none else some (l / r)
  | .rem, l, r => if r = 0 then none else some (l % r)
  | .align, l, r => if Walk.isPow2 r then some (l - l % r) else none

theorem evalCfi_bin (x : Walk.CfiIn) (cfa : Option Nat) {tok : Walk.ETok} {o : Cfi.BinOp}
    (ho : tokOf tok = .bin o) (rest : List Walk.ETok) (st : List Nat) :
    Walk.evalCfi x cfa (tok :: rest) st =
      match st with
      | r :: l :: st' =>
        match walkBin o l r with
        | some v => Walk.evalCfi x cfa rest (v :: st')
        | none => none
      | _ => none := by
  cases tok <;> cases ho <;> rw [Walk.evalCfi]
  all_goals
    match st with
    | [] => rfl
    | [_] => rfl
    | r :: l :: st' =>
      simp only [walkBin]
      try (split <;> rename_i h <;> simp only [h])

theorem walk_isPow2_iff (r : UInt64) : Walk.isPow2 r.toNat = true ↔ ∃ k, k < 64 ∧ r.toNat = 2 ^ k := by
  have h : Walk.isPow2 r.toNat = true ↔ (r.toNat ≠ 0 ∧ r.toNat &&& (r.toNat - 1) = 0) := by
    simp [Walk.isPow2]
  rw [h, Nat.ne_zero_and_sub_one_eq_zero_iff_isPowerOfTwo]
  constructor
  · rintro ⟨k, hk⟩
    refine ⟨k, ?_, hk⟩
    have hlt := r.toNat_lt
    rw [hk] at hlt
    exact (Nat.pow_lt_pow_iff_right (by omega)).mp hlt
  · rintro ⟨k, _, hk⟩; exact ⟨k, hk⟩

theorem u64_toNat_ofNat_lt (n : Nat) (h : n < 2 ^ 64) : (UInt64.ofNat n).toNat = n :=
  UInt64.toNat_ofNat_of_lt' h

theorem walkBin_eq (o : Cfi.BinOp) (l r : UInt64) :
    walkBin o l.toNat r.toNat = (Cfi.applyBin o l r).map UInt64.toNat := by
  have hl := l.toNat_lt
  have hr := r.toNat_lt
  cases o
  · simp only [walkBin, Cfi.applyBin, Option.map_some, UInt64.toNat_add, Walk.W64]
  · simp only [walkBin, Cfi.applyBin, Option.map_some, UInt64.toNat_sub, Walk.W64]
    congr 2; omega
  · simp only [walkBin, Cfi.applyBin, Option.map_some, UInt64.toNat_mul, Walk.W64]
  · simp only [walkBin, Cfi.applyBin, Cfi.u64_eq_zero_iff]
    split
    · rfl
    · rw [Option.map_some, UInt64.toNat_div]
  · simp only [walkBin, Cfi.applyBin, Cfi.u64_eq_zero_iff]
    split
    · rfl
    · rw [Option.map_some, UInt64.toNat_mod]
  · rw [Cfi.applyBin_eq_binSem]
    simp only [walkBin, Cfi.binSem]
    by_cases hp : ∃ k, k < 64 ∧ r.toNat = 2 ^ k
    · have := (walk_isPow2_iff r).mpr hp
      simp only [this, hp, if_true, Option.map_some]
      rw [u64_toNat_ofNat_lt _ (by omega)]
    · have : Walk.isPow2 r.toNat = false := Bool.eq_false_iff.mpr (mt (walk_isPow2_iff r).mp hp)
      simp [this, hp]

theorem single_map (r : Option Cfi.Stack) :
    (Cfi.single r).map UInt64.toNat =
      match r.map (·.map UInt64.toNat) with
      | some [v] => some v
      | _ => none := by
  cases r with
  | none => rfl
  | some st =>
    match st with
    | [] => rfl
    | [_] => rfl
    | _ :: _ :: _ => rfl

theorem evalCfi_run (x : Walk.CfiIn) (env : Cfi.Env) (h : EnvSim x env) (cfa : Option UInt64)
    (ts : List Walk.ETok) (hwf : ∀ t ∈ ts, ETokWf t) (st : Cfi.Stack) :
    Walk.evalCfi x (cfa.map UInt64.toNat) ts (st.map UInt64.toNat) =
      (Cfi.single (Cfi.run env cfa (ts.map tokOf) st)).map UInt64.toNat := by
  induction ts generalizing st with
  | nil =>
    simp only [List.map_nil, Cfi.run, Walk.evalCfi]
    match st with
    | [] => rfl
    | [_] => rfl
    | _ :: _ :: _ => rfl
  | cons tok rest ih =>
    obtain ⟨htok, hrest⟩ := List.forall_mem_cons.mp hwf
    have bin : ∀ o : Cfi.BinOp, tokOf tok = .bin o →
        Walk.evalCfi x (cfa.map UInt64.toNat) (tok :: rest) (st.map UInt64.toNat) =
          (Cfi.single (Cfi.run env cfa ((tok :: rest).map tokOf) st)).map UInt64.toNat := by
      intro o ho
      rw [evalCfi_bin x _ ho, List.map_cons, ho]
      simp only [Cfi.run, Cfi.step]
      match st with
      | [] => rfl
      | [_] => rfl
      | r :: l :: st' =>
        simp only [List.map_cons, walkBin_eq]
        cases Cfi.applyBin o l r with
        | none => rfl
        | some v => exact ih hrest (v :: st')
    cases tok with
    | add | sub | mul | div | rem | align => exact bin _ rfl
    | deref =>
      simp only [List.map_cons, tokOf, Cfi.run, Cfi.step, Walk.evalCfi]
      match st with
      | [] => rfl
      | p :: st' =>
        simp only [List.map_cons, h.deref p]
        cases env.deref p with
        | none => rfl
        | some v => exact ih hrest (v :: st')
    | cfa =>
      simp only [List.map_cons, tokOf, Cfi.run, Cfi.step, Walk.evalCfi]
      cases cfa with
      | none => rfl
      | some v => exact ih hrest (v :: st)
    | undef => rfl
    | dollar n | bare n =>
      simp only [List.map_cons, tokOf, Cfi.run, Cfi.step, Walk.evalCfi, h.reg n]
      cases env.reg (utf8 n) with
      | none => rfl
      | some v => exact ih hrest (v :: st)
    | lit v =>
      have hv : v < 2 ^ 64 := htok
      simp only [List.map_cons, tokOf, Cfi.run, Cfi.step, Walk.evalCfi]
      have := ih hrest (UInt64.ofNat v :: st)
      simp only [List.map_cons, u64_toNat_ofNat_lt v hv] at this
      exact this

theorem evalCfi_toks (x : Walk.CfiIn) (env : Cfi.Env) (h : EnvSim x env) (cfa : Option UInt64)
    (ts : List Walk.ETok) (hwf : ∀ t ∈ ts, ETokWf t) :
    Walk.evalCfi x (cfa.map UInt64.toNat) ts [] =
      (Cfi.evalToks env cfa (ts.map tokOf)).map UInt64.toNat :=
  evalCfi_run x env h cfa ts hwf []

theorem evalCfi_bridge (x : Walk.CfiIn) (env : Cfi.Env) (h : EnvSim x env) (cfa : Option UInt64)
    (ew : List Walk.ETok) (ec : Cfi.Expr) (he : ec.map Cfi.classify = ew.map tokOf)
    (hwf : ∀ t ∈ ew, ETokWf t) :
    Walk.evalCfi x (cfa.map UInt64.toNat) ew [] = (Cfi.evalCfi env cfa ec).map UInt64.toNat := by
  rw [evalCfi_toks x env h cfa ew hwf, Cfi.evalCfi, he]

end MdModel.CfiBridge
