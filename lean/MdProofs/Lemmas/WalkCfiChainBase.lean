/-
  C04, the base chain of canonical STACK CFI records (at most the frame pointer saved; `Pre … .cfi`, the
  predicate the `chain` engine evaluates): the link `cfiLink` read off into cases (`cfiLink_cases`), matched
  with the closed form `cfiFrame` of the expected frame (`cfiOf_link`), one `get_caller_frame`
  (`step_cfi`), the invariant along the chain, and what `preCfiFrom` (the model's precondition, threaded
  through lookup address, sp, fp, lr) gives of one frame (`preCfiFrom_cons`): the two implications the
  chain induction `walkLoop_follows` asks for.
-/
import MdProofs.Lemmas.WalkCfiChainInv
namespace MdModel.Walk
open MdModel

def savesFpAt (w : World) (a : Arch) (instr bytes : Nat) : Bool :=
  match cfiRecordAt w instr with
  | some rec => decide (tokenize rec.init = canonicalToks a bytes true)
  | none => false

/-- the frame the walker must produce for the expected caller `e` of the frame `st` of a CFI chain:
    the callee's registers with ip := generated return address, sp := generated stack pointer,
    the frame pointer := the claimed one where the record saves it (on ARM64 always: the
    ptr-auth strip rewrites it), validity = forwarded callee-saved registers + sp + ip -/
def cfiFrame (w : World) (a : Arch) (st : Frame) (e : Exp) : Frame :=
  let sets := savesFpAt w a st.instruction (e.sp - st.ctx.sp) || a == .arm64 || a == .arm64old
  { ctx := { ip := e.ret, sp := e.sp,
             rest := if sets then assocSet st.ctx.rest a.fpName (e.fp.getD 0) else st.ctx.rest,
             valid := some (validAfter a), m64 := st.ctx.m64 },
    trust := .cfi, instruction := e.ret - a.adj }

def cfiLink (w : World) (a : Arch) (mask : Nat) (mem : Mem) (st : Frame) (e : Exp) : Bool :=
  linkCfi w a mask mem st.instruction st.ctx.sp (st.ctx.raw a a.fpName) (st.ctx.raw a (lrName a))
    (st.trust == .context) e

theorem cfiLink_cases {a : Arch} {w : World} {mask : Nat} {mem : Mem} {f : Frame} {e : Exp}
    (hl : cfiLink w a mask mem f e = true) :
    4096 ≤ e.ret ∧ e.sp ≤ a.regMax ∧ ∃ rec, cfiRecordAt w f.instruction = some rec ∧ rec.adds = [] ∧
      ((f.trust = .context ∧ a.leafOk = true ∧ tokenize rec.init = leafToks a ∧ e.sp = f.ctx.sp ∧
          f.ctx.raw a (lrName a) ≤ a.regMax ∧ e.ret = stripOf a mask (f.ctx.raw a (lrName a)) ∧
          e.fp = some (stripOf a mask (f.ctx.raw a a.fpName))) ∨
       (f.ctx.sp < e.sp ∧ a.ptr ≤ e.sp - f.ctx.sp ∧
          (∃ ret, mem.read (e.sp - a.ptr) a.ptr = some ret ∧ e.ret = stripOf a mask ret) ∧
          ((tokenize rec.init = canonicalToks a (e.sp - f.ctx.sp) true ∧ 2 * a.ptr ≤ e.sp - f.ctx.sp ∧
              ∃ v, mem.read (e.sp - 2 * a.ptr) a.ptr = some v ∧ e.fp = some (stripOf a mask v)) ∨
           (tokenize rec.init ≠ canonicalToks a (e.sp - f.ctx.sp) true ∧
              tokenize rec.init = canonicalToks a (e.sp - f.ctx.sp) false ∧
              e.fp = some (stripOf a mask (f.ctx.raw a a.fpName)))))) := by
  unfold cfiLink linkCfi at hl
  simp only [Bool.and_eq_true, decide_eq_true_eq] at hl
  obtain ⟨⟨⟨h4096, hspmax⟩, _⟩, hm⟩ := hl
  refine ⟨h4096, hspmax, ?_⟩
  cases hrec : cfiRecordAt w f.instruction with
  | none => rw [hrec] at hm; cases hm
  | some rec =>
    rw [hrec] at hm
    simp only [Bool.and_eq_true, List.isEmpty_iff] at hm
    obtain ⟨hadds, hm⟩ := hm
    refine ⟨rec, rfl, hadds, ?_⟩
    split at hm
    · rename_i hleaf
      simp only [Bool.and_eq_true, decide_eq_true_eq, beq_iff_eq] at hm hleaf
      exact Or.inl ⟨hleaf.1, hleaf.2.1, hleaf.2.2, hm.1.1.1, hm.1.1.2, hm.1.2, hm.2⟩
    · simp only [Bool.and_eq_true, decide_eq_true_eq, beq_iff_eq, Option.map_eq_some_iff] at hm
      obtain ⟨⟨⟨hlt, hpb⟩, ret, hrd, hret⟩, hm⟩ := hm
      refine Or.inr ⟨hlt, hpb, ⟨ret, hrd, hret.symm⟩, ?_⟩
      split at hm
      · rename_i hsv
        simp only [Bool.and_eq_true, decide_eq_true_eq, beq_iff_eq] at hm
        obtain ⟨⟨h2p, hfpv⟩, hsome⟩ := hm
        obtain ⟨v0, hv0⟩ := Option.isSome_iff_exists.mp hsome
        rw [hv0, Option.map_eq_some_iff] at hfpv
        obtain ⟨v, hrf, hv⟩ := hfpv
        exact Or.inl ⟨hsv, h2p, v, hrf, by rw [hv0, hv]⟩
      · rename_i hsv
        simp only [Bool.and_eq_true, decide_eq_true_eq, beq_iff_eq] at hm
        exact Or.inr ⟨hsv, hm.1, hm.2⟩

theorem cfiOf_link {a : Arch} {w : World} {mask : Nat} {mem : Mem} {f : Frame} {g : Option Frame} {e : Exp}
    (hinv : CfiInv a f) (hl : cfiLink w a mask mem f e = true) :
    cfiOf a w (modTable w.mods) (cfiTables w) mask mem f g = some (cfiFrame w a f e).ctx := by
  obtain ⟨_, hspmax, rec, hrec, hadds, hc⟩ := cfiLink_cases hl
  have hval := hinv.valid
  have heff := hinv.1
  have hfwd : ∀ ip0, e.ret = stripOf a mask ip0 → savesFpAt w a f.instruction (e.sp - f.ctx.sp) = false →
      e.fp = some (stripOf a mask (f.ctx.raw a a.fpName)) →
      some (cfiCaller a mask { ctx := { f.ctx with sp := e.sp, ip := ip0 }, valid := validAfter a }) =
        some (cfiFrame w a f e).ctx := by
    intro ip0 hip hs hefp
    simp only [cfiCaller_validAfter, cfiFrame, hs, hefp, ← hip, raw_fpName, Bool.false_or, Option.getD_some, Bool.or_eq_true,
      beq_iff_eq, stripOf_eq]
    -- on ARM64 the forwarded frame pointer is stripped
    by_cases h64 : a = .arm64 ∨ a = .arm64old
    · simp only [if_pos h64, fpName_arm64 h64]
    · simp only [if_neg h64]
  rcases hc with ⟨hctx, hleaf, htoks, hesp, hlrmax, heret, hefp⟩ | ⟨hlt, hpb, ⟨ret, hrd, heret⟩, hc⟩
  · rw [cfiOf_leaf heff (hinv.valid_none hctx) hrec hadds hleaf htoks (by omega) hlrmax]
    rw [hesp] at hfwd
    refine hfwd _ heret ?_ hefp
    simp only [savesFpAt, hrec, htoks, decide_eq_false_iff_not]
    exact fun h => by simpa [leafToks, canonicalToks] using congrArg List.length h
  · rcases hc with ⟨hsv, h2p, v, hrf, hefp⟩ | ⟨hsv, hns, hefp⟩
    · -- one group: the frame pointer, two words below the CFA
      have hp8 := ptr_le_eight a
      have hW := regMax_lt a
      have hslot : (e.sp + (2 ^ 64 - 2 * a.ptr)) % W64 = e.sp - 2 * a.ptr := by unfold W64; omega
      rw [cfiOf_canonG (saved := [(a.fpName, 2 ^ 64 - 2 * a.ptr)]) heff hval hrec hadds (by rw [hsv]; rfl) hlt hpb
        hspmax hrd (by simp) (by
          intro g hg
          rw [List.mem_singleton.mp hg]
          exact ⟨(fpName_calleeSaved a).1, (fpName_calleeSaved a).2, by simp only [hslot, hrf]; rfl⟩)]
      have hs : savesFpAt w a f.instruction (e.sp - f.ctx.sp) = true := by
        simp only [savesFpAt, hrec, hsv, decide_true]
      simp only [cfiCaller_validAfter, cfiFrame, hs, hefp, ← heret, byName, List.mergeSort_singleton, List.foldl_cons,
        List.foldl_nil, slotWord, hslot, hrf, Bool.true_or, Option.getD_some, if_true, stripOf_eq]
      -- … and so is the one just set
      by_cases h64 : a = .arm64 ∨ a = .arm64old
      · simp only [if_pos h64, fpName_arm64 h64, assocGet_assocSet_same, assocSet_assocSet_same]
      · simp only [if_neg h64]
    · rw [cfiOf_canonG (saved := []) heff hval hrec hadds (by rw [hns]; simp [canonToksS, canonicalToks]) hlt hpb hspmax hrd
        List.nodup_nil (fun g hg => absurd hg List.not_mem_nil), byName, List.mergeSort_nil, List.foldl_nil]
      refine hfwd _ heret ?_ hefp
      simp only [savesFpAt, hrec, hsv, decide_false]

theorem step_cfi {env : Env} {a : Arch} {w : World} {mem : Mem} (harch : env.arch = a)
    (hcfi : env.cfi = cfiOf a w (modTable w.mods) (cfiTables w) env.mask mem)
    (f : Frame) (g : Option Frame) (st : Frame) (e : Exp)
    (hv : CfiView a f st) (hl : cfiLink w a env.mask mem st e = true) :
    step env mem f g = some (cfiFrame w a st e) := by
  subst harch
  have hinv := hv.inv
  obtain ⟨h1, h2, h3, _⟩ := hv
  have hfe : cfiFrame w env.arch st e = cfiFrame w env.arch f e := by unfold cfiFrame; rw [h1, h3]
  have hl' : cfiLink w env.arch env.mask mem f e = true := by unfold cfiLink at hl ⊢; rw [h1, h2, h3]; exact hl
  obtain ⟨h4096, _, rec, _, _, hc⟩ := cfiLink_cases hl'
  rw [hfe]
  refine step_cfi_accept (by rw [hcfi]; exact cfiOf_link hinv hl') h4096 ?_
  rcases hc with ⟨hctx, hleaf, _, hesp, _⟩ | ⟨hlt, _⟩
  · exact Or.inr ⟨hleaf, hctx, hesp⟩
  · exact Or.inl hlt

theorem cfiFrame_fp {a : Arch} {w : World} {mask : Nat} {mem : Mem} {f : Frame} {e : Exp}
    (hl : cfiLink w a mask mem f e = true) : e.fp = some ((cfiFrame w a f e).ctx.raw a a.fpName) := by
  obtain ⟨_, _, rec, hrec, _, hc⟩ := cfiLink_cases hl
  rw [raw_fpName]
  unfold cfiFrame
  simp only
  split
  · rw [assocGet_assocSet_same]
    rcases hc with ⟨_, _, _, _, _, _, hefp⟩ | ⟨_, _, _, ⟨_, _, _, _, hefp⟩ | ⟨_, _, hefp⟩⟩ <;> rw [hefp] <;> rfl
  · -- forwarded, off ARM64: the claimed one is the callee's
    rename_i hsets
    simp only [Bool.or_eq_true, beq_iff_eq, not_or, savesFpAt, hrec, decide_eq_true_eq] at hsets
    obtain ⟨⟨hs, h1⟩, h2⟩ := hsets
    have hid : ∀ v, stripOf a mask v = v := fun v => by rw [stripOf_eq, if_neg (by simp [h1, h2])]
    rcases hc with ⟨_, _, _, _, _, _, hefp⟩ | ⟨_, _, _, ⟨hsv, _⟩ | ⟨_, _, hefp⟩⟩
    · rw [hefp, hid, raw_fpName]
    · exact absurd hsv hs
    · rw [hefp, hid, raw_fpName]

theorem cfiFrame_view {a : Arch} {w : World} {mask : Nat} {mem : Mem} {f st : Frame} (e : Exp)
    (hv : CfiView a f st) (hl : cfiLink w a mask mem st e = true) :
    CfiView a (cfiFrame w a st e) (cfiFrame w a st e) :=
  ⟨rfl, rfl, rfl, hv.2.2.2.1, Or.inr ⟨by simp [cfiFrame], rfl⟩, (cfiLink_cases hl).2.1⟩

def expectedCfi (env : Env) (w : World) (a : Arch) : Frame → List Exp → List Frame
  | _, [] => []
  | st, e :: rest => symbolise env (cfiFrame w a st e) :: expectedCfi env w a (cfiFrame w a st e) rest

theorem preCfiFrom_cons {w : World} {a : Arch} {os : Os} {mask : Nat} {mem : Mem} {st : Frame} {lr : Nat}
    {e : Exp} {rest : List Exp} (hlr : st.trust = .context → lr = st.ctx.raw a (lrName a))
    (h : preCfiFrom w a os mask mem st.instruction st.ctx.sp (st.ctx.raw a a.fpName) lr (st.trust == .context)
      (e :: rest) = true) :
    mem.inRange st.ctx.sp = true ∧ cfiLink w a mask mem st e = true ∧
      preCfiFrom w a os mask mem (cfiFrame w a st e).instruction (cfiFrame w a st e).ctx.sp
        ((cfiFrame w a st e).ctx.raw a a.fpName) 0 ((cfiFrame w a st e).trust == .context) rest = true := by
  simp only [preCfiFrom, Bool.and_eq_true] at h
  obtain ⟨⟨hin, hl⟩, hrest⟩ := h
  have hl' : cfiLink w a mask mem st e = true := by
    unfold cfiLink
    by_cases hc : st.trust = .context
    · rw [← hlr hc]; exact hl
    · have hb : (st.trust == Trust.context) = false := by simpa using hc
      -- with `first = false` the link register plays no role
      rw [hb] at hl ⊢
      simpa [linkCfi] using hl
  refine ⟨hin, hl', ?_⟩
  have hfp : e.fp.getD 0 = (cfiFrame w a st e).ctx.raw a a.fpName := by rw [cfiFrame_fp hl']; rfl
  rw [← hfp]
  exact hrest

end MdModel.Walk
