/-
  `readAll` (the ten list / record streams and the Crashpad stream) and `readFull`
  (MdModel.DumpFull) under `Run`: no panic outcome, every allocation at most `K * len`, errors are values, at most
  110 further allocations after `readAll`.
-/
import MdModel.DumpFull
import MdProofs.Lemmas.BytesMisc
import MdProofs.Lemmas.BytesText
import MdProofs.Lemmas.BytesCrashpad
namespace MdModel.Dump
open MdModel MdModel.Gen.Layouts MdModel.Gen.LayoutsX

/-- the ten streams of `readCore` as `readAll` hands them on -/
def Parsed.core (p : Parsed) : Core :=
  ⟨p.threads, p.modules, p.unloaded, p.memory, p.memory64, p.memInfo, p.threadNames, p.threadInfo, p.handles, p.exception⟩

structure ParsedOk (b : Bytes) (p : Parsed) : Prop where
  memory : ∀ rs, p.memory = .ok rs → rs.length * 16 ≤ b.size
  memory64 : ∀ rs, p.memory64 = .ok rs → rs.length * 16 ≤ b.size
  exception : ∀ x, p.exception = .ok x → x.info.length = 15

theorem CoreOk.parsedOk {b : Bytes} {p : Parsed} (h : CoreOk b p.core) : ParsedOk b p :=
  ⟨h.memory, h.memory64, h.exception⟩

section
variable {H : Prop} {B : Nat}

theorem tableOf_run (r : Except Err (List Region)) (h : H → ∀ rs, r = .ok rs → rs.length * 32 ≤ B) :
    Run H B 2 (tableOf r) (fun _ => True) False := by
  unfold tableOf
  split
  · rename_i rs
    exact run_map (memTable_run rs (fun hH => h hH rs rfl)) (fun _ _ => trivial)
  · exact run_pure trivial

theorem macPrint_run (rs : List MacRecord) : Run H B 0 (macPrint rs) (fun _ => True) False := by
  unfold macPrint
  refine ((run_loop _ _ _ (fun _ _ => True) 0 trivial ?_).mono (Nat.le_of_eq (Nat.mul_zero _))).post
    (fun _ _ => trivial)
  intro n i hi _
  exact run_map (macRecordAt_run rs i hi) (fun _ _ => trivial)

/-- after `readAll`, `readExtra` ends in no error and makes at most 110 allocations: 2 for the system
    info, 4 for the two lookup tables, 3 for the assertion strings, at most 5 per macOS crash-info
    record (20 records at most), 1 for the boot args; contexts, stacks, text-stream iterators and
    printers make none. -/
theorem readExtra_run (b : Bytes) (p : Parsed) (hp : ParsedOk b p) (hsz : H → SliceLen b.size) :
    Run H (Bnd b) 110 (readExtra b p) (fun _ => True) False := by
  have hK : ∀ n, n ≤ b.size → 2 * n ≤ Bnd b := fun n h => by unfold Bnd K; omega
  have kv : ∀ (s : Bytes) (sep : UInt8), s.size ≤ b.size →
      Run H (Bnd b) 0 (readKvStream s sep) (fun _ => True) True := fun s sep hs =>
    (linuxListIter_run s sep (fun h => Nat.lt_of_le_of_lt hs (hsz h))).post (fun _ _ => trivial)
  have lines : ∀ s : Bytes, Run H (Bnd b) 0 (readLinesStream s) (fun _ => True) True := fun s =>
    (linesIter_run s).post (fun _ _ => trivial)
  unfold readExtra
  dsimp only
  refine RunF.mono (
    run_bind (getSystemInfo_run _ _ (fun h => ⟨hsz h, hK _ (Nat.le_refl _)⟩)) fun sys _ =>
    run_bind (tableOf_run _ (fun _ rs hrs => by have := hp.memory rs hrs; unfold Bnd K; omega)) fun t32 _ =>
    run_bind (tableOf_run _ (fun _ rs hrs => by have := hp.memory64 rs hrs; unfold Bnd K; omega)) fun t64 _ =>
    run_bind (P := fun _ => True) (A := 0) (by
      split
      · exact run_map (threadsX_run _ _ _ _ _ hsz) (fun _ _ => trivial)
      · exact run_pure trivial) fun threads _ =>
    run_bind (P := fun _ => True) (A := 0) (by
      split
      · exact run_map (contextOf_run _ _ _ _) (fun _ _ => trivial)
      · exact run_pure trivial) fun excCtx _ =>
    run_bind (P := fun _ => True) (A := 0) (by
      split
      · rename_i x si hx _
        exact run_bind0 (reasonInputs_run x (fun _ => by rw [hp.exception x hx]; decide)) (fun _ _ => run_pure trivial)
      · exact run_pure trivial) fun reason _ =>
    run_bind (P := fun _ => True) (A := 0) (by
      split
      · split
        · refine run_map (printContents_run _ (fun h => ?_)) (fun _ _ => trivial)
          have := hsz h
          unfold SliceLen at this
          simp only [Array.size_extract]; omega
        · exact run_pure trivial
      · exact run_pure trivial) fun memPrinted _ =>
    run_bind (getStream_run _ _ _ _ (fun s hs => kv s _ hs)) fun _ _ =>
    run_bind (getStream_run _ _ _ _ (fun s hs => kv s _ hs)) fun _ _ =>
    run_bind (getStream_run _ _ _ _ (fun s hs => kv s _ hs)) fun _ _ =>
    run_bind (getStream_run _ _ _ _ (fun s hs => kv s _ hs)) fun _ _ =>
    run_bind (getStream_run _ _ _ _ (fun s _ => lines s)) fun _ _ =>
    run_bind (getStream_run _ _ _ _ (fun s _ => readBreakpadInfo_run s _)) fun _ _ =>
    run_bind (getStream_run _ _ _ _ (fun s hs => readAssertion_run s _ (fun _ => by unfold Bnd K; omega))) fun _ _ =>
    run_bind (getStream_run _ _ _ _ (fun s _ => readMacCrashInfo_run s b _ (fun _ => by unfold Bnd K; omega))) fun mac _ =>
    run_bind (P := fun _ => True) (A := 0) (by
      split
      · exact macPrint_run _
      · exact run_pure trivial) fun _ _ =>
    run_bind (getStream_run _ _ _ _ (fun s _ => readMacBootargs_run s b _ (fun h => ⟨hsz h, hK _ (Nat.le_refl _)⟩))) fun _ _ =>
    run_pure (N := 0) trivial) ?_
  -- 2 + 2 + 2 + 3 + 100 + 1
  decide

end

/-- `∃ N`: the count is not linear in the file, the Crashpad stream's requests are bounded in sum only (`Charged`). -/
theorem readAll_run (ms : MemSizes) (b : Bytes) :
    ∃ N, Run (Sized ms b) (Bnd b) N (readAll ms b)
      (fun r => (∀ p, r = .ok p → CoreOk b p.core ∧ readDump b = .ok p.dump) ∧ ∀ er, r = .error er → readDump b = .error er)
      False := by
  unfold readAll
  split
  · rename_i er her
    exact ⟨0, run_pure ⟨fun _ h => (nomatch h), fun _ h => by cases h; exact her⟩⟩
  · rename_i d hd
    refine ⟨_, run_bind (readCore_run ms b d) fun c hc =>
      run_bind (getStream_runOwn _ _ _ _ fun s _ h => (readCrashpadInfo_charged ms h.1 s b _).1) (C := 0) fun _ _ =>
      run_pure ?_⟩
    exact ⟨fun p hp => (by cases hp; exact ⟨hc, hd⟩), fun _ h => (nomatch h)⟩

theorem readFull_run (ms : MemSizes) (b : Bytes) :
    ∃ N, Run (Sized ms b) (Bnd b) N (readFull ms b)
      (fun r => (∀ f, r = .ok f → CoreOk b f.base.core ∧ readDump b = .ok f.base.dump) ∧
        ∀ er, r = .error er → readDump b = .error er) False := by
  obtain ⟨N, hall⟩ := readAll_run ms b
  unfold readFull
  refine ⟨_, run_bind hall (C := 110) fun r hr => ?_⟩
  split
  · rename_i er
    exact run_pure ⟨fun _ h => (nomatch h), fun _ h => by cases h; exact hr.2 er rfl⟩
  · rename_i p
    have hp := hr.1 p rfl
    exact run_map (readExtra_run b p hp.1.parsedOk fun h => h.2)
      (fun x _ => ⟨fun f hf => (by cases hf; exact hp), fun _ h => (nomatch h)⟩)

end MdModel.Dump
