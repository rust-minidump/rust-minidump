/-
  The caller half of a `FrameWalker`, seen from outside.

  `walk_with_stack_cfi` touches the caller's registers only through `set_caller_register` and
  `clear_caller_register`, and C06 describes what that does to ONE register by `Cfi.upd`. An
  implementation of the caller half (the walker model's `CfiOut`, the real `CfiStackWalker`) is
  related to C06's `Caller` through a view `σ → String → Option Nat` ("register `s` is valid with
  this value"); all it has to show is that one rule changes its view as `Cfi.ruleView`
  (Lemmas/CfiWalk; `Cfi.upd` is that law on C06's `Caller`) says. That the whole loop then agrees
  with C06's, register by register, is proved here once.
-/
import MdProofs.Lemmas.CfiBridgeUtf8
namespace MdModel.CfiBridge
open MdModel

/-- C06's `upd` in the vocabulary of an implementation that names registers by `String` and holds
    `Nat`s: the same law, when the `Walker` record resolves the rule's label as the implementation
    does (`reg`) and tests widths as `fits` does. -/
theorem upd_view (W : Cfi.Walker) {fits : Nat → Bool} (hfits : ∀ v : UInt64, W.fits v = fits v.toNat)
    (cfa : UInt64) {b : Cfi.Name} {reg : Option String} (hmemo : W.memo b = reg.map utf8)
    (s : String) (e : Cfi.Expr) (cur : Option UInt64) :
    (Cfi.upd W cfa (utf8 s) cur (b, e)).map UInt64.toNat =
      Cfi.ruleView fits reg s ((Cfi.evalCfi W.env (some cfa) e).map UInt64.toNat) (cur.map UInt64.toNat) := by
  unfold Cfi.upd Cfi.ruleView
  rw [hmemo]
  by_cases hc : reg = some s
  · rw [if_pos (by rw [hc]; rfl), if_pos hc]
    cases Cfi.evalCfi W.env (some cfa) e with
    | none => rfl
    | some v =>
      simp only [Option.map_some, hfits, Option.filter_some]
      split <;> rfl
  · rw [if_neg hc, if_neg]
    intro h
    obtain ⟨m, hm, hu⟩ := Option.map_eq_some_iff.mp h
    exact hc (utf8_inj hu ▸ hm)

/-- A loop whose state, viewed at one register, changes with every rule as C06's caller does
    ends in a state with C06's view. `g`, `g'` say which rule of the one list is which of the other. -/
theorem fold_tracks {σ ρ γ : Type} (W : Cfi.Walker) (cfa : UInt64) (r : Cfi.Name)
    (view : σ → Option Nat) (f : σ → ρ → σ) (g : ρ → γ) (g' : Cfi.Name × Cfi.Expr → γ)
    (lw : List ρ) (lc : List (Cfi.Name × Cfi.Expr)) (hl : lc.map g' = lw.map g)
    (hstep : ∀ p ∈ lw, ∀ o q, g' q = g p → ∀ x : Option UInt64, x.map UInt64.toNat = view o →
      (Cfi.upd W cfa r x q).map UInt64.toNat = view (f o p))
    (o : σ) (x : Option UInt64) (h0 : x.map UInt64.toNat = view o) :
    (lc.foldl (Cfi.upd W cfa r) x).map UInt64.toNat = view (lw.foldl f o) := by
  induction lw generalizing lc o x with
  | nil => cases lc with
    | nil => exact h0
    | cons _ _ => cases hl
  | cons pw lw ih => cases lc with
    | nil => cases hl
    | cons pc lc =>
      obtain ⟨h1, h2⟩ := List.cons.inj hl
      obtain ⟨s1, s2⟩ := List.forall_mem_cons.mp hstep
      exact ih lc h2 s2 _ _ (s1 o pc h1 x h0)

/-- the caller's registers after `set_cfa; set_ra` of a walker that keeps the two IN its stack
    pointer and instruction pointer -/
theorem lookup_storeCfaRa (spN ipN s : String) (fwd : List (Cfi.Name × UInt64)) (cfa ra : UInt64) :
    Cfi.lookupName (Cfi.storeCfaRa (utf8 spN) (utf8 ipN) fwd cfa ra) (utf8 s) =
      if s = ipN then some ra else if s = spN then some cfa else Cfi.lookupName fwd (utf8 s) := by
  unfold Cfi.storeCfaRa
  rw [Cfi.lookupName_cons]
  by_cases h1 : s = ipN
  · simp [h1]
  · have h1' : ¬ utf8 ipN = utf8 s := fun e => h1 (utf8_inj e).symm
    simp only [h1', h1, if_false]
    rw [Cfi.lookupName_erase_ne _ _ _ h1', Cfi.lookupName_cons]
    by_cases h2 : s = spN
    · simp [h2]
    · have h2' : ¬ utf8 spN = utf8 s := fun e => h2 (utf8_inj e).symm
      simp only [h2', h2, if_false]
      rw [Cfi.lookupName_erase_ne _ _ _ h2']

theorem lookup_storeCfaRa_view (spN ipN s : String) (fwd : List (Cfi.Name × UInt64)) (cfa ra : UInt64)
    (v0 : Option Nat) (h : s = spN ∨ s = ipN ∨ (Cfi.lookupName fwd (utf8 s)).map UInt64.toNat = v0) :
    (Cfi.lookupName (Cfi.storeCfaRa (utf8 spN) (utf8 ipN) fwd cfa ra) (utf8 s)).map UInt64.toNat =
      if s = ipN then some ra.toNat else if s = spN then some cfa.toNat else v0 := by
  rw [lookup_storeCfaRa]
  split
  · rfl
  · split
    · rfl
    · exact h.elim (absurd · ‹_›) (·.elim (absurd · ‹_›) id)

theorem lookupName_filterMap_utf8 {α : Type} (regs : List String) (g : String → Option α) (s : String) :
    Cfi.lookupName (regs.filterMap fun r => (g r).map fun v => (utf8 r, v)) (utf8 s) =
      if regs.contains s then g s else none := by
  induction regs with
  | nil => rfl
  | cons r t ih =>
    rw [List.filterMap_cons, List.contains_cons]
    by_cases hr : s = r
    · subst hr
      rw [beq_self_eq_true, Bool.true_or, if_pos rfl]
      cases hx : g s with
      | none =>
        -- no entry here; a later one under this name would need `g s = some _`
        simp only [Option.map_none]
        rw [ih, hx]
        split <;> rfl
      | some v => simp only [Option.map_some]; rw [Cfi.lookupName_cons, if_pos rfl]
    · rw [beq_eq_false_iff_ne.mpr hr, Bool.false_or]
      cases hx : g r with
      | none => exact ih
      | some v =>
        simp only [Option.map_some]
        rw [Cfi.lookupName_cons, if_neg (fun e => hr (utf8_inj e).symm)]
        exact ih

end MdModel.CfiBridge
