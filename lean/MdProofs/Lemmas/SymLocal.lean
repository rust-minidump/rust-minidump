/-
  Line locality of the record parsers of `MdModel.SymLine`: run on `l ++ "\n" ++ s` (with `l`
  newline-free) every parser's answer depends on `l` only — an "inner" parser leaves
  `l' ++ "\n" ++ s` (a suffix of the line, newline still there), a "final" parser (one that ends
  in `my_eol`) leaves exactly `s`.
-/
import MdModel.SymLine
namespace MdModel.Sym
open MdModel


theorem takeWhile_line (p : UInt8 → Bool) {x : UInt8} (hx : p x = false) (l s : Bytes) :
    (l ++ x :: s).takeWhile p = l.takeWhile p := by
  induction l with
  | nil => simp [hx]
  | cons b rest ih => simp only [List.cons_append, List.takeWhile_cons, ih]

theorem dropWhile_line (p : UInt8 → Bool) {x : UInt8} (hx : p x = false) (l s : Bytes) :
    (l ++ x :: s).dropWhile p = l.dropWhile p ++ x :: s := by
  induction l with
  | nil => simp [hx]
  | cons b rest ih => cases hb : p b <;> simp [hb, ih]

theorem take_takeWhile_line (p : UInt8 → Bool) {x : UInt8} (hx : p x = false) (n : Nat) (l s : Bytes) :
    ((l ++ x :: s).take n).takeWhile p = (l.take n).takeWhile p := by
  rw [List.take_append]
  cases n - l.length with
  | zero => simp
  | succ k => exact takeWhile_line p hx _ _

theorem isPrefixOf_line {x : UInt8} (k l s : Bytes) (hk : x ∉ k) :
    k.isPrefixOf (l ++ x :: s) = k.isPrefixOf l := by
  induction k generalizing l with
  | nil => rfl
  | cons a k' ih =>
    cases l with
    | nil =>
      have ha : a ≠ x := fun e => hk (e ▸ List.mem_cons_self)
      simp [List.isPrefixOf, ha]
    | cons b rest =>
      simp only [List.cons_append, List.isPrefixOf, ih rest fun e => hk (List.mem_cons_of_mem _ e)]

theorem drop_digits_line (p : UInt8 → Bool) (n : Nat) (l s : Bytes) :
    (l ++ NL :: s).drop ((l.take n).takeWhile p).length =
      l.drop ((l.take n).takeWhile p).length ++ NL :: s :=
  List.drop_append_of_le_length
    (Nat.le_trans (List.takeWhile_prefix p).length_le (List.take_prefix n l).length_le)

theorem not_mem_drop {l : Bytes} (k : Nat) (h : NL ∉ l) : NL ∉ l.drop k :=
  fun e => h (List.mem_of_mem_drop e)

theorem not_mem_dropWhile {l : Bytes} (p : UInt8 → Bool) (h : NL ∉ l) : NL ∉ l.dropWhile p :=
  fun e => h ((List.dropWhile_suffix p).subset e)

def Inner {α} (p : P α) : Prop := ∀ l, NL ∉ l →
  (∃ l' v, NL ∉ l' ∧ l'.length ≤ l.length ∧ ∀ s, p (l ++ NL :: s) = .ok (l' ++ NL :: s) v) ∨
  (∀ s, p (l ++ NL :: s) = .error) ∨ (∀ s, p (l ++ NL :: s) = .failure)

def Final {α} (p : P α) : Prop := ∀ l, NL ∉ l →
  (∃ v, ∀ s, p (l ++ NL :: s) = .ok s v) ∨
  (∀ s, p (l ++ NL :: s) = .error) ∨ (∀ s, p (l ++ NL :: s) = .failure)

theorem Inner.pure {α} (v : α) : Inner (P.pure v) := fun l hl =>
  Or.inl ⟨l, v, hl, Nat.le_refl _, fun _ => rfl⟩

theorem Inner.bind {α β} {p : P α} {f : α → P β} (hp : Inner p) (hf : ∀ v, Inner (f v)) :
    Inner (p.bind f) := by
  intro l hl
  rcases hp l hl with ⟨l', v, hl', hlen, h⟩ | h | h
  · -- from here on `p.bind f` is `f v` on what is left of the line
    simp only [P.bind, h]
    exact (hf v l' hl').imp_left fun ⟨l2, w, hl2, hlen2, h2⟩ => ⟨l2, w, hl2, Nat.le_trans hlen2 hlen, h2⟩
  · exact Or.inr (Or.inl fun s => by simp only [P.bind, h s])
  · exact Or.inr (Or.inr fun s => by simp only [P.bind, h s])

theorem Final.bind {α β} {p : P α} {f : α → P β} (hp : Inner p) (hf : ∀ v, Final (f v)) :
    Final (p.bind f) := by
  intro l hl
  rcases hp l hl with ⟨l', v, hl', _, h⟩ | h | h
  · simpa only [P.bind, h] using hf v l' hl'
  · exact Or.inr (Or.inl fun s => by simp only [P.bind, h s])
  · exact Or.inr (Or.inr fun s => by simp only [P.bind, h s])

theorem Final.map {α β} {p : P α} (g : α → P β) (hp : Final p) (hg : ∀ v, ∃ w, ∀ i, g v i = .ok i w) :
    Final (p.bind g) := by
  intro l hl
  rcases hp l hl with ⟨v, h⟩ | h | h
  · obtain ⟨w, hw⟩ := hg v
    exact Or.inl ⟨w, fun s => by simp only [P.bind, h s, hw s]⟩
  · exact Or.inr (Or.inl fun s => by simp only [P.bind, h s])
  · exact Or.inr (Or.inr fun s => by simp only [P.bind, h s])

theorem Inner.terminated {α β} {p : P α} {q : P β} (hp : Inner p) (hq : Inner q) :
    Inner (terminated p q) :=
  Inner.bind hp fun v => Inner.bind hq fun _ => Inner.pure v

theorem Final.terminated {α β} {p : P α} {q : P β} (hp : Inner p) (hq : Final q) :
    Final (terminated p q) :=
  Final.bind hp fun v => Final.map _ hq fun _ => ⟨v, fun _ => rfl⟩

theorem Inner.cut {α} {p : P α} (hp : Inner p) : Inner (cut p) := by
  intro l hl
  rcases hp l hl with ⟨l', v, hl', hlen, h⟩ | h | h
  · exact Or.inl ⟨l', v, hl', hlen, fun s => by simp only [Sym.cut, h s]⟩
  all_goals exact Or.inr (Or.inr fun s => by simp only [Sym.cut, h s])

theorem Final.cut {α} {p : P α} (hp : Final p) : Final (cut p) := by
  intro l hl
  rcases hp l hl with ⟨v, h⟩ | h | h
  · exact Or.inl ⟨v, fun s => by simp only [Sym.cut, h s]⟩
  all_goals exact Or.inr (Or.inr fun s => by simp only [Sym.cut, h s])

theorem Inner.opt {α} {p : P α} (hp : Inner p) : Inner (opt p) := by
  intro l hl
  rcases hp l hl with ⟨l', v, hl', hlen, h⟩ | h | h
  · exact Or.inl ⟨l', some v, hl', hlen, fun s => by simp only [Sym.opt, h s]⟩
  · exact Or.inl ⟨l, none, hl, Nat.le_refl _, fun s => by simp only [Sym.opt, h s]⟩
  · exact Or.inr (Or.inr fun s => by simp only [Sym.opt, h s])

theorem Inner.mapRes {α β} {p : P α} (f : α → Option β) (hp : Inner p) : Inner (mapRes p f) := by
  intro l hl
  rcases hp l hl with ⟨l', v, hl', hlen, h⟩ | h | h
  · cases hv : f v with
    | some w => exact Or.inl ⟨l', w, hl', hlen, fun s => by simp only [Sym.mapRes, h s, hv]⟩
    | none => exact Or.inr (Or.inl fun s => by simp only [Sym.mapRes, h s, hv])
  · exact Or.inr (Or.inl fun s => by simp only [Sym.mapRes, h s])
  · exact Or.inr (Or.inr fun s => by simp only [Sym.mapRes, h s])

theorem Inner.utf8 {p : P Bytes} (hp : Inner p) : Inner (utf8 p) := Inner.mapRes _ hp

theorem Final.orElse {α} {p q : P α} (hp : Final p) (hq : Final q) : Final (orElse p q) := by
  intro l hl
  rcases hp l hl with ⟨v, h⟩ | h | h
  · exact Or.inl ⟨v, fun s => by simp only [Sym.orElse, h s]⟩
  · simpa only [Sym.orElse, h] using hq l hl
  · exact Or.inr (Or.inr fun s => by simp only [Sym.orElse, h s])

/-- dispatch on a newline-free prefix of the input (`starts_with`) -/
theorem Final.prefixIf {α} (k : Bytes) (hk : NL ∉ k) {p q : P α} (hp : Final p) (hq : Final q) :
    Final fun i => if k.isPrefixOf i then p i else q i := by
  intro l hl
  simp only [isPrefixOf_line k l _ hk]
  by_cases h : k.isPrefixOf l = true
  · simp only [h, if_true]; exact hp l hl
  · simp only [h]; exact hq l hl

theorem Inner.tag (k : Bytes) (hk : NL ∉ k) : Inner (tag k) := by
  intro l hl
  by_cases h : k.isPrefixOf l = true
  · refine Or.inl ⟨l.drop k.length, (), not_mem_drop _ hl, by simp, fun s => ?_⟩
    simp only [Sym.tag, isPrefixOf_line k l s hk, h, if_true,
      List.drop_append_of_le_length (List.isPrefixOf_iff_prefix.mp h).length_le]
  · exact Or.inr (Or.inl fun s => by simp only [Sym.tag, isPrefixOf_line k l s hk, h]; rfl)

theorem Inner.takeWhileP (p : UInt8 → Bool) (hp : p NL = false) : Inner (takeWhileP p) := fun l hl =>
  Or.inl ⟨l.dropWhile p, l.takeWhile p, not_mem_dropWhile p hl, (List.dropWhile_suffix p).length_le, fun s => by
    simp only [Sym.takeWhileP, takeWhile_line p hp, dropWhile_line p hp]⟩

theorem takeWhile1P_line (p : UInt8 → Bool) (hp : p NL = false) (l : Bytes) :
    ((l.dropWhile p).length < l.length ∧
      ∀ s, takeWhile1P p (l ++ NL :: s) = .ok (l.dropWhile p ++ NL :: s) (l.takeWhile p)) ∨
    (∀ s, takeWhile1P p (l ++ NL :: s) = .error) := by
  by_cases h : (l.takeWhile p).isEmpty = true
  · exact Or.inr fun s => by simp only [Sym.takeWhile1P, takeWhile_line p hp, h, if_true]
  · refine Or.inl ⟨?_, fun s => by
      simp only [Sym.takeWhile1P, takeWhile_line p hp, dropWhile_line p hp, h]; rfl⟩
    have h1 := congrArg List.length (List.takeWhile_append_dropWhile (p := p) (l := l))
    have : 0 < (l.takeWhile p).length := List.length_pos_iff.mpr fun e => h (by simp [e])
    simp only [List.length_append] at h1; omega

theorem Inner.takeWhile1P (p : UInt8 → Bool) (hp : p NL = false) : Inner (takeWhile1P p) := by
  intro l hl
  rcases takeWhile1P_line p hp l with ⟨hlt, h⟩ | h
  · exact Or.inl ⟨_, _, not_mem_dropWhile p hl, by omega, h⟩
  · exact Or.inr (Or.inl h)

theorem Inner.space1 : Inner space1 := Inner.takeWhile1P _ (by decide)
theorem Inner.hexDigit1 : Inner hexDigit1 := Inner.takeWhile1P _ (by decide)
theorem Inner.nonSpace : Inner nonSpace := Inner.takeWhileP _ (by decide)
theorem Inner.notMyEol : Inner notMyEol := Inner.takeWhileP _ (by decide)

theorem Inner.single (p : UInt8 → Bool) (hp : p NL = false) : Inner (single p) := by
  intro l hl
  cases l with
  | nil => exact Or.inr (Or.inl fun s => by simp [Sym.single, hp])
  | cons b rest =>
    have hr : NL ∉ rest := fun e => hl (by simp [e])
    by_cases hb : p b = true
    · exact Or.inl ⟨rest, b, hr, by simp, fun s => by simp [Sym.single, hb]⟩
    · exact Or.inr (Or.inl fun s => by simp [Sym.single, hb])

theorem Inner.hexStr (n : Nat) : Inner (hexStr n) := by
  intro l hl
  have ht := take_takeWhile_line isHexDigit (x := NL) (by decide) n l
  by_cases h : ((l.take n).takeWhile isHexDigit).isEmpty = true
  · exact Or.inr (Or.inl fun s => by simp only [Sym.hexStr, ht, h, if_true])
  · exact Or.inl ⟨l.drop _, hexVal _, not_mem_drop _ hl, by simp, fun s => by
      simp only [Sym.hexStr, ht, h, drop_digits_line]; rfl⟩

theorem Inner.decimalU32 : Inner decimalU32 := by
  intro l hl
  have ht := take_takeWhile_line isDigit (x := NL) (by decide) 10 l
  by_cases h : ((l.take 10).takeWhile isDigit).isEmpty = true
  · exact Or.inr (Or.inl fun s => by simp only [Sym.decimalU32, ht, h, if_true])
  · by_cases h2 : decVal ((l.take 10).takeWhile isDigit) > U32MAX
    · exact Or.inr (Or.inl fun s => by simp only [Sym.decimalU32, ht, h, h2, if_true]; rfl)
    · exact Or.inl ⟨l.drop _, decVal _, not_mem_drop _ hl, by simp, fun s => by
        simp only [Sym.decimalU32, ht, h, h2, drop_digits_line]; rfl⟩

/-- after the `\r`s, `tag "\n"` succeeds exactly at the end of the line -/
theorem Final.myEol : Final myEol :=
  Final.bind (Inner.takeWhileP _ (by decide)) fun _ l hl => by
    cases l with
    | nil => exact Or.inl ⟨(), fun s => by simp [Sym.tag, List.isPrefixOf]⟩
    | cons b rest =>
      have hb : NL ≠ b := fun e => hl (by simp [e])
      exact Or.inr (Or.inl fun s => by simp [Sym.tag, List.isPrefixOf, hb])

theorem Inner.keyword (w : String) (h : NL ∉ kw w) : Inner (keyword w) :=
  Inner.terminated (Inner.tag _ h) Inner.space1

theorem Inner.field {α β} {p : P α} {f : α → P β} (hp : Inner p) (hf : ∀ v, Inner (f v)) :
    Inner ((Sym.terminated p Sym.space1).bind f) :=
  Inner.bind (Inner.terminated hp Inner.space1) hf

theorem Final.field {α β} {p : P α} {f : α → P β} (hp : Inner p) (hf : ∀ v, Final (f v)) :
    Final ((Sym.terminated p Sym.space1).bind f) :=
  Final.bind (Inner.terminated hp Inner.space1) hf

theorem Final.lastField {α β} {p : P α} (g : α → β) (hp : Inner p) :
    Final ((Sym.terminated p Sym.myEol).bind fun v => P.pure (g v)) :=
  Final.map _ (Final.terminated hp Final.myEol) fun v => ⟨g v, fun _ => rfl⟩

/-- the shape of a record parser: `keyword`, then `cut(fields)`; the fields end in `my_eol` -/
theorem Final.record {α} (w : String) (hw : NL ∉ kw w) {p : P α} (hp : Final p) :
    Final ((keyword w).bind fun _ => Sym.cut p) :=
  Final.bind (Inner.keyword w hw) fun _ => Final.cut hp

theorem Final.moduleLine : Final moduleLine :=
  .record _ (by decide) <|
    .field (.utf8 .nonSpace) fun _ => .field (.utf8 .nonSpace) fun _ =>
    .field (.utf8 .hexDigit1) fun _ => .lastField _ (.utf8 .notMyEol)

theorem Final.infoUrl : Final infoUrl :=
  .record _ (by decide) <| .lastField _ (.utf8 .notMyEol)

theorem Final.infoLine : Final infoLine :=
  .record _ (by decide) <| .lastField _ .notMyEol

theorem Final.fileLine : Final fileLine :=
  .record _ (by decide) <| .field .decimalU32 fun _ => .lastField _ (.utf8 .notMyEol)

theorem Final.inlineOriginLine : Final inlineOriginLine :=
  .record _ (by decide) <| .field .decimalU32 fun _ => .lastField _ (.utf8 .notMyEol)

/-- the optional `m` flag of PUBLIC and FUNC -/
theorem Inner.optM : Inner (Sym.opt (Sym.terminated (Sym.tag (kw "m")) Sym.space1)) :=
  .opt (.terminated (.tag _ (by decide)) .space1)

theorem Final.publicLine : Final publicLine :=
  .record _ (by decide) <|
    .bind .optM fun _ => .field (.hexStr 16) fun _ => .field (.hexStr 8) fun _ =>
    .lastField _ (.utf8 .notMyEol)

theorem Final.funcLineData : Final funcLineData :=
  .field (.hexStr 16) fun _ => .field (.hexStr 8) fun _ =>
  .field .decimalU32 fun _ => .lastField _ .decimalU32

theorem Final.funcLine : Final funcLine :=
  .record _ (by decide) <|
    .bind .optM fun _ => .field (.hexStr 16) fun _ => .field (.hexStr 8) fun _ =>
    .field (.hexStr 8) fun _ => .lastField _ (.utf8 .notMyEol)

theorem Final.stackWinLine : Final stackWinLine :=
  .record _ (by decide) <|
    .field (.single _ (by decide)) fun _ => .field (.hexStr 16) fun _ =>
    .field (.hexStr 8) fun _ => .field (.hexStr 8) fun _ =>
    .field (.hexStr 8) fun _ => .field (.hexStr 8) fun _ =>
    .field (.hexStr 8) fun _ => .field (.hexStr 8) fun _ =>
    .field (.hexStr 8) fun _ => .field (.single _ (by decide)) fun _ =>
    .lastField _ (.utf8 .notMyEol)

theorem Final.stackCfi : Final stackCfi :=
  .record _ (by decide) <| .field (.hexStr 16) fun _ => .lastField _ (.utf8 .notMyEol)

theorem Final.stackCfiInit : Final stackCfiInit :=
  .record _ (by decide) <|
    .field (.hexStr 16) fun _ => .field (.hexStr 8) fun _ =>
    .lastField _ (.utf8 .notMyEol)

theorem Inner.inlineAddressRange : Inner inlineAddressRange :=
  .field (.hexStr 16) fun _ => .bind (.hexStr 8) fun _ => .pure _

/-- the loop of `separated_list1`: with more fuel than the current line is long (`k + n + 1` for any
    `k`) its answer depends on the line only, not on the fuel (never `Error`: the loop stops and
    keeps what it has). Every round takes at least one blank, so the induction hypothesis applies
    to what is left of the line. -/
theorem sepListLoop_line : ∀ (n : Nat) (l : Bytes), l.length ≤ n → NL ∉ l → ∀ acc,
    (∃ l' v, NL ∉ l' ∧ l'.length ≤ l.length ∧
      ∀ s k, sepListLoop (k + n + 1) acc (l ++ NL :: s) = .ok (l' ++ NL :: s) v) ∨
    (∀ s k, sepListLoop (k + n + 1) acc (l ++ NL :: s) = .failure) := by
  intro n
  induction n with
  | zero =>
    intro l hlen hl acc
    obtain rfl : l = [] := List.eq_nil_of_length_eq_zero (by omega)
    exact Or.inl ⟨[], acc.reverse, hl, Nat.le_refl _, fun _ _ => rfl⟩
  | succ m ih =>
    intro l hlen hl acc
    have stop : ∃ l' v, NL ∉ l' ∧ l'.length ≤ l.length ∧ ∀ (s : Bytes) (_ : Nat),
        Res.ok (l ++ NL :: s) acc.reverse = .ok (l' ++ NL :: s) v := ⟨l, _, hl, Nat.le_refl _, fun _ _ => rfl⟩
    rcases takeWhile1P_line isSpaceTab (by decide) l with ⟨hlt, hsp⟩ | hsp
    · rcases Inner.inlineAddressRange _ (not_mem_dropWhile isSpaceTab hl) with ⟨l2, o, hl2, hlen2, h2⟩ | h2 | h2
      · simp only [sepListLoop, space1, hsp, h2]
        exact (ih l2 (by omega) hl2 (o :: acc)).imp_left fun ⟨l3, v, hl3, hlen3, h3⟩ =>
          ⟨l3, v, hl3, by omega, h3⟩
      · simp only [sepListLoop, space1, hsp, h2]; exact Or.inl stop
      · exact Or.inr fun s k => by simp only [sepListLoop, space1, hsp s, h2 s]
    · simp only [sepListLoop, space1, hsp]; exact Or.inl stop

theorem Inner.separatedList1 : Inner separatedList1 := by
  intro l hl
  rcases Inner.inlineAddressRange l hl with ⟨l1, o, hl1, hlen1, h1⟩ | h1 | h1
  · have fuel : ∀ s, (l1 ++ NL :: s).length + 1 = (s.length + 1) + l1.length + 1 := fun s => by
      simp only [List.length_append, List.length_cons]; omega
    rcases sepListLoop_line _ l1 (Nat.le_refl _) hl1 [o] with ⟨l2, v, hl2, hlen2, h2⟩ | h2
    · exact Or.inl ⟨l2, v, hl2, by omega, fun s => by simp only [Sym.separatedList1, h1 s, fuel s, h2 s]⟩
    · exact Or.inr (Or.inr fun s => by simp only [Sym.separatedList1, h1 s, fuel s, h2 s])
  · exact Or.inr (Or.inl fun s => by simp only [Sym.separatedList1, h1 s])
  · exact Or.inr (Or.inr fun s => by simp only [Sym.separatedList1, h1 s])

theorem Final.inlineLine : Final inlineLine :=
  .bind (.keyword _ (by decide)) fun _ =>
  .bind (.cut <| .field .decimalU32 fun _ => .field .decimalU32 fun _ =>
    .field .decimalU32 fun _ => .field .decimalU32 fun _ => .pure _) fun (_, _, _, _) =>
  .map _ (.cut (.terminated .separatedList1 .myEol)) fun _ => ⟨_, fun _ => rfl⟩

theorem Final.line : Final line :=
  .orElse .infoUrl <| .orElse .infoLine <| .orElse .fileLine <|
  .orElse (.map _ .inlineOriginLine fun (_, _) => ⟨_, fun _ => rfl⟩) <|
  .orElse .publicLine <| .orElse .funcLine <| .orElse .stackWinLine <| .orElse .stackCfiInit .moduleLine

end MdModel.Sym
