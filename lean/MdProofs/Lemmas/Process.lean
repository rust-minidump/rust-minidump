/-
  For C03 (`MdModel.Process`): when the checked operations return, and the "no panic outcome" facts
  of the kernels that C03's theorems are assembled from.
-/
import MdModel.Process
import MdProofs.Lemmas.Outcome
namespace MdModel.Process
open MdModel

theorem cidx_ok {α : Type} (site : String) (l : List α) (i : Nat) (h : i < l.length) :
    cidx site l i = .ok l[i] := by
  simp [cidx, List.getElem?_eq_getElem h]

theorem csub_ok (site : String) (a b : Nat) (h : b ≤ a) : csub site a b = .ok (a - b) := by
  simp [csub, h]

theorem cadd64_ok (site : String) (a b : Nat) (h : a + b ≤ U64MAX) : cadd64 site a b = .ok (a + b) := by
  simp [cadd64, h]

theorem wrappingSub64_le {a b : Nat} (ha : a ≤ U64MAX) (hb : 0 < b) : wrappingSub64 a b ≤ U64MAX := by
  have hu : U64MAX + 1 = TWO64 := rfl
  unfold wrappingSub64
  split <;> omega

theorem rangeNew_ok (s e : Nat) (h : s ≤ e) : rangeNew s e = .ok (some (s, e)) := by
  simp [rangeNew, Nat.not_lt.mpr h]

theorem add_le_of_ite_eq_some {M a b v : Nat} (h : (if a + b ≤ M then some (a + b) else none) = some v) :
    v = a + b ∧ v ≤ M := by
  split at h
  · cases h; exact ⟨rfl, by assumption⟩
  · cases h

theorem checkedAdd32_le {a b v : Nat} (h : checkedAdd32 a b = some v) : v = a + b ∧ v ≤ U32MAX :=
  add_le_of_ite_eq_some h

/-- `memory_range()` never reaches the panic of `Range::new`, and a range it returns is ordered -/
theorem memRange_ok (k : InfoKind) (r : RawRegion) :
    ∃ o, memRange k r = .ok o ∧ ∀ s e, o = some (s, e) → s ≤ e := by
  fun_cases memRange k r
  case case3 hb e he =>
    obtain ⟨rfl, _⟩ := add_le_of_ite_eq_some he
    rw [csub_ok _ _ _ (by omega), bind_ok, rangeNew_ok _ _ (by omega)]
    exact ⟨_, rfl, fun s e h => by cases h; omega⟩
  case case5 h =>
    rw [rangeNew_ok _ _ (by omega)]
    exact ⟨_, rfl, fun s e h => by cases h; omega⟩
  all_goals exact ⟨none, rfl, nofun⟩

theorem adjacentLoop_ok (k : InfoKind) (range : Nat × Nat) (rs : List RawRegion) :
    NoPanic (adjacentLoop k range rs) := by
  fun_induction adjacentLoop k range rs
  case case2 r _ s hs =>
    obtain ⟨o, ho, _⟩ := memRange_ok k r
    rw [ho] at hs
    cases hs
  case case3 ih | case6 ih => exact ih
  all_goals exact ⟨_, rfl⟩

theorem winFrameSize_eq (i : WinInfo) (g : Nat) :
    winFrameSize i g =
      if i.localSize + i.savedSize + g ≤ U32MAX then some (i.localSize + i.savedSize + g) else none := by
  unfold winFrameSize checkedAdd32
  by_cases h1 : i.localSize + i.savedSize ≤ U32MAX
  · rw [if_pos h1]; rfl
  · rw [if_neg h1, if_neg (by omega)]; rfl

theorem winFrameSize_le {i : WinInfo} {g v : Nat} (h : winFrameSize i g = some v) :
    v = i.localSize + i.savedSize + g ∧ v ≤ U32MAX :=
  add_le_of_ite_eq_some (winFrameSize_eq i g ▸ h)

theorem u64_u32 : 2 * U32MAX + 16 ≤ U64MAX := by decide
theorem fpo_word_eq : Consts.fpo_word = 4 := rfl
theorem fpo_back_eq : Consts.fpo_ebp_back = 8 := rfl

theorem fpoEip_ok (x : FpoIn) (esp fs : Nat) (he : esp ≤ U32MAX) (hf : fs ≤ U32MAX) :
    ∃ o, fpoEip x esp fs = .ok o ∧ ∀ a e, o = some (a, e) → a ≤ esp + fs + 4 := by
  have hu := u64_u32
  have hw := fpo_word_eq
  unfold fpoEip
  rw [cadd64_ok _ _ _ (by omega)]
  simp only
  cases hm : x.mem (esp + fs) with
  | none => exact ⟨none, rfl, fun a e h => by cases h⟩
  | some eip0 =>
    simp only
    split
    · exact ⟨_, rfl, fun a e h => by cases h; omega⟩
    · cases hc : x.eip with
      | none => exact ⟨none, rfl, fun a e h => by cases h⟩
      | some ceip =>
        simp only
        split
        · rw [cadd64_ok _ _ _ (by omega)]
          simp only
          cases hm2 : x.mem (esp + fs + Consts.fpo_word) with
          | none => exact ⟨none, rfl, fun a e h => by cases h⟩
          | some e2 => exact ⟨_, rfl, fun a e h => by cases h; omega⟩
        · exact ⟨_, rfl, fun a e h => by cases h; omega⟩

theorem fpoEbp_ok (i : WinInfo) (x : FpoIn) (esp : Nat) (he : esp ≤ U32MAX) (hg : x.gcps ≤ U32MAX)
    (hs : i.savedSize ≤ U32MAX) : NoPanic (fpoEbp i x esp) := by
  have h3 : 3 * U32MAX ≤ U64MAX := by decide
  fun_cases fpoEbp i x esp
  case case1 s h => rw [cadd64_ok _ _ _ (by omega)] at h; cases h
  case case2 s1 h1 s h =>
    rw [cadd64_ok _ _ _ (by omega)] at h1
    cases h1
    rw [cadd64_ok _ _ _ (by omega)] at h
    cases h
  all_goals exact ⟨_, rfl⟩

theorem optSub_ok (site : String) (a : Nat) (b : Option Nat) (h : ∀ v, b = some v → v ≤ a) :
    NoPanic (optSub site a b) := by
  cases b with
  | none => exact ⟨none, rfl⟩
  | some v =>
    simp only [optSub, csub_ok _ _ _ (h v rfl)]
    exact ⟨_, rfl⟩

theorem readerKeeps_le {m : ModRaw} (h : readerKeeps m = true) : 0 < m.size ∧ m.base + m.size ≤ U64MAX := by
  simp only [readerKeeps, Bool.and_eq_true, bne_iff_ne, ne_eq, decide_eq_true_eq] at h
  have hu : U64MAX = 18446744073709551615 := rfl
  omega

theorem jsonEnd_ok (m : ModRaw) (h : readerKeeps m = true) : NoPanic (jsonEnd m) :=
  ⟨_, cadd64_ok _ _ _ (readerKeeps_le h).2⟩

theorem textEnd_ok (m : ModRaw) (h : readerKeeps m = true) : NoPanic (textEnd m) := by
  obtain ⟨h0, hle⟩ := readerKeeps_le h
  unfold textEnd
  rw [cadd64_ok _ _ _ hle, bind_ok, csub_ok _ _ 1 (by omega)]
  exact ⟨_, rfl⟩

end MdModel.Process
