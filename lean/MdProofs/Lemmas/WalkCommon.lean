/-
Lemmas about what `MdModel/Walk/Common.lean` defines: when a read of stack memory answers and with what word
(`Mem.read_eq_some_iff`), a word read is bounded by its width, the in-range test of `walk_stack` (`inRange_iff`),
`assocGet`/`assocSet` on the register list of a context; and `setInsert` (`MdModel/Walk/Cfi.lean`) on its validity set.
-/
import MdModel.Walk.Cfi
import MdProofs.Lemmas.Assoc
import MdProofs.Lemmas.Word
namespace MdModel.Walk
open MdModel

theorem Mem.byte_lt (m : Mem) (i : Nat) : m.byte i < 256 := by
  unfold Mem.byte; exact UInt8.toNat_lt _

theorem Mem.leAt_lt (m : Mem) : ∀ off w, m.leAt off w < 256 ^ w
  | _, 0 => Nat.one_pos
  | off, w + 1 => Nat.byte_add_lt (m.byte_lt off) (m.leAt_lt (off + 1) w)

theorem Mem.beAt_lt (m : Mem) : ∀ off w, m.beAt off w < 256 ^ w
  | _, 0 => Nat.one_pos
  | off, w + 1 => Nat.byte_mul_add_lt (m.byte_lt off) (m.beAt_lt (off + 1) w)

theorem Mem.wordAt_lt (m : Mem) (off w : Nat) : m.wordAt off w < 256 ^ w := by
  unfold Mem.wordAt
  split
  · exact m.beAt_lt off w
  · exact m.leAt_lt off w

theorem Mem.wordAt_le (m : Mem) (off w : Nat) (h : m.be = false) : m.wordAt off w = m.leAt off w := by
  simp [Mem.wordAt, h]

theorem Mem.read_eq_some_iff {m : Mem} {addr w v : Nat} :
    m.read addr w = some v ↔ m.base ≤ addr ∧ addr - m.base + w ≤ m.size ∧ v = m.wordAt (addr - m.base) w := by
  unfold Mem.read
  by_cases h : addr < m.base
  · rw [if_pos h]; exact ⟨nofun, fun h' => by omega⟩
  · rw [if_neg h]
    by_cases h2 : addr - m.base + w ≤ m.size
    · rw [if_pos h2, Option.some.injEq]
      exact ⟨fun e => ⟨by omega, h2, e.symm⟩, fun e => e.2.2.symm⟩
    · rw [if_neg h2]; exact ⟨nofun, fun h' => absurd h'.2.1 h2⟩

theorem inRange_iff (m : Mem) (a : Nat) :
    m.inRange a = true ↔ m.size ≠ 0 ∧ m.base + m.size ≤ U64MAX ∧ m.base ≤ a ∧ a < m.base + m.size := by
  unfold Mem.inRange Mem.range?
  by_cases h0 : m.size = 0
  · rw [if_pos h0]; exact ⟨(fun h => by cases h), fun h => absurd h0 h.1⟩
  · rw [if_neg h0]
    by_cases h1 : m.base + m.size > U64MAX
    · rw [if_pos h1]; exact ⟨(fun h => by cases h), fun h => absurd h.2.1 (by omega)⟩
    · rw [if_neg h1]
      simp only [Bool.and_eq_true, decide_eq_true_eq]
      omega

theorem Mem.read_lt {m : Mem} {addr w v : Nat} (h : m.read addr w = some v) : v < 256 ^ w :=
  (Mem.read_eq_some_iff.mp h).2.2 ▸ Mem.wordAt_lt _ _ _

theorem regMax_lt (a : Arch) : a.regMax < 2 ^ 64 := by cases a <;> decide

/-- a register is exactly as wide as a pointer: what a pointer-sized read returns fits a register -/
theorem regMax_succ (a : Arch) : a.regMax + 1 = 256 ^ a.ptr := by cases a <;> decide

theorem Mem.wordAt_lt_two_pow (m : Mem) (off : Nat) {w : Nat} (hw : w ≤ 8) : m.wordAt off w < 2 ^ 64 :=
  calc m.wordAt off w < 256 ^ w := m.wordAt_lt off w
    _ ≤ 256 ^ 8 := Nat.pow_le_pow_right (by omega) hw
    _ = 2 ^ 64 := by decide

theorem assocGet_assocSet (l : List (String × Nat)) (k k' : String) (v : Nat) :
    assocGet (assocSet l k v) k' = if k' = k then v else assocGet l k' := by
  induction l with
  | nil => by_cases h : k = k' <;> simp [assocSet, assocGet, h, eq_comm]
  | cons p t ih =>
    obtain ⟨k0, v0⟩ := p
    by_cases h0 : k0 = k <;> by_cases h1 : k0 = k' <;> simp_all [assocSet, assocGet, eq_comm]

theorem assocGet_assocSet_same (l : List (String × Nat)) (k : String) (v : Nat) :
    assocGet (assocSet l k v) k = v := by
  rw [assocGet_assocSet, if_pos rfl]

theorem assocGet_assocSet_ne (l : List (String × Nat)) (k k' : String) (v : Nat) (h : k ≠ k') :
    assocGet (assocSet l k v) k' = assocGet l k' := by
  rw [assocGet_assocSet, if_neg (Ne.symm h)]

theorem assocGet_le {m : Nat} : ∀ (l : List (String × Nat)) (k : String), (∀ p ∈ l, p.2 ≤ m) → assocGet l k ≤ m
  | [], _, _ => Nat.zero_le _
  | (k', v) :: t, k, h => by
    unfold assocGet
    split
    · exact h _ List.mem_cons_self
    · exact assocGet_le t k fun p hp => h p (List.mem_cons_of_mem _ hp)

theorem raw_le {a : Arch} {c : Ctx} {m : Nat} (hip : c.ip ≤ m) (hsp : c.sp ≤ m)
    (hr : ∀ p ∈ c.rest, p.2 ≤ m) (r : String) : c.raw a r ≤ m := by
  unfold Ctx.raw
  split
  · exact Nat.zero_le _
  · split
    · exact hip
    · split
      · exact hsp
      · exact assocGet_le _ _ hr

/-- reading one register after a loop of writes: the loop that keeps that one cell (`List.foldl_ite_*`) -/
theorem assocGet_foldl (F : Nat → Nat) (L rest : List (String × Nat)) (r : String) :
    assocGet (L.foldl (fun rest g => assocSet rest g.1 (F g.2)) rest) r =
      L.foldl (fun z g => if r = g.1 then F g.2 else z) (assocGet rest r) :=
  (List.foldl_hom (assocGet · r) fun l g => (assocGet_assocSet l g.1 r (F g.2)).symm).symm

theorem assocGet_foldl_not_mem (F : Nat → Nat) (L : List (String × Nat)) (r : String) :
    ∀ (rest : List (String × Nat)), r ∉ L.map (·.1) →
      assocGet (L.foldl (fun rest g => assocSet rest g.1 (F g.2)) rest) r = assocGet rest r := by
  intro rest h
  rw [assocGet_foldl]
  exact List.foldl_ite_untouched _ _ (fun g hg e => h (List.mem_map.mpr ⟨g, hg, e.symm⟩)) _

theorem assocGet_foldl_mem (F : Nat → Nat) (L : List (String × Nat)) (r : String) (lit : Nat) :
    ∀ (rest : List (String × Nat)), (L.map (·.1)).Nodup → (r, lit) ∈ L →
      assocGet (L.foldl (fun rest g => assocSet rest g.1 (F g.2)) rest) r = F lit := by
  intro rest hnd hm
  rw [assocGet_foldl]
  exact List.foldl_ite_unique (fun g : String × Nat => r = g.1) _ hm rfl
    (fun q hq e => List.eq_of_mem_of_fst_eq hnd hq hm e.symm) _

theorem assocSet_assocSet_same (l : List (String × Nat)) (k : String) (v v' : Nat) :
    assocSet (assocSet l k v) k v' = assocSet l k v' := by
  induction l with
  | nil => simp [assocSet]
  | cons p l ih =>
    obtain ⟨k', v''⟩ := p
    by_cases h : k' = k
    · simp [assocSet, h]
    · simp [assocSet, h, ih]

theorem setInsert_contains (l : List String) (m s : String) :
    (setInsert l m).contains s = (decide (s = m) || l.contains s) := by
  unfold setInsert
  split
  · by_cases hs : s = m
    · subst hs; rename_i h; simp [List.contains_iff_mem.mp h]
    · simp [hs]
  · by_cases hs : s = m <;> simp [hs]

theorem mem_setInsert {l : List String} {s n : String} : n ∈ setInsert l s ↔ n ∈ l ∨ n = s := by
  rw [← List.contains_iff_mem, setInsert_contains, Bool.or_eq_true, decide_eq_true_eq, List.contains_iff_mem, or_comm]

end MdModel.Walk
