import MdModel.Reason
import MdProofs.Lemmas.Assoc
namespace MdModel.Reason
open MdModel MdModel.Gen

theorem lookup_eq_lookup (t : Enums.Table) (v : Nat) : lookup t v = List.lookup v t :=
  List.find?_fst_beq_eq_lookup t v

theorem lookup_some_mem {t : Enums.Table} {v : Nat} {n : String} (h : lookup t v = some n) : (v, n) ∈ t :=
  List.mem_of_lookup_eq_some (lookup_eq_lookup t v ▸ h)

theorem lookup_none_iff {t : Enums.Table} {v : Nat} : lookup t v = none ↔ ∀ n, (v, n) ∉ t := by
  rw [lookup_eq_lookup, List.lookup_eq_none_iff_not_mem_keys, List.mem_map]
  exact ⟨fun h n hn => h ⟨_, hn, rfl⟩, fun h ⟨p, hp, e⟩ => h p.2 (e ▸ hp)⟩

/-- in a table without duplicate discriminants (Rust guarantees it) `lookup` finds every entry -/
theorem lookup_of_mem {t : Enums.Table} {v : Nat} {n : String}
    (hnd : (t.map (·.1)).Nodup) (h : (v, n) ∈ t) : lookup t v = some n :=
  lookup_eq_lookup t v ▸ List.lookup_eq_some_of_mem hnd h

theorem lookup_name_iff {t : Enums.Table} {v v₀ : Nat} {n : String}
    (hk : (t.filter (·.2 == n)).map (·.1) = [v₀]) (hl : lookup t v₀ = some n) :
    lookup t v = some n ↔ v = v₀ := by
  constructor
  · intro h
    have : v ∈ (t.filter (·.2 == n)).map (·.1) :=
      List.mem_map.mpr ⟨(v, n), List.mem_filter.mpr ⟨lookup_some_mem h, beq_self_eq_true n⟩, rfl⟩
    rw [hk] at this
    exact List.mem_singleton.mp this
  · rintro rfl; exact hl

theorem refine_cases (t : Enums.Table) (f : Family) (flags : Nat) (dflt : Reason) :
    (∃ ty, lookup t flags = some ty ∧ refine t f flags dflt = .mk1 f ty) ∨
    (lookup t flags = none ∧ refine t f flags dflt = dflt) := by
  unfold refine
  cases h : lookup t flags with
  | none => right; exact ⟨rfl, rfl⟩
  | some ty => left; exact ⟨ty, rfl, rfl⟩

theorem refine_of {P : Reason → Prop} (t : Enums.Table) (f : Family) (flags : Nat) (dflt : Reason)
    (hf : ∀ ty, P (.mk1 f ty)) (hd : P dflt) : P (refine t f flags dflt) := by
  rcases refine_cases t f flags dflt with ⟨ty, -, h⟩ | ⟨-, h⟩ <;> rw [h]
  · exact hf ty
  · exact hd

theorem ite_of {α : Sort _} {P : α → Prop} {c : Prop} [Decidable c] {a b : α} (ha : P a) (hb : P b) :
    P (if c then a else b) :=
  iteInduction (fun _ => ha) fun _ => hb

theorem windowsWithFacility_family {code : Nat} {r : Reason} (h : windowsWithFacility code = some r) :
    r.family = .WindowsWinErrorWithFacility := by
  unfold windowsWithFacility at h
  split at h
  · split at h
    · split at h
      · cases h; rfl
      · cases h
    · cases h
  · cases h

end MdModel.Reason
