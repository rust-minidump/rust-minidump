/-
  Index-valued range tables: the table over a list `l` whose value at the range of `l[i]` is the
  position `i`. Every table the model builds over a list (loaded modules, memory regions, map
  entries, FUNC / STACK CFI records) has this input, so C08's theorems are restated once in terms
  of the list: what a lookup returns is a position whose element covers the address, an isolated
  element is found, over elements that do not overlap a lookup is a scan of the list, and the
  table's entries are elements with their own ranges (the values are positions, hence distinct,
  and such a table is never merged). The unloaded-module list (a sorted vector and a filter, no
  normalising pass) starts from the same input.
-/
import MdProofs.Lemmas.RangeMapDistinct
namespace MdModel.RangeMap
open MdModel

def idx {α : Type} (rng : α → Option Rng) (l : List α) : List (Option Rng × Val) :=
  l.zipIdx.map fun (x, i) => (rng x, i)

variable {α : Type} {rng : α → Option Rng} {l : List α}

theorem mem_idx {e : Option Rng × Val} : e ∈ idx rng l ↔ ∃ x, l[e.2]? = some x ∧ rng x = e.1 := by
  simp only [idx, List.mem_map]
  constructor
  · rintro ⟨⟨x, i⟩, hx, rfl⟩
    exact ⟨x, List.mem_zipIdx_iff_getElem?.mp hx, rfl⟩
  · rintro ⟨x, hx, he⟩
    exact ⟨(x, e.2), List.mem_zipIdx_iff_getElem?.mpr hx, by rw [he]⟩

theorem idx_val_lt {o : Option Rng} {i : Nat} (h : (o, i) ∈ idx rng l) : i < l.length :=
  let ⟨_, hx, _⟩ := mem_idx.mp h; (List.getElem?_eq_some_iff.mp hx).1

theorem idx_vals (rng : α → Option Rng) (l : List α) : (idx rng l).map (·.2) = List.range' 0 l.length := by
  rw [idx, List.map_map, ← List.zipIdx_map_snd 0 l]
  rfl

theorem idx_nodup (rng : α → Option Rng) (l : List α) : ((idx rng l).map (·.2)).Nodup := by
  rw [idx_vals]; exact List.nodup_range'

theorem idx_wf (h : ∀ x ∈ l, ∀ r, rng x = some r → r.lo ≤ r.hi ∧ r.hi ≤ U64MAX) : InputWF (idx rng l) := by
  intro e he r hr
  obtain ⟨x, hx, hex⟩ := mem_idx.mp he
  exact h x (List.mem_of_getElem? hx) r (hex.trans hr)

theorem idx_mkRange_wf (base size : α → Nat) (l : List α) : InputWF (idx (fun x => mkRange (base x) (size x)) l) :=
  idx_wf fun _ _ _ => mkRange_ok

theorem safeVec_idx_entry {e : Entry} (he : e ∈ safeVec (idx rng l)) :
    ∃ x, l[e.2]? = some x ∧ rng x = some e.1 :=
  mem_idx.mp (safeVec_mem_of_distinct _ (idx_nodup rng l) e he)

theorem get_idx_sound {a i : Nat} (h : get (safeVec (idx rng l)) a = some i) :
    ∃ x r, l[i]? = some x ∧ rng x = some r ∧ r.lo ≤ a ∧ a ≤ r.hi := by
  obtain ⟨r, hr, h1, h2⟩ := get_sound _ a i h
  obtain ⟨x, hx, hrx⟩ := mem_idx.mp hr
  exact ⟨x, r, hx, hrx, h1, h2⟩

theorem get_idx_same (hwf : InputWF (idx rng l)) {a i : Nat} (h : get (safeVec (idx rng l)) a = some i) :
    ∃ x r, l[i]? = some x ∧ rng x = some r ∧ r.lo ≤ a ∧ a ≤ r.hi ∧
      ∀ b, r.lo ≤ b → b ≤ r.hi → get (safeVec (idx rng l)) b = some i := by
  obtain ⟨r, hr, h1, h2, hall⟩ := get_same_entry _ hwf (idx_nodup rng l) a i h
  obtain ⟨x, hx, hrx⟩ := mem_idx.mp hr
  exact ⟨x, r, hx, hrx, h1, h2, hall⟩

theorem get_idx_complete (hwf : InputWF (idx rng l)) {i : Nat} {x : α} {r : Rng} (hx : l[i]? = some x)
    (hr : rng x = some r)
    (hiso : ∀ j y s, j ≠ i → l[j]? = some y → rng y = some s → r.intersects s = false)
    {a : Nat} (ha : r.lo ≤ a ∧ a ≤ r.hi) : get (safeVec (idx rng l)) a = some i := by
  refine get_complete_of_mem _ (validOnly_wf hwf) (mem_idx.mpr ⟨x, hx, hr⟩) (fun s j hs hj => ?_) ha
  obtain ⟨y, hy, hys⟩ := mem_idx.mp hs
  exact hiso j y s hj hy hys

theorem safeVec_idx_sorted (hwf : InputWF (idx rng l)) :
    ((safeVec (idx rng l)).map (·.2)).Pairwise fun i j =>
      ∃ x y r s, l[i]? = some x ∧ l[j]? = some y ∧ rng x = some r ∧ rng y = some s ∧ r.lo ≤ r.hi ∧ r.hi < s.lo := by
  rw [List.pairwise_map]
  refine List.Pairwise.imp_of_mem ?_ (safeVec_sorted_disjoint _ hwf)
  intro a b ha hb hab
  obtain ⟨x, hx, hrx⟩ := safeVec_idx_entry ha
  obtain ⟨y, hy, hry⟩ := safeVec_idx_entry hb
  exact ⟨x, y, a.1, b.1, hx, hy, hrx, hry, hab.1, hab.2⟩

theorem mem_safeVec_idx_of_isolated (hwf : InputWF (idx rng l)) {i : Nat} {x : α} {r : Rng}
    (hx : l[i]? = some x) (hr : rng x = some r)
    (hiso : ∀ j y s, j ≠ i → l[j]? = some y → rng y = some s → r.intersects s = false) :
    i ∈ (safeVec (idx rng l)).map (·.2) := by
  have hlo := (hwf (rng x, i) (mem_idx.mpr ⟨x, hx, rfl⟩) r hr).1
  obtain ⟨e, he, _, hv⟩ := get_sound_mem _ _ _ (get_idx_complete hwf hx hr hiso ⟨Nat.le_refl _, hlo⟩)
  exact List.mem_map.mpr ⟨e, he, hv⟩

theorem get_idx_eq_find? (hwf : ∀ x ∈ l, ∀ r, rng x = some r → r.lo ≤ r.hi ∧ r.hi ≤ U64MAX)
    (hpw : l.Pairwise (Apart rng)) (a : Nat) :
    get (safeVec (idx rng l)) a = (l.zipIdx.find? fun p => covers rng a p.1).map (·.2) := by
  have hpw' : l.zipIdx.Pairwise (Apart fun p => rng p.1) := by
    rw [← List.zipIdx_map_fst 0 l, List.pairwise_map] at hpw; exact hpw
  exact get_eq_find? (xs := l.zipIdx) (rng := fun p => rng p.1) (val := (·.2))
    (fun p hp => hwf p.1 (List.mem_of_getElem? (List.mem_zipIdx_iff_getElem?.mp hp))) hpw' a

theorem get_idx_bind_eq_find? (hwf : ∀ x ∈ l, ∀ r, rng x = some r → r.lo ≤ r.hi ∧ r.hi ≤ U64MAX)
    (hpw : l.Pairwise (Apart rng)) (a : Nat) :
    (get (safeVec (idx rng l)) a).bind (l[·]?) = l.find? (covers rng a) := by
  rw [get_idx_eq_find? hwf hpw, ← congrArg (List.find? (covers rng a)) (List.zipIdx_map_fst 0 l), List.find?_map]
  show ((l.zipIdx.find? (covers rng a ∘ Prod.fst)).map _).bind _ = _
  cases h : l.zipIdx.find? (covers rng a ∘ Prod.fst) with
  | none => rfl
  | some p => exact List.mem_zipIdx_iff_getElem?.mp (List.mem_of_find?_eq_some h)

/-- the unloaded-module list (`from_modules`: no normalising pass) over a list -/
theorem unloadedFrom_map (rng : α → Option Rng) (l : List α) :
    unloadedFrom (l.map rng) = sortEntries (validOnly (idx rng l)) := by
  simp only [unloadedFrom, idx, List.zipIdx_map, List.map_map]
  rfl

theorem mem_unloadedFrom {e : Entry} :
    e ∈ unloadedFrom (l.map rng) ↔ ∃ x, l[e.2]? = some x ∧ rng x = some e.1 := by
  rw [unloadedFrom_map]
  exact List.mem_mergeSort.trans (mem_validOnly.trans mem_idx)

theorem unloadedFrom_vals_nodup (rng : α → Option Rng) (l : List α) :
    ((unloadedFrom (l.map rng)).map (·.2)).Nodup := by
  rw [unloadedFrom_map]
  exact ((List.mergeSort_perm _ _).map _).nodup_iff.mpr (validOnly_vals_nodup (idx_nodup rng l))

/-- `modules_at_address`: exactly the positions whose element's range contains the address -/
theorem mem_unloadedAt_map {a i : Nat} :
    i ∈ unloadedAt (unloadedFrom (l.map rng)) a ↔ ∃ x, l[i]? = some x ∧ covers rng a x = true := by
  simp only [unloadedAt, List.mem_map, List.mem_filter, mem_unloadedFrom, covers, Option.any_eq_true]
  constructor
  · rintro ⟨e, ⟨⟨x, hx, hr⟩, hc⟩, rfl⟩
    exact ⟨x, hx, e.1, hr, hc⟩
  · rintro ⟨x, hx, r, hr, hc⟩
    exact ⟨(r, i), ⟨⟨x, hx, hr⟩, hc⟩, rfl⟩

/-- the tables of FUNC / STACK CFI records: their input written as one `filterMap`, built by the parser-local copy -/
theorem safeVecP_zipIdx_filterMap (rng : α → Option Rng) (l : List α) :
    safeVecP (l.zipIdx.filterMap fun (x, i) => (rng x).map fun r => (r, i)) = safeVec (idx rng l) := by
  rw [← safeVecP_validOnly, validOnly, idx, List.filterMap_map]
  rfl

theorem get_idx_complete_split {pre post : List α} {x : α} {r : Rng} (hwf : InputWF (idx rng (pre ++ x :: post)))
    (hr : rng x = some r) (hiso : ∀ y ∈ pre ++ post, ∀ s, rng y = some s → r.intersects s = false)
    {a : Nat} (ha : r.lo ≤ a ∧ a ≤ r.hi) : get (safeVec (idx rng (pre ++ x :: post))) a = some pre.length :=
  get_idx_complete hwf (by simp) hr
    (fun _ y s hj hy => hiso y (List.mem_append_of_getElem?_ne hj hy) s) ha

theorem get_idx_mkRange_sound {base size : α → Nat} {a i : Nat}
    (h : get (safeVec (idx (fun x => mkRange (base x) (size x)) l)) a = some i) :
    ∃ x, l[i]? = some x ∧ 0 < size x ∧ base x + size x ≤ U64MAX ∧ base x ≤ a ∧ a < base x + size x := by
  obtain ⟨x, r, hx, hr, h1, h2⟩ := get_idx_sound h
  exact ⟨x, hx, (covers_mkRange base size a x).mp (covers_iff.mpr ⟨r, hr, h1, h2⟩)⟩

end MdModel.RangeMap
