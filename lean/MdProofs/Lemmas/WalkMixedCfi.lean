/-
  C04, chains whose technique changes from frame to frame: the STACK CFI step for an ARBITRARY
  validity set of the callee.

  `CfiInv` (WalkCfiChainInv) assumes every register of the callee valid; after a frame found by
  frame pointer or by scanning only sp / ip (/ fp) are. `walkCfi_canonS` (WalkCfiCanon) evaluates
  `walk_with_stack_cfi` on the canonical rule with saved-register groups for any caller half `o` of
  the walker: a group SETS its register (value and validity), so the result is `canonOut …` whatever
  `o` held (read here by `canonOut_valid`, `canonOut_raw`); `linkCfiM` (the `cfi` link of `PreW`)
  implies that evaluation (`walkCfi_of_link`), and `cfiOf_res` is `get_caller_by_cfi` around it
  (ARM64: ptr-auth strip of pc and of a VALID fp).
-/
import MdModel.Walk.LayoutMixed
import MdProofs.Lemmas.WalkCfiChain
import MdProofs.Lemmas.WalkCfiCanon
namespace MdModel.Walk
open MdModel

theorem canonOut_valid {a : Arch} {mem : Mem} {o : CfiOut} {cfa ret : Nat} {saved : List (String × Nat)} (n : String) :
    n ∈ (canonOut a mem o cfa ret saved).valid ↔
      n ∈ o.valid ∨ n = a.spName ∨ n = a.ipName ∨ n ∈ saved.map (·.1) := by
  simp only [canonOut, List.mem_foldl_insert (key := fun g : String × Nat => g.1) fun _ _ _ => mem_setInsert,
    mem_setInsert, byName, List.mem_map, List.mem_mergeSort, or_assoc]

theorem canonOut_raw {a : Arch} {mem : Mem} {o : CfiOut} {cfa ret : Nat} {saved : List (String × Nat)}
    (hnd : (saved.map (·.1)).Nodup) {r : String} (hc : a.canon r = some r) (hip : r ≠ a.ipName)
    (hsp : r ≠ a.spName) :
    (canonOut a mem o cfa ret saved).ctx.raw a r =
      match saved.lookup r with
      | some lit => slotWord a mem cfa lit
      | none => o.ctx.raw a r := by
  rw [raw_rest _ hc hip hsp, raw_rest _ hc hip hsp]
  exact assocGet_foldl_byName (slotWord a mem cfa) hnd r _

theorem cfiGroups_eq_groupsOf : ∀ (toks : List RTok), cfiGroups toks = groupsOf toks := by
  intro toks
  induction toks using groupsOf.induct with
  | case1 => rfl
  | case2 r v rest ih => simp only [cfiGroups, groupsOf, ih]
  | case3 toks h1 h2 =>
    unfold cfiGroups groupsOf
    split
    · exact absurd rfl h1
    · exact absurd rfl (h2 _ _ _)
    · split
      · exact absurd rfl h1
      · exact absurd rfl (h2 _ _ _)
      · rfl

theorem matchCanonical_spec {a : Arch} {toks : List RTok} {bytes : Nat} {saved : List (String × Nat)}
    (h : matchCanonical a toks = some (bytes, saved)) :
    ∃ sp, (sp = .dollar a.spName ∨ sp = .bare a.spName) ∧ toks = canonToksS a sp bytes saved := by
  unfold matchCanonical at h
  split at h
  · rename_i sp n w rest
    split at h
    · rename_i hc
      simp only [Option.map_eq_some_iff, Prod.mk.injEq] at h
      obtain ⟨s, hs, rfl, rfl⟩ := h
      rw [cfiGroups_eq_groupsOf] at hs
      refine ⟨sp, hc.1, ?_⟩
      rw [hc.2, groupsOf_spec _ _ hs]
      rfl
    · cases h
  · cases h

theorem maskOf_eq_stripOf (a : Arch) (mask v : Nat) : maskOf a mask v = stripOf a mask v := by
  cases a <;> rfl

theorem slot_addr {a : Arch} {cfa bytes lit : Nat} (hcfa : cfa ≤ a.regMax) (hb : bytes ≤ cfa)
    (h1 : 2 ^ 64 - lit ≤ bytes) (h2 : 2 * a.ptr ≤ 2 ^ 64 - lit) :
    (cfa + lit) % W64 = cfa - (2 ^ 64 - lit) := by
  have hW := regMax_lt a
  have h0 := ptr_pos a
  unfold W64
  omega

theorem slotWord_le (a : Arch) (mem : Mem) (cfa lit : Nat) : slotWord a mem cfa lit ≤ a.regMax := by
  unfold slotWord
  cases hrd : mem.read ((cfa + lit) % W64) a.ptr with
  | none => exact Nat.zero_le _
  | some v => exact read_le_regMax hrd

theorem maskOf_le {a : Arch} (mask : Nat) {x : Nat} (hx : x ≤ a.regMax) : maskOf a mask x ≤ a.regMax := by
  cases a <;> first | exact hx | exact Nat.le_trans Nat.and_le_left hx

theorem walkCfi_of_link {w : World} {a : Arch} {mask : Nat} {mem : Mem} {st : MState} {e : Exp}
    (hl : linkCfiM w a mask mem st e = true) {c : Ctx}
    (hsp : c.get a a.spName = some st.sp) (hemax : e.sp ≤ a.regMax)
    (hlr : st.first = true → a.leafOk = true → st.lr ≤ a.regMax →
      (c.get a (lrName a) = some st.lr ∨
        ∀ rec, cfiRecordAt w st.instr = some rec → tokenize rec.init ≠ leafToks a))
    (o : CfiOut) :
    ∃ rec ret0 saved, cfiRecordAt w st.instr = some rec ∧ rec.adds = [] ∧
      walkCfi { arch := a, callee := c, mem := mem } o rec.init [] = some (canonOut a mem o e.sp ret0 saved) ∧
      maskOf a mask ret0 = e.ret ∧ (saved.map (·.1)).Nodup ∧
      (∀ g ∈ saved, a.calleeSaved.contains g.1 = true ∧ g.1 ≠ a.spName) ∧
      (match saved.lookup a.fpName with
        | some lit => e.fp = some (maskOf a mask (slotWord a mem e.sp lit))
        | none => e.fp = st.fp.map (maskOf a mask)) ∧
      (∀ p ∈ e.regs, a.calleeSaved.contains p.1 = true ∧ p.1 ≠ a.spName ∧ p.1 ≠ a.fpName ∧
        (match saved.lookup p.1 with
          | some lit => slotWord a mem e.sp lit = p.2
          | none => st.regs.lookup p.1 = some p.2)) := by
  unfold linkCfiM at hl
  cases hrec : cfiRecordAt w st.instr with
  | none => rw [hrec] at hl; cases hl
  | some rec =>
    rw [hrec] at hl
    simp only [Bool.and_eq_true, List.isEmpty_iff, List.all_eq_true, bne_iff_ne, ne_eq] at hl
    obtain ⟨⟨hadds, hclaim⟩, hl⟩ := hl
    refine ⟨rec, ?_⟩
    by_cases hleaf : st.first = true ∧ a.leafOk = true ∧ tokenize rec.init = leafToks a
    · -- the leaf rule of the context frame
      rw [if_pos hleaf] at hl
      simp only [Bool.and_eq_true, decide_eq_true_eq, beq_iff_eq] at hl
      obtain ⟨⟨⟨⟨hesp, hlrmax⟩, heret⟩, hefp⟩, hregs⟩ := hl
      have hlrget : c.get a (lrName a) = some st.lr := by
        rcases hlr hleaf.1 hleaf.2.1 hlrmax with h | h
        · exact h
        · exact absurd hleaf.2.2 (h rec hrec)
      have hw2 := walkCfi_leaf { arch := a, callee := c, mem := mem } o rec.init st.sp st.lr hleaf.2.1
        hleaf.2.2 hsp (by show st.sp ≤ a.regMax; omega) hlrget hlrmax
      refine ⟨st.lr, [], rfl, hadds, ?_, heret, by simp, by simp, ?_, ?_⟩
      · -- the leaf rule leaves `canonOut` without groups
        rw [hesp, hw2]
        simp [canonOut, byName]
      · simpa using hefp
      · intro p hp
        obtain ⟨⟨h1, h2⟩, h3⟩ := hclaim p hp
        refine ⟨h1, h2, h3, ?_⟩
        simp only [regsFrom, List.all_eq_true] at hregs
        have := hregs p hp
        simpa using this
    · rw [if_neg hleaf] at hl
      cases hmc : matchCanonical a (tokenize rec.init) with
      | none => rw [hmc] at hl; cases hl
      | some bs =>
        obtain ⟨bytes, saved⟩ := bs
        rw [hmc] at hl
        simp only [Bool.and_eq_true, decide_eq_true_eq, beq_iff_eq, List.all_eq_true, bne_iff_ne, ne_eq] at hl
        obtain ⟨⟨⟨⟨⟨⟨hesp, hpb⟩, hret⟩, hall⟩, hnd⟩, hfp⟩, hregs⟩ := hl
        obtain ⟨sptok, hspt, htoks⟩ := matchCanonical_spec hmc
        cases hrd : mem.read (e.sp - a.ptr) a.ptr with
        | none => rw [hrd] at hret; cases hret
        | some ret =>
          rw [hrd] at hret
          simp only [Option.map_some, Option.some.injEq] at hret
          have hsum : st.sp + bytes = e.sp := hesp.symm
          -- every group: callee-saved, not sp, slot readable at the address the expression computes
          have hgrp : ∀ g ∈ saved, a.calleeSaved.contains g.1 = true ∧ g.1 ≠ a.spName ∧
              (e.sp + g.2) % W64 = e.sp - (2 ^ 64 - g.2) ∧ (mem.read (e.sp - (2 ^ 64 - g.2)) a.ptr).isSome = true := by
            intro g hg
            obtain ⟨⟨⟨⟨h1, h2⟩, h3⟩, h4⟩, h5⟩ := hall g hg
            exact ⟨h1, h2, slot_addr hemax (by omega) h3 h4, h5⟩
          have hw2 := walkCfi_canonS { arch := a, callee := c, mem := mem } o rec.init sptok bytes st.sp ret saved
            hspt htoks hsp (by show st.sp + bytes ≤ a.regMax; omega) (by show a.ptr ≤ st.sp + bytes; omega)
            (by show mem.read (st.sp + bytes - a.ptr) a.ptr = some ret; rw [hsum]; exact hrd) hnd
            (by
              intro g hg
              obtain ⟨h1, h2, h3, h4⟩ := hgrp g hg
              obtain ⟨hc, hip⟩ := canon_calleeSaved h1
              refine ⟨hc, hip, h2, ?_⟩
              show (mem.read ((st.sp + bytes + g.2) % W64) a.ptr).isSome = true
              rw [hsum, h3]; exact h4)
          rw [hsum] at hw2
          -- a slot word, as `PreW` reads it
          have hslot : ∀ r lit, saved.lookup r = some lit →
              mem.read (e.sp - (2 ^ 64 - lit)) a.ptr = some (slotWord a mem e.sp lit) := by
            intro r lit hlk
            obtain ⟨_, _, h3, h4⟩ := hgrp (r, lit) (List.mem_of_lookup_eq_some hlk)
            obtain ⟨v, hv⟩ := Option.isSome_iff_exists.mp h4
            simp only [slotWord, h3, hv, Option.getD_some]
          refine ⟨ret, saved, rfl, hadds, hw2, hret, hnd, fun g hg => ⟨(hgrp g hg).1, (hgrp g hg).2.1⟩, ?_, ?_⟩
          · cases hlk : saved.lookup a.fpName with
            | some lit =>
              simp only [hlk, Option.map_some, hslot _ _ hlk, Bool.and_eq_true, beq_iff_eq] at hfp
              exact hfp.1.symm
            | none =>
              simp only [hlk, Option.map_none, beq_iff_eq] at hfp
              exact hfp
          · intro p hp
            obtain ⟨⟨h1, h2⟩, h3⟩ := hclaim p hp
            refine ⟨h1, h2, h3, ?_⟩
            simp only [regsFrom, List.all_eq_true] at hregs
            have := hregs p hp
            simp only [if_neg h3] at this
            cases hlk : saved.lookup p.1 with
            | some lit =>
              simp only [hlk, Option.map_some, hslot _ _ hlk, beq_iff_eq, Option.some.injEq] at this
              exact this
            | none =>
              simp only [hlk, Option.map_none, beq_iff_eq] at this
              exact this

theorem plainValid_canon {a : Arch} {V : List String} (h : PlainValid a V) : ∀ n ∈ V, a.canon n = some n := by
  intro n hn
  rcases h n hn with h | rfl | rfl
  · exact (canon_calleeSaved h).1
  · exact spName_canon a
  · exact ipName_canon a

/-- in such a set a canonical register name is valid exactly when it is a member: a member that
    is one of its aliases is canonical itself, hence the name -/
theorem has_of_plain {a : Arch} {c : Ctx} {V : List String} (hv : c.valid = some V) (hV : PlainValid a V)
    {r : String} (hr : a.canon r = some r) : c.has a r = V.contains r := by
  unfold Ctx.has
  rw [hv, Bool.eq_iff_iff, List.any_eq_true, List.contains_iff_mem]
  constructor
  · rintro ⟨n, hn, hnV⟩
    have hnV : n ∈ V := List.contains_iff_mem.mp hnV
    have hc := canon_of_mem_aliases hn
    rw [plainValid_canon hV n hnV, hr] at hc
    rw [← Option.some.inj hc]; exact hnV
  · intro h
    exact ⟨r, self_mem_aliases a r, List.contains_iff_mem.mpr h⟩

/-- the caller context `get_caller_by_cfi` returns, read through `register_is_valid` and
    `get_register_always`: ip (ptr-auth stripped on ARM64), sp, the validity set as `walk_frame`
    left it, every other register as `walk_frame` left it — except a VALID frame pointer on
    ARM64, whose ptr-auth bits are stripped -/
structure CfiRes (a : Arch) (mask : Nat) (o : CfiOut) (c' : Ctx) : Prop where
  ip : c'.ip = stripOf a mask o.ctx.ip
  sp : c'.sp = o.ctx.sp
  m64 : c'.m64 = o.ctx.m64
  valid : c'.valid = some o.valid
  raw : ∀ r, a.canon r = some r → r ≠ a.ipName → r ≠ a.spName →
    c'.raw a r = if r = a.fpName ∧ o.valid.contains r = true then stripOf a mask (o.ctx.raw a r) else o.ctx.raw a r

theorem CfiRes.of_caller (a : Arch) (mask : Nat) (o : CfiOut) : CfiRes a mask o (cfiCaller a mask o) := by
  refine ⟨rfl, rfl, rfl, rfl, fun r hc hip hsp => ?_⟩
  rw [raw_rest _ hc hip hsp, raw_rest _ hc hip hsp, stripOf_eq]
  unfold cfiCaller
  by_cases h64 : a = .arm64 ∨ a = .arm64old
  · simp only [h64, true_and, if_true, fpName_arm64 h64]
    by_cases hfp : o.valid.contains "fp" = true
    · rw [if_pos hfp]
      by_cases hr : r = "fp"
      · subst hr
        rw [if_pos ⟨rfl, hfp⟩]
        exact assocGet_assocSet_same _ _ _
      · rw [if_neg fun h => hr h.1]
        exact assocGet_assocSet_ne _ _ _ _ (Ne.symm hr)
    · have hr : ¬ (r = "fp" ∧ o.valid.contains r = true) := fun h => hfp (h.1 ▸ h.2)
      rw [if_neg hfp, if_neg hr]
  · simp only [h64, false_and, if_false, ite_self]

theorem CfiRes.of_plain {a : Arch} (mask : Nat) (o : CfiOut) (h1 : a ≠ .arm64) (h2 : a ≠ .arm64old) :
    CfiRes a mask o { o.ctx with valid := some o.valid } := by
  cases a <;> first | exact CfiRes.of_caller _ mask o | exact absurd rfl h1 | exact absurd rfl h2

theorem cfiOf_res {a : Arch} {w : World} {mask : Nat} {mem : Mem} {f : Frame} {g : Option Frame} {o : CfiOut}
    (heff : effArch a f.ctx = a) (hsp : f.ctx.has a a.spName = true)
    (hw : cfiWalk a w (modTable w.mods) (cfiTables w) mem f = some o) (hV : PlainValid a o.valid) :
    ∃ c', cfiOf a w (modTable w.mods) (cfiTables w) mask mem f g = some c' ∧ CfiRes a mask o c' :=
  ⟨_, cfiOf_of_walk heff hsp hw hV, CfiRes.of_caller a mask o⟩

end MdModel.Walk
