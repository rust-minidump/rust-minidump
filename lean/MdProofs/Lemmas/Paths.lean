/-
  Lemmas about `MdModel.Paths` (property C17): splitting and joining, leaf names, identifiers made
  of hex digits, the shape `leaf/id/file` of every lookup path, percent-encoding.
-/
import MdModel.Paths
import MdProofs.Lemmas.Word
namespace MdModel.Paths

/-- the splitter is core's `List.splitOnP`, whose lemmas say what it does at a separator, on a text without one
    and that it yields at least one piece -/
theorem splitOnP_eq (p : Char → Bool) (s : Str) : splitOnP p s = List.splitOnP p s := by
  induction s with
  | nil => rfl
  | cons c cs ih =>
    rw [splitOnP, ih, List.splitOnP_cons_eq_if_modifyHead]
    cases h : List.splitOnP p cs with
    | nil => exact absurd h (List.splitOnP_ne_nil p cs)
    | cons w ws => rfl

theorem splitOnP_ne_nil (p : Char → Bool) (s : Str) : splitOnP p s ≠ [] :=
  splitOnP_eq p s ▸ List.splitOnP_ne_nil p s

theorem splitOnP_nosep {p : Char → Bool} {w : Str} (h : ∀ c ∈ w, p c = false) :
    splitOnP p w = [w] :=
  splitOnP_eq p w ▸ List.splitOnP_eq_singleton h

theorem mem_splitOnP {p : Char → Bool} {s : Str} {w : Str} (hw : w ∈ splitOnP p s) :
    ∀ c ∈ w, c ∈ s ∧ p c = false := by
  induction s generalizing w with
  | nil => rw [splitOnP, List.mem_singleton] at hw; subst hw; exact fun _ h => nomatch h
  | cons a as ih =>
    obtain ⟨x, xs, hx⟩ := List.exists_cons_of_ne_nil (splitOnP_ne_nil p as)
    have ih' : ∀ w ∈ x :: xs, ∀ c ∈ w, c ∈ a :: as ∧ p c = false := fun w hw c hc =>
      ⟨List.mem_cons_of_mem _ (ih (hx ▸ hw) c hc).1, (ih (hx ▸ hw) c hc).2⟩
    cases hp : p a <;> simp only [splitOnP, hp, hx, Bool.false_eq_true, if_false, if_true] at hw
    · rcases List.mem_cons.mp hw with rfl | h
      · exact List.forall_mem_cons.mpr ⟨⟨List.mem_cons_self, hp⟩, ih' x List.mem_cons_self⟩
      · exact ih' w (List.mem_cons_of_mem _ h)
    · rcases List.mem_cons.mp hw with rfl | h
      · exact fun _ h => nomatch h
      · exact ih' w h

theorem splitOnP_refine {p q : Char → Bool} (hpq : ∀ c, p c = true → q c = true) (s : Str) :
    splitOnP q s = (splitOnP p s).flatMap (splitOnP q) := by
  induction s with
  | nil => simp [splitOnP]
  | cons c cs ih =>
    cases hp : p c with
    | true =>
      have hq := hpq c hp
      simp [splitOnP, hp, hq, ih]
    | false =>
      obtain ⟨x, xs, hx⟩ := List.exists_cons_of_ne_nil (splitOnP_ne_nil p cs)
      rw [hx] at ih
      simp only [List.flatMap_cons] at ih
      cases hq : q c with
      | true => simp [splitOnP, hp, hq, hx, ih]
      | false =>
        obtain ⟨y, ys, hy⟩ := List.exists_cons_of_ne_nil (splitOnP_ne_nil q x)
        rw [hy] at ih
        simp [splitOnP, hp, hq, hx, ih, hy]

theorem mem_splitOnP_refine {p q : Char → Bool} (hpq : ∀ c, p c = true → q c = true) {s w : Str}
    (hw : w ∈ splitOnP p s) (hq : ∀ c ∈ w, q c = false) : w ∈ splitOnP q s := by
  rw [splitOnP_refine hpq s]
  exact List.mem_flatMap.mpr ⟨w, hw, by simp [splitOnP_nosep hq]⟩

theorem splitOnP_append_sep {p : Char → Bool} (a : Str) {s : Char} (hs : p s = true) (b : Str) :
    splitOnP p (a ++ s :: b) = splitOnP p a ++ splitOnP p b := by
  simp only [splitOnP_eq, List.splitOnP_append_cons a b hs]

theorem joinWith_cons_cons (sep x y : Str) (rest : List Str) :
    joinWith sep (x :: y :: rest) = x ++ sep ++ joinWith sep (y :: rest) := rfl

theorem joinWith_append_singleton (sep : Str) {xs : List Str} (hx : xs ≠ []) (y : Str) :
    joinWith sep (xs ++ [y]) = joinWith sep xs ++ sep ++ y := by
  induction xs with
  | nil => exact absurd rfl hx
  | cons a as ih =>
    cases as with
    | nil => rfl
    | cons b bs =>
      rw [List.cons_append, List.cons_append, joinWith_cons_cons, joinWith_cons_cons,
        ← List.cons_append, ih (by simp)]
      simp only [List.append_assoc]

theorem mem_joinWith {sep : Str} {xs : List Str} {c : Char} (h : c ∈ joinWith sep xs) :
    c ∈ sep ∨ ∃ x ∈ xs, c ∈ x := by
  induction xs with
  | nil => simp [joinWith] at h
  | cons a as ih =>
    cases as with
    | nil => exact Or.inr ⟨a, by simp, h⟩
    | cons b bs =>
      simp only [joinWith, List.mem_append] at h
      rcases h with (h | h) | h
      · exact Or.inr ⟨a, by simp, h⟩
      · exact Or.inl h
      · rcases ih h with h | ⟨x, hx, hc⟩
        · exact Or.inl h
        · exact Or.inr ⟨x, by simp [hx], hc⟩

theorem splitOnP_joinWith {p : Char → Bool} {sep : Char} (hs : p sep = true) :
    ∀ segs : List Str, segs ≠ [] → (∀ s ∈ segs, ∀ c ∈ s, p c = false) →
      splitOnP p (joinWith [sep] segs) = segs
  | [], h, _ => absurd rfl h
  | [x], _, hx => splitOnP_nosep (hx x (by simp))
  | x :: y :: rest, _, hx => by
    have ih := splitOnP_joinWith hs (y :: rest) (by simp) (fun s hm => hx s (by simp [hm]))
    rw [joinWith_cons_cons, List.append_assoc, List.singleton_append, splitOnP_append_sep _ hs,
      splitOnP_nosep (hx x (by simp)), ih, List.singleton_append]

theorem ofNat_ne {n : Nat} {d : Char} (hn : n < 0xd800) (h : n ≠ d.toNat) : Char.ofNat n ≠ d :=
  fun e => h (Char.toNat_ofNat_of_lt hn ▸ congrArg Char.toNat e)

theorem not_slash_of_not_sep {c : Char} (h : isSep c = false) : (c == '/') = false := by
  simp only [isSep, Bool.or_eq_false_iff] at h
  exact h.1

theorem leafname_nosep (p : Str) : ∀ c ∈ leafname p, isSep c = false := by
  intro c hc
  unfold leafname at hc
  rw [List.mem_reverse] at hc
  simpa using List.all_eq_true.mp List.all_takeWhile c hc

structure SafeLeaf (l : Str) : Prop where
  nonempty : l ≠ []
  not_dot : l ≠ ['.']
  not_dotdot : l ≠ dotdot
  no_drive : hasDrivePrefix l = false
  nosep : ∀ c ∈ l, isSep c = false

theorem safeLeafname_some {p l : Str} (h : safeLeafname p = some l) : SafeLeaf l ∧ l = leafname p := by
  unfold safeLeafname at h
  simp only at h
  split at h
  · cases h
  · rename_i hn
    cases h
    simp only [not_or] at hn
    exact ⟨⟨hn.1, hn.2.1, hn.2.2.1, by simpa using hn.2.2.2, leafname_nosep p⟩, rfl⟩

theorem safeLeafname_none_iff (p : Str) :
    safeLeafname p = none ↔
      (leafname p = [] ∨ leafname p = ['.'] ∨ leafname p = dotdot ∨ hasDrivePrefix (leafname p) = true) := by
  unfold safeLeafname
  simp only
  split <;> simp_all [dotdot]

theorem replaceOrAddExtension_shape (filename m n : Str) :
    ∃ stem, replaceOrAddExtension filename m n = stem ++ '.' :: n ∧
      ∀ c ∈ stem, c ∈ filename ∨ c = '.' := by
  -- whichever pieces are kept (`bits`), they are pieces of the file name
  suffices ∀ bits : List Str, bits ≠ [] → (∀ w ∈ bits, w ∈ splitOnP (· == '.') filename) →
      ∃ stem, joinWith ['.'] (bits ++ [n]) = stem ++ '.' :: n ∧
        ∀ c ∈ stem, c ∈ filename ∨ c = '.' by
    have hne := splitOnP_ne_nil (· == '.') filename
    unfold replaceOrAddExtension
    simp only
    split
    · rename_i hcond
      refine this _ (fun h => ?_) (fun w hw => List.dropLast_subset _ hw)
      have := congrArg List.length h
      simp at this; omega
    · exact this _ hne (fun w hw => hw)
  intro bits hne hbits
  refine ⟨joinWith ['.'] bits, by rw [joinWith_append_singleton _ hne]; simp, ?_⟩
  intro c hc
  rcases mem_joinWith hc with h | ⟨x, hx, hcx⟩
  · right; simpa using h
  · left; exact (mem_splitOnP (hbits x hx) c hcx).1

/-- code points of the bytes `keepRaw` copies: its three ranges and its punctuation list -/
def keptCodes : List Nat :=
  List.range' 65 26 ++ List.range' 97 26 ++ List.range' 48 10 ++
    [45, 46, 95, 126, 33, 36, 38, 39, 40, 41, 42, 43, 44, 59, 61, 58, 64]

theorem hexDigits : ∀ n : Fin 16, isAsciiHexDigit (hexU n) = true ∧ isAsciiHexDigit (hexL n) = true ∧
    Proto.hexDigitVal (hexU n) = some n.val ∧ (hexU n).toNat ∈ keptCodes := by decide +kernel

theorem upperHexByte_hex (b : UInt8) : ∀ c ∈ upperHexByte b, isAsciiHexDigit c = true := by
  have hb : b.toNat < 256 := b.toNat_lt
  intro c hc
  simp only [upperHexByte, List.mem_cons, List.not_mem_nil, or_false] at hc
  rcases hc with rfl | rfl
  · exact (hexDigits ⟨b.toNat / 16, by omega⟩).1
  · exact (hexDigits ⟨b.toNat % 16, by omega⟩).1

theorem lowerHexFuel_hex (fuel n : Nat) (acc : Str) (hacc : ∀ c ∈ acc, isAsciiHexDigit c = true) :
    ∀ c ∈ lowerHexFuel fuel n acc, isAsciiHexDigit c = true := by
  have hd (n : Nat) : isAsciiHexDigit (hexL (n % 16)) = true := (hexDigits ⟨n % 16, by omega⟩).2.1
  fun_induction lowerHexFuel fuel n acc with
  | case1 => exact hacc
  | case2 _ n => exact List.forall_mem_cons.mpr ⟨hd n, hacc⟩
  | case3 _ n _ _ _ ih => exact ih (List.forall_mem_cons.mpr ⟨hd n, hacc⟩)

theorem lowerHexFuel_ne_nil (fuel n : Nat) (acc : Str) : lowerHexFuel (fuel + 1) n acc ≠ [] := by
  induction fuel generalizing n acc with
  | zero => unfold lowerHexFuel; simp only; split <;> simp [lowerHexFuel]
  | succ k ih =>
    unfold lowerHexFuel; simp only
    split
    · simp
    · exact ih _ _

theorem lowerHexNat_hex (n : Nat) : ∀ c ∈ lowerHexNat n, isAsciiHexDigit c = true :=
  lowerHexFuel_hex _ _ _ (by simp)

theorem lowerHexNat_ne_nil (n : Nat) : lowerHexNat n ≠ [] := lowerHexFuel_ne_nil _ _ _

theorem breakpad_hex (d : DebugId) : ∀ c ∈ d.breakpad, isAsciiHexDigit c = true := by
  intro c hc
  unfold DebugId.breakpad at hc
  rcases List.mem_append.mp hc with h | h
  · split at h
    all_goals
      obtain ⟨b, _, hb⟩ := List.mem_flatMap.mp h
      exact upperHexByte_hex b c hb
  · exact lowerHexNat_hex _ c h

theorem breakpad_ne_nil (d : DebugId) : d.breakpad ≠ [] := by
  unfold DebugId.breakpad
  intro h
  exact lowerHexNat_ne_nil _ (List.append_eq_nil_iff.mp h).2

/-- what is used of a hex digit, checked on the 128 ASCII code points: it is no separator and no
    `.`, and ASCII case change keeps it a hex digit -/
theorem hexTable : ∀ n : Fin 128, isAsciiHexDigit (Char.ofNat n) = true →
    isSep (Char.ofNat n) = false ∧ Char.ofNat n ≠ '.' ∧
      isAsciiHexDigit (Char.ofNat n).toLower = true ∧
      isAsciiHexDigit (Char.ofNat n).toUpper = true := by
  decide +kernel

theorem hex_facts {c : Char} (h : isAsciiHexDigit c = true) :
    isSep c = false ∧ c ≠ '.' ∧ isAsciiHexDigit c.toLower = true ∧
      isAsciiHexDigit c.toUpper = true := by
  have hlt : c.toNat < 128 := by
    simp only [isAsciiHexDigit, Bool.or_eq_true, decide_eq_true_eq, Char.le_def,
      UInt32.le_iff_toNat_le, Char.toNat_val] at h
    have h9 : '9'.toNat = 57 := rfl
    have hf : 'f'.toNat = 102 := rfl
    have hF : 'F'.toNat = 70 := rfl
    omega
  have := hexTable ⟨c.toNat, hlt⟩
  rw [Char.ofNat_toNat] at this
  exact this h

theorem codeIdNew_hex (s : Str) : ∀ c ∈ codeIdNew s, isAsciiHexDigit c = true := by
  intro c hc
  obtain ⟨a, ha, rfl⟩ := List.mem_map.mp hc
  exact (hex_facts (List.mem_filter.mp ha).2).2.2.1

theorem codeIdNew_upper_hex (s : Str) :
    ∀ c ∈ (codeIdNew s).map Char.toUpper, isAsciiHexDigit c = true := by
  intro c hc
  obtain ⟨a, ha, rfl⟩ := List.mem_map.mp hc
  exact (hex_facts (codeIdNew_hex s a ha)).2.2.2

theorem hex_component_ok {w : Str} (h : ∀ c ∈ w, isAsciiHexDigit c = true) :
    (∀ c ∈ w, isSep c = false) ∧ w ≠ dotdot ∧ w ≠ ['.'] := by
  have hdot : ¬ '.' ∈ w := fun hm => (hex_facts (h _ hm)).2.1 rfl
  exact ⟨fun c hc => (hex_facts (h c hc)).1, fun e => hdot (by simp [e, dotdot]),
    fun e => hdot (by simp [e])⟩

theorem rootedb_iff (p : Str) : rootedb p = true ↔ Rooted p := by
  cases p with
  | nil => exact ⟨fun h => by simp [rootedb] at h, fun h => absurd rfl h.nonempty⟩
  | cons c cs =>
    simp only [rootedb, Bool.and_eq_true, Bool.not_eq_true', List.contains_eq_mem,
      decide_eq_false_iff_not]
    exact ⟨fun ⟨⟨h1, h2⟩, h3⟩ => ⟨by simp, fun d hd => Option.some.inj hd ▸ h1, h2, h3⟩,
      fun h => ⟨⟨h.no_leading_sep c rfl, h.no_drive⟩, h.no_dotdot⟩⟩

/-- `p = leaf/id/file` with a safe leaf and separator-free, non-`..` other components -/
def Three (p : Str) : Prop :=
  ∃ leaf id file, p = joinWith slash [leaf, id, file] ∧ SafeLeaf leaf ∧
    (∀ c ∈ id, isSep c = false) ∧ id ≠ dotdot ∧ id ≠ ['.'] ∧
    (∀ c ∈ file, isSep c = false) ∧ file ≠ [] ∧ file ≠ dotdot ∧ file ≠ ['.']

/-- three pieces free of `q`-separators, joined with `/`, split on `q` into the three pieces:
    used with `q = isSep` (the components `Rooted` speaks of) and `q = (· == '/')` (URL segments) -/
theorem splitOnP_three {q : Char → Bool} (hq : q '/' = true) {leaf id file : Str}
    (hl : ∀ c ∈ leaf, q c = false) (hi : ∀ c ∈ id, q c = false) (hf : ∀ c ∈ file, q c = false) :
    splitOnP q (joinWith slash [leaf, id, file]) = [leaf, id, file] :=
  splitOnP_joinWith hq _ (by simp) (by simpa using ⟨hl, hi, hf⟩)

theorem hasDrivePrefix_append {l : Str} (hl : l ≠ []) (hd : hasDrivePrefix l = false)
    (rest : Str) : hasDrivePrefix (l ++ slash ++ rest) = false := by
  match l, hl with
  | [a], _ => simp [hasDrivePrefix, slash]
  | a :: b :: t, _ => exact hd

theorem Three.rooted {p : Str} (h : Three p) : Rooted p := by
  obtain ⟨leaf, id, file, rfl, hl, hi, hi2, _, hf, _, hf2, _⟩ := h
  refine ⟨?_, ?_, hasDrivePrefix_append hl.nonempty hl.no_drive _, ?_⟩
  · obtain ⟨a, as, rfl⟩ := List.exists_cons_of_ne_nil hl.nonempty
    simp [joinWith]
  · obtain ⟨a, as, rfl⟩ := List.exists_cons_of_ne_nil hl.nonempty
    intro c hc
    simp [joinWith] at hc; subst hc
    exact hl.nosep a (by simp)
  · unfold comps
    rw [splitOnP_three rfl hl.nosep hi hf]
    simp only [List.mem_cons, List.not_mem_nil, or_false, not_or]
    exact ⟨fun h => hl.not_dotdot h.symm, fun h => hi2 h.symm, fun h => hf2 h.symm⟩

theorem Three.ne_nil {p : Str} (h : Three p) : p ≠ [] := h.rooted.nonempty

/-- `moz_lookup`'s edit (drop the last character, append `_`) keeps the shape -/
theorem Three.moz {p : Str} (h : Three p) : Three (p.dropLast ++ ['_']) := by
  obtain ⟨leaf, id, file, rfl, hl, hi, hi2, hi3, hf, hfne, _, _⟩ := h
  refine ⟨leaf, id, file.dropLast ++ ['_'], ?_, hl, hi, hi2, hi3, ?_, by simp, ?_, ?_⟩
  · show (leaf ++ slash ++ (id ++ slash ++ file)).dropLast ++ ['_'] =
      leaf ++ slash ++ (id ++ slash ++ (file.dropLast ++ ['_']))
    rw [← List.append_assoc _ _ file, ← List.append_assoc,
      List.dropLast_append_of_ne_nil hfne]
    simp only [List.append_assoc]
  · intro c hc
    rcases List.mem_append.mp hc with h | h
    · exact hf c (List.dropLast_subset _ h)
    · simp at h; subst h; decide
  · intro h
    have h2 := congrArg List.getLast? h
    simp [dotdot] at h2
  · intro h
    have h2 := congrArg List.getLast? h
    simp at h2

theorem SafeLeaf.three_leaf {leaf last id : Str} (hl : SafeLeaf leaf) (hl2 : SafeLeaf last)
    (hid : ∀ c ∈ id, isAsciiHexDigit c = true) : Three (joinWith slash [leaf, id, last]) :=
  ⟨leaf, id, last, rfl, hl, (hex_component_ok hid).1, (hex_component_ok hid).2.1,
    (hex_component_ok hid).2.2, hl2.nosep,
    hl2.nonempty, hl2.not_dotdot, hl2.not_dot⟩

/-- `leaf/id/stem.sym`: the file name ends in `.sym`, so it is neither empty, `.` nor `..`, and its
    stem has no separator because the leaf has none -/
theorem SafeLeaf.three_ext {leaf id m : Str} (hl : SafeLeaf leaf)
    (hid : ∀ c ∈ id, isAsciiHexDigit c = true) :
    Three (joinWith slash [leaf, id, replaceOrAddExtension leaf m sym]) := by
  obtain ⟨stem, he, hs⟩ := replaceOrAddExtension_shape leaf m sym
  have hlen : ∀ w : Str, stem ++ '.' :: sym = w → 4 ≤ w.length := by
    intro w e; rw [← e]; simp [sym]
  refine ⟨leaf, id, _, rfl, hl, (hex_component_ok hid).1, (hex_component_ok hid).2.1,
    (hex_component_ok hid).2.2, ?_, ?_, ?_, ?_⟩ <;> rw [he]
  · intro c hc
    rcases List.mem_append.mp hc with h | h
    · rcases hs c h with h | rfl
      · exact hl.nosep c h
      · rfl
    · exact (by decide : ∀ c ∈ '.' :: sym, isSep c = false) c h
  all_goals intro e; have := hlen _ e; simp [dotdot] at this

/-- The alphabet of an encoded segment, by code point: the kept bytes and `%`. (The kernel reads a
    string literal as `String.ofList` of its characters, so this is a comparison of two lists and
    not an evaluation of `String.toList`.) -/
theorem urlSegChars_eq : urlSegChars = (keptCodes ++ [37]).map Char.ofNat := String.toList_ofList

theorem keptCodes_plain : ∀ n ∈ keptCodes,
    32 < n ∧ n < 127 ∧ n ≠ 37 ∧ n ≠ 47 ∧ n ≠ 92 ∧ n ≠ 63 ∧ n ≠ 35 := by decide +kernel

theorem mem_range_of_between {b lo hi : UInt8} (h : (decide (lo ≤ b) && decide (b ≤ hi)) = true) :
    b.toNat ∈ List.range' lo.toNat (hi.toNat + 1 - lo.toNat) := by
  simp only [Bool.and_eq_true, decide_eq_true_eq, UInt8.le_iff_toNat_le] at h
  rw [List.mem_range'_1]; omega

theorem keepRaw_codes {b : UInt8} (h : keepRaw b = true) : b.toNat ∈ keptCodes := by
  simp only [keepRaw, Bool.or_eq_true] at h
  simp only [keptCodes, List.mem_append]
  rcases h with ((h | h) | h) | h
  · exact .inl (.inl (.inl (mem_range_of_between h)))
  · exact .inl (.inl (.inr (mem_range_of_between h)))
  · exact .inl (.inr (mem_range_of_between h))
  · exact .inr (List.mem_map_of_mem (f := UInt8.toNat) (List.contains_iff_mem.mp h))

theorem mem_urlSegChars_of_code {n : Nat} (h : n ∈ keptCodes ∨ n = 37) :
    Char.ofNat n ∈ urlSegChars := by
  rw [urlSegChars_eq]
  exact List.mem_map_of_mem (by simpa using h)

theorem pctEncodeByte_chars (b : UInt8) : ∀ c ∈ pctEncodeByte b, c ∈ urlSegChars := by
  have hb : b.toNat < 256 := b.toNat_lt
  have hexU_mem : ∀ k, k < 16 → hexU k ∈ urlSegChars := fun k hk =>
    Char.ofNat_toNat (hexU k) ▸ mem_urlSegChars_of_code (.inl (hexDigits ⟨k, hk⟩).2.2.2)
  intro c hc
  unfold pctEncodeByte at hc
  split at hc
  · rename_i hk
    rw [List.mem_singleton.mp hc]
    exact mem_urlSegChars_of_code (.inl (keepRaw_codes hk))
  · simp only [List.mem_cons, List.not_mem_nil, or_false] at hc
    rcases hc with rfl | rfl | rfl
    · exact mem_urlSegChars_of_code (.inr rfl)
    · exact hexU_mem _ (by omega)
    · exact hexU_mem _ (by omega)

theorem pctEncode_chars (w : Str) : ∀ c ∈ pctEncode w, c ∈ urlSegChars := by
  intro c hc
  obtain ⟨b, _, hb⟩ := List.mem_flatMap.mp hc
  exact pctEncodeByte_chars b c hb

theorem urlSegChars_plain : ∀ c ∈ urlSegChars,
    c ≠ '/' ∧ c ≠ '\\' ∧ c ≠ '?' ∧ c ≠ '#' ∧ 32 < c.toNat ∧ c.toNat < 127 := by
  intro c hc
  rw [urlSegChars_eq] at hc
  obtain ⟨n, hn, rfl⟩ := List.mem_map.mp hc
  have hp : 32 < n ∧ n < 127 ∧ n ≠ 47 ∧ n ≠ 92 ∧ n ≠ 63 ∧ n ≠ 35 := by
    rcases List.mem_append.mp hn with h | h
    · have := keptCodes_plain n h; omega
    · rw [List.mem_singleton.mp h]; decide
  have hn : n < 0xd800 := by omega
  rw [Char.toNat_ofNat_of_lt hn]
  exact ⟨ofNat_ne hn hp.2.2.1, ofNat_ne hn hp.2.2.2.1, ofNat_ne hn hp.2.2.2.2.1,
    ofNat_ne hn hp.2.2.2.2.2, hp.1, hp.2.1⟩

theorem pctDecode_cons_ne (c : Char) (rest : Str) (h : c ≠ '%') :
    pctDecode (c :: rest) = UInt8.ofNat c.toNat :: pctDecode rest := by
  conv => lhs; unfold pctDecode
  simp [h]

theorem pctDecode_pct (a b : Char) (rest : Str) (x y : Nat) (ha : Proto.hexDigitVal a = some x)
    (hb : Proto.hexDigitVal b = some y) :
    pctDecode ('%' :: a :: b :: rest) = UInt8.ofNat (x * 16 + y) :: pctDecode rest := by
  conv => lhs; unfold pctDecode
  simp [ha, hb]

theorem pctDecode_encodeByte (b : UInt8) (rest : Str) :
    pctDecode (pctEncodeByte b ++ rest) = b :: pctDecode rest := by
  have hb : b.toNat < 256 := b.toNat_lt
  unfold pctEncodeByte
  cases hkb : keepRaw b with
  | true =>
    -- a kept byte is not `%` and is its own code point
    have hn : b.toNat < 0xd800 := by omega
    simp only [if_true, List.cons_append, List.nil_append]
    rw [pctDecode_cons_ne _ _ (ofNat_ne hn (keptCodes_plain _ (keepRaw_codes hkb)).2.2.1),
      Char.toNat_ofNat_of_lt hn, UInt8.ofNat_toNat]
  | false =>
    simp only [Bool.false_eq_true, if_false, List.cons_append, List.nil_append]
    rw [pctDecode_pct _ _ _ _ _ (hexDigits ⟨b.toNat / 16, by omega⟩).2.2.1
      (hexDigits ⟨b.toNat % 16, by omega⟩).2.2.1]
    have : b.toNat / 16 * 16 + b.toNat % 16 = b.toNat := by omega
    simp only [this, UInt8.ofNat_toNat]

theorem pctDecode_flatMap (bs : List UInt8) : pctDecode (bs.flatMap pctEncodeByte) = bs := by
  induction bs with
  | nil => simp [pctDecode]
  | cons b bs ih => rw [List.flatMap_cons, pctDecode_encodeByte, ih]

theorem pctDecode_pctEncode (w : Str) : pctDecode (pctEncode w) = utf8 w :=
  pctDecode_flatMap _

end MdModel.Paths
