/-
  C12: the progress measure. Every poll is non-increasing in `measure`, and a poll of
  a task that is neither finished nor blocked on a held lock strictly decreases it.
-/
import MdProofs.Lemmas.OnceInv
namespace MdModel.Once
open MdModel

theorem poll_other (cfg : Cfg) (t : Nat) (s : State) {u : Nat} (hu : u ≠ t) :
    ((poll cfg t s).task u).ctl = (s.task u).ctl ∧ ((poll cfg t s).task u).rest = (s.task u).rest := by
  let P (s' : State) := (s'.task u).ctl = (s.task u).ctl ∧ (s'.task u).rest = (s.task u).rest
  refine poll_induction cfg t s (I := P) (M := P) (fun _ => ⟨rfl, rfl⟩) ?_ ?_ ?_ ?_ ?_ ?_ ?_
  · intro k n _; simp [P, upd_apply, hu]
  · simp [P, upd_apply, hu]
  · intro s' h _ _; simpa [P, upd_apply, hu] using h
  · intro s' k r v h _ _; simpa [P, upd_apply, hu] using h
  · intro s' k r res h _ _; simpa [P, upd_apply, hu] using h
  · intro s' k r n h _ _
    constructor <;> intros <;> simpa [P, acquire, upd_apply, hu] using h
  · intro s' k n r h _ _; simpa [P, complete, upd_apply, hu] using h


theorem taskMeasure_congr (cfg : Cfg) {T T' : Task} (h1 : T'.ctl = T.ctl) (h2 : T'.rest = T.rest) :
    taskMeasure cfg T' = taskMeasure cfg T := by
  simp [taskMeasure, h1, h2]

theorem cost_cons (cfg : Cfg) (k : Nat) (r : List Nat) :
    cost cfg (k :: r) = (cfg.sup k).delay + 3 + cost cfg r := by
  simp [cost]

def blocked (s : State) (t : Nat) : Prop :=
  ∃ k u, (s.task t).ctl = .waiting k ∧ s.slot k = .held u

theorem looking_measure (cfg : Cfg) {s : State} {t k : Nat} {r : List Nat} (hL : Looking s t k r) :
    ((s.task t).ctl = .waiting k ∧
        taskMeasure cfg (s.task t) = (cfg.sup k).delay + 3 + cost cfg r) ∨
      (cfg.sup k).delay + 3 + cost cfg r < taskMeasure cfg (s.task t) := by
  obtain ⟨hc | hc, htodo⟩ := hL <;> simp only [todo, hc] at htodo
  · right; simp [taskMeasure, hc, htodo, cost_cons]
  · left; cases htodo; exact ⟨hc, by simp [taskMeasure, hc]⟩

theorem poll_task_measure (cfg : Cfg) (t : Nat) (s : State) :
    taskMeasure cfg ((poll cfg t s).task t) < taskMeasure cfg (s.task t) ∨
      (taskMeasure cfg ((poll cfg t s).task t) = taskMeasure cfg (s.task t) ∧
        ((s.task t).ctl = .fin ∨ blocked s t)) := by
  obtain ⟨m, hm⟩ : ∃ m, m = taskMeasure cfg (s.task t) := ⟨_, rfl⟩
  rw [← hm]
  -- mid-poll: the measure has dropped, or nothing but the wake flag has changed yet
  let M (s' : State) := taskMeasure cfg (s'.task t) < m ∨
    ((s'.task t).ctl = (s.task t).ctl ∧ (s'.task t).rest = (s.task t).rest ∧ s'.slot = s.slot)
  have hle : ∀ s', M s' → taskMeasure cfg (s'.task t) ≤ m := by
    rintro s' (h | ⟨h1, h2, _⟩)
    · exact Nat.le_of_lt h
    · exact hm ▸ Nat.le_of_eq (taskMeasure_congr cfg h1 h2)
  refine poll_induction cfg t s (M := M)
    (I := fun s' => taskMeasure cfg (s'.task t) < m ∨
      (taskMeasure cfg (s'.task t) = m ∧ ((s.task t).ctl = .fin ∨ blocked s t)))
    (fun hc => Or.inr ⟨hm.symm, Or.inl hc⟩) ?_ (Or.inr (by simp)) ?_ ?_ ?_ ?_ ?_
  · intro k n hc; left; simp [hm, taskMeasure, hc]
  · intro s' h hc hr
    have := hle s' h
    left; simp only [taskMeasure, hc, hr] at this; simp [taskMeasure]; omega
  · intro s' k r v h hL hs
    have := hle s' h
    rcases looking_measure cfg hL with ⟨hc, hw⟩ | hw
    · rcases h with h | ⟨h1, h2, h3⟩
      · left; simp [taskMeasure]; omega
      · have := hm ▸ taskMeasure_congr cfg h1 h2
        exact Or.inr ⟨by simp [taskMeasure]; omega, Or.inr ⟨k, v, h1 ▸ hc, h3 ▸ hs⟩⟩
    · left; simp [taskMeasure]; omega
  · intro s' k r res h hL _
    have := hle s' h
    left; simp only [unlock_ctl, unlock_rest, setCtl_task, upd_same, taskMeasure]
    rcases looking_measure cfg hL with ⟨_, hw⟩ | hw <;> omega
  · intro s' k r n h hL _
    have := hle s' h
    have : (cfg.sup k).delay + 3 + cost cfg r ≤ taskMeasure cfg (s'.task t) := by
      rcases looking_measure cfg hL with ⟨_, hw⟩ | hw <;> omega
    constructor
    · rintro _ rfl; left; simp [acquire, taskMeasure]; omega
    · intro hd; left; simp [acquire, taskMeasure]; omega
  · intro s' k n r h hc hr
    have := hle s' h
    left; simp only [(complete_task cfg t k r s').1, (complete_task cfg t k r s').2, taskMeasure]
    simp only [taskMeasure, hc, hr] at this; omega


theorem measure_poll (cfg : Cfg) (t : Nat) (s : State) :
    (t < cfg.ntasks → measure cfg (poll cfg t s) + taskMeasure cfg (s.task t)
        = measure cfg s + taskMeasure cfg ((poll cfg t s).task t)) ∧
    (cfg.ntasks ≤ t → measure cfg (poll cfg t s) = measure cfg s) := by
  have hoth : ∀ u, u ≠ t → taskMeasure cfg ((poll cfg t s).task u) = taskMeasure cfg (s.task u) :=
    fun _ hu => taskMeasure_congr cfg (poll_other cfg t s hu).1 (poll_other cfg t s hu).2
  constructor
  · exact fun ht => sum_change List.nodup_range (List.mem_range.mpr ht) _ _ hoth
  · intro ht
    exact congrArg List.sum (List.map_congr_left fun u hu =>
      hoth u (by have := List.mem_range.mp hu; omega))

theorem measure_poll_le (cfg : Cfg) (t : Nat) (s : State) :
    measure cfg (poll cfg t s) ≤ measure cfg s := by
  have hm := measure_poll cfg t s
  have hle := poll_task_measure cfg t s
  by_cases ht : t < cfg.ntasks
  · have := hm.1 ht; omega
  · have := hm.2 (by omega); omega

theorem measure_poll_lt (cfg : Cfg) (t : Nat) (s : State) (ht : t < cfg.ntasks)
    (hfin : (s.task t).ctl ≠ .fin) (hnb : ¬ blocked s t) :
    measure cfg (poll cfg t s) < measure cfg s := by
  have hm := (measure_poll cfg t s).1 ht
  rcases poll_task_measure cfg t s with hlt | ⟨_, hf | hb⟩
  · omega
  · exact absurd hf hfin
  · exact absurd hb hnb

theorem measure_exec_le (cfg : Cfg) (sched : List Nat) (s : State) :
    measure cfg (exec cfg sched s) ≤ measure cfg s :=
  exec_induction cfg (I := fun s' => measure cfg s' ≤ measure cfg s)
    (fun t s' h => Nat.le_trans (measure_poll_le cfg t s') h) sched (Nat.le_refl _)

theorem exists_unblocked {cfg : Cfg} {s : State} (h : InvA cfg s) (hnf : allFin cfg s = false) :
    ∃ t, t < cfg.ntasks ∧ (s.task t).ctl ≠ .fin ∧ ¬ blocked s t := by
  obtain ⟨t, ht, hf⟩ := allFin_eq_false.mp hnf
  by_cases hb : blocked s t
  · obtain ⟨k, u, _, hs⟩ := hb
    obtain ⟨n, hn⟩ := h.held_insup k u hs
    refine ⟨u, lt_ntasks_of_active h (by simp [hn]), by simp [hn], ?_⟩
    rintro ⟨k', u', hw, _⟩
    rw [hn] at hw; cases hw
  · exact ⟨t, ht, hf, hb⟩

/-- a state of measure 0 is final: otherwise some poll would lower the measure -/
theorem allFin_of_measure_zero {cfg : Cfg} {s : State} (h : InvA cfg s) (hm : measure cfg s = 0) :
    allFin cfg s = true := by
  by_cases hfin : allFin cfg s = true
  · exact hfin
  · obtain ⟨t, ht, hf, hnb⟩ := exists_unblocked h (by simpa using hfin)
    have := measure_poll_lt cfg t s ht hf hnb
    omega


theorem poll_of_fin (cfg : Cfg) (t : Nat) (s : State) (h : (s.task t).ctl = .fin) :
    poll cfg t s = s := by
  unfold poll; simp [h]

theorem poll_of_blocked (cfg : Cfg) {t k v : Nat} {s : State} (hc : (s.task t).ctl = .waiting k)
    (hs : s.slot k = .held v) :
    poll cfg t s = setCtl (setWaiters (setWoken s t false) k (register (s.waiters k) t)) t
      (.waiting k) (s.task t).rest := by
  unfold poll
  simp only [hc]
  rw [lookup_held (v := v) _ _ _ _ (by simpa using hs)]
  rfl

theorem exec_append (cfg : Cfg) (a b : List Nat) (s : State) :
    exec cfg (a ++ b) s = exec cfg b (exec cfg a s) := by
  induction a generalizing s with
  | nil => rfl
  | cons t ts ih => exact ih _

theorem poll_stutter {cfg : Cfg} {s : State} (h : InvA cfg s) (u : Nat)
    (hm : ¬ measure cfg (poll cfg u s) < measure cfg s) :
    (poll cfg u s).slot = s.slot ∧ ∀ t, ((poll cfg u s).task t).ctl = (s.task t).ctl := by
  by_cases hf : (s.task u).ctl = .fin
  · rw [poll_of_fin cfg u s hf]; exact ⟨rfl, fun _ => rfl⟩
  · have hu := lt_ntasks_of_active h hf
    have hb : blocked s u := by
      by_cases hb : blocked s u
      · exact hb
      · exact absurd (measure_poll_lt cfg u s hu hf hb) hm
    obtain ⟨k, v, hc, hs⟩ := hb
    rw [poll_of_blocked cfg hc hs]
    refine ⟨rfl, fun t => ?_⟩
    simp only [setCtl_task, setWaiters_task, setWoken_task, upd_apply]
    split
    · subst_vars; exact hc.symm
    · simp [*]

theorem exec_decreases {cfg : Cfg} (r : List Nat) {s : State} (h : InvA cfg s) (t : Nat)
    (ht : t < cfg.ntasks) (hf : (s.task t).ctl ≠ .fin) (hnb : ¬ blocked s t) (hmem : t ∈ r) :
    measure cfg (exec cfg r s) < measure cfg s := by
  induction r generalizing s with
  | nil => cases hmem
  | cons u r' ih =>
    show measure cfg (exec cfg r' (poll cfg u s)) < measure cfg s
    by_cases hlt : measure cfg (poll cfg u s) < measure cfg s
    · exact Nat.lt_of_le_of_lt (measure_exec_le cfg r' _) hlt
    · have hst := poll_stutter h u hlt
      have hut : t ≠ u := by
        intro e; subst e
        exact hlt (measure_poll_lt cfg t s ht hf hnb)
      have hmem' : t ∈ r' := by
        cases hmem with
        | head => exact absurd rfl hut
        | tail _ hm => exact hm
      have hf' : ((poll cfg u s).task t).ctl ≠ .fin := by rw [hst.2 t]; exact hf
      have hnb' : ¬ blocked (poll cfg u s) t := by
        rintro ⟨k, v, hc, hs⟩
        rw [hst.2 t] at hc
        rw [hst.1] at hs
        exact hnb ⟨k, v, hc, hs⟩
      have := ih (invA_poll cfg u h) hf' hnb' hmem'
      have hle := measure_poll_le cfg u s
      omega

theorem exec_of_allFin {cfg : Cfg} (r : List Nat) {s : State} (h : InvA cfg s)
    (hfin : allFin cfg s = true) : exec cfg r s = s := by
  induction r with
  | nil => rfl
  | cons u r' ih =>
    show exec cfg r' (poll cfg u s) = s
    have hf : (s.task u).ctl = .fin := by
      by_cases hu : u < cfg.ntasks
      · exact allFin_eq_true.mp hfin u hu
      · exact h.ghost u (by omega)
    rw [poll_of_fin cfg u s hf]; exact ih

theorem rounds_finish {cfg : Cfg} (rounds : List (List Nat))
    (hr : ∀ r ∈ rounds, ∀ t, t < cfg.ntasks → t ∈ r) {s : State} (h : InvA cfg s)
    (hlen : measure cfg s ≤ rounds.length) : allFin cfg (exec cfg rounds.flatten s) = true := by
  induction rounds generalizing s with
  | nil => exact allFin_of_measure_zero (s := s) h (by simpa using hlen)
  | cons r rs ih =>
    simp only [List.flatten_cons, exec_append]
    by_cases hfin : allFin cfg s = true
    · rw [exec_of_allFin r h hfin, exec_of_allFin _ h hfin]; exact hfin
    · obtain ⟨t, ht, hf, hnb⟩ := exists_unblocked h (by simpa using hfin)
      have hdec := exec_decreases r h t ht hf hnb (hr r List.mem_cons_self t ht)
      apply ih (fun r' hr' => hr r' (List.mem_cons_of_mem _ hr')) (invA_exec cfg r h)
      simp only [List.length_cons] at hlen
      omega

theorem finish_allFin {cfg : Cfg} (fuel : Nat) {s : State} (h : InvA cfg s)
    (hfuel : measure cfg s ≤ fuel) : allFin cfg (finish cfg fuel s) = true := by
  fun_induction finish cfg fuel s with
  | case1 s => exact allFin_of_measure_zero (s := s) h (by omega)
  | case2 _ _ hfin => exact hfin
  | case3 _ s hfin ih =>
    obtain ⟨t, ht, hf, hnb⟩ := exists_unblocked h (by simpa using hfin)
    have hdec := exec_decreases (List.range cfg.ntasks) h t ht hf hnb (List.mem_range.mpr ht)
    exact ih (invA_exec cfg _ h) (Nat.le_of_lt_succ (Nat.lt_of_lt_of_le hdec hfuel))

end MdModel.Once
