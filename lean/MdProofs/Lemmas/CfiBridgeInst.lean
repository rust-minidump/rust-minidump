/-
  Bridge C06 ↔ walker model, part 6: the simulation relation is inhabited.

  `walkerOf x`: the C06 `Walker` record built from the walker model's `CfiIn` (architecture,
  callee context with its validity set, stack memory) — register names and alias tables of the
  architecture, the valid callee registers, the memory image, the pointer width. For every
  architecture, every callee context whose validity set holds only register names of the context
  type and whose registers are 64-bit values, and every stack memory: `WalkerSim x (walkerOf x …)`.
  `fwdOf`: the forwarded caller registers of a `CfiOut`, related at every register.
-/
import MdProofs.Lemmas.CfiBridgeWalk
import MdProofs.Lemmas.WalkRegs
namespace MdModel.CfiBridge
open MdModel

def ptrOf (a : Walk.Arch) : Nat := if a.regMax = U32MAX then 4 else 8

def walkerOf (x : Walk.CfiIn) (instr : Nat) (fwd : List (Cfi.Name × UInt64)) : Cfi.Walker :=
  { instr := instr
    ptr := ptrOf x.arch
    known := x.arch.registers.map utf8
    aliases := (aliasTable x.arch).map fun p => (utf8 p.1, utf8 p.2)
    callee := x.arch.registers.filterMap fun r => (x.reg r).map fun v => (utf8 r, UInt64.ofNat v)
    memBase := x.mem.base
    mem := x.mem.bytes.toList
    fwd := fwd
    be := x.mem.be }

theorem contains_map_utf8 (l : List String) (n : String) : (l.map utf8).contains (utf8 n) = l.contains n :=
  List.contains_map_of_injective (fun _ _ => utf8_inj) l n

theorem lookupName_map_utf8 (tbl : List (String × String)) (n : String) :
    Cfi.lookupName (tbl.map fun p => (utf8 p.1, utf8 p.2)) (utf8 n) = (tbl.lookup n).map utf8 := by
  rw [Cfi.lookupName_eq_lookup]
  exact List.lookup_map_of_injective utf8 (fun _ _ => utf8_inj) utf8 tbl n

theorem memo_walkerOf (x : Walk.CfiIn) (instr : Nat) (fwd : List (Cfi.Name × UInt64)) (n : String) :
    (walkerOf x instr fwd).memo (utf8 n) = (x.arch.canon n).map utf8 := by
  unfold Cfi.Walker.memo walkerOf
  simp only [contains_map_utf8, lookupName_map_utf8]
  rw [canon_eq]
  cases hl : (aliasTable x.arch).lookup n with
  | none =>
    simp only [Option.map_none]
    split <;> rfl
  | some c =>
    have hm := aliasTable_ok x.arch (n, c) (List.mem_of_lookup_eq_some hl)
    simp only [Option.map_some, hm.1, Bool.false_eq_true, if_false, contains_map_utf8, hm.2, if_true]

/-- the validity set names only registers of the context type (the code's invariant: the sets are
    built from `CpuContext::REGISTERS` and alias literals) -/
def ValidWf (a : Walk.Arch) (c : Walk.Ctx) : Prop :=
  match c.valid with
  | none => True
  | some which => ∀ n ∈ which, (a.canon n).isSome = true

theorem reg_unknown (x : Walk.CfiIn) (hv : ValidWf x.arch x.callee) (n : String) (h : x.arch.canon n = none) :
    x.reg n = none := by
  unfold Walk.CfiIn.reg Walk.Ctx.get Walk.Ctx.has
  unfold ValidWf at hv
  cases hval : x.callee.valid with
  | none => simp [h]
  | some which =>
    rw [hval] at hv
    rw [aliases_of_canon, h]
    simp only [List.any_cons, List.any_nil, Bool.or_false]
    by_cases hc : which.contains n = true
    · have := hv n (List.contains_iff_mem.mp hc)
      rw [h] at this; cases this
    · rw [Bool.not_eq_true] at hc
      simp only [hc, Bool.false_eq_true, if_false]

theorem reg_canon (x : Walk.CfiIn) (n s : String) (h : x.arch.canon n = some s) : x.reg n = x.reg s := by
  have hs := canon_idem _ _ _ h
  unfold Walk.CfiIn.reg Walk.Ctx.get Walk.Ctx.has Walk.Ctx.raw
  rw [aliases_canon _ _ _ h, h, hs]

theorem leVal_lt (l : Cfi.Bytes) : Cfi.leVal l < 256 ^ l.length := by
  induction l with
  | nil => exact Nat.one_pos
  | cons b l ih => exact Nat.byte_add_lt b.toNat_lt ih

theorem byte_eq_getElem (m : Walk.Mem) (off : Nat) (h : off < m.bytes.toList.length) :
    m.byte off = (m.bytes.toList[off]).toNat := by
  have h' : off < m.bytes.size := by simpa using h
  simp [Walk.Mem.byte, h']

theorem leVal_take_drop (m : Walk.Mem) (w off : Nat) (h : off + w ≤ m.bytes.size) :
    Cfi.leVal ((m.bytes.toList.drop off).take w) = m.leAt off w := by
  induction w generalizing off with
  | zero => simp [Cfi.leVal, Walk.Mem.leAt]
  | succ w ih =>
    have hlt : off < m.bytes.toList.length := by simp; omega
    rw [List.drop_eq_getElem_cons hlt, List.take_succ_cons]
    simp only [Cfi.leVal, Walk.Mem.leAt]
    rw [ih (off + 1) (by omega), byte_eq_getElem m off hlt]

theorem beVal_lt (l : Cfi.Bytes) : Cfi.beVal l < 256 ^ l.length := by
  induction l with
  | nil => exact Nat.one_pos
  | cons b l ih => exact Nat.byte_mul_add_lt b.toNat_lt ih

theorem beVal_take_drop (m : Walk.Mem) (w off : Nat) (h : off + w ≤ m.bytes.size) :
    Cfi.beVal ((m.bytes.toList.drop off).take w) = m.beAt off w := by
  induction w generalizing off with
  | zero => simp [Cfi.beVal, Walk.Mem.beAt]
  | succ w ih =>
    have hlt : off < m.bytes.toList.length := by simp; omega
    rw [List.drop_eq_getElem_cons hlt, List.take_succ_cons]
    simp only [Cfi.beVal, Walk.Mem.beAt]
    rw [ih (off + 1) (by omega)]
    have hlen : (List.take w (List.drop (off + 1) m.bytes.toList)).length = w := by
      rw [List.length_take, List.length_drop]; simp; omega
    rw [byte_eq_getElem m off hlt, hlen]

theorem wordVal_take_drop (m : Walk.Mem) (w off : Nat) (h : off + w ≤ m.bytes.size) :
    (if m.be then Cfi.beVal ((m.bytes.toList.drop off).take w) else Cfi.leVal ((m.bytes.toList.drop off).take w)) =
      m.wordAt off w := by
  unfold Walk.Mem.wordAt
  rw [leVal_take_drop _ _ _ h, beVal_take_drop _ _ _ h]

theorem ptrOf_cases (a : Walk.Arch) : (ptrOf a = 4 ∧ a.regMax = U32MAX) ∨ (ptrOf a = 8 ∧ a.regMax = U64MAX) := by
  cases a <;> simp [ptrOf, Walk.Arch.regMax, U32MAX, U64MAX]

theorem deref_walkerOf (x : Walk.CfiIn) (instr : Nat) (fwd : List (Cfi.Name × UInt64)) (a : UInt64) :
    x.deref a.toNat = ((walkerOf x instr fwd).readMem a).map UInt64.toNat := by
  unfold Walk.CfiIn.deref Walk.Mem.read Cfi.Walker.readMem walkerOf
  have hw : (if x.arch.regMax = U32MAX then 4 else 8) = ptrOf x.arch := rfl
  simp only [hw, Walk.Mem.size, Array.length_toList]
  by_cases hb : a.toNat < x.mem.base
  · simp [hb]
  · simp only [hb, if_false]
    by_cases hfit : a.toNat - x.mem.base + ptrOf x.arch ≤ x.mem.bytes.size
    · simp only [hfit, if_true, Option.map_some, Option.some.injEq]
      rw [wordVal_take_drop _ _ _ hfit, u64_toNat_ofNat_lt]
      exact Walk.Mem.wordAt_lt_two_pow _ _ (by rcases ptrOf_cases x.arch with ⟨h, _⟩ | ⟨h, _⟩ <;> omega)
    · simp [hfit]

theorem walkerOf_sim (x : Walk.CfiIn) (instr : Nat) (fwd : List (Cfi.Name × UInt64))
    (hvalid : ValidWf x.arch x.callee) (h64 : ∀ n v, x.reg n = some v → v < 2 ^ 64) :
    WalkerSim x (walkerOf x instr fwd) := by
  refine ⟨⟨?_, deref_walkerOf x instr fwd⟩, memo_walkerOf x instr fwd, ?_⟩
  · intro n
    show x.reg n = ((walkerOf x instr fwd).getCallee (utf8 n)).map UInt64.toNat
    unfold Cfi.Walker.getCallee
    rw [memo_walkerOf]
    cases hc : x.arch.canon n with
    | none => simp only [Option.map_none]; exact reg_unknown x hvalid n hc
    | some s =>
      simp only [Option.map_some]
      have : (walkerOf x instr fwd).callee =
          x.arch.registers.filterMap fun r => ((x.reg r).map UInt64.ofNat).map fun v => (utf8 r, v) := by
        simp only [Option.map_map]; rfl
      rw [this, lookupName_filterMap_utf8, if_pos (canon_mem _ _ _ hc), reg_canon x n s hc]
      cases hx : x.reg s with
      | none => rfl
      | some v => simp [u64_toNat_ofNat_lt v (h64 s v hx)]
  · intro v
    unfold Cfi.Walker.fits walkerOf
    simp only
    rcases ptrOf_cases x.arch with ⟨h1, h2⟩ | ⟨h1, h2⟩
    · rw [h1, h2]; simp only [U32MAX]; congr 1; apply propext; omega
    · rw [h1, h2]; simp only [U64MAX]; congr 1; apply propext; omega

def fwdOf (a : Walk.Arch) (o : Walk.CfiOut) : List (Cfi.Name × UInt64) :=
  o.valid.map fun s => (utf8 s, UInt64.ofNat (rawC a o.ctx s))

theorem fwdOf_sim (a : Walk.Arch) (o : Walk.CfiOut) (s : String)
    (h64 : o.valid.contains s = true → rawC a o.ctx s < 2 ^ 64) :
    OutSimAt a o ⟨none, none, fwdOf a o⟩ s := by
  unfold OutSimAt Cfi.Caller.get viewW fwdOf
  simp only
  have key := lookupName_filterMap_utf8 o.valid (fun r => some (UInt64.ofNat (rawC a o.ctx r))) s
  simp only [Option.map_some, List.filterMap_eq_map'] at key
  rw [key]
  by_cases hc : o.valid.contains s = true
  · rw [if_pos hc, if_pos hc, Option.map_some, u64_toNat_ofNat_lt _ (h64 hc)]
  · rw [if_neg hc, if_neg hc]; rfl

end MdModel.CfiBridge
