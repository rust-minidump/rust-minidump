/-
  C12: the wake-up invariant `InvW` (waiter lists, `Waiter::Woken` marks and the
  tasks' wake flags), preserved by every poll; with it, before the end some WOKEN task can move
  (`exists_woken_unblocked`: C12's `no_lost_wakeup`), so rounds that poll only woken tasks never run dry and
  finish every task (`finishW_allFin`: C12's `waker_rounds_finish`).
-/
import MdProofs.Lemmas.OnceProgress
namespace MdModel.Once
open MdModel


theorem mem_deregister {ws : List (Nat × Bool)} {t : Nat} {e : Nat × Bool} :
    e ∈ deregister ws t ↔ e ∈ ws ∧ e.1 ≠ t := by
  simp [deregister]

theorem register_fst (ws : List (Nat × Bool)) (t : Nat) :
    (register ws t).map Prod.fst =
      if ws.any (fun e => e.1 == t) then ws.map Prod.fst else ws.map Prod.fst ++ [t] := by
  unfold register
  split
  · simp only [List.map_map]
    apply List.map_congr_left
    intro e _
    simp only [Function.comp]
    split <;> simp_all
  · simp

theorem mem_register {ws : List (Nat × Bool)} {t : Nat} {e : Nat × Bool} :
    e ∈ register ws t ↔ (e ∈ ws ∧ e.1 ≠ t) ∨ e = (t, false) := by
  unfold register
  split
  · rename_i hp
    simp only [List.any_eq_true, beq_iff_eq] at hp
    obtain ⟨e0, he0, h0⟩ := hp
    simp only [List.mem_map, beq_iff_eq]
    constructor
    · rintro ⟨a, ha, rfl⟩
      by_cases hat : a.1 = t
      · simp [hat]
      · simp [hat, ha]
    · rintro (⟨h1, h2⟩ | rfl)
      · exact ⟨e, h1, by simp [h2]⟩
      · exact ⟨e0, he0, by simp [h0]⟩
  · rename_i hn
    simp only [List.any_eq_true, beq_iff_eq, not_exists, not_and] at hn
    simp only [List.mem_append, List.mem_singleton]
    constructor
    · rintro (h | h)
      · exact Or.inl ⟨h, hn e h⟩
      · exact Or.inr h
    · rintro (⟨h, _⟩ | h)
      · exact Or.inl h
      · exact Or.inr h

theorem unlock_cases (s : State) (k : Nat) :
    (∃ u ws, s.waiters k = (u, false) :: ws ∧
        unlock s k = setWoken (setWaiters s k ((u, true) :: ws)) u true) ∨
    ((∀ u ws, s.waiters k ≠ (u, false) :: ws) ∧ unlock s k = s) := by
  unfold unlock
  split
  · rename_i u ws h
    exact Or.inl ⟨u, ws, h, rfl⟩
  · rename_i hn
    exact Or.inr ⟨fun u ws h => hn u ws h, rfl⟩


/-- `run = some t`: `t` is being polled and exempt from the wake-flag clauses (the executor has
    consumed its flag). `busy = some k`: the lock of `k` is being released and `unlock k` has not
    run yet, so its first waiter need not be woken. Between polls both are `none`. -/
structure InvW (run busy : Option Nat) (s : State) : Prop where
  wait_iff : ∀ k t, (∃ b, (t, b) ∈ s.waiters k) ↔ (s.task t).ctl = .waiting k
  /-- a free lock with waiters has woken its first waiter -/
  first_woken : ∀ k, busy ≠ some k → (∀ t, s.slot k ≠ .held t) →
    ∀ u b ws, s.waiters k = (u, b) :: ws → b = true
  /-- an entry marked `Woken` means the task's wake flag is up -/
  entry_woken : ∀ k u, run ≠ some u → (u, true) ∈ s.waiters k → (s.task u).woken = true
  /-- tasks not yet polled and tasks inside the supplier have their wake flag up -/
  active_woken : ∀ u, run ≠ some u →
    ((s.task u).ctl = .ready ∨ ∃ k n, (s.task u).ctl = .inSup k n) → (s.task u).woken = true

theorem invW_init (cfg : Cfg) : InvW none none (init cfg) := by
  constructor
  · intro k t
    simp only [init, List.not_mem_nil, exists_false, false_iff]
    split <;> simp
  · intro k _ _ u b ws h; simp [init] at h
  · intro k u _ h; simp [init] at h
  · intro u _ h
    simp only [init] at h ⊢
    split
    · rfl
    · rename_i hu; simp [hu] at h

theorem invW_run {busy : Option Nat} {s : State} (t : Nat) (h : InvW none busy s) :
    InvW (some t) busy s :=
  ⟨h.wait_iff, h.first_woken, fun k u _ => h.entry_woken k u (by simp),
    fun u _ => h.active_woken u (by simp)⟩

theorem invW_setWoken {busy : Option Nat} {s : State} {t : Nat} (b : Bool) (h : InvW (some t) busy s) :
    InvW (some t) busy (setWoken s t b) := by
  have hne : ∀ {u}, some t ≠ some u → u ≠ t := fun hu e => hu (by rw [e])
  constructor
  · intro k u; rw [setWoken_ctl]; exact h.wait_iff k u
  · exact h.first_woken
  · intro k u hu; rw [setWoken_woken_other _ _ _ (hne hu)]; exact h.entry_woken k u hu
  · intro u hu; rw [setWoken_ctl, setWoken_woken_other _ _ _ (hne hu)]; exact h.active_woken u hu

theorem invW_stop {s : State} {t : Nat} (h : InvW (some t) none s)
    (hw : (s.task t).woken = true ∨ (s.task t).ctl = .fin ∨
      ∃ k, (s.task t).ctl = .waiting k ∧ (t, true) ∉ s.waiters k) : InvW none none s := by
  have hne : ∀ {u}, u ≠ t → some t ≠ some u := fun hu e => hu (Option.some.inj e).symm
  refine ⟨h.wait_iff, h.first_woken, fun k u _ hm => ?_, fun u _ hc => ?_⟩
  · by_cases hut : u = t
    · subst hut
      have hk := (h.wait_iff k u).mp ⟨true, hm⟩
      rcases hw with hw | hf | ⟨k', hk', hn⟩
      · exact hw
      · rw [hf] at hk; cases hk
      · rw [hk'] at hk; cases hk; exact absurd hm hn
    · exact h.entry_woken k u (hne hut) hm
  · by_cases hut : u = t
    · subst hut
      rcases hw with hw | hf | ⟨k', hk', _⟩
      · exact hw
      · rcases hc with hc | ⟨k, n, hc⟩ <;> rw [hf] at hc <;> cases hc
      · rcases hc with hc | ⟨k, n, hc⟩ <;> rw [hk'] at hc <;> cases hc
    · exact h.active_woken u (hne hut) hc

theorem invW_move {s s' : State} {t k : Nat} (h : InvW (some t) none s)
    (hT : ∀ u, u ≠ t → s'.task u = s.task u)
    (hk : ∀ k', (s.task t).ctl = .waiting k' → k' = k)
    (hO : ∀ k', k' ≠ k → s'.slot k' = s.slot k' ∧ s'.waiters k' = s.waiters k' ∧
      (s'.task t).ctl ≠ .waiting k')
    (hWo : ∀ u b, u ≠ t → ((u, b) ∈ s'.waiters k ↔ (u, b) ∈ s.waiters k))
    (hWt : ∀ b, (t, b) ∈ s'.waiters k ↔ b = false ∧ (s'.task t).ctl = .waiting k) :
    InvW (some t) (some k) s' := by
  have hne : ∀ {u}, some t ≠ some u → u ≠ t := fun hu e => hu (by rw [e])
  constructor
  · intro k' u
    by_cases hkk : k' = k
    · subst hkk
      by_cases hut : u = t
      · subst hut; simp [hWt]
      · simp only [hWo u _ hut, hT u hut]; exact h.wait_iff k' u
    · rw [(hO k' hkk).2.1]
      by_cases hut : u = t
      · subst hut
        exact ⟨fun hm => absurd (hk k' ((h.wait_iff k' u).mp hm)) hkk,
          fun he => absurd he (hO k' hkk).2.2⟩
      · rw [hT u hut]; exact h.wait_iff k' u
  · intro k' hb hfree
    have hkk : k' ≠ k := fun e => hb (by rw [e])
    rw [(hO k' hkk).2.1]
    exact h.first_woken k' (by simp) (fun v => (hO k' hkk).1 ▸ hfree v)
  · intro k' u hu hm
    rw [hT u (hne hu)]
    refine h.entry_woken k' u hu ?_
    by_cases hkk : k' = k
    · subst hkk; exact (hWo u _ (hne hu)).mp hm
    · rwa [(hO k' hkk).2.1] at hm
  · intro u hu
    rw [hT u (hne hu)]
    exact h.active_woken u hu

/-- `unlock k` re-establishes "the first waiter of a free lock is woken" for `k` -/
theorem invW_unlock {run : Option Nat} {s : State} {k : Nat} (h : InvW run (some k) s) :
    InvW run none (unlock s k) := by
  rcases unlock_cases s k with ⟨u, ws, hw, he⟩ | ⟨hn, he⟩ <;> rw [he]
  · -- the first entry turns from `Waiting` to `Woken` and its task's flag goes up
    have hfst : ∀ k', ((if k' = k then (u, true) :: ws else s.waiters k').map Prod.fst) =
        (s.waiters k').map Prod.fst := by
      intro k'; split
      · subst_vars; rw [hw]; rfl
      · rfl
    have hmem : ∀ k' u' b, (u', b) ∈ (if k' = k then (u, true) :: ws else s.waiters k') →
        (u', b) ∈ s.waiters k' ∨ u' = u := by
      intro k' u' b hm
      split at hm
      · subst_vars; rw [hw]
        rcases List.mem_cons.mp hm with e | hm
        · cases e; exact Or.inr rfl
        · exact Or.inl (List.mem_cons_of_mem _ hm)
      · exact Or.inl hm
    constructor
    · intro k' t
      simp only [setWoken_waiters, setWaiters_waiters, upd_apply, setWoken_ctl, setWaiters_task,
        ← h.wait_iff k' t]
      have := congrArg (t ∈ ·) (hfst k')
      simp only [List.mem_map, Prod.exists, exists_and_right, exists_eq_right] at this
      exact Iff.of_eq this
    · intro k' _ hfree u' b ws'
      simp only [setWoken_waiters, setWaiters_waiters, setWoken_slot, setWaiters_slot, upd_apply] at hfree ⊢
      split
      · intro e; cases e; rfl
      · rename_i hkk
        exact h.first_woken k' (fun e => hkk (Option.some.inj e).symm) hfree u' b ws'
    · intro k' u' hu'
      simp only [setWoken_waiters, setWaiters_waiters, upd_apply]
      intro hm
      rcases hmem k' u' true hm with hm | e
      · exact setWoken_true_mono _ _ _ (h.entry_woken k' u' hu' hm)
      · subst e; simp
    · intro t ht
      rw [setWoken_ctl]
      exact fun hc => setWoken_true_mono _ _ _ (h.active_woken t ht hc)
  · constructor
    · exact h.wait_iff
    · intro k' _ hfree u b ws hw
      by_cases hkk : k' = k
      · subst hkk
        cases b with
        | true => rfl
        | false => exact absurd hw (hn u ws)
      · exact h.first_woken k' (fun e => hkk (Option.some.inj e).symm) hfree u b ws hw
    · exact h.entry_woken
    · exact h.active_woken

/-- the lock of `k` is not being released after all (it is held, or nothing about it changed) -/
theorem invW_close {run : Option Nat} {s : State} {k : Nat} (h : InvW run (some k) s)
    (hk : (∀ t, s.slot k ≠ .held t) → ∀ u b ws, s.waiters k = (u, b) :: ws → b = true) :
    InvW run none s := by
  refine ⟨h.wait_iff, fun k' _ => ?_, h.entry_woken, h.active_woken⟩
  by_cases hkk : k' = k
  · subst hkk; exact hk
  · exact h.first_woken k' (fun e => hkk (Option.some.inj e).symm)

theorem invW_keep {s s' : State} {t k : Nat} (h : InvW (some t) none s)
    (hT : ∀ u, u ≠ t → s'.task u = s.task u) (hc : ∀ k, (s'.task t).ctl ≠ .waiting k)
    (hnw : ∀ k, (s.task t).ctl ≠ .waiting k) (hW : s'.waiters = s.waiters)
    (hS : ∀ k', k' ≠ k → s'.slot k' = s.slot k') : InvW (some t) (some k) s' := by
  refine invW_move h hT (fun k' hw => absurd hw (hnw k')) (fun k' hkk => ⟨hS k' hkk, by rw [hW], hc k'⟩)
    (fun _ _ _ => by rw [hW]) fun b => ?_
  rw [hW]
  exact ⟨fun hm => absurd ((h.wait_iff k t).mp ⟨b, hm⟩) (hnw k), fun he => absurd he.2 (hc k)⟩

theorem invW_stay {s s' : State} {t : Nat} (h : InvW (some t) none s)
    (hT : ∀ u, u ≠ t → s'.task u = s.task u) (hc : ∀ k, (s'.task t).ctl ≠ .waiting k)
    (hnw : ∀ k, (s.task t).ctl ≠ .waiting k) (hW : s'.waiters = s.waiters) (hS : s'.slot = s.slot) :
    InvW (some t) none s' :=
  -- `invW_keep` exempts the slot of one key; no slot changes here, so any key will do, and it is closed again at once
  invW_close (k := 0) (invW_keep h hT hc hnw hW (fun _ _ => by rw [hS]))
    (by rw [hW, hS]; exact h.first_woken 0 (by simp))

theorem invW_poll {s : State} (cfg : Cfg) (t : Nat) (h : InvW none none s) :
    InvW none none (poll cfg t s) := by
  -- a task that looks up `k` waits for `k`, if it waits at all
  have hk : ∀ {s : State} {k : Nat} {r : List Nat}, Looking s t k r →
      ∀ k', (s.task t).ctl = .waiting k' → k' = k := by
    intro s k r hL k' hw
    rcases hL.1 with hc | hc <;> rw [hc] at hw <;> cases hw
    rfl
  refine poll_induction cfg t s (I := InvW none none) (M := InvW (some t) none) (fun _ => h) ?_
    (invW_setWoken false (invW_run t h)) ?_ ?_ ?_ ?_ ?_
  · intro k n hc
    -- the supplier suspends once more and wakes its task
    refine invW_stop (invW_setWoken true (invW_stay (s' := setCtl s t (.inSup k n) (s.task t).rest)
      (invW_run t h) (fun u hu => by simp [upd_apply, hu]) (by simp) (by simp [hc]) rfl rfl))
      (Or.inl (by simp))
  · intro s h hc _
    refine invW_stop (invW_stay (s' := setCtl s t .fin []) h
      (fun u hu => by simp [upd_apply, hu]) (by simp) (by simp [hc]) rfl rfl) (Or.inr (Or.inl (by simp)))
  · intro s k r v h hL hs
    -- a failed lock poll: the task (re-)registers, not woken, and stops; the lock is held
    refine invW_stop (invW_close (k := k) (invW_move h ?_ (hk hL) ?_ ?_ ?_) ?_)
      (Or.inr (Or.inr ⟨k, by simp, by simp [mem_register]⟩))
    · intro u hu; simp [upd_apply, hu]
    · intro k' hkk; simp [upd_apply, hkk, Ne.symm hkk]
    · intro u b hu; simp [mem_register, hu]
    · intro b; simp [mem_register]
    · intro hfree; exact absurd (by simpa using hs) (hfree v)
  · intro s k r res h hL _
    refine invW_unlock (invW_move h ?_ (hk hL) ?_ ?_ ?_)
    · intro u hu; simp [upd_apply, hu]
    · intro k' hkk; simp [upd_apply, hkk]
    · intro u b hu; simp [mem_deregister, hu]
    · intro b; simp [mem_deregister]
  · intro s k r n h hL _
    -- the lock is held now, so nothing is owed to its waiters
    have hA : InvW (some t) none (acquire (setWaiters s k (deregister (s.waiters k) t)) t k n r) := by
      refine invW_close (invW_move h ?_ (hk hL) ?_ ?_ ?_) ?_
      · intro u hu; simp [acquire, upd_apply, hu]
      · intro k' hkk; simp [acquire, upd_apply, hkk]
      · intro u b hu; simp [acquire, mem_deregister, hu]
      · intro b; simp [acquire, mem_deregister]
      · intro hfree; exact absurd (by simp [acquire]) (hfree t)
    exact ⟨fun _ _ => hA, fun _ => invW_stop (invW_setWoken true hA) (Or.inl (by simp))⟩
  · intro s k n r h hc _
    refine invW_unlock (invW_keep h ?_ ?_ ?_ rfl (fun k' hkk => ?_))
    · intro u hu; simp [upd_apply, hu]
    · simp
    · simp [hc]
    · simp [upd_apply, hkk]

theorem invW_exec {s : State} (cfg : Cfg) (sched : List Nat) (h : InvW none none s) :
    InvW none none (exec cfg sched s) :=
  exec_induction cfg (fun t _ => invW_poll cfg t) sched h

theorem invW_reach (cfg : Cfg) (sched : List Nat) : InvW none none (exec cfg sched (init cfg)) :=
  invW_exec cfg sched (invW_init cfg)

theorem exists_woken_unblocked {cfg : Cfg} {s : State} (hA : InvA cfg s) (hW : InvW none none s)
    (hnf : allFin cfg s = false) :
    ∃ t, t < cfg.ntasks ∧ (s.task t).woken = true ∧ (s.task t).ctl ≠ .fin ∧ ¬ blocked s t := by
  have hlt : ∀ u, (s.task u).ctl ≠ .fin → u < cfg.ntasks := fun u => lt_ntasks_of_active hA
  by_cases hin : ∃ u k n, (s.task u).ctl = .inSup k n
  · obtain ⟨u, k, n, hu⟩ := hin
    refine ⟨u, hlt u (by simp [hu]), hW.active_woken u (by simp) (Or.inr ⟨k, n, hu⟩), by simp [hu], ?_⟩
    rintro ⟨k', v, hw, _⟩; rw [hu] at hw; cases hw
  · have hfree : ∀ k v, s.slot k ≠ .held v := by
      intro k v hs
      obtain ⟨n, hn⟩ := hA.held_insup k v hs
      exact hin ⟨v, k, n, hn⟩
    have hnb : ∀ u, ¬ blocked s u := by
      rintro u ⟨k, v, _, hs⟩; exact hfree k v hs
    by_cases hr : ∃ u, (s.task u).ctl = .ready
    · obtain ⟨u, hu⟩ := hr
      exact ⟨u, hlt u (by simp [hu]), hW.active_woken u (by simp) (Or.inl hu), by simp [hu], hnb u⟩
    · -- every unfinished task waits for a free lock: the first waiter of that lock is woken
      obtain ⟨t, _, hf⟩ := allFin_eq_false.mp hnf
      have hwait : ∃ k, (s.task t).ctl = .waiting k := by
        cases hc : (s.task t).ctl with
        | ready => exact absurd ⟨t, hc⟩ hr
        | waiting k => exact ⟨k, rfl⟩
        | inSup k n => exact absurd ⟨t, k, n, hc⟩ hin
        | fin => exact absurd hc hf
      obtain ⟨k, hk⟩ := hwait
      obtain ⟨b, hb⟩ := (hW.wait_iff k t).mpr hk
      cases hws : s.waiters k with
      | nil => rw [hws] at hb; cases hb
      | cons e ws =>
        obtain ⟨u, b'⟩ := e
        have hb' : b' = true := hW.first_woken k (by simp) (hfree k) u b' ws hws
        subst hb'
        have hmem : (u, true) ∈ s.waiters k := by rw [hws]; exact List.mem_cons_self
        have huw : (s.task u).ctl = .waiting k := (hW.wait_iff k u).mp ⟨true, hmem⟩
        exact ⟨u, hlt u (by simp [huw]), hW.entry_woken k u (by simp) hmem, by simp [huw], hnb u⟩

theorem finishW_allFin {cfg : Cfg} (fuel : Nat) {s : State} (hA : InvA cfg s) (hW : InvW none none s)
    (hfuel : measure cfg s ≤ fuel) : allFin cfg (finishW cfg fuel s) = true := by
  fun_induction finishW cfg fuel s with
  | case1 s => exact allFin_of_measure_zero (s := s) hA (by omega)
  | case2 _ _ hfin => exact hfin
  | case3 _ s hfin hne =>
    obtain ⟨t, ht, hw, hf, _⟩ := exists_woken_unblocked hA hW (by simpa using hfin)
    exact absurd (List.isEmpty_iff.mp hne) (List.ne_nil_of_mem (mem_runnable.mpr ⟨ht, hw, hf⟩))
  | case4 _ s hfin _ ih =>
    obtain ⟨t, ht, hw, hf, hnb⟩ := exists_woken_unblocked hA hW (by simpa using hfin)
    have hdec := exec_decreases (runnable cfg s) hA t ht hf hnb (mem_runnable.mpr ⟨ht, hw, hf⟩)
    exact ih (invA_exec cfg _ hA) (invW_exec cfg _ hW) (by omega)

end MdModel.Once
