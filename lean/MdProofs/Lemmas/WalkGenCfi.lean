/-
  For C04 (MdProofs/C04Gen.lean): the canonical STACK CFI GENERATOR of the `chain`
  engine as a Lean function (`gcfiWords` / `gcfiChain`, MdModel/Walk/LayoutGen.lean), generically in
  the architecture, and `preCfiFrom` of it for all parameters — given the side condition `gcfiSide`
  on the module list and symbol records (which record covers which lookup address).
-/
import MdProofs.Lemmas.WalkGenMem
namespace MdModel.Walk
open MdModel

theorem canon_ne_leaf (a : Arch) (b : Nat) (s : Bool) : canonicalToks a b s ≠ leafToks a := by
  intro h; have := congrArg List.length h; cases s <;> simp [canonicalToks, leafToks] at this

theorem canon_false_ne_true (a : Arch) (b : Nat) : canonicalToks a b false ≠ canonicalToks a b true := by
  intro h; have := congrArg List.length h; simp [canonicalToks] at this

theorem linkCfi_frame (w : World) (a : Arch) (mask : Nat) (mem : Mem) (instr base s fp lr : Nat) (first : Bool)
    (c : CfiFr) (rec : CfiRec)
    (hn : c.n ≠ 0) (hrec : cfiRecordAt w instr = some rec) (hadds : rec.adds.isEmpty = true)
    (htoks : tokenize rec.init = canonicalToks a (a.ptr * c.n) c.saves)
    (hret : 4096 ≤ c.ret) (hretmax : c.ret ≤ a.regMax) (hstrip : stripOf a mask c.ret = c.ret)
    (hfp : stripOf a mask fp = fp)
    (hsv : c.saves = true → 2 ≤ c.n ∧ stripOf a mask c.fpv = c.fpv)
    (htop : pAddr a.ptr base (s + c.n) ≤ a.regMax)
    (hr_ret : mem.read (pAddr a.ptr base (s + (c.n - 1))) a.ptr = some c.ret)
    (hr_fp : c.saves = true → mem.read (pAddr a.ptr base (s + (c.n - 2))) a.ptr = some c.fpv) :
    linkCfi w a mask mem instr (pAddr a.ptr base s) fp lr first
      { ret := c.ret, sp := pAddr a.ptr base (s + c.n), fp := some (if c.n ≠ 0 ∧ c.saves then c.fpv else fp) } = true := by
  have hp := ptr_pos a
  have hpos : 0 < c.n := Nat.pos_of_ne_zero hn
  have hsp : pAddr a.ptr base (s + c.n) = pAddr a.ptr base s + a.ptr * c.n := pAddr_add ..
  have hple : a.ptr ≤ a.ptr * c.n := Nat.le_mul_of_pos_right _ hpos
  have hbytes : pAddr a.ptr base (s + c.n) - pAddr a.ptr base s = a.ptr * c.n := by omega
  have hlt : pAddr a.ptr base s < pAddr a.ptr base (s + c.n) := by omega
  rw [← pAddr_sub a.ptr base s hpos, Nat.one_mul] at hr_ret
  unfold linkCfi
  simp only [hrec, hadds, htoks, hbytes, canon_ne_leaf, and_false, if_false, hr_ret, Option.map_some, hstrip,
    hret, hretmax, htop, hlt, hple, Bool.true_and,
    BEq.rfl, decide_true, if_false]
  cases hs : c.saves with
  | false =>
    simp only [canon_false_ne_true, if_false, hn, Bool.false_eq_true, and_false, hfp, BEq.rfl,
      decide_true, Bool.and_self, ne_eq, not_false_eq_true]
  | true =>
    obtain ⟨h2, hsf⟩ := hsv hs
    have h2p : 2 * a.ptr ≤ a.ptr * c.n := by
      have := Nat.mul_le_mul_left a.ptr h2; omega
    simp only [if_true, pAddr_sub a.ptr base s h2, hr_fp hs, Option.map_some, hsf, hn, ne_eq, not_false_eq_true, and_self,
      Option.isSome_some, BEq.rfl, Bool.and_self, h2p, decide_true]

theorem linkCfi_leaf (w : World) (a : Arch) (mask : Nat) (mem : Mem) (instr base s fp lr : Nat)
    (c : CfiFr) (rec : CfiRec) (hleaf : a.leafOk = true)
    (hrec : cfiRecordAt w instr = some rec) (hadds : rec.adds.isEmpty = true)
    (htoks : tokenize rec.init = leafToks a)
    (hret : 4096 ≤ c.ret) (hretmax : c.ret ≤ a.regMax) (hstrip : stripOf a mask c.ret = c.ret)
    (hfp : stripOf a mask fp = fp) (htop : pAddr a.ptr base s ≤ a.regMax) (hlr : lr = c.ret) :
    linkCfi w a mask mem instr (pAddr a.ptr base s) fp lr true
      { ret := c.ret, sp := pAddr a.ptr base s, fp := some fp } = true := by
  subst hlr
  unfold linkCfi
  simp only [hrec, hadds, htoks, hleaf, and_self, if_true, hstrip, hfp, BEq.rfl, decide_true,
    Bool.and_self, hret, hretmax, htop]

theorem CfiFr.words_spec (c : CfiFr) (hsv : c.n ≠ 0 → c.saves = true → 2 ≤ c.n) :
    c.words.length = c.n ∧ (c.n ≠ 0 → c.words[c.n - 1]?.getD 0 = c.ret ∧
      (c.saves = true → c.words[c.n - 2]?.getD 0 = c.fpv)) := by
  unfold CfiFr.words
  by_cases hn : c.n = 0
  · rw [if_pos hn]; exact ⟨hn.symm, fun h => absurd hn h⟩
  rw [if_neg hn]
  cases hs : c.saves with
  | false =>
    simp only [Bool.false_eq_true, if_false, false_implies, and_true]
    refine ⟨by simp; omega, fun _ => ?_⟩
    rw [List.getElem?_append_right (by simp)]
    simp
  | true =>
    have h2 := hsv hn hs
    simp only [if_true, true_implies]
    refine ⟨by simp; omega, fun _ => ⟨?_, ?_⟩⟩
    · rw [List.getElem?_append_right (by simp; omega)]
      have : c.n - 1 - (List.replicate (c.n - 2) 0).length = 1 := by simp; omega
      rw [this]; rfl
    · rw [List.getElem?_append_right (by simp)]
      simp

/-- the induction on the frames: `ws = pre ++ body frames ++ zeros`, the callee's stack pointer at
    word `s = pre.length`; only the first frame can be a leaf (size 0: the return address in `lr`) -/
theorem preCfi_gen_aux (w : World) (a : Arch) (os : Os) (mask base tail : Nat) (ws : List Nat)
    (hbase : 16 < base) (htop : base + a.ptr * ws.length ≤ a.regMax) :
    ∀ (frames : List CfiFr) (s fp instr lr : Nat) (first : Bool) (pre : List Nat),
      ws = pre ++ (gcfiBody frames ++ List.replicate tail 0) → pre.length = s →
      stripOf a mask fp = fp →
      gcfiSide w a instr first frames = true → gcfiFramesOk a mask frames = true →
      (first = true → ∀ c rest, frames = c :: rest → c.n = 0 → lr = c.ret ∧ s < ws.length) →
      (tail = 0 ∨ gcfiLastFp fp frames = 0) →
      preCfiFrom w a os mask (wordsMemP a.ptr base ws) instr (pAddr a.ptr base s) fp lr first
        (gcfiChain a.ptr base s fp frames) = true := by
  have hp := ptr_pos a
  have hpow := regMax_succ a
  have h64 := regMax_le_u64 a
  have haddr : ∀ i, i ≤ ws.length → pAddr a.ptr base i ≤ a.regMax := fun i hi =>
    Nat.le_trans (pAddr_le hi) htop
  have hin : ∀ s, s < ws.length → (wordsMemP a.ptr base ws).inRange (pAddr a.ptr base s) = true := fun s hs =>
    wordsMemP_inRange a.ptr base ws s hp hs (Nat.le_trans htop h64)
  intro frames
  induction frames with
  | nil =>
    intro s fp instr lr first pre hws hpl hfp hside _ _ hend
    simp only [preCfiFrom, gcfiChain, Bool.or_eq_true, Bool.not_eq_true', Bool.and_eq_true, decide_eq_true_eq]
    rcases hend with rfl | hl
    · exact Or.inl (wordsMemP_not_inRange a.ptr base ws s (by rw [hws, List.length_append, hpl]; exact Nat.le_refl _))
    · exact Or.inr ⟨⟨⟨hside, hl⟩, hbase⟩, zerosFrom_tail hp hws hpl⟩
  | cons c rest ih =>
    intro s fp instr lr first pre hws hpl hfp hside hok hleaf0 hend
    simp only [gcfiSide, Bool.and_eq_true] at hside
    obtain ⟨hrecs, hside'⟩ := hside
    simp only [gcfiFramesOk, List.all_cons, Bool.and_eq_true, decide_eq_true_eq] at hok
    obtain ⟨⟨⟨⟨hr4096, hrmax⟩, hrstrip⟩, hsvok⟩, hok'⟩ := hok
    have hsv : c.n ≠ 0 → c.saves = true → 2 ≤ c.n ∧ c.fpv ≤ a.regMax ∧ stripOf a mask c.fpv = c.fpv := by
      intro hn hs
      simp only [hs, Bool.not_true, Bool.or_false, Bool.or_eq_true, beq_iff_eq, Bool.and_eq_true,
        decide_eq_true_eq] at hsvok
      exact (hsvok.resolve_left hn).elim fun h h' => ⟨h.1, h.2, h'⟩
    -- the frame's words are a block of `c.n` words (none for the leaf frame), the rest of the chain behind it
    obtain ⟨hwl, hwords⟩ := c.words_spec fun hn hs => (hsv hn hs).1
    have hws' : ws = pre ++ (c.words ++ (gcfiBody rest ++ List.replicate tail 0)) := by
      rw [hws, gcfiBody, List.append_assoc]
    have hlen : s + c.n ≤ ws.length := by rw [hws', ← hwl]; exact length_block hpl (Nat.le_refl _)
    have hfp' : stripOf a mask (if c.n ≠ 0 ∧ c.saves = true then c.fpv else fp) =
        (if c.n ≠ 0 ∧ c.saves = true then c.fpv else fp) := by
      by_cases hs : c.n ≠ 0 ∧ c.saves = true
      · rw [if_pos hs]; exact (hsv hs.1 hs.2).2.2
      · rw [if_neg hs]; exact hfp
    have hrec := ih (s + c.n) _ (c.ret - a.adj) 0 false (pre ++ c.words)
      (by rw [hws', List.append_assoc]) (by rw [List.length_append, hpl, hwl]) hfp' hside' hok' (nomatch ·)
      (by simpa only [gcfiLastFp] using hend)
    simp only [preCfiFrom, gcfiChain, Bool.and_eq_true, Option.getD_some]
    refine ⟨?_, hrec⟩
    cases hrq : cfiRecordAt w instr with
    | none => rw [hrq] at hrecs; cases hrecs
    | some rec =>
      rw [hrq] at hrecs
      simp only [Bool.and_eq_true] at hrecs
      obtain ⟨hadds, hshape⟩ := hrecs
      by_cases hn : c.n = 0
      · -- the leaf first frame
        rw [if_pos hn] at hshape
        simp only [Bool.and_eq_true, beq_iff_eq] at hshape
        obtain ⟨⟨rfl, hleafOk⟩, htoks⟩ := hshape
        obtain ⟨hlr, hslt⟩ := hleaf0 rfl c rest rfl hn
        simp only [hn, Nat.add_zero, ne_eq, not_true_eq_false, false_and, if_false]
        exact ⟨hin s hslt, linkCfi_leaf w a mask _ instr base s fp lr c rec hleafOk hrq hadds htoks hr4096 hrmax
          hrstrip hfp (haddr s (Nat.le_of_lt hslt)) hlr⟩
      · rw [if_neg hn] at hshape
        obtain ⟨hwret, hwfp⟩ := hwords hn
        have hpos : 0 < c.n := Nat.pos_of_ne_zero hn
        exact ⟨hin s (by omega), linkCfi_frame w a mask _ instr base s fp lr first c rec hn hrq hadds
          (beq_iff_eq.mp hshape) hr4096 hrmax hrstrip hfp (fun h => ⟨(hsv hn h).1, (hsv hn h).2.2⟩) (haddr _ hlen)
          (read_block hws' hpl (by omega) hwret (by omega))
          (fun hs => read_block hws' hpl (by omega) (hwfp hs) (by have := (hsv hn hs).2.1; omega))⟩

end MdModel.Walk
