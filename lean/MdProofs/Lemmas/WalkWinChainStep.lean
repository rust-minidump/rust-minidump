/-
  C04, x86 STACK WIN chains — the walker side: one `get_caller_frame` on a frame
  whose lookup address is covered by a STACK WIN record of one of the shapes `PreW` accepts
  (`linkWinM`), through `mkEnvW`'s `cfiWalkW` (record selection, C07's evaluators, conversion of
  the caller's registers back into a context) and the x86 epilogue; off x86 `mkEnvW`'s oracle is
  `mkEnv`'s (`mkEnvW_cfi_arch`). At the end, for a lookup address without any record: `PreW`'s dead
  frame pointer and `scan` link read for every context kind
  (`deadFp_of_fpDead`, `linkScanM_scanFrom`; WalkMixedArch uses them off x86) and the x86 frame-pointer
  and scan steps (`step_mixed_fp`, `step_mixed_scan`: the scanner's recovery of `%ebp`).
-/
import MdProofs.Lemmas.WalkWinChainEval
import MdProofs.Lemmas.WalkChainMixed
import MdProofs.Lemmas.WalkCfiChain
namespace MdModel.Walk
open MdModel MdModel.Win

theorem leAt_lt_w (m : Mem) : ∀ (w off : Nat), m.leAt off w < 256 ^ w := fun w off => m.leAt_lt off w

theorem read4_le {m : Mem} {a v : Nat} (h : m.read a 4 = some v) : v ≤ U32MAX :=
  Nat.le_of_lt_succ (Mem.read_lt h)

theorem canon_x86 {r : String} (hr : r ∈ x86Regs) : Arch.x86.canon r = some r :=
  if_pos (List.contains_iff_mem.mpr hr)

theorem has_x86 (c : Ctx) {r : String} (hr : r ∈ x86Regs) : c.has .x86 r = c.hasLit r :=
  has_eq_hasLit (.inl rfl) c (canon_x86 hr)

theorem get_x86 (c : Ctx) {r : String} (hr : r ∈ x86Regs) :
    c.get .x86 r = if c.hasLit r then some (c.raw .x86 r) else none := by
  unfold Ctx.get
  rw [has_x86 c hr]
  simp

theorem raw_x86_eip (c : Ctx) : c.raw .x86 "eip" = c.ip := rfl
theorem raw_x86_esp (c : Ctx) : c.raw .x86 "esp" = c.sp := rfl

theorem winWalker_reg (mem : Mem) (f : Frame) (g : Option Frame) {r : String} (hr : r ∈ x86Regs) :
    (winWalker mem f g).reg r =
      if f.ctx.hasLit r then some (UInt32.ofNat (f.ctx.raw .x86 r)) else none := by
  have hc : x86Regs.contains r = true := by simpa using hr
  simp only [winWalker, hc, if_true, get_x86 f.ctx hr]
  split <;> rfl

theorem winWalker_mem (mem : Mem) (f : Frame) (g : Option Frame) (a : Nat) :
    (winWalker mem f g).mem a = (mem.read a 4).map UInt32.ofNat := rfl

theorem winWalker_mem_some {mem : Mem} {f : Frame} {g : Option Frame} {a v : Nat}
    (h : mem.read a 4 = some v) : (winWalker mem f g).mem a = some (UInt32.ofNat v) := by
  rw [winWalker_mem, h]; rfl

theorem callerOfCtx_valid (c : Ctx) (r : String) :
    r ∈ (callerOfCtx c).valid ↔ r ∈ x86CalleeSaved ∧ c.hasLit r = true := by
  simp [callerOfCtx, Caller.init]

theorem callerOfCtx_vals (c : Ctx) {r : String} (hr : r ∈ x86Regs) :
    (callerOfCtx c).vals.get r = some (UInt32.ofNat (c.raw .x86 r)) := by
  simp only [callerOfCtx, Caller.init, x86Vals, Vars.get_map, if_pos hr]

theorem ctxOfCaller_ip (c : Caller) : (ctxOfCaller c).ip = ((c.vals.get "eip").getD 0).toNat := rfl
theorem ctxOfCaller_sp (c : Caller) : (ctxOfCaller c).sp = ((c.vals.get "esp").getD 0).toNat := rfl

theorem ctxOfCaller_hasLit (c : Caller) (r : String) : (ctxOfCaller c).hasLit r = c.valid.contains r := rfl

theorem assocGet_map (f : String → Nat) (r : String) :
    ∀ l : List String, assocGet (l.map fun x => (x, f x)) r = if r ∈ l then f r else 0
  | [] => rfl
  | x :: l => by
    simp only [List.map_cons, assocGet, List.mem_cons, assocGet_map f r l]
    by_cases h : x = r
    · simp [h]
    · have h' : ¬ r = x := fun e => h e.symm
      simp [h, h']

theorem ctxOfCaller_raw (c : Caller) {r : String} (hr : r ∈ x86Regs) :
    (ctxOfCaller c).raw .x86 r = ((c.vals.get r).getD 0).toNat := by
  simp only [Ctx.raw, canon_x86 hr, ctxOfCaller, Arch.ipName, Arch.spName, assocGet_map, List.mem_filter,
    decide_eq_true_eq, ne_eq]
  by_cases h1 : r = "eip"
  · rw [if_pos h1, h1]
  · by_cases h2 : r = "esp"
    · rw [if_neg h1, if_pos h2, h2]
    · rw [if_neg h1, if_neg h2, if_pos ⟨hr, h1, h2⟩]

theorem ctxOfCaller_wf (c : Caller) : ∀ r ∈ x86Regs, (ctxOfCaller c).raw .x86 r ≤ U32MAX := by
  intro r hr
  rw [ctxOfCaller_raw c hr]
  have := UInt32.toNat_lt ((c.vals.get r).getD 0)
  simp only [U32MAX]; omega

theorem pick_of_typed_nil (t : WinTables) (ht : t.typed = []) (tbl : List RangeMap.Entry) (addr : Nat) :
    t.pick tbl addr = none := by
  unfold WinTables.pick
  cases Win.lookup tbl addr with
  | none => rfl
  | some i => simp [ht]

theorem winTables_nil_typed : (winTables []).typed = [] := by
  unfold winTables
  simp only [List.map_nil]
  split <;> rfl

theorem at_of_typed_nil {t : WinTables} (ht : t.typed = []) (a : Nat) : t.at a = (none, none) := by
  simp only [WinTables.at, pick_of_typed_nil t ht]

theorem winTables_at_getD (wins : List (List Win.Rec)) (i a : Nat) :
    ((wins[i]?.map winTables).getD WinTables.empty).at a = (winTables (wins[i]?.getD [])).at a := by
  cases wins[i]? with
  | none => exact (at_of_typed_nil rfl _).trans (at_of_typed_nil winTables_nil_typed _).symm
  | some l => rfl

/-- **x86 `get_caller_by_cfi` with STACK WIN records looks up what `winAt` and `cfiRecordAt` look up**:
    C07's record selection on the records `winAt` finds; when it finds nothing to evaluate, the STACK CFI
    record `cfiRecordAt` finds, on the walker as STACK WIN left it. `base`: the module's base address (only
    the selection of delta lines looks at it). -/
theorem cfiWalkW_eq (w : World) (wins : List (List Win.Rec)) (mem : Mem) (f : Frame) (g : Option Frame) :
    ∃ base, cfiWalkW w (modTable w.mods) (cfiTables w) (wins.map winTables) mem f g =
      match winResult clearNamesActual (winAt w wins f.instruction).1 (winAt w wins f.instruction).2
          (winWalker mem f g) (callerOfCtx f.ctx) with
      | .panic _ => none
      | .ok (true, c) => some (ctxOfCaller c)
      | .ok (false, c) =>
        ((cfiRecordAt w f.instruction).bind fun rec =>
          walkCfi { arch := .x86, callee := f.ctx, mem := mem }
            { ctx := { ctxOfCaller c with valid := f.ctx.valid }, valid := c.valid } rec.init
            (((rec.adds.mergeSort addLe).takeWhile fun p => p.1 ≤ f.instruction - base).map (·.2))).map
          fun o => { o.ctx with valid := some o.valid } := by
  unfold cfiWalkW winAt cfiRecordAt
  cases moduleAt (modTable w.mods) f.instruction with
  | none => exact ⟨0, rfl⟩
  | some i =>
    dsimp only
    cases w.mods[i]? with
    | none => exact ⟨0, rfl⟩
    | some m =>
      refine ⟨m.base, ?_⟩
      simp only [cfiTables, List.getElem?_map]
      cases w.syms[i]? with
      | none => rfl
      | some s =>
        cases s with
        | none => rfl
        | some sf =>
          simp only [Option.map_some, Option.join_some]
          split
          · rfl
          · rw [winTables_at_getD]
            cases winResult clearNamesActual ((winTables (wins[i]?.getD [])).at (f.instruction - m.base)).1
              ((winTables (wins[i]?.getD [])).at (f.instruction - m.base)).2 (winWalker mem f g) (callerOfCtx f.ctx) with
            | panic _ => rfl
            | ok p =>
              obtain ⟨b, c⟩ := p
              cases b
              · dsimp only
                rw [walkFrameCfi_eq, if_neg ‹¬ f.instruction < m.base›]
                rfl
              · rfl

/-- **what C04 asserts of one produced x86 frame**: technique label, return address, stack
    pointer, lookup address `ret - 1`, `eip`/`esp` valid, the frame pointer valid exactly when the
    chain says so and then with the generated value, every claimed register valid with its
    generated value; all register values 32 bit -/
structure FrameIs (t : Trust) (e : Exp) (f : Frame) : Prop where
  ip : f.ctx.ip = e.ret
  sp : f.ctx.sp = e.sp
  trust : f.trust = t
  instr : f.instruction = e.ret - 1
  vip : f.ctx.hasLit "eip" = true
  vsp : f.ctx.hasLit "esp" = true
  fp : e.fp = if f.ctx.hasLit "ebp" then some (f.ctx.raw .x86 "ebp") else none
  regs : ∀ p ∈ e.regs, p.1 ∈ x86Regs ∧ f.ctx.hasLit p.1 = true ∧ f.ctx.raw .x86 p.1 = p.2
  wf : ∀ r ∈ x86Regs, f.ctx.raw .x86 r ≤ U32MAX
  m64 : f.ctx.m64 = false

theorem reg3_x86 {r : String} (h : Reg3 r) : r ∈ x86Regs ∧ r ∈ outputRegs := by
  rcases h with rfl | rfl | rfl <;> decide

/-- the parameter size recorded on the frame below (`grand_callee_parameter_size`, 0 if unknown) -/
def gcpOf (g : Option Frame) : Nat := (g.bind fun x => x.func.map (·.psize)).getD 0

structure WinView (f : Frame) (g : Option Frame) (st : MState) : Prop where
  instr : f.instruction = st.instr
  ip : f.ctx.ip = st.ip
  sp : f.ctx.sp = st.sp
  vip : f.ctx.hasLit "eip" = true
  vsp : f.ctx.hasLit "esp" = true
  fp : st.fp = if f.ctx.hasLit "ebp" then some (f.ctx.raw .x86 "ebp") else none
  regs : ∀ r v, st.regs.lookup r = some v → f.ctx.hasLit r = true ∧ f.ctx.raw .x86 r = v
  first : g.isSome = !st.first
  gcp : gcpOf g = st.gcp
  trust : st.first = true ↔ f.trust = .context
  wf : ∀ r ∈ x86Regs, f.ctx.raw .x86 r ≤ U32MAX
  m64 : f.ctx.m64 = false

namespace WinView
variable {f : Frame} {g : Option Frame} {st : MState} (hv : WinView f g st) (mem : Mem)
include hv

theorem sp_le : st.sp ≤ U32MAX := by
  have := hv.wf "esp" (by decide); rw [raw_x86_esp, hv.sp] at this; exact this

theorem ip_le : st.ip ≤ U32MAX := by
  have := hv.wf "eip" (by decide); rw [raw_x86_eip, hv.ip] at this; exact this

theorem reg_esp : (winWalker mem f g).reg "esp" = some (UInt32.ofNat st.sp) := by
  rw [winWalker_reg mem f g (by decide), hv.vsp, raw_x86_esp, hv.sp]; rfl

theorem reg_eip : (winWalker mem f g).reg "eip" = some (UInt32.ofNat st.ip) := by
  rw [winWalker_reg mem f g (by decide), hv.vip, raw_x86_eip, hv.ip]; rfl

/-- the registers as every technique's step lemma reads them -/
theorem rview : RView .x86 f st.sp st.fp st.first := by
  refine ⟨rfl, hv.sp, fun h => (by cases h), ?_, ?_, hv.trust⟩
  · rw [has_eq_hasLit (a := .x86) (.inl rfl) f.ctx (by decide)]; exact hv.vsp
  · rw [has_eq_hasLit (a := .x86) (.inl rfl) f.ctx (by decide)]; exact hv.fp

theorem fp_some {b : Nat} (hb : st.fp = some b) :
    f.ctx.hasLit "ebp" = true ∧ f.ctx.raw .x86 "ebp" = b ∧ b ≤ U32MAX :=
  have h := hv.rview.lit_fp (.inl rfl) hb
  ⟨h.1, h.2, h.2 ▸ hv.wf "ebp" (by decide)⟩

theorem reg_ebp {b : Nat} (hb : st.fp = some b) : (winWalker mem f g).reg "ebp" = some (UInt32.ofNat b) := by
  obtain ⟨h1, h2, _⟩ := hv.fp_some hb
  rw [winWalker_reg mem f g (by decide), h1, h2]; rfl

theorem hasGC : (winWalker mem f g).hasGC = !st.first := hv.first

theorem gcParam : (winWalker mem f g).gcParam = UInt32.ofNat st.gcp := by
  show UInt32.ofNat (gcpOf g) = _
  rw [hv.gcp]

end WinView

theorem mkEnvW_cfi_x86 (os : Os) (w : World) (wins : List (List Win.Rec)) (mem : Mem) (f : Frame)
    (g : Option Frame) :
    (mkEnvW .x86 os w wins mem).cfi f g =
      if f.ctx.hasLit "esp" = true then cfiWalkW w (modTable w.mods) (cfiTables w) (wins.map winTables) mem f g
      else none := by
  simp only [mkEnvW, cfiOfW, effArch, Arch.isMips, Bool.false_eq_true, if_false, if_true]
  cases f.ctx.hasLit "esp" <;> rfl

theorem mkEnvW_cfi_arch {a : Arch} (ha : a ≠ .x86) (os : Os) (w : World) (wins : List (List Win.Rec)) (mem : Mem)
    (f : Frame) (g : Option Frame) :
    (mkEnvW a os w wins mem).cfi f g =
      cfiOf a w (modTable w.mods) (cfiTables w) (mkEnvW a os w wins mem).mask mem f g := by
  simp only [mkEnvW, cfiOfW, if_neg (effArch_ne_x86 ha f.ctx)]

/-- **a STACK WIN routine of either kind acts on the caller through its plan**: when the plan completes and
    names the generated `eip`, `esp`, `ebp` and claimed registers with their generated values, these are
    the `cfi` frame `get_caller_frame` returns — the `set_caller_register` calls all succeed (ten
    registers, 32-bit values), `cfiWalkW` selects the records `winAt` found, the caller's registers
    become the context, the x86 epilogue keeps it -/
theorem step_of_plan {os : Os} {w : World} {wins : List (List Win.Rec)} {mem : Mem} {f : Frame}
    {g : Option Frame} {st : MState} {e : Exp} {fd fpo : Option SInfo} {p : Plan}
    (hv : WinView f g st) (hq : winAt w wins st.instr = (fd, fpo))
    (hres : winResult clearNamesActual fd fpo (winWalker mem f g) (callerOfCtx f.ctx) =
      .ok (runPlan (clearAll clearNamesActual (callerOfCtx f.ctx)) p))
    (hdone : p.done = true) (hall : ∀ x ∈ p.sets, x.1 ∈ x86Regs ∧ x.2 ≤ U32MAX) (hnd : (p.sets.map (·.1)).Nodup)
    (h1 : ("eip", e.ret) ∈ p.sets) (h2 : ("esp", e.sp) ∈ p.sets) (h3 : ∃ v, e.fp = some v ∧ ("ebp", v) ∈ p.sets)
    (h4 : ∀ q ∈ e.regs, q ∈ p.sets) (hret : 4096 ≤ e.ret) (hsp : st.sp < e.sp) :
    ∃ f', step (mkEnvW .x86 os w wins mem) mem f g = some f' ∧ FrameIs .cfi e f' := by
  obtain ⟨c', hrun⟩ := runPlan_ok (clearAll clearNamesActual (callerOfCtx f.ctx)) hdone hall
  rw [hrun] at hres
  -- every call of the plan leaves its register valid with its value
  obtain ⟨hvalid, hvals, _⟩ := runPlan_caller hrun
  have key : ∀ x ∈ p.sets, (ctxOfCaller c').hasLit x.1 = true ∧ (ctxOfCaller c').raw .x86 x.1 = x.2 := fun x hx => by
    rw [ctxOfCaller_hasLit, List.contains_iff_mem, hvalid, ctxOfCaller_raw c' (hall x hx).1, hvals hnd x hx]
    exact ⟨Or.inr (List.mem_map.mpr ⟨x, hx, rfl⟩), u32_toNat_ofNat (hall x hx).2⟩
  have hcfi : (mkEnvW .x86 os w wins mem).cfi f g = some (ctxOfCaller c') := by
    obtain ⟨_, he⟩ := cfiWalkW_eq w wins mem f g
    rw [mkEnvW_cfi_x86, if_pos hv.vsp, he, hv.instr, hq, hres]
  have hip : (ctxOfCaller c').ip = e.ret := (key _ h1).2
  have hsp' : (ctxOfCaller c').sp = e.sp := (key _ h2).2
  obtain ⟨v, hfp, h3⟩ := h3
  refine ⟨_, step_cfi_accept hcfi (hip ▸ hret) (.inl (by rw [hsp', hv.sp]; exact hsp)),
    hip, hsp', rfl, congrArg (· - 1) hip, (key _ h1).1, (key _ h2).1, ?_,
    fun q hq => ⟨(hall q (h4 q hq)).1, key q (h4 q hq)⟩, ctxOfCaller_wf c', rfl⟩
  rw [(key _ h3).1, if_pos rfl, (key _ h3).2, hfp]

/-- a frame-data program whose final variable map holds the generated values: its plan is
    `outputs vs` (the six registers, distinct names, 32-bit values) -/
theorem step_of_finalVars {os : Os} {w : World} {wins : List (List Win.Rec)} {mem : Mem} {f : Frame}
    {g : Option Frame} {st : MState} {e : Exp} {si : SInfo} {fpo : Option SInfo} {prog : List Char} {vs : Vars}
    (hv : WinView f g st) (hq : winAt w wins st.instr = (some si, fpo)) (hi : si.thing = .prog prog)
    (hfv : finalVars prog si.info (winWalker mem f g) = .ok vs)
    (h1 : vs.get "$eip" = some (UInt32.ofNat e.ret))
    (h2 : ∃ csp, vs.get "$esp" = some csp ∧ csp.toNat = e.sp)
    (h3 : ∃ v, e.fp = some v ∧ v ≤ U32MAX ∧ vs.get "$ebp" = some (UInt32.ofNat v))
    (h4 : ∀ p ∈ e.regs, Reg3 p.1 ∧ p.2 ≤ U32MAX ∧ vs.get ("$" ++ p.1) = some (UInt32.ofNat p.2))
    (hret : 4096 ≤ e.ret) (hretm : e.ret ≤ U32MAX) (hsp : st.sp < e.sp) :
    ∃ f', step (mkEnvW .x86 os w wins mem) mem f g = some f' ∧ FrameIs .cfi e f' := by
  have hmem : ∀ {r : String} {v : Nat}, r ∈ outputRegs → v ≤ U32MAX → vs.get ("$" ++ r) = some (UInt32.ofNat v) →
      (r, v) ∈ outputs vs := fun hr hv h => mem_outputs.mpr ⟨hr, _, h, (u32_toNat_ofNat hv).symm⟩
  obtain ⟨csp, h2a, h2b⟩ := h2
  obtain ⟨v, h3a, h3b, h3c⟩ := h3
  exact step_of_plan (p := { sets := outputs vs, done := true }) hv hq
    (walkFramedata_ok _ hi hfv) rfl (outputs_fit vs) (outputs_names_nodup vs) (hmem (by decide) hretm h1)
    (mem_outputs.mpr ⟨by decide, csp, h2a, h2b.symm⟩) ⟨v, h3a, hmem (by decide) h3b h3c⟩
    (fun q hq => hmem (reg3_x86 (h4 q hq).1).2 (h4 q hq).2.1 (h4 q hq).2.2) hret hsp

theorem slots_spec {mem : Mem} {f : Frame} {g : Option Frame} {t0 : Nat} {saved regs : List (String × Nat)}
    (hs : (saved.all fun x => decide (x.snd ≤ t0) && (mem.read (t0 - x.snd) 4).isSome &&
      (x.fst == "ebx" || x.fst == "esi" || x.fst == "edi")) = true)
    (hr : regsFrom [] regs (fun r => Option.map (fun off => mem.read (t0 - off) 4) (List.lookup r saved)) = true) :
    (∀ p ∈ saved, p.2 ≤ t0 ∧ ((winWalker mem f g).mem (t0 - p.2)).isSome = true) ∧
    (∀ vs : Vars, (∀ r off, saved.lookup r = some off →
        vs.get ("$" ++ r) = some (((winWalker mem f g).mem (t0 - off)).getD 0)) →
      ∀ p ∈ regs, Reg3 p.1 ∧ p.2 ≤ U32MAX ∧ vs.get ("$" ++ p.1) = some (UInt32.ofNat p.2)) := by
  simp only [List.all_eq_true, Bool.and_eq_true, decide_eq_true_eq, Bool.or_eq_true, beq_iff_eq] at hs
  constructor
  · intro p hp
    obtain ⟨⟨h1, h2⟩, _⟩ := hs p hp
    refine ⟨h1, ?_⟩
    rw [winWalker_mem]
    simpa using h2
  · intro vs hvs p hp
    simp only [regsFrom, List.all_eq_true] at hr
    have h := hr p hp
    cases hl : List.lookup p.1 saved with
    | none => simp [hl] at h
    | some off =>
      simp only [hl, Option.map_some, beq_iff_eq] at h
      obtain ⟨_, h3⟩ := hs _ (List.mem_of_lookup_eq_some hl)
      refine ⟨or_assoc.mp h3, read4_le h, ?_⟩
      rw [hvs p.1 off hl, winWalker_mem_some h]
      rfl

theorem step_win_fd {os : Os} {w : World} {wins : List (List Win.Rec)} {mem : Mem} {f : Frame}
    {g : Option Frame} {st : MState} {e : Exp} {si : SInfo} {fpo : Option SInfo}
    (hv : WinView f g st) (hq : winAt w wins st.instr = (some si, fpo))
    (hw : linkWinM w wins mem st e = true)
    (hret : 4096 ≤ e.ret) (hretm : e.ret ≤ U32MAX) (hsp : st.sp < e.sp) :
    ∃ f', step (mkEnvW .x86 os w wins mem) mem f g = some f' ∧ FrameIs .cfi e f' := by
  unfold linkWinM at hw
  simp only [hq] at hw
  cases hth : si.thing with
  | abp x => simp [hth] at hw
  | prog prog =>
    simp only [hth] at hw
    cases hm : matchWin prog with
    | none => simp [hm] at hw
    | some sh =>
      -- every shape needs the callee's frame pointer `b`, as the 32-bit register value it is
      cases hfp : st.fp with
      | none => cases sh <;> simp only [hm, hfp, Option.isSome_none, Bool.false_and, Bool.false_eq_true] at hw
      | some b =>
        obtain ⟨ebp, hebp, rfl⟩ : ∃ ebp : UInt32, (winWalker mem f g).reg "ebp" = some ebp ∧ ebp.toNat = b :=
          ⟨_, hv.reg_ebp mem hfp, u32_toNat_ofNat (hv.fp_some hfp).2.2⟩
        have hwm : ∀ {a v}, mem.read a 4 = some v → (winWalker mem f g).mem a = some (UInt32.ofNat v) :=
          winWalker_mem_some
        -- `.raSearch` without `@`, as the evaluator computes it from the walker
        have hssE : st.sp + (si.info.loc.toNat + si.info.sav.toNat + st.gcp) ≤ U32MAX →
            ∃ ss, searchStart false si.info (winWalker mem f g).gcParam (UInt32.ofNat st.sp) ebp = some ss ∧
              ss.toNat = st.sp + (si.info.loc.toNat + si.info.sav.toNat + st.gcp) := fun h => by
          have hgc : st.gcp ≤ U32MAX := by omega
          have e1 : (UInt32.ofNat st.sp).toNat + (si.info.loc.toNat + si.info.sav.toNat +
              (winWalker mem f g).gcParam.toNat) = st.sp + (si.info.loc.toNat + si.info.sav.toNat + st.gcp) := by
            rw [hv.gcParam, u32_toNat_ofNat hv.sp_le, u32_toNat_ofNat hgc]
          obtain ⟨ss, h1, h2⟩ := searchStart_esp_ok (info := si.info) (gc := (winWalker mem f g).gcParam)
            (esp := UInt32.ofNat st.sp) (ebp := ebp) (by rw [e1]; exact h)
          exact ⟨ss, h1, h2.trans e1⟩
        cases sh with
        | std saved =>
          simp only [hm, hfp, Bool.and_eq_true, decide_eq_true_eq, beq_iff_eq] at hw
          obtain ⟨⟨⟨⟨⟨⟨⟨hss, hb8⟩, hr1⟩, hr2⟩, hfs⟩, hesp⟩, hsave, hnd⟩, hregs⟩ := hw
          obtain ⟨v, hev⟩ := Option.isSome_iff_exists.mp hfs
          rw [hev] at hr2
          obtain ⟨hsv, hcl⟩ := slots_spec (f := f) (g := g) hsave hregs
          obtain ⟨ss, hss1, _⟩ := hssE hss
          obtain ⟨vs, csp, hfv, q1, q2, q2', q3, q4⟩ := finalVars_shape (info := si.info) hm (hv.reg_esp mem) hebp
            hss1 rfl hb8 (hwm hr1) ⟨Nat.zero_le _, hwm hr2⟩ hsv hnd
          exact step_of_finalVars hv hq hth hfv q1 ⟨csp, q2, by simp only [WinShape.slots, WinShape.t0] at q2'; omega⟩ ⟨v, hev, read4_le hr2, q3⟩
            (hcl vs q4) hret hretm hsp
        | raAt saved =>
          simp only [hm, hfp, Bool.and_eq_true, decide_eq_true_eq, beq_iff_eq] at hw
          obtain ⟨⟨⟨⟨⟨⟨hb8, hr1⟩, hr2⟩, hfs⟩, hesp⟩, hsave, hnd⟩, hregs⟩ := hw
          obtain ⟨v, hev⟩ := Option.isSome_iff_exists.mp hfs
          rw [hev] at hr2
          obtain ⟨hsv, hcl⟩ := slots_spec (f := f) (g := g) hsave hregs
          obtain ⟨ss, hss1, hss2⟩ := searchStart_ebp_ok (info := si.info) (gc := (winWalker mem f g).gcParam)
            (esp := UInt32.ofNat st.sp) (ebp := ebp) (by omega)
          obtain ⟨vs, csp, hfv, q1, q2, q2', q3, q4⟩ := finalVars_shape (info := si.info) hm (hv.reg_esp mem) hebp
            hss1 hss2 hb8 (hwm hr1) ⟨Nat.le_add_left .., hwm hr2⟩ hsv hnd
          exact step_of_finalVars hv hq hth hfv q1 ⟨csp, q2, by simp only [WinShape.slots] at q2'; omega⟩ ⟨v, hev, read4_le hr2, q3⟩
            (hcl vs q4) hret hretm hsp
        | ra ebpOff saved =>
          simp only [hm, hfp, Option.isSome_some, Bool.true_and, Bool.and_eq_true, decide_eq_true_eq,
            beq_iff_eq] at hw
          obtain ⟨⟨⟨⟨⟨⟨hfsm, hb4⟩, hr1⟩, hesp⟩, hfp'⟩, hsave, hnd⟩, hregs⟩ := hw
          obtain ⟨hsv, hcl⟩ := slots_spec (f := f) (g := g) hsave hregs
          obtain ⟨ss, hss1, hss2⟩ := hssE (by omega)
          -- the caller's frame pointer: restored from the frame, or the callee's
          obtain ⟨v, hev, hvle, hfpE⟩ : ∃ v, e.fp = some v ∧ v ≤ U32MAX ∧
              match (generalizing := false) ebpOff with
              | some off => off ≤ st.sp + (si.info.loc.toNat + si.info.sav.toNat + st.gcp) ∧
                (winWalker mem f g).mem (st.sp + (si.info.loc.toNat + si.info.sav.toNat + st.gcp) - off) =
                  some (UInt32.ofNat v)
              | none => UInt32.ofNat v = ebp := by
            cases ebpOff with
            | some off =>
              simp only [Bool.and_eq_true, decide_eq_true_eq, beq_iff_eq] at hfp'
              obtain ⟨v, hev⟩ := Option.isSome_iff_exists.mp hfp'.2
              rw [hev] at hfp'
              exact ⟨v, hev, read4_le hfp'.1.2, hfp'.1.1, hwm hfp'.1.2⟩
            | none =>
              simp only [beq_iff_eq] at hfp'
              exact ⟨ebp.toNat, hfp', u32_le ebp, UInt32.ofNat_toNat⟩
          obtain ⟨vs, csp, hfv, q1, q2, q2', q3, q4⟩ := finalVars_shape (info := si.info) (nfp := UInt32.ofNat v) hm
            (hv.reg_esp mem) hebp hss1 hss2 hb4 (hwm hr1) hfpE hsv hnd
          exact step_of_finalVars hv hq hth hfv q1 ⟨csp, q2, by simp only [WinShape.slots] at q2'; omega⟩ ⟨v, hev, hvle, q3⟩
            (hcl vs q4) hret hretm hsp

theorem step_win_fpo {os : Os} {w : World} {wins : List (List Win.Rec)} {mem : Mem} {f : Frame}
    {g : Option Frame} {st : MState} {e : Exp} {si : SInfo}
    (hv : WinView f g st) (hq : winAt w wins st.instr = (none, some si))
    (hw : linkWinM w wins mem st e = true)
    (hret : 4096 ≤ e.ret) (hretm : e.ret ≤ U32MAX) (hspm : e.sp ≤ U32MAX) (hsp : st.sp < e.sp) :
    ∃ f', step (mkEnvW .x86 os w wins mem) mem f g = some f' ∧ FrameIs .cfi e f' := by
  unfold linkWinM at hw
  simp only [hq] at hw
  cases hth : si.thing with
  | prog x => simp [hth] at hw
  | abp abp =>
    simp only [hth, Bool.and_eq_true, decide_eq_true_eq, beq_iff_eq] at hw
    obtain ⟨⟨⟨⟨⟨⟨hfs, hfsm⟩, ha4⟩, hr1⟩, hesp⟩, hebp⟩, hregs⟩ := hw
    obtain ⟨b, hfp⟩ := Option.isSome_iff_exists.mp hfs
    have hble := (hv.fp_some hfp).2.2
    have hgc : st.gcp ≤ U32MAX := by omega
    -- the walker as C07's formulae see it
    have wgc : (winWalker mem f g).gcParam.toNat = st.gcp := by rw [hv.gcParam, u32_toNat_ofNat hgc]
    have hwfs : winFrameSize si.info (winWalker mem f g).gcParam =
        some (UInt32.ofNat (si.info.loc.toNat + si.info.sav.toNat + st.gcp)) := by
      rw [winFrameSize_some, wgc]
      exact ⟨hfsm, u32_toNat_ofNat hfsm⟩
    have tfs : (UInt32.ofNat (si.info.loc.toNat + si.info.sav.toNat + st.gcp)).toNat =
        si.info.loc.toNat + si.info.sav.toNat + st.gcp := u32_toNat_ofNat hfsm
    have tsp : (UInt32.ofNat st.sp).toNat = st.sp := u32_toNat_ofNat hv.sp_le
    have hfpo : ∃ v, e.fp = some v ∧ v ≤ U32MAX ∧
        fpoEbp si.info abp (winWalker mem f g) (UInt32.ofNat st.sp) = .ok (UInt32.ofNat v) := by
      cases abp with
      | true =>
        simp only [if_true, Bool.and_eq_true, decide_eq_true_eq, beq_iff_eq] at hebp
        obtain ⟨⟨h8, hrd⟩, hs⟩ := hebp
        obtain ⟨v, hev⟩ := Option.isSome_iff_exists.mp hs
        rw [hev] at hrd
        refine ⟨v, hev, read4_le hrd, ?_⟩
        rw [fpoEbp_abp, tsp, wgc, if_neg (by omega), winWalker_mem_some hrd]
        rfl
      | false =>
        simp only [Bool.false_eq_true, if_false, beq_iff_eq] at hebp
        refine ⟨b, by rw [hebp, hfp], hble, ?_⟩
        rw [fpoEbp_noabp, hv.reg_ebp mem hfp]
        rfl
    obtain ⟨v, hev, hvle, hfe⟩ := hfpo
    -- what is passed through: `ebx`, when no base pointer is allocated and it is known
    have hpre : ∀ p ∈ e.regs, p ∈ fpoPre abp (winWalker mem f g) := by
      intro p hp
      simp only [List.all_eq_true, Bool.and_eq_true, beq_iff_eq, Bool.not_eq_true'] at hregs
      obtain ⟨⟨h1, h2⟩, h3⟩ := hregs p hp
      obtain ⟨q1, q2⟩ := hv.regs "ebx" p.2 h3
      have hx : (winWalker mem f g).reg "ebx" = some (UInt32.ofNat p.2) := by
        rw [winWalker_reg mem f g (by decide), q1, q2]; rfl
      have hp2 : p.2 ≤ U32MAX := q2 ▸ hv.wf "ebx" (by decide)
      rw [fpoPre_spec, h2, hx]
      simp only [u32_toNat_ofNat hp2, List.mem_cons, List.not_mem_nil, or_false]
      exact Prod.ext h1 rfl
    have hplan : fpoPlan si.info abp (winWalker mem f g) =
        .ok { sets := fpoPre abp (winWalker mem f g) ++ [("eip", e.ret), ("esp", e.sp), ("ebp", v)],
              done := true } := by
      by_cases hlo : st.first = true ∧ mem.read (st.sp + (si.info.loc.toNat + si.info.sav.toNat + st.gcp)) 4 = some st.ip
      · rw [if_pos hlo] at ha4 hr1 hesp
        have hgcf : (winWalker mem f g).hasGC = false := by rw [hv.hasGC, hlo.1]; rfl
        have h := fpo_leftover_skip (abp := abp) hwfs (hv.reg_esp mem)
          (by rw [tsp, tfs]; exact winWalker_mem_some hlo.2) hgcf (hv.reg_eip mem)
          (by rw [tsp, tfs]; exact winWalker_mem_some hr1) hfe
        rw [h, tsp, tfs, u32_toNat_ofNat hretm, u32_toNat_ofNat hvle, hesp]
      · rw [if_neg hlo] at ha4 hr1 hesp
        have hno : (winWalker mem f g).hasGC = true ∨
            ∃ ce, (winWalker mem f g).reg "eip" = some ce ∧ UInt32.ofNat e.ret ≠ ce := by
          by_cases hf : st.first = true
          · right
            refine ⟨_, hv.reg_eip mem, ?_⟩
            intro heq
            have := (u32_ofNat_inj hretm hv.ip_le).mp heq
            exact hlo ⟨hf, by rw [hr1, this]⟩
          · left
            rw [hv.hasGC]
            simpa using hf
        have h := (fpo_formulae (abp := abp) hwfs (hv.reg_esp mem)
          (by rw [tsp, tfs]; exact winWalker_mem_some hr1) hno hfe).2
        rw [h, tsp, tfs, u32_toNat_ofNat hretm, u32_toNat_ofNat hvle, hesp]
    exact step_of_plan (p := ⟨fpoPre abp (winWalker mem f g) ++ [("eip", e.ret), ("esp", e.sp), ("ebp", v)], true⟩)
      hv hq (by simp only [winResult, walkFpo, hth, hplan]) rfl (fpoSets_fit abp _ hretm hspm hvle).1
      (fpoSets_fit abp _ hretm hspm hvle).2
      (by simp) (by simp) ⟨v, hev, by simp⟩ (fun q hq => List.mem_append_left _ (hpre q hq)) hret hsp

theorem cfi_none_of_noRecord {os : Os} {w : World} {wins : List (List Win.Rec)} {mem : Mem} {f : Frame}
    {g : Option Frame} (hn : noRecordAt w wins f.instruction = true) :
    (mkEnvW .x86 os w wins mem).cfi f g = none := by
  simp only [noRecordAt, Bool.and_eq_true, Option.isNone_iff_eq_none] at hn
  obtain ⟨⟨hc, h1⟩, h2⟩ := hn
  obtain ⟨_, he⟩ := cfiWalkW_eq w wins mem f g
  rw [mkEnvW_cfi_x86, he, h1, h2, hc]
  split <;> rfl

/-- the frame pointer a frame-pointer link claims is a word read from the record: it exists and fits the register -/
theorem linkFp_saved {a : Arch} {os : Os} {mask : Nat} {mem : Mem} {sp fp : Nat} {e : Exp}
    (hl : linkFp a os mask mem sp fp e = true) : a.hasFp = true ∧ ∃ v, e.fp = some v ∧ v ≤ a.regMax := by
  simp only [linkFp, Bool.and_eq_true] at hl
  obtain ⟨v, hev⟩ := Option.isSome_iff_exists.mp hl.1.1.1
  refine ⟨(by cases a <;> first | rfl | cases hl.2), v, hev, ?_⟩
  have hl' := hl.2
  simp only [hev, Option.getD_some] at hl'
  cases a <;> simp only [Bool.and_eq_true, beq_iff_eq, Bool.false_eq_true] at hl'
  · exact Nat.le_of_lt_succ (Mem.read_lt hl'.1.2)
  · exact Nat.le_of_lt_succ (Mem.read_lt hl'.1.1.1.1.1.2)
  · exact Nat.le_of_lt_succ (Mem.read_lt hl'.1.1.2)
  · exact Nat.le_of_lt_succ (Mem.read_lt hl'.1.1.1.1.1.2)
  · exact Nat.le_of_lt_succ (Mem.read_lt hl'.1.1.1.1.1.2)

theorem step_mixed_fp {os : Os} {w : World} {wins : List (List Win.Rec)} {mem : Mem} {f : Frame}
    {g : Option Frame} {st : MState} {e : Exp} {f0 : Nat}
    (hv : WinView f g st) (hn : noRecordAt w wins st.instr = true) (hfp : st.fp = some f0)
    (hl : linkFp .x86 os (mkEnvW .x86 os w wins mem).mask mem st.sp f0 e = true)
    (hregs : e.regs.isEmpty = true) (hretm : e.ret ≤ U32MAX) (hspm : e.sp ≤ U32MAX) :
    ∃ f', step (mkEnvW .x86 os w wins mem) mem f g = some f' ∧ FrameIs .fp e f' := by
  have hcfi : (mkEnvW .x86 os w wins mem).cfi f g = none :=
    cfi_none_of_noRecord (by rw [hv.instr]; exact hn)
  obtain ⟨_, v, hev, hvle⟩ := linkFp_saved hl
  refine ⟨fpFrame .x86 e, step_fp_x86 rfl hcfi (hfp ▸ hv.rview) hl, rfl, rfl, rfl, rfl, rfl, rfl, ?_, ?_, ?_, rfl⟩
  · show e.fp = some (e.fp.getD 0)
    rw [hev]; rfl
  · intro p hp
    rw [List.isEmpty_iff.mp hregs] at hp; cases hp
  · refine fun r _ => raw_le hretm hspm (fun p hp => ?_) r
    cases List.mem_singleton.mp hp
    show e.fp.getD 0 ≤ U32MAX
    rw [hev]; exact hvle

theorem fpDead_spec {a : Arch} {os : Os} {mem : Mem} {fp : Option Nat} (h : fpDead a os mem fp = true) :
    hasFpTech a os = false ∨ fp = none ∨ (fp = some 0 ∧ ¬ (a = .arm ∧ os = .ios) ∧ 16 < mem.base) := by
  simp only [fpDead, Bool.or_eq_true, Bool.not_eq_true', Option.isNone_iff_eq_none, Bool.and_eq_true,
    beq_iff_eq, decide_eq_true_eq] at h
  rcases h with (h | h) | ⟨⟨h1, h2⟩, h3⟩
  · exact Or.inl h
  · exact Or.inr (Or.inl h)
  · refine Or.inr (Or.inr ⟨h1, ?_, h3⟩)
    intro hc
    simp [hc.1, hc.2] at h2

theorem deadFp_of_fpDead {a : Arch} {os : Os} {mem : Mem} {fp : Option Nat} (h0 : fpDead a os mem fp = true) :
    DeadFp a os mem fp := by
  rcases fpDead_spec h0 with h | h | ⟨h1, h2, h3⟩
  · cases a <;> first | exact trivial | exact .inl fun hos => (by simp [hasFpTech, hos] at h) | cases h
  · cases a <;> first | exact trivial | exact .inl h | exact .inr h
  · cases a <;> first | exact trivial | exact .inr ⟨h1, h3⟩ | exact .inr h1 | exact .inl fun hos => h2 ⟨rfl, hos⟩

/-- `PreW`'s `scan` link in terms of the scan loop: it stops at word `k` on the return address; the word
    below it exists (one of the rejected words); `e.fp` is what the x86 scanner takes that word for -/
theorem linkScanM_scanFrom {env : Env} {a : Arch} {mem : Mem} {st : MState} {e : Exp}
    (h : linkScanM env a mem st e = true) :
    ∃ k, e.sp = scanStart a st.sp st.first + k * a.ptr + a.ptr ∧ e.sp ≤ a.regMax ∧
      (∀ n, gscanWindow a st.first ≤ n →
        scanFrom (instrValid env a) mem a.ptr a.regMax (scanStart a st.sp st.first) n 0 =
          some (k, scanStart a st.sp st.first + k * a.ptr, e.ret)) ∧
      (k = 0 ∨ ∃ x, mem.read (scanStart a st.sp st.first + k * a.ptr - a.ptr) a.ptr = some x) ∧
      e.fp = (if a = .x86 ∧ 0 < k then
        match mem.read (scanStart a st.sp st.first + k * a.ptr - 4) 4 with
        | some v => if v > scanStart a st.sp st.first + k * a.ptr ∧
            v - (scanStart a st.sp st.first + k * a.ptr - 4) ≤ 131072 ∧ (mem.read v 4).isSome then some v else none
        | none => none
      else none) ∧
      e.regs = [] := by
  have hst : (if a = .mips32 ∧ (!st.first) = true then st.sp + 4 * a.ptr else st.sp) =
      scanStart a st.sp st.first := rfl
  unfold linkScanM at h
  simp only [Bool.and_eq_true, decide_eq_true_eq, beq_iff_eq, List.all_eq_true, List.mem_range, List.isEmpty_iff,
    hst] at h
  obtain ⟨⟨⟨⟨⟨⟨⟨⟨_, h2⟩, h3⟩, h4⟩, h5⟩, h6⟩, h7⟩, h8⟩, h9⟩ := h
  generalize (e.sp - a.ptr - scanStart a st.sp st.first) / a.ptr = k at h2 h3 h5 h6 h8
  have hk : k < gscanWindow a st.first := h3
  have hrej : ∀ j, j < k → ∃ x, mem.read (scanStart a st.sp st.first + j * a.ptr) a.ptr = some x ∧
      instrValid env a x = false := by
    intro j hj
    have := h5 j hj
    split at this
    · rename_i x hx'
      exact ⟨x, hx', by simpa using this⟩
    · cases this
  refine ⟨k, h2, h4, fun n hn => scanFrom_first hrej h6 h7 (by omega) n 0 (Nat.zero_le _) (by omega), ?_, h8, h9⟩
  by_cases hk0 : k = 0
  · exact Or.inl hk0
  · obtain ⟨x, hx', _⟩ := hrej (k - 1) (by omega)
    have hp := ptr_pos a
    have : scanStart a st.sp st.first + k * a.ptr - a.ptr = scanStart a st.sp st.first + (k - 1) * a.ptr := by
      obtain ⟨k', rfl⟩ : ∃ k', k = k' + 1 := ⟨k - 1, by omega⟩
      rw [Nat.add_sub_cancel, Nat.succ_mul]; omega
    exact Or.inr ⟨x, by rw [this]; exact hx'⟩

theorem step_mixed_scan {os : Os} {w : World} {wins : List (List Win.Rec)} {mem : Mem} {f : Frame}
    {g : Option Frame} {st : MState} {e : Exp}
    (hv : WinView f g st) (hn : noRecordAt w wins st.instr = true)
    (hdead : fpDead .x86 os mem st.fp = true)
    (hl : linkScanM (mkEnvW .x86 os w wins mem) .x86 mem st e = true)
    (hret : 4096 ≤ e.ret) (hretm : e.ret ≤ U32MAX) :
    ∃ f', step (mkEnvW .x86 os w wins mem) mem f g = some f' ∧ FrameIs .scan e f' := by
  have hcfi : (mkEnvW .x86 os w wins mem).cfi f g = none :=
    cfi_none_of_noRecord (by rw [hv.instr]; exact hn)
  have hd : DeadFp .x86 (mkEnvW .x86 os w wins mem).os mem st.fp := deadFp_of_fpDead hdead
  generalize henv : mkEnvW .x86 os w wins mem = env at hl hcfi hd ⊢
  have harch : env.arch = .x86 := by rw [← henv]; rfl
  obtain ⟨k, hes, hemax, hscan, hbelow, hefp, hregs⟩ := linkScanM_scanFrom hl
  rw [scanStart_of_ne (by decide)] at hes hscan hbelow hefp
  simp only [Arch.ptr, Consts.ptr_x86] at hes hbelow hefp
  have hemax : st.sp + k * 4 + 4 ≤ U32MAX := hes ▸ hemax
  have hscan : scanFrom (instrValid env .x86) mem 4 U32MAX f.ctx.sp (scanWindow .x86 f.trust) 0 =
      some (k, st.sp + k * 4, e.ret) := by
    rw [hv.sp, scanWindow_eq (by decide) hv.trust]; exact hscan _ (Nat.le_refl _)
  -- the word below the return address (read by the scan when there is one) and the recovery of `%ebp`
  obtain ⟨x, hx⟩ : ∃ x, k ≠ 0 → mem.read (st.sp + k * 4 - 4) 4 = some x := by
    rcases hbelow with h | ⟨x, h⟩
    · exact ⟨0, fun h' => absurd h h'⟩
    · exact ⟨x, fun _ => h⟩
  have hefp' : e.fp = if k ≠ 0 ∧ x > st.sp + k * 4 ∧ x - (st.sp + k * 4 - 4) ≤ 131072 ∧
      (mem.read x 4).isSome = true then some x else none := by
    by_cases hk0 : k = 0
    · simpa [hk0] using hefp
    · simpa [hk0, Nat.pos_of_ne_zero hk0, hx hk0] using hefp
  have hbp : scanBpX86 mem st.fp k (st.sp + k * 4) (st.sp + k * 4 + 4) = some e.fp := by
    rw [hefp']
    exact scanBpX86_dead (hd.imp_right fun h => ⟨0, h.1, Nat.succ_pos _⟩) hx
  have hfple : ∀ p ∈ [("ebp", e.fp.getD 0)], p.2 ≤ U32MAX := by
    intro p hp
    cases List.mem_singleton.mp hp
    show e.fp.getD 0 ≤ U32MAX
    rw [hefp']
    split
    · rename_i h; exact read4_le (hx h.1)
    · exact Nat.zero_le _
  refine ⟨{ ctx := { ip := e.ret, sp := st.sp + k * 4 + 4, rest := [("ebp", e.fp.getD 0)],
                     valid := some (["eip", "esp"] ++ (if e.fp.isSome then ["ebp"] else [])) },
            trust := .scan, instruction := e.ret - 1 }, ?_, ?_⟩
  · rw [step_of_byScan (a := .x86) (by rw [harch]; rfl) hcfi (hv.rview.byFp_dead hd),
      show byScan env .x86 mem f.ctx f.trust = _ from scanX86_hit hv.vsp hscan hemax (hv.fp ▸ hbp)]
    exact epilogue_accept hret (by rw [hv.sp]; show st.sp < st.sp + k * 4 + 4; omega)
  · refine ⟨rfl, hes.symm, rfl, rfl, rfl, rfl, ?_, ?_, fun r _ => raw_le hretm hemax hfple r, rfl⟩
    · cases e.fp <;> rfl
    · intro p hp
      rw [hregs] at hp; cases hp

end MdModel.Walk
