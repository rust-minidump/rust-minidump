/-
  C12 (`MdModel.Once`): field projections of the state helpers, what `lookup` does in each of its
  four cases, and `poll_induction`: the one case analysis of a poll from which every invariant of
  the machine is derived.
-/
import MdModel.OnceCore
namespace MdModel.Once
open MdModel


@[simp] theorem upd_same {α : Type} (f : Nat → α) (i : Nat) (v : α) : upd f i v i = v := by
  simp [upd]

theorem upd_other {α : Type} (f : Nat → α) {i j : Nat} (v : α) (h : j ≠ i) : upd f i v j = f j := by
  simp [upd, h]

theorem upd_apply {α : Type} (f : Nat → α) (i j : Nat) (v : α) :
    upd f i v j = if j = i then v else f j := rfl

theorem Slot.nonEmpty_of_isDone {v : Slot} (h : v.isDone = true) : v.nonEmpty = true := by
  cases v <;> simp_all [Slot.isDone, Slot.nonEmpty]

theorem allFin_eq_true {cfg : Cfg} {s : State} :
    allFin cfg s = true ↔ ∀ t, t < cfg.ntasks → (s.task t).ctl = .fin := by
  simp [allFin, isFin]

theorem allFin_eq_false {cfg : Cfg} {s : State} :
    allFin cfg s = false ↔ ∃ t, t < cfg.ntasks ∧ (s.task t).ctl ≠ .fin := by
  simp [allFin, isFin]

theorem mem_runnable {cfg : Cfg} {s : State} {t : Nat} :
    t ∈ runnable cfg s ↔ t < cfg.ntasks ∧ (s.task t).woken = true ∧ (s.task t).ctl ≠ .fin := by
  simp [runnable, isFin]


theorem prog_of_lt {cfg : Cfg} {t : Nat} (ht : t < cfg.progs.length) : cfg.prog t = cfg.progs[t] := by
  simp [Cfg.prog, List.getD_eq_getElem?_getD, ht]

theorem prog_of_ge {cfg : Cfg} {t : Nat} (ht : cfg.ntasks ≤ t) : cfg.prog t = [] := by
  have : cfg.progs.length ≤ t := ht
  simp [Cfg.prog, List.getD_eq_getElem?_getD, this]

theorem lt_ntasks_of_mem_prog {cfg : Cfg} {t k : Nat} (h : k ∈ cfg.prog t) : t < cfg.ntasks :=
  Nat.lt_of_not_le fun ht => by simp [prog_of_ge ht] at h


section proj
variable (s : State) (t k : Nat) (c : Ctl) (r : List Nat) (b : Bool) (e : Event) (v : Slot)
  (ws : List (Nat × Bool))

@[simp] theorem setCtl_slot : (setCtl s t c r).slot = s.slot := rfl
@[simp] theorem setCtl_waiters : (setCtl s t c r).waiters = s.waiters := rfl
@[simp] theorem setCtl_log : (setCtl s t c r).log = s.log := rfl
@[simp] theorem setCtl_requested : (setCtl s t c r).requested = s.requested := rfl
@[simp] theorem setCtl_processed : (setCtl s t c r).processed = s.processed := rfl
@[simp] theorem setCtl_task :
    (setCtl s t c r).task = upd s.task t ⟨c, r, (s.task t).woken⟩ := rfl

@[simp] theorem setWoken_slot : (setWoken s t b).slot = s.slot := rfl
@[simp] theorem setWoken_waiters : (setWoken s t b).waiters = s.waiters := rfl
@[simp] theorem setWoken_log : (setWoken s t b).log = s.log := rfl
@[simp] theorem setWoken_requested : (setWoken s t b).requested = s.requested := rfl
@[simp] theorem setWoken_processed : (setWoken s t b).processed = s.processed := rfl
@[simp] theorem setWoken_task :
    (setWoken s t b).task = upd s.task t ⟨(s.task t).ctl, (s.task t).rest, b⟩ := rfl

@[simp] theorem setWoken_ctl (u : Nat) : ((setWoken s t b).task u).ctl = (s.task u).ctl := by
  simp only [setWoken_task, upd_apply]; split <;> simp_all
@[simp] theorem setWoken_rest (u : Nat) : ((setWoken s t b).task u).rest = (s.task u).rest := by
  simp only [setWoken_task, upd_apply]; split <;> simp_all
@[simp] theorem setWoken_woken_same : ((setWoken s t b).task t).woken = b := by simp
theorem setWoken_woken_other {u : Nat} (h : u ≠ t) :
    ((setWoken s t b).task u).woken = (s.task u).woken := by simp [upd_apply, h]
theorem setWoken_true_mono (u : Nat) (h : (s.task u).woken = true) :
    ((setWoken s t true).task u).woken = true := by
  simp only [setWoken_task, upd_apply]; split <;> simp_all

@[simp] theorem emit_slot : (emit s e).slot = s.slot := rfl
@[simp] theorem emit_waiters : (emit s e).waiters = s.waiters := rfl
@[simp] theorem emit_log : (emit s e).log = s.log ++ [e] := rfl
@[simp] theorem emit_requested : (emit s e).requested = s.requested := rfl
@[simp] theorem emit_processed : (emit s e).processed = s.processed := rfl
@[simp] theorem emit_task : (emit s e).task = s.task := rfl

@[simp] theorem setSlot_slot : (setSlot s k v).slot = upd s.slot k v := rfl
@[simp] theorem setSlot_waiters : (setSlot s k v).waiters = s.waiters := rfl
@[simp] theorem setSlot_log : (setSlot s k v).log = s.log := rfl
@[simp] theorem setSlot_requested : (setSlot s k v).requested = s.requested := rfl
@[simp] theorem setSlot_processed : (setSlot s k v).processed = s.processed := rfl
@[simp] theorem setSlot_task : (setSlot s k v).task = s.task := rfl

@[simp] theorem setWaiters_slot : (setWaiters s k ws).slot = s.slot := rfl
@[simp] theorem setWaiters_waiters : (setWaiters s k ws).waiters = upd s.waiters k ws := rfl
@[simp] theorem setWaiters_log : (setWaiters s k ws).log = s.log := rfl
@[simp] theorem setWaiters_requested : (setWaiters s k ws).requested = s.requested := rfl
@[simp] theorem setWaiters_processed : (setWaiters s k ws).processed = s.processed := rfl
@[simp] theorem setWaiters_task : (setWaiters s k ws).task = s.task := rfl

@[simp] theorem unlock_slot : (unlock s k).slot = s.slot := by
  unfold unlock; split <;> rfl
@[simp] theorem unlock_log : (unlock s k).log = s.log := by
  unfold unlock; split <;> rfl
@[simp] theorem unlock_requested : (unlock s k).requested = s.requested := by
  unfold unlock; split <;> rfl
@[simp] theorem unlock_processed : (unlock s k).processed = s.processed := by
  unfold unlock; split <;> rfl

@[simp] theorem unlock_ctl (u : Nat) : ((unlock s k).task u).ctl = (s.task u).ctl := by
  unfold unlock; split
  · simp only [setWoken_task, setWaiters_task, upd_apply]; split <;> simp_all
  · rfl
@[simp] theorem unlock_rest (u : Nat) : ((unlock s k).task u).rest = (s.task u).rest := by
  unfold unlock; split
  · simp only [setWoken_task, setWaiters_task, upd_apply]; split <;> simp_all
  · rfl

end proj


theorem callCount_append (k : Nat) (l : List Event) (e : Event) :
    callCount k (l ++ [e]) = callCount k l + (if e = .call k then 1 else 0) := by
  simp only [callCount, List.count_append, List.count_cons, List.count_nil, beq_iff_eq]
  omega


/-- `t` takes the free lock of `k`, finds no value and starts the supplier call, which will suspend
    `n` more times -/
def acquire (s : State) (t k n : Nat) (r : List Nat) : State :=
  setCtl (setSlot (emit { s with requested := s.requested + 1 } (.call k)) k (.held t)) t (.inSup k n) r

/-- `t` is about to look up `k` and will go on with `r` -/
def Looking (s : State) (t k : Nat) (r : List Nat) : Prop :=
  ((s.task t).ctl = .ready ∨ (s.task t).ctl = .waiting k) ∧ todo (s.task t) = k :: r

section lookup
variable (cfg : Cfg) (t k : Nat) (r : List Nat) {s : State}

theorem lookup_held {v : Nat} (h : s.slot k = .held v) :
    lookup cfg t k r s = (setCtl (setWaiters s k (register (s.waiters k) t)) t (.waiting k) r, false) := by
  simp only [lookup, h]

theorem lookup_done {res : Res} (h : s.slot k = .done res) :
    lookup cfg t k r s =
      (unlock (setCtl (emit (setWaiters s k (deregister (s.waiters k) t)) (.seen t k res)) t .ready r) k,
        true) := by
  simp only [lookup, h]

theorem lookup_empty_zero (h : s.slot k = .empty) (hd : (cfg.sup k).delay = 0) :
    lookup cfg t k r s =
      (complete cfg t k r (acquire (setWaiters s k (deregister (s.waiters k) t)) t k 0 r), true) := by
  simp only [lookup, h, hd, acquire]

theorem lookup_empty_succ {n : Nat} (h : s.slot k = .empty) (hd : (cfg.sup k).delay = n + 1) :
    lookup cfg t k r s =
      (setWoken (acquire (setWaiters s k (deregister (s.waiters k) t)) t k n r) t true, false) := by
  simp only [lookup, h, hd, acquire]

theorem complete_task (s : State) :
    ((complete cfg t k r s).task t).ctl = .ready ∧ ((complete cfg t k r s).task t).rest = r := by
  simp [complete]

end lookup

/-- **One poll of `t`, case by case.** `M` holds of the intermediate states of the poll (from the
    moment the wake flag is consumed; `t` is then `ready`, `waiting` or inside a supplier call that
    is about to return), `I` of the state the poll ends in. Every property of `poll` is an instance:
    the recursion through `runReady` and `lookup` is done here, once. -/
theorem poll_induction (cfg : Cfg) (t : Nat) (s : State) {I M : State → Prop}
    (idle : (s.task t).ctl = .fin → I s)
    (tick : ∀ k n, (s.task t).ctl = .inSup k (n + 1) →
      I (setWoken (setCtl s t (.inSup k n) (s.task t).rest) t true))
    (start : M (setWoken s t false))
    (fin : ∀ s, M s → (s.task t).ctl = .ready → (s.task t).rest = [] → I (setCtl s t .fin []))
    (block : ∀ s k r v, M s → Looking s t k r → s.slot k = .held v →
      I (setCtl (setWaiters s k (register (s.waiters k) t)) t (.waiting k) r))
    (hit : ∀ s k r res, M s → Looking s t k r → s.slot k = .done res →
      M (unlock (setCtl (emit (setWaiters s k (deregister (s.waiters k) t)) (.seen t k res)) t .ready r) k))
    (acq : ∀ s k r n, M s → Looking s t k r → s.slot k = .empty →
      ((cfg.sup k).delay = 0 → n = 0 →
        M (acquire (setWaiters s k (deregister (s.waiters k) t)) t k n r)) ∧
      ((cfg.sup k).delay = n + 1 →
        I (setWoken (acquire (setWaiters s k (deregister (s.waiters k) t)) t k n r) t true)))
    (ret : ∀ s k n r, M s → (s.task t).ctl = .inSup k n → (s.task t).rest = r →
      M (complete cfg t k r s)) :
    I (poll cfg t s) := by
  -- one lookup: the poll ends, or goes on in a state where `t` is `ready` with program `r`
  have look : ∀ s k r, M s → Looking s t k r →
      ((lookup cfg t k r s).2 = false → I (lookup cfg t k r s).1) ∧
      ((lookup cfg t k r s).2 = true → M (lookup cfg t k r s).1 ∧
        ((lookup cfg t k r s).1.task t).ctl = .ready ∧ ((lookup cfg t k r s).1.task t).rest = r) := by
    intro s k r hM hL
    cases hs : s.slot k with
    | held v => rw [lookup_held cfg t k r hs]; exact ⟨fun _ => block s k r v hM hL hs, by simp⟩
    | done res =>
      rw [lookup_done cfg t k r hs]
      refine ⟨by simp, fun _ => ⟨hit s k r res hM hL hs, ?_⟩⟩
      simp
    | empty =>
      cases hd : (cfg.sup k).delay with
      | zero =>
        rw [lookup_empty_zero cfg t k r hs hd]
        refine ⟨by simp, fun _ => ⟨?_, complete_task cfg t k r _⟩⟩
        exact ret _ k 0 r ((acq s k r 0 hM hL hs).1 hd rfl) (by simp [acquire]) (by simp [acquire])
      | succ n =>
        rw [lookup_empty_succ cfg t k r hs hd]
        exact ⟨fun _ => (acq s k r n hM hL hs).2 hd, by simp⟩
  have run : ∀ ks s, M s → (s.task t).ctl = .ready → (s.task t).rest = ks →
      I (runReady cfg t ks s) := by
    intro ks
    induction ks with
    | nil => exact fun s hM hc hr => fin s hM hc hr
    | cons k r ih =>
      intro s hM hc hr
      have hl := look s k r hM ⟨Or.inl hc, by simp [todo, hc, hr]⟩
      unfold runReady
      split
      · rename_i s' heq; rw [heq] at hl
        exact ih s' (hl.2 rfl).1 (hl.2 rfl).2.1 (hl.2 rfl).2.2
      · rename_i s' heq; rw [heq] at hl; exact hl.1 rfl
  unfold poll
  simp only
  split
  · rename_i hc; exact idle hc
  · rename_i hc; exact run _ _ start (by simp [hc]) (by simp)
  · rename_i k hc
    have hl := look _ k (s.task t).rest start ⟨Or.inr (by simp [hc]), by simp [todo, hc]⟩
    split
    · rename_i s' heq; rw [heq] at hl
      exact run _ s' (hl.2 rfl).1 (hl.2 rfl).2.1 (hl.2 rfl).2.2
    · rename_i s' heq; rw [heq] at hl; exact hl.1 rfl
  · rename_i k n hc; exact tick k n hc
  · rename_i k hc
    exact run _ _ (ret _ k 0 _ start (by simp [hc]) (by simp)) (complete_task ..).1 (complete_task ..).2

theorem exec_induction (cfg : Cfg) {I : State → Prop} (step : ∀ t s, I s → I (poll cfg t s))
    (sched : List Nat) {s : State} (h : I s) : I (exec cfg sched s) := by
  induction sched generalizing s with
  | nil => exact h
  | cons t ts ih => exact ih (step t s h)

end MdModel.Once
