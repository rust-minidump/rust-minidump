/-
  Formatting lemmas behind `ids_as_documented`: the hex of a number's big-endian bytes is the
  number's zero-padded hex; bytes → number → bytes is the identity.
-/
import MdProofs.Lemmas.Encode
namespace MdModel.Encode
open MdModel MdModel.Dump

theorem hexBytes_append (dig : Nat → Char) (xs ys : List UInt8) :
    hexBytes dig (xs ++ ys) = hexBytes dig xs ++ hexBytes dig ys := by
  simp [hexBytes]

theorem hexPad_two (dig : Nat → Char) (v : Nat) : hexPad dig 2 v = [dig (v / 16 % 16), dig (v % 16)] := by
  simp [hexPad]

theorem hexPad_add_two (dig : Nat → Char) (n v : Nat) :
    hexPad dig (n + 2) v = hexPad dig n (v / 256) ++ hexPad dig 2 (v % 256) := by
  have e1 : v / 16 / 16 = v / 256 := by omega
  have e2 : v % 256 / 16 % 16 = v / 16 % 16 := by omega
  have e3 : v % 256 % 16 = v % 16 := by omega
  simp only [hexPad_two, e2, e3]
  simp only [hexPad, e1, List.append_assoc, List.cons_append, List.nil_append]

theorem hexBytes_encNat_big (dig : Nat → Char) (w v : Nat) :
    hexBytes dig (encNat .big w v) = hexPad dig (2 * w) v := by
  induction w generalizing v with
  | zero => rfl
  | succ n ih =>
    have ih' := ih (v / 256)
    simp only [encNat] at ih' ⊢
    rw [leBytes, List.reverse_cons, hexBytes_append, ih', Nat.mul_succ, hexPad_add_two]
    simp [hexBytes]

theorem leBytes_leNat (bs : List UInt8) : leBytes bs.length (leNat bs) = bs := by
  induction bs with
  | nil => rfl
  | cons x xs ih =>
    have hx : x.toNat < 256 := x.toNat_lt
    simp only [List.length_cons, leBytes, leNat]
    have h1 : (x.toNat + 256 * leNat xs) % 256 = x.toNat := by omega
    have h2 : (x.toNat + 256 * leNat xs) / 256 = leNat xs := by omega
    rw [h1, h2, ih]
    simp

theorem encNat_big_decodeNat (e : Endian) (bs : List UInt8) :
    encNat .big bs.length (decodeNat e bs) = match e with
      | .big => bs
      | .little => bs.reverse := by
  have := leBytes_leNat bs.reverse
  simp only [List.length_reverse] at this
  cases e <;> simp [encNat, decodeNat, this, leBytes_leNat]

end MdModel.Encode
