/-
  The one sweep of the generated CONTEXT_* layouts against the register tables of
  context.rs (C18): every register cell is a scalar of its record's layout, under the spelling `showCell` gives
  it and with the width the tables state. C01 reads the cell of a named register off it (`cell_in_layout`), C02
  that the record written for a register file is read back cell by cell (`table_facts`).
-/
import MdModel.EncodeCtx
import MdModel.DumpRegs
import MdProofs.Lemmas.RegsFacts
namespace MdModel.EncodeCtx
open MdModel MdModel.Dump MdModel.Encode MdModel.Gen.Layouts MdModel.Gen.LayoutsX

theorem find?_of_nodup {α β γ : Type} [DecidableEq β] (f : α → β) (g : β → γ) {a : α} :
    ∀ {l : List α}, (l.map fun x => g (f x)).Nodup → a ∈ l → l.find? (fun x => f x == f a) = some a
  | [], _, h => by cases h
  | b :: t, hnd, h => by
    rw [List.map_cons, List.nodup_cons] at hnd
    rcases List.mem_cons.mp h with rfl | ht
    · simp
    · have hne : (f b == f a) = false := Bool.eq_false_iff.mpr fun e =>
        hnd.1 (List.mem_map.mpr ⟨a, ht, by rw [beq_iff_eq.mp e]⟩)
      rw [List.find?_cons, hne]
      exact find?_of_nodup f g hnd.2 ht

theorem testBit_foldl_or {α : Type} (g : α → Nat) (i : Nat) : ∀ (l : List α) (a : Nat),
    (a.testBit i = true ∨ ∃ c ∈ l, g c = i) → (l.foldl (fun a c => a ||| 1 <<< g c) a).testBit i = true
  | [], a, h => by
    rcases h with h | ⟨c, hc, _⟩
    · exact h
    · cases hc
  | b :: t, a, h => by
    refine testBit_foldl_or g i t _ ?_
    rw [Nat.testBit_or, Nat.one_shiftLeft]
    rcases h with h | ⟨c, hc, rfl⟩
    · simp [h]
    · rcases List.mem_cons.mp hc with rfl | hc
      · simp [Nat.testBit_two_pow_self]
      · exact .inr ⟨c, hc, rfl⟩

theorem getCell_mem_dumpCells {c : Gen.Regs.Ctx} {n : String} {cell : Regs.Cell}
    (hc : Regs.getCell c n = some cell) (hb : Regs.inBounds c cell = true) : cell ∈ Regs.dumpCells c := by
  unfold Regs.getCell at hc
  split at hc
  · rename_i r hr
    have hfield : r.field = cell.field := by
      unfold Regs.resolve at hc
      split at hc
      · cases hc; rfl
      · cases hc; rfl
      · split at hc <;> cases hc
        rfl
    have hused : cell.field ∈ (Gen.Regs.getArms c).map (·.2.field) :=
      List.mem_map.mpr ⟨(n, r), Regs.assoc_some_mem hr, hfield⟩
    obtain ⟨fld, idx⟩ := cell
    unfold Regs.inBounds at hb
    cases hf : Regs.fieldOf c fld with
    | none => simp [hf] at hb
    | some f =>
      have hname : f.name = fld := by simpa using List.find?_some hf
      simp only [Regs.dumpCells, List.mem_flatMap]
      refine ⟨f, List.mem_of_find?_eq_some hf, ?_⟩
      rw [if_pos (by simp [hname, hused])]
      -- a scalar field holds the cell without index, an array field the cells below its length
      cases idx <;> cases hl : f.len <;> simp [hf, hl] at hb <;> simp [hname, hb]
  · cases hc

theorem known_cell {k : CtxKind} {n : String} {cell : Regs.Cell} (hn : n ∈ Regs.knownNames (regsCtxOf k))
    (hc : Regs.getCell (regsCtxOf k) n = some cell) : cell ∈ regCells k := by
  obtain ⟨cell', _, f⟩ := Regs.known_facts hn
  cases f.getCell.symm.trans hc
  exact getCell_mem_dumpCells hc f.inBounds

/-- a name as a number: its UTF-8 bytes in base 256. The sweep below compares names through it,
    since the kernel compares numerals at once but strings byte by byte, at every comparison anew;
    all that is used of it is that equal names have equal numbers. -/
def nameKey (s : String) : Nat := s.toUTF8.data.toList.foldl (fun a b => 256 * a + b.toNat) 1

def namePrefix (s : String) : Nat := (s.toUTF8.data.toList.take 2).foldl (fun a b => 256 * a + b.toNat) 1

/-- the set of the cells' `namePrefix`es as a bit mask. A scalar whose prefix is not in it is no
    cell, which the kernel sees in one step and from two bytes of the scalar's name: it produces
    the bytes of a literal one at a time, each at a cost proportional to the literal's length, and
    most scalars of the x86 and amd64 records are long and no registers. -/
def prefixMask (k : CtxKind) : Nat :=
  (regCells k).foldl (fun a cell => a ||| 1 <<< namePrefix (Regs.showCell cell)) 0

/-- the element width in bits that the tables of context.rs give the cell's field -/
def cellBits (k : CtxKind) (cell : Regs.Cell) : Nat :=
  match Regs.fieldOf (regsCtxOf k) cell.field with
  | some f => f.bits
  | none => 0

/-- the layout has a `context_flags` word, and every scalar of that name is at least 4 bytes wide;
    every scalar spelled like a register cell of C18's tables (`showCell`) has the width the tables
    state for the cell; no cell is spelled `context_flags`, no two cells are spelled alike, and every
    cell is spelled like some scalar (found by prefix and key like the others, then compared as a string once) -/
def tablesOk (k : CtxKind) : Bool :=
  (layoutOffset k.layout "context_flags").isSome &&
  k.layout.all (fun f => (f.1 != "context_flags" || decide (4 ≤ f.2)) &&
    (!(prefixMask k).testBit (namePrefix f.1) ||
      (regCells k).all fun cell => nameKey f.1 != nameKey (Regs.showCell cell) || f.2 * 8 == cellBits k cell)) &&
  (regCells k).all (fun cell => Regs.showCell cell != "context_flags") &&
  decide ((regCells k).map fun cell => nameKey (Regs.showCell cell)).Nodup &&
  (regCells k).all fun cell => k.layout.any fun f =>
    (prefixMask k).testBit (namePrefix f.1) && nameKey f.1 == nameKey (Regs.showCell cell) && f.1 == Regs.showCell cell

theorem tables_ok (k : CtxKind) : tablesOk k = true := by
  cases k <;> decide +kernel

theorem table_facts (k : CtxKind) :
    (layoutOffset k.layout "context_flags").isSome = true ∧
    (∀ f ∈ k.layout, (f.1 = "context_flags" → 4 ≤ f.2) ∧
      ∀ cell ∈ regCells k, f.1 = Regs.showCell cell → f.2 * 8 = cellBits k cell) ∧
    ∀ cell ∈ regCells k, Regs.showCell cell ≠ "context_flags" ∧
      (regCells k).find? (fun c => Regs.showCell c == Regs.showCell cell) = some cell := by
  have h := (tables_ok k)
  simp only [tablesOk, Bool.and_eq_true, decide_eq_true_eq] at h
  replace h := h.1
  refine ⟨h.1.1.1, fun f hf => ?_, fun cell hc =>
    ⟨by simpa using List.all_eq_true.mp h.1.2 cell hc, find?_of_nodup Regs.showCell nameKey h.2 hc⟩⟩
  have hf := List.all_eq_true.mp h.1.1.2 f hf
  rw [Bool.and_eq_true] at hf
  refine ⟨fun hn => by simpa [hn] using hf.1, fun cell hc hn => ?_⟩
  have hbit : (prefixMask k).testBit (namePrefix f.1) = true :=
    testBit_foldl_or _ _ _ _ (.inr ⟨cell, hc, hn ▸ rfl⟩)
  have hw := hf.2
  rw [hbit, Bool.not_true, Bool.false_or] at hw
  simpa [hn] using List.all_eq_true.mp hw cell hc

theorem cells_present (k : CtxKind) : ∀ cell ∈ regCells k, ∃ f ∈ k.layout, f.1 = Regs.showCell cell := by
  intro cell hc
  have h := tables_ok k
  simp only [tablesOk, Bool.and_eq_true] at h
  obtain ⟨f, hf, hfe⟩ := List.any_eq_true.mp (List.all_eq_true.mp h.2 cell hc)
  simp only [Bool.and_eq_true, beq_iff_eq] at hfe
  exact ⟨f, hf, hfe.2⟩

end MdModel.EncodeCtx

namespace MdModel.Dump
open MdModel MdModel.EncodeCtx MdModel.Gen.Layouts MdModel.Gen.LayoutsX

theorem layoutOffset_of_mem : ∀ (l : Layout) (name : String), (∃ f ∈ l, f.1 = name) →
    ∃ off w, layoutOffset l name = some (off, w) ∧ (name, w) ∈ l := by
  intro l
  induction l with
  | nil => intro name ⟨f, hf, _⟩; cases hf
  | cons g rest ih =>
    intro name ⟨f, hf, hn⟩
    obtain ⟨n, w⟩ := g
    unfold layoutOffset
    by_cases hg : (n == name) = true
    · rw [if_pos hg]
      exact ⟨0, w, rfl, by rw [← eq_of_beq hg]; exact List.mem_cons_self⟩
    · rw [if_neg hg]
      have hrest : ∃ f ∈ rest, f.1 = name := by
        cases List.mem_cons.mp hf with
        | inl h => subst h; exact absurd (by simpa using hn) hg
        | inr h => exact ⟨f, h, hn⟩
      obtain ⟨off, w', ho, hm⟩ := ih name hrest
      exact ⟨w + off, w', by rw [ho], List.mem_cons_of_mem _ hm⟩

/-- The name is in the tables, so its cell is a register cell in bounds (C18); the cell is spelled like a scalar of
    the layout, and a scalar so spelled has the tables' width (`tables_ok`). -/
theorem cell_in_layout {k : CtxKind} {n : String} {cell : Regs.Cell}
    (hc : Regs.getCell (regsCtxOf k) n = some cell) :
    ∃ off w f, layoutOffset k.layout (Regs.showCell cell) = some (off, w) ∧
      Regs.fieldOf (regsCtxOf k) cell.field = some f ∧ w * 8 = f.bits := by
  have hn : n ∈ Regs.knownNames (regsCtxOf k) := by
    unfold Regs.getCell at hc
    split at hc
    · rename_i r hr
      exact Regs.known_of_getKey (List.mem_map.mpr ⟨(n, r), Regs.assoc_some_mem hr, rfl⟩)
    · cases hc
  have hmem := known_cell hn hc
  obtain ⟨cell', _, facts⟩ := Regs.known_facts hn
  cases facts.getCell.symm.trans hc
  obtain ⟨f, hf, hfe⟩ := cells_present k cell hmem
  obtain ⟨off, w, hoff, hw⟩ := layoutOffset_of_mem k.layout _ ⟨f, hf, hfe⟩
  have hwidth := ((table_facts k).2.1 _ hw).2 cell hmem rfl
  have hb := facts.inBounds
  unfold Regs.inBounds at hb
  cases hfo : Regs.fieldOf (regsCtxOf k) cell.field with
  | none => simp [hfo] at hb
  | some fd => exact ⟨off, w, fd, hoff, rfl, by simpa [cellBits, hfo] using hwidth⟩

end MdModel.Dump
