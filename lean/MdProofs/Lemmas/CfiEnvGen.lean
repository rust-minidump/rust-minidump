/-
  C06 inside the stack-walk environment, over the environment's symbolication.

  `FollowsC06` (C06Env.lean) speaks about the registers / validity set / trust / lookup address of a
  `cfi` frame and about the world `(arch, w, mem0)`; it does not mention `Frame.module` /
  `Frame.func`, i.e. nothing `Env.symb` computes. `CfiEnv` names the three fields of an `Env` the
  C06 theorems look at: its architecture, its pointer-authentication mask, and its
  `get_caller_by_cfi` being `Walk.cfiOf` over the world's tables; `symb`, `instrOk`, `os` are free.
  `follows_of_step` (C06Env) is stated for such environments.

  `Walk.mkEnvW` on x86 is no such environment; what a frame of trust `cfi` is there
  (`mkEnvW_cfi_x86_some`, `cfiWalkW_cases`): the epilogue applied to `cfiWalkW`'s result (STACK WIN
  evaluation first — C07 —, STACK CFI on the walker STACK WIN left otherwise).
-/
import MdProofs.C06Env
import MdProofs.Lemmas.WalkWinChainStep
namespace MdModel.CfiBridge
open MdModel

/-- **`CfiEnv env arch os w mem0`** — the fields of `env` the C06-in-the-environment theorems depend
    on: `env` unwinds as `arch`, strips pointer authentication with the mask computed from `w`'s
    module table (what `mkEnv arch os w mem0` uses — `os` does not enter it), and its
    `get_caller_by_cfi` is STACK CFI evaluation `Walk.cfiOf` over `w`'s module table and CFI tables
    on the stack memory `mem0`. Nothing is asked of `env.symb`, `env.instrOk`, `env.os`. -/
structure CfiEnv (env : Walk.Env) (arch : Walk.Arch) (os : Walk.Os) (w : Walk.World) (mem0 : Walk.Mem) : Prop where
  harch : env.arch = arch
  hmask : env.mask = (Walk.mkEnv arch os w mem0).mask
  hcfi : env.cfi = Walk.cfiOf arch w (Walk.modTable w.mods) (Walk.cfiTables w) env.mask mem0

theorem CfiEnv.cfi_eq {env : Walk.Env} {arch : Walk.Arch} {os : Walk.Os} {w : Walk.World} {mem0 : Walk.Mem}
    (h : CfiEnv env arch os w mem0) : env.cfi = (Walk.mkEnv arch os w mem0).cfi := by
  rw [h.hcfi, h.hmask]
  rfl

theorem mkEnv_cfiEnv (arch : Walk.Arch) (os : Walk.Os) (w : Walk.World) (mem0 : Walk.Mem) :
    CfiEnv (Walk.mkEnv arch os w mem0) arch os w mem0 := by
  constructor <;> rfl

/-- **`walk_frames_follow_c06`, over any `CfiEnv`** — every frame of trust `cfi` of every walk in an
    environment whose `arch` / `mask` / `cfi` fields are those of STACK CFI evaluation over
    `(arch, w, mem0)`, whatever its symbolication, from a well-formed context, satisfies `FollowsC06`
    w.r.t. the frame below it. -/
theorem walk_frames_follow_c06_env {env : Walk.Env} {arch : Walk.Arch} {os : Walk.Os} {w : Walk.World}
    {mem0 : Walk.Mem} (h : CfiEnv env arch os w mem0)
    (mem : Option Walk.Mem) (ctx : Walk.Ctx) (hctx : CtxOk arch ctx) :
    ∀ (i : Nat) (hi : i + 1 < (Walk.walk env mem ctx).length),
      (Walk.walk env mem ctx)[i + 1].trust = .cfi →
      FollowsC06 arch os w mem0 (Walk.walk env mem ctx)[i] (Walk.walk env mem ctx)[i + 1] :=
  walk_cfi_frames (walk_ctxOk (cfiOk_of_eq h.harch h.cfi_eq) mem (h.harch ▸ hctx))
    fun m p f' g hp => follows_of_step h.harch h.cfi_eq m p f' g (h.harch ▸ hp)

/-- a context the CFI oracle yields for the context frame and the epilogue accepts (x86 / x86-64
    form: the stack pointer grew) is the context of the walk's second frame -/
theorem walk_second_cfi (env : Walk.Env) (m : Walk.Mem) (ctx r : Walk.Ctx)
    (hr : m.range?.isSome = true) (hin : m.inRange ctx.sp = true)
    (hcfi : env.cfi (Walk.symbolise env (Walk.Frame.ofCtx ctx .context)) none = some r)
    (hip : 4096 ≤ r.ip) (hsp : ctx.sp < r.sp) :
    ∃ (h : 0 + 1 < (Walk.walk env (some m) ctx).length),
      (Walk.walk env (some m) ctx)[0 + 1] =
        Walk.symbolise env { ctx := r, trust := .cfi, instruction := r.ip - env.arch.adj } := by
  have hstep := (cfi_frame_epilogue env m (Walk.symbolise env (Walk.Frame.ofCtx ctx .context))
    { ctx := r, trust := .cfi, instruction := r.ip - env.arch.adj } none).mpr ⟨r, hcfi, hip, .inl hsp, rfl⟩
  obtain ⟨rest, hw⟩ := walk_second env m ctx _ hr hin hstep.1
  have hlen : 0 + 1 < (Walk.walk env (some m) ctx).length := by rw [hw]; simp
  exact ⟨hlen, by simp only [hw]; rfl⟩

theorem mkEnvW_cfi_x86_some {os : Walk.Os} {w : Walk.World} {wins : List (List Win.Rec)} {mem : Walk.Mem}
    {f : Walk.Frame} {g : Option Walk.Frame} {r : Walk.Ctx}
    (h : (Walk.mkEnvW .x86 os w wins mem).cfi f g = some r) :
    f.ctx.hasLit "esp" = true ∧
    Walk.cfiWalkW w (Walk.modTable w.mods) (Walk.cfiTables w) (wins.map Walk.winTables) mem f g = some r := by
  rw [Walk.mkEnvW_cfi_x86] at h
  split at h
  · exact ⟨‹_›, h⟩
  · cases h

open Walk in
/-- **the two sources of `cfiWalkW`'s answer** (x86 `SymbolFile::walk_frame` with STACK WIN records):
    a module `i` with symbol file `sf` covers the lookup address, and with `(fd, fpo)` the frame-data /
    FPO STACK WIN records at the module-relative address, C07's `winResult` on the callee's
    `winWalker` either SUCCEEDS (`.ok (true, c)`) and the caller context is `ctxOfCaller c` — a STACK
    WIN frame —, or finds nothing to evaluate (`.ok (false, c)`) and the caller context is STACK CFI
    evaluation (`walkFrameCfi`, C06's evaluator) on the walker as STACK WIN left it. -/
theorem cfiWalkW_cases {w : World} {mtbl : List RangeMap.Entry} {ctbls : List (List RangeMap.Entry)}
    {wts : List WinTables} {mem : Mem} {f : Frame} {g : Option Frame} {r : Ctx}
    (h : cfiWalkW w mtbl ctbls wts mem f g = some r) :
    ∃ i m sf ct fd fpo, moduleAt mtbl f.instruction = some i ∧ w.mods[i]? = some m ∧
      (w.syms[i]?).join = some sf ∧ ctbls[i]? = some ct ∧ m.base ≤ f.instruction ∧
      (wts[i]?.getD WinTables.empty).at (f.instruction - m.base) = (fd, fpo) ∧
      ((∃ c, Win.winResult Win.clearNamesActual fd fpo (winWalker mem f g) (callerOfCtx f.ctx) = .ok (true, c) ∧
          r = ctxOfCaller c) ∨
       (∃ c o, Win.winResult Win.clearNamesActual fd fpo (winWalker mem f g) (callerOfCtx f.ctx) = .ok (false, c) ∧
          walkFrameCfi sf ct m.base { arch := .x86, callee := f.ctx, mem := mem }
            { cfiOutOfCaller c with ctx := { (cfiOutOfCaller c).ctx with valid := f.ctx.valid } } f.instruction = some o ∧
          r = { o.ctx with valid := some o.valid })) := by
  revert h
  fun_cases cfiWalkW w mtbl ctbls wts mem f g <;> intro h
  case case4 =>
    rename_i i hi m sf ct hc hs hm hlt _ _ fd fpo hat c hr
    exact ⟨i, m, sf, ct, fd, fpo, hi, hm, hs, hc, by omega, hat, .inl ⟨c, hr, (Option.some.inj h).symm⟩⟩
  case case5 =>
    rename_i i hi m sf ct hc hs hm hlt _ _ fd fpo hat c hr _
    obtain ⟨o, ho, hor⟩ := Option.map_eq_some_iff.mp h
    exact ⟨i, m, sf, ct, fd, fpo, hi, hm, hs, hc, by omega, hat, .inr ⟨c, o, hr, ho, hor.symm⟩⟩
  all_goals cases h

end MdModel.CfiBridge
