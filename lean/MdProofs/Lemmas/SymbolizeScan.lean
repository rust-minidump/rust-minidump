/-
  C11: the independent linear-scan specification of symbolication (`scanFill`: written without
  range maps, sorting or binary search — plain `find?`/`foldl`/`any` over the file's records in
  file order); what the model's lookups return is a record of the file that covers the address
  (`funcAt_is_record`, `lineAt_covers`, `inlineeAt_covers`), and on files whose records do not
  overlap it is the record the scan finds. The property theorem `eq_linear_scan` is in `MdProofs/C11.lean`.
-/
import MdProofs.Lemmas.Symbolize
namespace MdModel.Symbolize
open MdModel MdModel.RangeMap

def Func.Covers (f : Func) (a : Nat) : Prop :=
  0 < f.size ∧ f.addr + f.size ≤ U64MAX ∧ f.addr ≤ a ∧ a < f.addr + f.size

def Line.Covers (l : Line) (a : Nat) : Prop :=
  0 < l.size ∧ l.addr + (l.size - 1) ≤ U64MAX ∧ l.addr ≤ a ∧ a ≤ l.addr + (l.size - 1)

def Inl.Covers (x : Inl) (a : Nat) : Prop :=
  x.addr + x.size ≤ U64MAX ∧ x.addr ≤ a ∧ a < x.addr + x.size

instance (f : Func) (a : Nat) : Decidable (f.Covers a) := by unfold Func.Covers; infer_instance
instance (l : Line) (a : Nat) : Decidable (l.Covers a) := by unfold Line.Covers; infer_instance
instance (x : Inl) (a : Nat) : Decidable (x.Covers a) := by unfold Inl.Covers; infer_instance

def scanFunc (r : Recs) (a : Nat) : Option Func := r.funcs.find? fun f => decide (f.Covers a)

def scanLine (f : Func) (a : Nat) : Option Line := f.lines.find? fun l => decide (l.Covers a)

def scanInl (f : Func) (d a : Nat) : Option Inl :=
  f.inls.find? fun x => decide (x.depth = d ∧ x.Covers a)

def winCovers (w : Rec) (a : Nat) : Bool :=
  decide (0 < w.size ∧ w.addr + w.size ≤ U64MAX ∧ w.addr ≤ a ∧ a < w.addr + w.size)

def scanPsize (r : Recs) (a : Nat) (f : Func) : Nat :=
  match r.win4.find? (winCovers · a) with
  | some w => w.tag
  | none =>
    match r.win0.find? (winCovers · a) with
    | some w => w.tag
    | none => f.psize

def scanSrc (r : Recs) (fileId line addr base : Nat) : Option (Name × Nat × Nat) :=
  (mapGet r.files fileId).map fun file => (file, line, addr + base)

def scanLast (r : Recs) (f : Func) (a origin : Nat) : List InlineFrame :=
  let (file, line) : Option Name × Option Nat :=
    match scanLine f a with
    | some l => (mapGet r.files l.file, if l.line ≠ 0 then some l.line else none)
    | none => (none, none)
  match mapGet r.origins origin with
  | some name => [⟨name, file, line⟩]
  | none => []

/-- inline frames from depth `d` on; `origin` names the function the frame of depth `d-1` is in -/
def scanLoop (r : Recs) (f : Func) (a : Nat) : Nat → Nat → Nat → List InlineFrame
  | 0, _, _ => []
  | fuel + 1, d, origin =>
    match scanInl f d a with
    | none => scanLast r f a origin
    | some x =>
      (match mapGet r.origins origin with
        | some name => [⟨name, mapGet r.files x.callFile, some x.callLine⟩]
        | none => []) ++ scanLoop r f a fuel (d + 1) x.origin

def scanStep (a : Nat) (best : Option Pub) (q : Pub) : Option Pub :=
  if q.addr ≤ a then
    match best with
    | none => some q
    | some b => if pubLe b q then some q else some b
  else best

def scanPublic (pubs : List Pub) (a : Nat) : Option Pub := pubs.foldl (scanStep a) none

def scanCut (r : Recs) (a : Nat) (p : Pub) : Bool :=
  r.funcs.any fun f =>
    decide (0 < f.size ∧ f.addr + f.size ≤ U64MAX ∧ f.addr ≤ a ∧ p.addr ≤ f.addr)

def scanFillWith (psf : Nat → Func → Nat) (r : Recs) (base instr : Nat) : Frame :=
  if instr < base then {} else
  let a := instr - base
  match scanFunc r a with
  | some f =>
    let fn := some (f.name, f.addr + base, psf a f)
    match scanInl f 0 a with
    | some x =>
      { fn := fn, src := scanSrc r x.callFile x.callLine x.addr base,
        inl := scanLoop r f a (f.inls.length + 1) 1 x.origin }
    | none =>
      match scanLine f a with
      | some l => { fn := fn, src := scanSrc r l.file l.line l.addr base }
      | none => { fn := fn }
  | none =>
    match scanPublic r.pubs a with
    | some p => if scanCut r a p then {} else { fn := some (p.name, p.addr + base, p.psize) }
    | none => {}

def scanFill (r : Recs) (base instr : Nat) : Frame := scanFillWith (scanPsize r) r base instr

def RDisjoint (r s : Rng) : Prop := r.hi < s.lo ∨ s.hi < r.lo

/-- "files whose records do not overlap": valid FUNC ranges pairwise disjoint; within every FUNC
    valid line ranges pairwise disjoint and non-empty INLINE ranges of equal depth pairwise disjoint
    as half-open intervals `[addr, addr+size)`. Empty ranges (size 0) overlap nothing; the parser
    drops them. (Pairs = two different positions in the file.) -/
structure NonOverlapping (r : Recs) : Prop where
  funcs : r.funcs.Pairwise fun f g => ∀ rf rg, mkRange f.addr f.size = some rf →
      mkRange g.addr g.size = some rg → RDisjoint rf rg
  lines : ∀ f ∈ r.funcs, f.lines.Pairwise fun l m => ∀ rl rm,
      mkRangeLine l.addr l.size = some rl → mkRangeLine m.addr m.size = some rm → RDisjoint rl rm
  inls : ∀ f ∈ r.funcs, f.inls.Pairwise fun x y => x.depth = y.depth → 0 < x.size → 0 < y.size →
      x.addr + x.size ≤ y.addr ∨ y.addr + y.size ≤ x.addr

theorem funcAt_is_record {r : Recs} {sf : SymFile} (hb : build r = .ok sf) {a : Nat} {b : BFunc}
    (hf : funcAt sf.funcs sf.ftab a = some b) : ∃ f ∈ r.funcs, b = finOf f ∧ f.Covers a := by
  obtain ⟨v, hg, hv⟩ := Option.bind_eq_some_iff.mp hf
  obtain ⟨e, he, hc, rfl⟩ := get_sound_mem _ a v hg
  obtain ⟨f, hfm, hr, hfe⟩ := ftab_entry_is_record (build_built hb) he
  exact ⟨f, hfm, Option.some.inj (hv.symm.trans hfe),
    (covers_mkRange Func.addr Func.size a f).mp (covers_iff.mpr ⟨e.1, hr, hc⟩)⟩

theorem lineAt_covers {f : Func} {a : Nat} {l : Line} (h : lineAt (finOf f) a = some l) :
    l ∈ f.lines ∧ l.Covers a := by
  generalize hb : finOf f = b at h
  have hlt : b.ltab = safeVec (lineInput b.lines) := hb ▸ rfl
  have hsub : ∀ x ∈ b.lines, x ∈ f.lines := hb ▸ fun x hx => (List.mem_filter.mp hx).1
  unfold lineAt at h
  rw [hlt] at h
  obtain ⟨v, hg, h⟩ := Option.bind_eq_some_iff.mp h
  obtain ⟨r, hr, h1, h2⟩ := get_sound _ a v hg
  simp only [lineInput, List.mem_map, Prod.mk.injEq] at hr
  obtain ⟨l', hl', hr', rfl⟩ := hr
  rw [getElem?_idxOf hl'] at h
  cases h
  obtain ⟨hpos, hmax, rfl⟩ := mkRangeLine_eq_some.mp hr'
  exact ⟨hsub _ hl', hpos, hmax, h1, h2⟩

theorem inlineeAt_covers {f : Func} {d a : Nat} {x : Inl}
    (h : inlineeAt (finOf f).inls d a = .ok (some x)) : x ∈ f.inls ∧ x.depth = d ∧ x.Covers a := by
  obtain ⟨hm, hd, h1, h2, h3⟩ := inlineeAt_sound h
  exact ⟨(List.mem_filter.mp (List.mem_mergeSort.mp hm)).1, hd, h3, h1, h2⟩

theorem fillSymbol_cases {r : Recs} {sf : SymFile} (hb : build r = .ok sf) {base instr : Nat}
    {fr : Frame} (h : fillSymbol sf base instr = .ok fr) :
    (instr < base ∧ fr = {}) ∨
    (base ≤ instr ∧ ∃ f ∈ r.funcs, f.Covers (instr - base) ∧
      funcAt sf.funcs sf.ftab (instr - base) = some (finOf f) ∧
      FuncCase sf (finOf f) base (instr - base) fr) ∨
    (base ≤ instr ∧ funcAt sf.funcs sf.ftab (instr - base) = none) := by
  by_cases hlt : instr < base
  · rw [fillSymbol_below hlt] at h; cases h; exact .inl ⟨hlt, rfl⟩
  · have hge : base ≤ instr := by omega
    cases hf : funcAt sf.funcs sf.ftab (instr - base) with
    | none => exact .inr (.inr ⟨hge, rfl⟩)
    | some b =>
      obtain ⟨f, hfm, rfl, hcov⟩ := funcAt_is_record hb hf
      exact .inr (.inl ⟨hge, f, hfm, hcov, rfl, (fillSymbol_func hge hf h).2⟩)

theorem intersects_false_of_disjoint {r s : Rng} (h : RDisjoint r s) : r.intersects s = false := by
  unfold RDisjoint at h
  simp only [Rng.intersects, Bool.and_eq_false_iff, decide_eq_false_iff_not]
  omega

theorem pairwise_ranged {α β : Type} {rng : α → Option Rng} {val : α → β} {l : List α}
    (h : l.Pairwise fun x y => ∀ r r', rng x = some r → rng y = some r' → RDisjoint r r') :
    (l.filterMap fun x => (rng x).map fun r => (r, val x)).Pairwise fun p q => RDisjoint p.1 q.1 := by
  refine List.Pairwise.filterMap _ ?_ h
  intro x y hxy p hp q hq
  simp only [Option.map_eq_some_iff] at hp hq
  obtain ⟨r, hr, rfl⟩ := hp
  obtain ⟨r', hr', rfl⟩ := hq
  exact hxy r r' hr hr'

theorem apart_of_disjoint {α : Type} {rng : α → Option Rng} {x y : α}
    (h : ∀ r s, rng x = some r → rng y = some s → RDisjoint r s) : Apart rng x y :=
  fun r s hr hs => intersects_false_of_disjoint (h r s hr hs)

theorem NonOverlapping.apart {r : Recs} (hno : NonOverlapping r) :
    r.funcs.Pairwise (Apart fun f => mkRange f.addr f.size) :=
  hno.funcs.imp apart_of_disjoint

theorem scanFunc_eq (r : Recs) (a : Nat) :
    scanFunc r a = r.funcs.find? (covers (fun f => mkRange f.addr f.size) a) :=
  find?_covers fun f _ => by rw [covers_mkRange Func.addr Func.size, decide_eq_true_eq]; rfl

theorem scanFunc_of_covers {r : Recs} (hno : NonOverlapping r) {f : Func} (hfm : f ∈ r.funcs)
    {a : Nat} (hc : f.Covers a) : scanFunc r a = some f := by
  have hc' := (covers_mkRange Func.addr Func.size a f).mpr hc
  rw [scanFunc_eq]
  cases hs : r.funcs.find? (covers (fun f => mkRange f.addr f.size) a) with
  | none => exact absurd hc' (List.find?_eq_none.mp hs f hfm)
  | some f' => rw [find?_covers_unique hno.apart hs hfm hc']

theorem funcAt_scan {r : Recs} {sf : SymFile} (B : Built r sf) (hno : NonOverlapping r) (a : Nat) :
    funcAt sf.funcs sf.ftab a = (scanFunc r a).map finOf := by
  unfold funcAt
  rw [B.ftab_eq, get_eq_find? (fun _ _ _ => mkRange_ok) hno.apart a, ← scanFunc_eq, B.funcs]
  cases hs : scanFunc r a with
  | none => rfl
  | some f =>
    -- the stored value is the position of the first function equal to `f` in all that
    -- `PartialEq` compares: it has `f`'s range, so it covers `a` too and is `f`
    have hs' : r.funcs.find? (fun f => decide (f.Covers a)) = some f := hs
    obtain ⟨g, hg, hkey⟩ :=
      funcVal_get (List.mem_map_of_mem (f := finOf) (List.mem_of_find?_eq_some hs'))
    obtain ⟨f', hfm', rfl⟩ := List.mem_map.mp (List.mem_of_getElem? hg)
    simp only [BFunc.key, Prod.mk.injEq] at hkey
    have hc : f.Covers a := by simpa using List.find?_some hs'
    have hc' : f'.Covers a := by
      unfold Func.Covers at hc ⊢
      rw [show f'.addr = f.addr from hkey.1, show f'.size = f.size from hkey.2.1]
      exact hc
    simp only [Option.map_some, Option.bind_some, hg,
      Option.some.inj ((scanFunc_of_covers hno hfm' hc').symm.trans hs)]

theorem covers_mkRangeLine (a : Nat) (l : Line) :
    covers (fun l : Line => mkRangeLine l.addr l.size) a l = true ↔ l.Covers a := by
  rw [covers_iff]
  constructor
  · rintro ⟨r, hr, h1, h2⟩
    obtain ⟨hpos, hmax, rfl⟩ := mkRangeLine_eq_some.mp hr
    exact ⟨hpos, hmax, h1, h2⟩
  · rintro ⟨h1, h2, h3, h4⟩
    exact ⟨_, mkRangeLine_eq_some.mpr ⟨h1, h2, rfl⟩, h3, h4⟩

theorem lineAt_scan {f : Func}
    (hpw : f.lines.Pairwise fun l m => ∀ rl rm, mkRangeLine l.addr l.size = some rl →
      mkRangeLine m.addr m.size = some rm → RDisjoint rl rm) (a : Nat) :
    lineAt (finOf f) a = scanLine f a := by
  have hap : (finOf f).lines.Pairwise (Apart fun l => mkRangeLine l.addr l.size) :=
    (hpw.filter _).imp apart_of_disjoint
  unfold lineAt scanLine
  rw [show (finOf f).ltab = safeVec (lineInput (finOf f).lines) from rfl, lineInput,
    get_eq_find? (fun _ _ _ hr => ⟨(mkRangeLine_wf hr).1, (mkRangeLine_wf hr).2.1⟩) hap a]
  -- the table stores positions in the list without the empty records; a record found there is
  -- read back from its position, and an empty record covers nothing
  have hback : ∀ o : Option Line, (∀ l, o = some l → l ∈ (finOf f).lines) →
      (o.map (finOf f).lines.idxOf).bind ((finOf f).lines[·]?) = o := by
    rintro (_ | l) h
    · rfl
    · simp only [Option.map_some, Option.bind_some, getElem?_idxOf (h l rfl)]
  rw [hback _ fun l hl => List.mem_of_find?_eq_some hl]
  show (f.lines.filter fun l => l.size > 0).find? _ = _
  rw [List.find?_filter]
  refine congrArg (f.lines.find? ·) (funext fun l => Bool.eq_iff_iff.mpr ?_)
  rw [decide_eq_true_eq, decide_eq_true_eq, decide_eq_true_eq, covers_mkRangeLine]
  exact ⟨fun h => h.2, fun h => ⟨h.1, h⟩⟩

theorem inlLe_prefix {x y : Inl} (h : inlLe x y = true) :
    x.depth < y.depth ∨ (x.depth = y.depth ∧
      (x.addr < y.addr ∨ (x.addr = y.addr ∧ x.size ≤ y.size))) := by
  simp only [inlLe, Inl.key, lexLe, Bool.or_eq_true, Bool.and_eq_true, decide_eq_true_eq,
    beq_iff_eq] at h
  omega

theorem inlineeAt_complete (S : List Inl) (hsorted : S.Pairwise fun x y => inlLe x y = true)
    (hdis : S.Pairwise fun x y => x.depth = y.depth →
      x.addr + x.size ≤ y.addr ∨ y.addr + y.size ≤ x.addr)
    {x : Inl} (hx : x ∈ S) {d a : Nat} (hd : x.depth = d) (hc : x.Covers a) :
    inlineeAt S d a = .ok (some x) := by
  obtain ⟨c1, c2, c3⟩ := hc
  have hgt : S.Pairwise fun x y => cmpDepthAddr d a x = .gt → cmpDepthAddr d a y = .gt :=
    hsorted.imp fun h => by
      rw [cmpDepthAddr_gt, cmpDepthAddr_gt]
      have := inlLe_prefix h
      omega
  have hpx : cmpDepthAddr d a x ≠ .gt := by
    rw [Ne, cmpDepthAddr_gt]
    omega
  -- the search lands on an element that is not `Greater` with everything behind it `Greater`
  rcases inlineeAt_cases S d a with ⟨_, hall⟩ | ⟨i, c, hci, hpi, hafter, heq⟩
  · exact absurd (hall hgt x hx) hpx
  · obtain ⟨k, hk, rfl⟩ := List.getElem_of_mem hx
    obtain ⟨hi, rfl⟩ := List.getElem?_eq_some_iff.mp hci
    rw [Ne, cmpDepthAddr_gt] at hpi
    have hki : k ≤ i :=
      Nat.le_of_not_lt fun h => hpx (hafter hgt k _ h (List.getElem?_eq_getElem hk))
    -- a later element that is not `Greater` would start inside `x`'s range at `x`'s depth
    have hik : i = k := by
      by_cases h : i = k
      · exact h
      · have hlt : k < i := by omega
        have hs := inlLe_prefix (List.pairwise_iff_getElem.mp hsorted k i hk hi hlt)
        have hdj := List.pairwise_iff_getElem.mp hdis k i hk hi hlt
        omega
    subst hik
    rw [heq, if_pos ⟨hd, c1, c3⟩]

theorem inlineeAt_scan {f : Func}
    (hpw : f.inls.Pairwise fun x y => x.depth = y.depth → 0 < x.size → 0 < y.size →
      x.addr + x.size ≤ y.addr ∨ y.addr + y.size ≤ x.addr) (d a : Nat) :
    inlineeAt (finOf f).inls d a = .ok (scanInl f d a) := by
  cases hs : scanInl f d a with
  | none =>
    obtain ⟨o, ho⟩ := inlineeAt_ok (finOf f).inls d a
    cases o with
    | none => exact ho
    | some x =>
      -- what the lookup returns the scan would have found
      obtain ⟨hm, hc⟩ := inlineeAt_covers ho
      exact absurd (decide_eq_true hc) (by simpa using List.find?_eq_none.mp hs x hm)
  | some x =>
    unfold scanInl at hs
    have hm : x ∈ f.inls := List.mem_of_find?_eq_some hs
    have hp : x.depth = d ∧ x.Covers a := by simpa using List.find?_some hs
    have hpos : 0 < x.size := by obtain ⟨_, _, h2, h3⟩ := hp; omega
    -- among the non-empty ranges the hypothesis is plain disjointness
    have hpw' : (f.inls.filter fun x => x.size > 0).Pairwise fun x y => x.depth = y.depth →
        x.addr + x.size ≤ y.addr ∨ y.addr + y.size ≤ x.addr := by
      refine List.Pairwise.imp_of_mem ?_ (hpw.filter _)
      intro x y hx hy hxy hd
      have hx' := (List.mem_filter.mp hx).2
      have hy' := (List.mem_filter.mp hy).2
      simp only [gt_iff_lt, decide_eq_true_eq] at hx' hy'
      exact hxy hd hx' hy'
    apply inlineeAt_complete
    · exact List.pairwise_mergeSort (le := inlLe) (fun x y z => lexLe_trans x.key y.key z.key)
        (fun x y => by rw [Bool.or_eq_true]; exact lexLe_total x.key y.key) _
    · refine (List.Perm.pairwise_iff ?_ (List.mergeSort_perm _ _)).mpr hpw'
      intro x y hxy he
      have := hxy he.symm
      omega
    · exact List.mem_mergeSort.mpr (List.mem_filter.mpr ⟨hm, by simpa using hpos⟩)
    · exact hp.1
    · exact hp.2

theorem inlineLoop_scan {r : Recs} {sf : SymFile} (B : Built r sf) {f : Func}
    (hl : f.lines.Pairwise fun l m => ∀ rl rm, mkRangeLine l.addr l.size = some rl →
      mkRangeLine m.addr m.size = some rm → RDisjoint rl rm)
    (hi : f.inls.Pairwise fun x y => x.depth = y.depth → 0 < x.size → 0 < y.size →
      x.addr + x.size ≤ y.addr ∨ y.addr + y.size ≤ x.addr) (a : Nat) :
    ∀ fuel d origin inl, inlineLoop sf (finOf f) a fuel d origin = some (.ok inl) →
      ∀ k, inl = scanLoop r f a (fuel + k) d origin := by
  intro fuel
  induction fuel with
  | zero => intro d origin inl h; simp [inlineLoop] at h
  | succ fuel ih =>
    intro d origin inl h k
    rw [show fuel + 1 + k = (fuel + k) + 1 by omega]
    rcases inlineLoop_ok h with ⟨hn, rfl⟩ | ⟨x, rest, hx, hrest, rfl⟩
    · rw [inlineeAt_scan hi] at hn
      simp only [scanLoop, Outcome.ok.inj hn]
      unfold lastInline scanLast
      rw [lineAt_scan hl, B.files, B.origins]
      rfl
    · rw [inlineeAt_scan hi] at hx
      simp only [scanLoop, Outcome.ok.inj hx]
      rw [ih _ _ _ hrest k, B.files, B.origins]
      rfl
theorem pubLe_antisymm (p q : Pub) (h1 : pubLe p q = true) (h2 : pubLe q p = true) : p = q := by
  rw [pubLe_iff] at h1 h2
  obtain ⟨pa, pn, pp⟩ := p
  obtain ⟨qa, qn, qp⟩ := q
  simp only at h1 h2
  rcases h1 with h1 | ⟨h1, h1'⟩
  · rcases h2 with h2 | ⟨h2, _⟩ <;> omega
  · rcases h2 with h2 | ⟨h2, h2'⟩
    · omega
    · subst h1
      rcases h1' with ⟨a1, a2⟩ | ⟨a1, a2⟩ <;> rcases h2' with ⟨b1, b2⟩ | ⟨b1, b2⟩
      · exact absurd (lexLe_antisymm _ _ a1 b1) a2
      · exact absurd b1.symm a2
      · exact absurd a1.symm b2
      · subst a1
        have : pp = qp := by omega
        subst this; rfl

theorem NearestPublic.unique {pubs : List Pub} {a : Nat} {p q : Pub}
    (hp : NearestPublic pubs a p) (hq : NearestPublic pubs a q) : p = q :=
  pubLe_antisymm p q (hq.2.2 p hp.1 hp.2.1) (hp.2.2 q hq.1 hq.2.1)

theorem scanPublic_spec (pubs : List Pub) (a : Nat) :
    Greatest pubLe (fun q => q.addr ≤ a) pubs (scanPublic pubs a) := by
  have hstep : scanStep a = maxStep pubLe (fun q => q.addr ≤ a) := by
    funext best q
    unfold scanStep maxStep
    cases best <;> rfl
  unfold scanPublic
  rw [hstep]
  exact foldl_maxStep_greatest pubLe_refl pubLe_trans pubLe_total pubs

theorem scanPublic_eq (pubs : List Pub) (a : Nat) :
    findNearestPublic (pubs.mergeSort pubLe) a = scanPublic pubs a :=
  (findNearestPublic_spec pubs a).unique pubLe_antisymm (scanPublic_spec pubs a)

/-- without overlapping FUNCs every valid FUNC record starts a table entry, so the scan's cut-off
    test is the table's -/
theorem scanCut_iff {r : Recs} {sf : SymFile} (B : Built r sf) (hno : NonOverlapping r) (a : Nat)
    (p : Pub) : scanCut r a p = true ↔ StartsIn sf.ftab p.addr a := by
  unfold scanCut
  rw [List.any_eq_true]
  constructor
  · rintro ⟨f, hfm, hf⟩
    simp only [decide_eq_true_eq] at hf
    -- `f` is looked up at its own start, through an entry that starts there
    have hfa := funcAt_scan B hno f.addr
    rw [scanFunc_of_covers hno hfm ⟨hf.1, hf.2.1, Nat.le_refl _, by omega⟩] at hfa
    obtain ⟨v, hv, hfv⟩ := Option.bind_eq_some_iff.mp hfa
    obtain ⟨e, he, _, rfl⟩ := get_sound_mem _ _ _ hv
    obtain ⟨g, _, hr, hg⟩ := ftab_entry_is_record B he
    have hgf : g.addr = f.addr := congrArg BFunc.addr (Option.some.inj (hg.symm.trans hfv))
    have hlo : e.1.lo = f.addr := by rw [(mkRange_eq_some.mp hr).2.2, ← hgf]
    exact ⟨e, he, hlo ▸ hf.2.2.1, hlo ▸ hf.2.2.2⟩
  · rintro ⟨e, he, hle, hlo⟩
    obtain ⟨f, hfm, hr, _⟩ := ftab_entry_is_record B he
    obtain ⟨hf1, hf2, he1⟩ := mkRange_eq_some.mp hr
    rw [he1] at hle hlo
    exact ⟨f, hfm, by simp only [decide_eq_true_eq]; exact ⟨hf1, hf2, hle, hlo⟩⟩

theorem Rec.dec_enc (w : Rec) (hs : w.size < 2 ^ 32) (ht : w.tag < 2 ^ 64) : Rec.dec w.enc = w := by
  obtain ⟨a, s, t⟩ := w
  simp only [Rec.enc, Rec.dec, Rec.mk.injEq] at *
  refine ⟨?_, ?_, ?_⟩ <;> omega

def validWin (recs : List Rec) : List (Rng × Rec) :=
  recs.filterMap fun w => (mkRange w.addr w.size).map fun r => (r, w)

theorem insertWinAll_disjoint (recs : List Rec) (acc : List (Rng × Rec))
    (hacc : ∀ p ∈ acc, ∀ q ∈ validWin recs, RDisjoint p.1 q.1)
    (hpw : (validWin recs).Pairwise fun p q => RDisjoint p.1 q.1) :
    insertWinAll acc recs = .ok (acc.reverse ++ validWin recs) := by
  induction recs generalizing acc with
  | nil => simp [insertWinAll, validWin]
  | cons w rest ih =>
    simp only [insertWinAll]
    cases hr : mkRange w.addr w.size with
    | none =>
      have hv : validWin (w :: rest) = validWin rest := by simp [validWin, hr]
      rw [hv] at hacc hpw
      have : insertWin acc w = .ok acc := by unfold insertWin; rw [hr]
      rw [this]
      simp only
      rw [ih acc hacc hpw, hv]
    | some mr =>
      have hv : validWin (w :: rest) = (mr, w) :: validWin rest := by simp [validWin, hr]
      rw [hv] at hacc hpw
      have hins : insertWin acc w = .ok ((mr, w) :: acc) := by
        unfold insertWin
        rw [hr]
        simp only
        cases acc with
        | nil => rfl
        | cons l acc' =>
          obtain ⟨lr, li⟩ := l
          simp only
          have := hacc (lr, li) List.mem_cons_self (mr, w) List.mem_cons_self
          rw [intersects_false_of_disjoint this]
          simp
      rw [hins]
      simp only
      rw [ih ((mr, w) :: acc) ?_ (List.Pairwise.of_cons hpw), hv]
      · simp
      · exact List.forall_mem_cons.mpr ⟨fun q hq => List.rel_of_pairwise_cons hpw hq,
          fun p hp q hq => hacc p hp q (List.mem_cons_of_mem _ hq)⟩

/-- "STACK WIN records do not overlap": valid ranges of each type pairwise disjoint; and the fields
    fit their Rust types (`size`, `parameter_size` are `u32`) -/
structure WinNonOverlapping (recs : List Rec) : Prop where
  disjoint : recs.Pairwise fun w v => ∀ rw rv, mkRange w.addr w.size = some rw →
      mkRange v.addr v.size = some rv → RDisjoint rw rv
  bounds : ∀ w ∈ recs, w.size < 2 ^ 32 ∧ w.tag < 2 ^ 64

theorem validWin_pairwise {recs : List Rec} (h : WinNonOverlapping recs) :
    (validWin recs).Pairwise fun p q => RDisjoint p.1 q.1 :=
  pairwise_ranged (val := fun w => w) h.disjoint

/-- nothing to repair: the table is built from the records as they stand -/
theorem winTable_of_disjoint {recs : List Rec} (h : WinNonOverlapping recs) :
    winTable recs = .ok (safeVec (recs.map fun w => (mkRange w.addr w.size, w.enc))) := by
  have hin : (validWin recs).map (fun (r, w) => (r, w.enc)) =
      validOnly (recs.map fun w => (mkRange w.addr w.size, w.enc)) := by
    unfold validWin validOnly
    rw [List.map_filterMap, List.filterMap_map]
    refine congrArg (recs.filterMap ·) (funext fun w => ?_)
    show _ = (mkRange w.addr w.size).map _
    cases mkRange w.addr w.size <;> rfl
  unfold winTable
  rw [insertWinAll_disjoint recs [] (fun _ hp => nomatch hp) (validWin_pairwise h)]
  simp only [List.reverse_nil, List.nil_append, hin]
  rw [safeP_ok _ (validOnly_wf fun e he r hr => by obtain ⟨w, _, rfl⟩ := List.mem_map.mp he; exact mkRange_ok hr),
    safeVecP_validOnly]

theorem winTable_scan {recs : List Rec} (h : WinNonOverlapping recs) {tab : List Entry}
    (ht : winTable recs = .ok tab) (a : Nat) :
    (get tab a).map (fun v => (Rec.dec v).tag) = (recs.find? (winCovers · a)).map (·.tag) := by
  rw [winTable_of_disjoint h] at ht
  cases ht
  have hq : ∀ w ∈ recs, (winCovers w a = true ↔ covers (fun w => mkRange w.addr w.size) a w = true) :=
    fun w _ => by rw [covers_mkRange Rec.addr Rec.size, winCovers, decide_eq_true_eq]
  rw [get_eq_find? (fun _ _ _ => mkRange_ok) (h.disjoint.imp apart_of_disjoint) a, find?_covers hq]
  cases hf : recs.find? (covers (fun w => mkRange w.addr w.size) a) with
  | none => rfl
  | some w =>
    have hb := h.bounds w (List.mem_of_find?_eq_some hf)
    simp only [Option.map_some, Rec.dec_enc w hb.1 hb.2]

theorem paramSize_eq (sf : SymFile) (a : Nat) (f : BFunc) :
    paramSize sf a f = (((get sf.wfd a).map fun v => (Rec.dec v).tag).or
      ((get sf.wfpo a).map fun v => (Rec.dec v).tag)).getD f.psize := by
  unfold paramSize
  cases get sf.wfd a with
  | some v => rfl
  | none => cases get sf.wfpo a <;> rfl

theorem paramSize_scan {r : Recs} {sf : SymFile} (B : Built r sf)
    (h4 : WinNonOverlapping r.win4) (h0 : WinNonOverlapping r.win0) (a : Nat) (f : Func) :
    paramSize sf a (finOf f) = scanPsize r a f := by
  rw [paramSize_eq, winTable_scan h4 B.wfd a, winTable_scan h0 B.wfpo a]
  unfold scanPsize
  cases r.win4.find? (winCovers · a) with
  | some w => rfl
  | none => cases r.win0.find? (winCovers · a) <;> rfl

end MdModel.Symbolize
