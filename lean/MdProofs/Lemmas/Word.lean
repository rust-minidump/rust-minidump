/-
Machine words as natural numbers: facts about `Nat` bit operations that the evaluators of two stack-machine
languages (Breakpad CFI on `UInt64`, Windows frame data on `UInt32`) both need, the step by which a decoder of a
word from bytes stays below `256 ^ width`, and `Char.ofNat` below the surrogates, the digit class of `Char` and
`String.fromUTF8?`, for the groups of modules that build strings from codes or bytes.  No model is imported.
-/

/-- a byte below an `n`-byte word is an `n + 1`-byte word: the step of a little-endian decoder
    (`Dump.leNat`, `Cfi.leVal`, `Walk.Mem.leAt`) -/
theorem Nat.byte_add_lt {b r n : Nat} (hb : b < 256) (hr : r < 256 ^ n) : b + 256 * r < 256 ^ (n + 1) := by
  rw [Nat.pow_succ]; omega

/-- the same with the byte on top: the step of a big-endian decoder (`Cfi.beVal`, `Walk.Mem.beAt`) -/
theorem Nat.byte_mul_add_lt {b r n : Nat} (hb : b < 256) (hr : r < 256 ^ n) : b * 256 ^ n + r < 256 ^ (n + 1) :=
  calc b * 256 ^ n + r < (b + 1) * 256 ^ n := by rw [Nat.succ_mul]; omega
    _ ≤ 256 * 256 ^ n := Nat.mul_le_mul_right _ hb
    _ = 256 ^ (n + 1) := Nat.pow_succ'.symm

/-- clearing the low `k` bits of an `N`-bit word rounds it down to a multiple of `2^k`: the `@` (align) operator -/
theorem Nat.and_xor_low_mask {N k l : Nat} (hl : l < 2 ^ N) (hk : k ≤ N) :
    l &&& ((2 ^ N - 1) ^^^ (2 ^ k - 1)) = l - l % 2 ^ k := by
  have h2 : l - l % 2 ^ k = 2 ^ k * (l / 2 ^ k) := by
    have := Nat.div_add_mod l (2 ^ k); omega
  rw [h2]
  apply Nat.eq_of_testBit_eq
  intro i
  rw [Nat.testBit_and, Nat.testBit_xor, Nat.testBit_two_pow_sub_one, Nat.testBit_two_pow_sub_one,
    Nat.testBit_two_pow_mul, Nat.testBit_div_two_pow]
  by_cases hik : i < k
  · simp [hik, show i < N by omega, show ¬ k ≤ i by omega]
  · have h3 : i - k + k = i := by omega
    by_cases hi : i < N
    · simp [hi, hik, show k ≤ i by omega, h3]
    · -- above the word: `l` has no bits there
      have hz : l.testBit i = false :=
        Nat.testBit_lt_two_pow (Nat.lt_of_lt_of_le hl (Nat.pow_le_pow_right (by omega) (by omega)))
      simp [hi, hik, show k ≤ i by omega, h3, hz]

theorem Char.toNat_ofNat_of_lt {n : Nat} (h : n < 0xd800) : (Char.ofNat n).toNat = n := by
  simp only [Char.ofNat, dif_pos (Or.inl h : n.isValidChar), Char.ofNatAux, Char.toNat_mk]
  exact UInt32.toNat_ofNatLT ..

theorem Char.isDigit_iff (c : Char) : c.isDigit = true ↔ 48 ≤ c.toNat ∧ c.toNat ≤ 57 := by
  simp only [Char.isDigit, Bool.and_eq_true, decide_eq_true_eq, UInt32.le_iff_toNat_le]
  exact Iff.rfl

theorem String.fromUTF8?_eq_some_iff {b : ByteArray} {s : String} :
    String.fromUTF8? b = some s ↔ b = s.toByteArray := by
  unfold String.fromUTF8?
  constructor
  · intro h
    split at h
    · cases h; rfl
    · cases h
  · rintro rfl
    rw [dif_pos s.isValidUTF8]
    rfl
