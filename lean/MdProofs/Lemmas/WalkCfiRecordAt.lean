/-
  C04: `cfiRecordAt` from record-level facts. The module table and a symbol file's STACK CFI table
  are index-valued (`Lemmas/RangeMapIdx`), so a module / a record whose range intersects no other
  one's is found at every address inside it (`get_idx_complete_split`),
  and the hypothesis `cfiRecordAt w instr = some rec` of the C04 theorems follows from the positions
  of the module and the record in their lists.
-/
import MdProofs.Lemmas.WalkTables
import MdModel.Walk.Layout
namespace MdModel.Walk
open MdModel MdModel.RangeMap

theorem moduleAt_of_isolated (pre post : List Module) (m : Module) (r : Rng) (instr : Nat)
    (hr : mkRange m.base m.size = some r)
    (hiso : ∀ m' ∈ pre ++ post, ∀ s, mkRange m'.base m'.size = some s → r.intersects s = false)
    (hin : r.lo ≤ instr ∧ instr ≤ r.hi) :
    moduleAt (modTable (pre ++ m :: post)) instr = some pre.length :=
  get_idx_complete_split (idx_mkRange_wf _ _ _) hr hiso hin

theorem cfiTable_get_of_isolated (sf : SymFile) (cpre cpost : List CfiRec) (rec : CfiRec) (r : Rng) (addr : Nat)
    (hc : sf.cfis = cpre ++ rec :: cpost) (hr : mkRange rec.addr rec.size = some r)
    (hiso : ∀ c ∈ cpre ++ cpost, ∀ s, mkRange c.addr c.size = some s → r.intersects s = false)
    (hin : r.lo ≤ addr ∧ addr ≤ r.hi) :
    RangeMap.get (cfiTable sf) addr = some cpre.length := by
  rw [cfiTable_eq, hc]
  exact get_idx_complete_split (idx_mkRange_wf _ _ _) hr hiso hin

theorem cfiRecordAt_eq {w : World} {i instr : Nat} {m : Module} {sf : SymFile}
    (hmod : moduleAt (modTable w.mods) instr = some i) (hm : w.mods[i]? = some m)
    (hsf : (w.syms[i]?).join = some sf) (hge : m.base ≤ instr) :
    cfiRecordAt w instr = (RangeMap.get (cfiTable sf) (instr - m.base)).bind (sf.cfis[·]?) := by
  unfold cfiRecordAt
  simp only [hmod, hm, hsf, if_neg (Nat.not_lt.mpr hge)]
  cases RangeMap.get (cfiTable sf) (instr - m.base) <;> rfl

/-- **the hypothesis `cfiRecordAt w instr = some rec` from record-level facts**: module number
    `pre.length` intersects no other module, its symbol file's record number `cpre.length`
    intersects no other record, and the address lies inside the record (relative to the module) -/
theorem cfiRecordAt_of_isolated (w : World) (pre post : List Module) (m : Module) (sf : SymFile)
    (cpre cpost : List CfiRec) (rec : CfiRec) (rm rr : Rng) (instr : Nat)
    (hmods : w.mods = pre ++ m :: post) (hsym : w.syms[pre.length]? = some (some sf))
    (hcfis : sf.cfis = cpre ++ rec :: cpost)
    (hrm : mkRange m.base m.size = some rm) (hrr : mkRange rec.addr rec.size = some rr)
    (hmiso : ∀ m' ∈ pre ++ post, ∀ s, mkRange m'.base m'.size = some s → rm.intersects s = false)
    (hriso : ∀ c ∈ cpre ++ cpost, ∀ s, mkRange c.addr c.size = some s → rr.intersects s = false)
    (hin : m.base + rec.addr ≤ instr ∧ instr < m.base + rec.addr + rec.size)
    (hfit : rec.addr + rec.size ≤ m.size) :
    cfiRecordAt w instr = some rec := by
  obtain ⟨_, _, rfl⟩ := mkRange_eq_some.mp hrm
  obtain ⟨_, _, rfl⟩ := mkRange_eq_some.mp hrr
  have hmod := moduleAt_of_isolated pre post m _ instr hrm hmiso (by simp only; omega)
  have hmi : w.mods[pre.length]? = some m := by simp [hmods]
  rw [cfiRecordAt_eq (hmods ▸ hmod) hmi (by rw [hsym]; rfl) (by omega),
    cfiTable_get_of_isolated sf cpre cpost rec _ (instr - m.base) hcfis hrr hriso (by simp only; omega)]
  simp [hcfis]

theorem cfiRecordAt_lookups {m : Module} {sf : SymFile} {mt ct : List RangeMap.Entry}
    (hmt : modTable [m] = mt) (hct : cfiTable sf = ct) (instr : Nat) (j : Option Nat)
    (h1 : RangeMap.get mt instr = some 0) (hge : m.base ≤ instr) (h2 : RangeMap.get ct (instr - m.base) = j) :
    cfiRecordAt { mods := [m], syms := [some sf] } instr = j.bind fun j => sf.cfis[j]? := by
  rw [cfiRecordAt_eq (i := 0) (hmt ▸ h1) rfl rfl hge, hct, h2]

end MdModel.Walk
