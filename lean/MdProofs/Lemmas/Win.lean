/-
  The library of `MdModel.Win` (C07's model), used by C07, C07Walker and the x86 STACK WIN chains of
  C04, in the model's order. The hinge is `Plan`: a routine of either kind computes one (the evaluator
  through `outputs`; the FPO routine, whose `u64` additions never overflow: `fpoRet_eq`,
  `fpoPlan_of_ret`), neither can panic, and what running a plan does to the caller record is said once
  for any plan and any clear list (`runPlan_ok`, `runPlan_frame`, `runPlan_caller`, over
  `applySets_spec`); `framedata_*` and `winResult_is_plan` are the instances the properties use.
-/
import MdModel.Win
import MdProofs.Lemmas.Word
deriving instance DecidableEq for MdModel.Outcome

namespace MdModel.Win
open MdModel

theorem u32_le (u : UInt32) : u.toNat ≤ U32MAX := Nat.le_of_lt_succ u.toNat_lt

theorem u32_toNat_ofNat {n : Nat} (h : n ≤ U32MAX) : (UInt32.ofNat n).toNat = n := by
  rw [UInt32.toNat_ofNat']; apply Nat.mod_eq_of_lt; simp only [U32MAX] at h; omega

theorem u32_add {a k : UInt32} (h : a.toNat + k.toNat ≤ U32MAX) : (a + k).toNat = a.toNat + k.toNat := by
  rw [UInt32.toNat_add]; apply Nat.mod_eq_of_lt; simp only [U32MAX] at h; omega

theorem u32_sub {a k : UInt32} (h : k.toNat ≤ a.toNat) : (a - k).toNat = a.toNat - k.toNat :=
  UInt32.toNat_sub_of_le a k h

theorem u32_ofNat_inj {a b : Nat} (ha : a ≤ U32MAX) (hb : b ≤ U32MAX) :
    UInt32.ofNat a = UInt32.ofNat b ↔ a = b := by
  constructor
  · intro h
    have := congrArg UInt32.toNat h
    rwa [u32_toNat_ofNat ha, u32_toNat_ofNat hb] at this
  · intro h; rw [h]

theorem pow2_table : ∀ k : Fin 32, isPow2 (UInt32.ofNat (2 ^ k.val)) = true ∧
    (UInt32.ofNat (2 ^ k.val)).toNat = 2 ^ k.val ∧ UInt32.ofNat (2 ^ k.val) ≠ 0 := by decide +kernel

theorem checkedAdd32_some {a b v : UInt32} :
    checkedAdd32 a b = some v ↔ a.toNat + b.toNat ≤ U32MAX ∧ v.toNat = a.toNat + b.toNat := by
  unfold checkedAdd32
  by_cases h : a.toNat + b.toNat ≤ U32MAX
  · rw [if_pos h, Option.some.injEq, ← UInt32.toNat_inj, u32_add h]
    exact ⟨fun e => ⟨h, e.symm⟩, fun e => e.2.symm⟩
  · simp [h]

/-- `win_frame_size = local_size + saved_register_size + grand_callee_parameter_size`, defined
    exactly when the sum fits `u32` ("extreme size fields fail cleanly"). -/
theorem winFrameSize_some {info : Info} {gc v : UInt32} :
    winFrameSize info gc = some v ↔
      info.loc.toNat + info.sav.toNat + gc.toNat ≤ U32MAX ∧
      v.toNat = info.loc.toNat + info.sav.toNat + gc.toNat := by
  unfold winFrameSize
  cases h1 : checkedAdd32 info.loc info.sav with
  | none =>
    simp only [Option.bind_none, reduceCtorEq, false_iff, not_and]
    intro h
    rw [checkedAdd32, if_pos (by omega)] at h1
    cases h1
  | some s =>
    obtain ⟨h1a, h1b⟩ := checkedAdd32_some.mp h1
    simp only [Option.bind_some]
    rw [checkedAdd32_some, h1b]

theorem winFrameSize_none {info : Info} {gc : UInt32} :
    winFrameSize info gc = none ↔ U32MAX < info.loc.toNat + info.sav.toNat + gc.toNat := by
  constructor
  · intro h
    refine Nat.lt_of_not_le fun hle => ?_
    have := winFrameSize_some.mpr ⟨hle, u32_toNat_ofNat hle⟩
    rw [h] at this; cases this
  · intro h
    cases hv : winFrameSize info gc with
    | none => rfl
    | some v => have := (winFrameSize_some.mp hv).1; omega

theorem R.bind_eq_ok {α β : Type} {x : R α} {f : α → R β} {b : β} :
    x.bind f = .ok b ↔ ∃ a, x = .ok a ∧ f a = .ok b := by
  cases x <;> simp [R.bind]

theorem R.ofOpt_eq_ok {α : Type} {o : Option α} {a : α} : R.ofOpt o = .ok a ↔ o = some a := by
  cases o <;> simp [R.ofOpt]

theorem R.ok_or_fail {α : Type} {x : R α} (h : x.isPanic = false) : (∃ a, x = .ok a) ∨ x = .fail := by
  cases x with
  | ok a => exact .inl ⟨a, rfl⟩
  | fail => exact .inr rfl
  | panic s => cases h

theorem R.ofOpt_no_panic {α : Type} (o : Option α) : (R.ofOpt o).isPanic = false := by
  cases o <;> rfl

theorem R.bind_no_panic {α β : Type} {x : R α} {f : α → R β} (hx : x.isPanic = false)
    (hf : ∀ a, x = .ok a → (f a).isPanic = false) : (x.bind f).isPanic = false := by
  cases x with
  | ok a => exact hf a rfl
  | fail => rfl
  | panic s => exact hx

/-! ### the variable map (`HashMap<&str, u32>`) -/

theorem Vars.get_nil (k : String) : Vars.get [] k = none := rfl

theorem Vars.get_cons (e : String × UInt32) (vs : Vars) (k : String) :
    Vars.get (e :: vs) k = if e.1 = k then some e.2 else Vars.get vs k := by
  unfold Vars.get
  by_cases h : e.1 = k <;> simp [h]

theorem Vars.erase_cons (e : String × UInt32) (vs : Vars) (k : String) :
    Vars.erase (e :: vs) k = if e.1 = k then Vars.erase vs k else e :: Vars.erase vs k := by
  unfold Vars.erase
  by_cases h : e.1 = k <;> simp [h]

theorem Vars.get_erase (vs : Vars) (k k' : String) :
    (Vars.erase vs k).get k' = if k' = k then none else vs.get k' := by
  induction vs with
  | nil => exact (ite_self _).symm
  | cons e vs ih =>
    rw [Vars.erase_cons, Vars.get_cons]
    by_cases he : e.1 = k
    · rw [if_pos he, ih]
      by_cases hk : k' = k
      · rw [if_pos hk, if_pos hk]
      · rw [if_neg hk, if_neg hk, if_neg fun h => hk (h.symm.trans he)]
    · rw [if_neg he, Vars.get_cons, ih]
      by_cases hk : e.1 = k'
      · rw [if_pos hk, if_pos hk, if_neg fun h => he (hk.trans h)]
      · rw [if_neg hk, if_neg hk]

theorem Vars.get_set (vs : Vars) (k k' : String) (v : UInt32) :
    (Vars.set vs k v).get k' = if k' = k then some v else vs.get k' := by
  unfold Vars.set; rw [Vars.get_cons]
  by_cases h : k' = k
  · rw [if_pos h.symm, if_pos h]
  · rw [if_neg (Ne.symm h), if_neg h, Vars.get_erase, if_neg h]

theorem Vars.get_set_self (vs : Vars) (k : String) (v : UInt32) : (Vars.set vs k v).get k = some v := by
  rw [Vars.get_set, if_pos rfl]

theorem Vars.get_set_other (vs : Vars) {k k' : String} (v : UInt32) (h : k' ≠ k) :
    (Vars.set vs k v).get k' = vs.get k' := by
  rw [Vars.get_set, if_neg h]

theorem Vars.get_map (f : String → UInt32) (k : String) :
    ∀ l : List String, Vars.get (l.map fun x => (x, f x)) k = if k ∈ l then some (f k) else none
  | [] => rfl
  | x :: l => by
    rw [List.map_cons, Vars.get_cons, Vars.get_map f k l]
    by_cases h : x = k
    · simp [h]
    · have h' : ¬ k = x := fun e => h e.symm
      simp [h, h']

/-- the overflow-checked `rhs - 1` of `@`, the only checked operation inside the evaluation loop, is
    guarded by `rhs ≠ 0`: its panic branch is dead -/
theorem alignOp_eq (l r : UInt32) :
    alignOp l r = if r = 0 || !isPow2 r then .fail else .ok (l &&& (0xffffffff ^^^ (r - 1))) := by
  unfold alignOp
  split
  · rfl
  · rename_i h
    rw [if_neg]
    intro hlt
    have h0 : r = 0 := UInt32.toNat_inj.mp (Nat.lt_one_iff.mp hlt)
    subst h0
    exact h rfl

theorem alignOp_no_panic (l r : UInt32) : (alignOp l r).isPanic = false := by
  rw [alignOp_eq]
  split <;> rfl

theorem stepBin_no_panic (op : BinOp) (st : St) : (stepBin op st).isPanic = false := by
  unfold stepBin
  split
  · rfl
  · split <;> rfl

theorem step_no_panic (mem : Nat → Option UInt32) (st : St) (t : Tok) :
    (step mem st t).isPanic = false := by
  cases t with
  | add | sub | mul | div | rem => simp only [step, stepBin_no_panic]
  | align =>
    simp only [step]
    split
    · rfl
    · rename_i l r rest _
      rcases R.ok_or_fail (alignOp_no_panic l r) with ⟨v, h⟩ | h <;> rw [h] <;> rfl
  | assign | deref => simp only [step]; (repeat' split) <;> rfl
  | undef | var | lit | bad => rfl

theorem run_no_panic (mem : Nat → Option UInt32) (st : St) (ts : List Tok) :
    (run mem st ts).isPanic = false := by
  induction ts generalizing st with
  | nil => rfl
  | cons t rest ih =>
    rcases R.ok_or_fail (step_no_panic mem st t) with ⟨st', h⟩ | h <;> simp only [run, h]
    · exact ih st'
    · rfl

theorem finalVars_no_panic (expr : List Char) (info : Info) (w : Walker) :
    (finalVars expr info w).isPanic = false := by
  unfold finalVars
  split
  · rfl
  · rename_i vs _
    rcases R.ok_or_fail (run_no_panic w.mem { vars := vs, stack := [] } (tokenize expr)) with ⟨st, h⟩ | h <;>
      rw [h] <;> rfl

theorem mem_outputs {vs : Vars} {r : String} {v : Nat} :
    (r, v) ∈ outputs vs ↔ r ∈ outputRegs ∧ ∃ u, vs.get ("$" ++ r) = some u ∧ v = u.toNat := by
  unfold outputs
  simp only [List.mem_filterMap, Option.map_eq_some_iff, Prod.mk.injEq]
  constructor
  · rintro ⟨a, ha, u, hu, rfl, rfl⟩; exact ⟨ha, u, hu, rfl⟩
  · rintro ⟨ha, u, hu, rfl⟩; exact ⟨r, ha, u, hu, rfl, rfl⟩

theorem mem_outputs_names {vs : Vars} {r : String} :
    r ∈ (outputs vs).map (·.1) ↔ r ∈ outputRegs ∧ ∃ u, vs.get ("$" ++ r) = some u := by
  rw [List.mem_map]
  constructor
  · rintro ⟨⟨r', v⟩, hm, rfl⟩
    obtain ⟨h1, u, h2, _⟩ := mem_outputs.mp hm
    exact ⟨h1, u, h2⟩
  · rintro ⟨h1, u, h2⟩
    exact ⟨(r, u.toNat), mem_outputs.mpr ⟨h1, u, h2, rfl⟩, rfl⟩

theorem filterMap_fst_sublist {α β : Type} (l : List String) (g : String → Option α) (f : α → β) :
    ((l.filterMap fun r => (g r).map fun v => (r, f v)).map (·.1)).Sublist l := by
  induction l with
  | nil => simp
  | cons a l ih =>
    simp only [List.filterMap_cons]
    cases g a with
    | none => simp only [Option.map_none]; exact List.Sublist.cons _ ih
    | some v => simp only [Option.map_some, List.map_cons]; exact List.Sublist.cons_cons _ ih

theorem outputs_names_nodup (vs : Vars) : ((outputs vs).map (·.1)).Nodup :=
  List.Nodup.sublist (filterMap_fst_sublist outputRegs (fun r => vs.get ("$" ++ r)) (·.toNat)) (by decide)

theorem six_sub_x86 : ∀ r ∈ outputRegs, r ∈ x86Regs := by decide +kernel

theorem outputs_fit (vs : Vars) : ∀ e ∈ outputs vs, e.1 ∈ x86Regs ∧ e.2 ≤ U32MAX := by
  rintro ⟨r, v⟩ hs
  obtain ⟨hr, u, _, rfl⟩ := mem_outputs.mp hs
  exact ⟨six_sub_x86 r hr, u32_le u⟩

/-- every `set_caller_register` call made for a program names one of `eip esp ebp ebx esi edi` -/
theorem evalWin_names {expr : List Char} {info : Info} {w : Walker} {p : Plan}
    (h : evalWin expr info w = .ok p) : ∀ s ∈ p.sets, s.1 ∈ outputRegs := by
  unfold evalWin at h
  split at h
  · cases h
    exact fun s hs => (mem_outputs.mp hs).1
  · cases h
    nofun
  · cases h

/-- the `u64` additions of the fpo routine are on 32-bit quantities: none overflows -/
theorem addU64_small {a b : Nat} (h : a + b < 2 ^ 35) : addU64 a b = .ok (a + b) :=
  if_pos (by simp only [U64MAX]; omega)

/-- `fpoRet` without its `u64` additions (none overflows): with a grand callee the word `frame_size`
    above the callee's `esp` is the caller's `eip`; in a context frame it is compared with the
    callee's own `eip` first -/
theorem fpoRet_eq (info : Info) (w : Walker) : fpoRet info w =
    (R.ofOpt (winFrameSize info w.gcParam)).bind fun fs =>
    (R.ofOpt (w.reg "esp")).bind fun esp =>
    (R.ofOpt (w.mem (esp.toNat + fs.toNat))).bind fun eip0 =>
    if !w.hasGC then
      (R.ofOpt (w.reg "eip")).bind fun ce =>
      if eip0 = ce then
        (R.ofOpt (w.mem (esp.toNat + fs.toNat + 4))).bind fun e1 => .ok (esp, esp.toNat + fs.toNat + 4, e1)
      else .ok (esp, esp.toNat + fs.toNat, eip0)
    else .ok (esp, esp.toNat + fs.toNat, eip0) := by
  unfold fpoRet
  congr 1; funext fs
  congr 1; funext esp
  have := esp.toNat_lt; have := fs.toNat_lt
  rw [addU64_small (by omega)]
  show (R.ofOpt _).bind _ = _
  simp only [addU64_small (show esp.toNat + fs.toNat + 4 < 2 ^ 35 by omega)]
  rfl

theorem fpoRet_ok {info : Info} {w : Walker} {esp : UInt32} {a : Nat} {e : UInt32}
    (h : fpoRet info w = .ok (esp, a, e)) :
    ∃ fs, winFrameSize info w.gcParam = some fs ∧ w.reg "esp" = some esp ∧
      (a = esp.toNat + fs.toNat ∨ a = esp.toNat + fs.toNat + 4) ∧ w.mem a = some e := by
  simp only [fpoRet_eq, R.bind_eq_ok, R.ofOpt_eq_ok] at h
  obtain ⟨fs, hfs, esp', hesp, eip0, hm, h⟩ := h
  split at h
  · simp only [R.bind_eq_ok, R.ofOpt_eq_ok] at h
    obtain ⟨ce, _, h⟩ := h
    split at h
    · simp only [R.bind_eq_ok, R.ofOpt_eq_ok] at h
      obtain ⟨e1, hm1, h⟩ := h
      cases h
      exact ⟨fs, hfs, hesp, Or.inr rfl, hm1⟩
    · cases h
      exact ⟨fs, hfs, hesp, Or.inl rfl, hm⟩
  · cases h
    exact ⟨fs, hfs, hesp, Or.inl rfl, hm⟩

/-- `$esp := <address of the return-address slot> + 4`, `$ebp` per `fpoEbp`, and the order of the
    `set_caller_register` calls (ebx, eip, esp, ebp) -/
theorem fpoPlan_of_ret {info : Info} {abp : Bool} {w : Walker} {esp : UInt32} {a : Nat} {e : UInt32}
    (hret : fpoRet info w = .ok (esp, a, e)) :
    fpoPlan info abp w =
      match fpoEbp info abp w esp with
      | .ok ebp => .ok { sets := fpoPre abp w ++ [("eip", e.toNat), ("esp", a + 4), ("ebp", ebp.toNat)],
                         done := true }
      | .fail => .ok { sets := fpoPre abp w, done := false }
      | .panic s => .panic s := by
  obtain ⟨fs, _, _, ha, _⟩ := fpoRet_ok hret
  have := esp.toNat_lt; have := fs.toNat_lt
  simp only [fpoPlan, hret, addU64_small (show a + 4 < 2 ^ 35 by omega)]
  cases fpoEbp info abp w esp <;> rfl

/-- `$ebp := *($esp + grand_callee_parameter_size + saved_register_size - 8)` when the function
    allocates a base pointer; a slot below address 0 fails (checked) -/
theorem fpoEbp_abp (info : Info) (w : Walker) (esp : UInt32) :
    fpoEbp info true w esp =
      if esp.toNat + w.gcParam.toNat + info.sav.toNat < 8 then .fail
      else R.ofOpt (w.mem (esp.toNat + w.gcParam.toNat + info.sav.toNat - 8)) := by
  have := esp.toNat_lt; have := w.gcParam.toNat_lt; have := info.sav.toNat_lt
  simp only [fpoEbp, if_true, R.bind, addU64_small (show esp.toNat + w.gcParam.toNat < 2 ^ 35 by omega),
    addU64_small (show esp.toNat + w.gcParam.toNat + info.sav.toNat < 2 ^ 35 by omega)]

/-- `$ebp := $ebp` otherwise (the callee's `ebp` must be known) -/
theorem fpoEbp_noabp (info : Info) (w : Walker) (esp : UInt32) :
    fpoEbp info false w esp = R.ofOpt (w.reg "ebp") := rfl

/-- `$ebx := $ebx` is set first, only when no base pointer is allocated and `ebx` is known -/
theorem fpoPre_spec (abp : Bool) (w : Walker) :
    fpoPre abp w = match abp, w.reg "ebx" with
      | false, some ebx => [("ebx", ebx.toNat)]
      | _, _ => [] := by
  unfold fpoPre
  cases abp <;> cases w.reg "ebx" <;> rfl

theorem fpoRet_no_panic (info : Info) (w : Walker) : (fpoRet info w).isPanic = false := by
  rw [fpoRet_eq]
  refine R.bind_no_panic (R.ofOpt_no_panic _) fun fs _ => R.bind_no_panic (R.ofOpt_no_panic _) fun esp _ =>
    R.bind_no_panic (R.ofOpt_no_panic _) fun eip0 _ => ?_
  split
  · refine R.bind_no_panic (R.ofOpt_no_panic _) fun ce _ => ?_
    split
    · exact R.bind_no_panic (R.ofOpt_no_panic _) fun _ _ => rfl
    · rfl
  · rfl

theorem fpoEbp_no_panic (info : Info) (abp : Bool) (w : Walker) (esp : UInt32) :
    (fpoEbp info abp w esp).isPanic = false := by
  cases abp with
  | false => rw [fpoEbp_noabp]; exact R.ofOpt_no_panic _
  | true =>
    rw [fpoEbp_abp]
    split
    · rfl
    · exact R.ofOpt_no_panic _

/-- `walk_with_stack_win_fpo` never panics: size fields over the full `u32` range (sums past
    2^32), `esp < 8`, missing `ebx`/`ebp`/`eip`, any grand callee and any memory -/
theorem fpoPlan_ok (info : Info) (abp : Bool) (w : Walker) : ∃ p, fpoPlan info abp w = .ok p := by
  rcases R.ok_or_fail (fpoRet_no_panic info w) with ⟨⟨esp, a, e⟩, hret⟩ | hret
  · rw [fpoPlan_of_ret hret]
    rcases R.ok_or_fail (fpoEbp_no_panic info abp w esp) with ⟨ebp, h⟩ | h <;> rw [h] <;> exact ⟨_, rfl⟩
  · exact ⟨{ sets := [], done := false }, by simp only [fpoPlan, hret]⟩

theorem fpoPlan_sets {info : Info} {abp : Bool} {w : Walker} {p : Plan}
    (h : fpoPlan info abp w = .ok p) : ∀ s ∈ p.sets, s.1 ∈ ["ebx", "eip", "esp", "ebp"] := by
  have hpre : ∀ s ∈ fpoPre abp w, s.1 = "ebx" := by
    rw [fpoPre_spec]
    cases abp <;> cases w.reg "ebx" <;> simp
  rcases R.ok_or_fail (fpoRet_no_panic info w) with ⟨⟨esp, a, e⟩, hret⟩ | hret
  · rw [fpoPlan_of_ret hret] at h
    rcases R.ok_or_fail (fpoEbp_no_panic info abp w esp) with ⟨ebp, hebp⟩ | hebp
    · rw [hebp] at h
      cases h
      simp only [List.forall_mem_append, List.forall_mem_cons, List.not_mem_nil, false_imp_iff, implies_true,
        and_true]
      exact ⟨fun s hs => by rw [hpre s hs]; decide, by decide, by decide, by decide⟩
    · rw [hebp] at h
      cases h
      intro s hs
      simp [hpre s hs]
  · simp only [fpoPlan, hret, Outcome.ok.injEq] at h
    subst h
    nofun

/-- the calls of a completed FPO plan name distinct registers of the context, and fit when the three
    computed values do (`ebx` is a register's value) -/
theorem fpoSets_fit (abp : Bool) (w : Walker) {a b c : Nat} (ha : a ≤ U32MAX) (hb : b ≤ U32MAX)
    (hc : c ≤ U32MAX) :
    (∀ x ∈ fpoPre abp w ++ [("eip", a), ("esp", b), ("ebp", c)], x.1 ∈ x86Regs ∧ x.2 ≤ U32MAX) ∧
    ((fpoPre abp w ++ [("eip", a), ("esp", b), ("ebp", c)]).map (·.1)).Nodup := by
  rw [fpoPre_spec]
  cases abp <;> cases w.reg "ebx" <;> simp [x86Regs, ha, hb, hc, u32_le]

theorem Caller.set_some {c c' : Caller} {n : String} {v : Nat} (h : c.set n v = some c') :
    n ∈ x86Regs ∧ v ≤ U32MAX ∧ c'.vals = c.vals.set n (UInt32.ofNat v) ∧
    c'.valid = (if n ∈ c.valid then c.valid else n :: c.valid) ∧ c'.clears = c.clears ∧
    c'.log = c.log ++ [(n, v)] := by
  unfold Caller.set Caller.setCore at h
  by_cases h1 : n ∈ x86Regs
  · by_cases h2 : v ≤ U32MAX
    · simp only [h1, h2, if_true, Option.map_some, Option.some.injEq] at h
      subst h; exact ⟨h1, h2, rfl, rfl, rfl, rfl⟩
    · simp [h1, h2] at h
  · simp [h1] at h

theorem Caller.set_ok (c : Caller) {n : String} {v : Nat} (h1 : n ∈ x86Regs) (h2 : v ≤ U32MAX) :
    ∃ c', c.set n v = some c' := by
  unfold Caller.set Caller.setCore; simp [h1, h2]

theorem Caller.set_valid {c c' : Caller} {n : String} {v : Nat} (h : c.set n v = some c') (r : String) :
    r ∈ c'.valid ↔ r = n ∨ r ∈ c.valid := by
  obtain ⟨_, _, _, hv, _, _⟩ := Caller.set_some h
  rw [hv]
  by_cases hn : n ∈ c.valid
  · rw [if_pos hn]; exact ⟨Or.inr, fun h => h.elim (fun e => e ▸ hn) id⟩
  · rw [if_neg hn, List.mem_cons]

theorem Caller.set_vals {c c' : Caller} {n : String} {v : Nat} (h : c.set n v = some c') (r : String) :
    c'.vals.get r = if r = n then some (UInt32.ofNat v) else c.vals.get r := by
  rw [(Caller.set_some h).2.2.1, Vars.get_set]

theorem Caller.clear_valid (c : Caller) (n r : String) :
    r ∈ (c.clear n).valid ↔ r ∈ c.valid ∧ ¬ (n ∈ x86Regs ∧ r = n) := by
  unfold Caller.clear
  by_cases h : n ∈ x86Regs
  · simp only [h, if_true, List.mem_filter, true_and, decide_eq_true_eq, ne_eq]
  · simp only [h, if_false, false_and, not_false_eq_true, and_true]

theorem Caller.clear_vals (c : Caller) (n : String) : (c.clear n).vals = c.vals := rfl

/-- the names `clear_stack_win_caller_registers` passes today are not names of the context type -/
theorem dollar_not_x86 : ∀ n ∈ clearNamesActual, n ∉ x86Regs := by decide

theorem clearAll_valid (names : List String) (c : Caller) (r : String) :
    r ∈ (clearAll names c).valid ↔ r ∈ c.valid ∧ ¬ (r ∈ names ∧ r ∈ x86Regs) := by
  unfold clearAll
  induction names generalizing c with
  | nil => simp
  | cons n ns ih =>
    simp only [List.foldl_cons]
    rw [ih, Caller.clear_valid, List.mem_cons]
    by_cases hrn : r = n
    · subst hrn; simp +contextual
    · simp [hrn]

/-- `clear_caller_register` touches the validity set only; the names are memoised in order -/
theorem clearAll_fields (names : List String) (c : Caller) :
    (clearAll names c).vals = c.vals ∧ (clearAll names c).log = c.log ∧
    (clearAll names c).clears = c.clears ++ names := by
  induction names generalizing c with
  | nil => exact ⟨rfl, rfl, (List.append_nil _).symm⟩
  | cons n ns ih => exact ⟨(ih _).1, (ih _).2.1, (ih (c.clear n)).2.2.trans (List.append_assoc ..)⟩

/-- a run of `set_caller_register(..)?` calls makes a prefix of them, all of them iff it reports
    success; each call made leaves its register valid with the value and logs itself, and nothing
    else changes -/
theorem applySets_spec {c c' : Caller} {sets : List (String × Nat)} {b : Bool}
    (h : applySets c sets = (b, c')) :
    ∃ made, made <+: sets ∧ (b = true → made = sets) ∧
      (∀ r, r ∈ c'.valid ↔ r ∈ c.valid ∨ r ∈ made.map (·.1)) ∧
      (∀ r, r ∉ made.map (·.1) → c'.vals.get r = c.vals.get r) ∧
      ((made.map (·.1)).Nodup → ∀ p ∈ made, c'.vals.get p.1 = some (UInt32.ofNat p.2)) ∧
      c'.clears = c.clears ∧ c'.log = c.log ++ made := by
  fun_induction applySets c sets with
  | case1 c =>
    cases h
    exact ⟨[], List.nil_prefix, fun _ => rfl, by simp, fun _ _ => rfl, fun _ => nofun, rfl, (List.append_nil _).symm⟩
  | case2 c n v rest hs =>
    cases h
    exact ⟨[], List.nil_prefix, nofun, by simp, fun _ _ => rfl, fun _ => nofun, rfl, (List.append_nil _).symm⟩
  | case3 c n v rest c1 hs ih =>
    obtain ⟨made, hp, hall, hval, hoth, hmem, hcl, hlog⟩ := ih h
    obtain ⟨_, _, _, _, hc, hl⟩ := Caller.set_some hs
    refine ⟨(n, v) :: made, List.cons_prefix_cons.mpr ⟨rfl, hp⟩, fun hb => by rw [hall hb], fun r => ?_,
      fun r hr => ?_, fun hnd p hp => ?_, hcl.trans hc, ?_⟩
    · rw [hval, Caller.set_valid hs, List.map_cons, List.mem_cons, or_assoc, or_left_comm]
    · rw [List.map_cons, List.mem_cons, not_or] at hr
      rw [hoth r hr.2, Caller.set_vals hs, if_neg hr.1]
    · rw [List.map_cons, List.nodup_cons] at hnd
      rcases List.mem_cons.mp hp with rfl | h1
      · rw [hoth _ hnd.1, Caller.set_vals hs, if_pos rfl]
      · exact hmem hnd.2 p h1
    · rw [hlog, hl, List.append_assoc]; rfl

theorem applySets_ok (c : Caller) (sets : List (String × Nat))
    (h : ∀ e ∈ sets, e.1 ∈ x86Regs ∧ e.2 ≤ U32MAX) : ∃ c', applySets c sets = (true, c') := by
  induction sets generalizing c with
  | nil => exact ⟨c, rfl⟩
  | cons e rest ih =>
    obtain ⟨n, v⟩ := e
    obtain ⟨h1, h2⟩ := h (n, v) List.mem_cons_self
    obtain ⟨c1, hc1⟩ := Caller.set_ok c h1 h2
    obtain ⟨c2, hc2⟩ := ih c1 (fun e he => h e (List.mem_cons_of_mem _ he))
    exact ⟨c2, by simp only [applySets, hc1, hc2]⟩

theorem runPlan_eq {c c' : Caller} {p : Plan} {b : Bool} (h : runPlan c p = (b, c')) :
    ∃ ok, applySets c p.sets = (ok, c') ∧ b = (ok && p.done) := by
  cases ha : applySets c p.sets with
  | mk ok c1 =>
    simp only [runPlan, ha, Prod.mk.injEq] at h
    exact ⟨ok, by rw [h.2], h.1.symm⟩

theorem runPlan_ok (c : Caller) {p : Plan} (hd : p.done = true)
    (h : ∀ e ∈ p.sets, e.1 ∈ x86Regs ∧ e.2 ≤ U32MAX) : ∃ c', runPlan c p = (true, c') :=
  (applySets_ok c p.sets h).imp fun c' hc' => by rw [runPlan, hc', hd]; rfl

/-- frame rule for one STACK WIN routine: a register that the plan does not name keeps its value,
    and cannot become valid -/
theorem runPlan_frame {names : List String} {c c' : Caller} {p : Plan} {b : Bool}
    (h : runPlan (clearAll names c) p = (b, c')) {r : String} (hr : r ∉ p.sets.map (·.1)) :
    (r ∈ c'.valid → r ∈ c.valid) ∧ c'.vals.get r = c.vals.get r := by
  obtain ⟨ok, ha, _⟩ := runPlan_eq h
  obtain ⟨made, hp, _, hval, hoth, _⟩ := applySets_spec ha
  have hr' : r ∉ made.map (·.1) := fun hm => hr (List.map_subset _ hp.subset hm)
  exact ⟨fun hv => ((clearAll_valid names c r).mp (((hval r).mp hv).resolve_right hr')).1,
    by rw [hoth r hr', (clearAll_fields names c).1]⟩

/-- **the caller after a STACK WIN routine that completes its plan**, for ANY plan and ANY list of names
    handed to `clear_caller_register`: valid is what was valid and not cleared, or named by the plan;
    every call's value is in place; the calls and the clears are logged in order -/
theorem runPlan_caller {names : List String} {c c' : Caller} {p : Plan}
    (h : runPlan (clearAll names c) p = (true, c')) :
    (∀ r, r ∈ c'.valid ↔ (r ∈ c.valid ∧ ¬ (r ∈ names ∧ r ∈ x86Regs)) ∨ r ∈ p.sets.map (·.1)) ∧
    ((p.sets.map (·.1)).Nodup → ∀ x ∈ p.sets, c'.vals.get x.1 = some (UInt32.ofNat x.2)) ∧
    c'.log = c.log ++ p.sets ∧ c'.clears = c.clears ++ names := by
  obtain ⟨ok, ha, hb⟩ := runPlan_eq h
  obtain ⟨made, _, hall, hval, _, hmem, hcl, hlog⟩ := applySets_spec ha
  cases hall (Bool.and_eq_true_iff.mp hb.symm).1
  exact ⟨fun r => by rw [hval, clearAll_valid], hmem, by rw [hlog, (clearAll_fields names c).2.1],
    by rw [hcl, (clearAll_fields names c).2.2]⟩

/-- the tail of `stack_win_line` by cases: frame data, fpo, or discarded -/
theorem classifyRec_eq (r : Rec) : classifyRec r =
    if r.ty = '4' ∧ r.hp = '1' then .frameData ⟨⟨r.par, r.sav, r.loc⟩, .prog r.rest⟩
    else if r.ty = '0' ∧ r.hp ≠ '1' then .fpo ⟨⟨r.par, r.sav, r.loc⟩, .abp (r.rest = ['1'])⟩
    else .unhandled := by
  unfold classifyRec
  by_cases h4 : r.ty = '4' <;> by_cases h1 : r.hp = '1' <;> by_cases h0 : r.ty = '0' <;> simp [h4, h1, h0]
  all_goals (rw [h4] at h0; cases h0)

theorem walkFramedata_ok {names : List String} {i : SInfo} {expr : List Char} {w : Walker} {vs : Vars}
    (c : Caller) (hi : i.thing = .prog expr) (hv : finalVars expr i.info w = .ok vs) :
    walkFramedata names i w c = .ok (runPlan (clearAll names c) { sets := outputs vs, done := true }) := by
  simp only [walkFramedata, hi, evalWin, hv]

/-- a program that evaluates always completes its `set_caller_register` calls on the x86 walker -/
theorem framedata_succeeds {names : List String} {i : SInfo} {expr : List Char} {w : Walker}
    (c : Caller) {vs : Vars} (hi : i.thing = .prog expr) (hv : finalVars expr i.info w = .ok vs) :
    ∃ c', walkFramedata names i w c = .ok (true, c') := by
  obtain ⟨c', hc'⟩ := runPlan_ok (clearAll names c) (p := ⟨outputs vs, true⟩) rfl (outputs_fit vs)
  exact ⟨c', by rw [walkFramedata_ok c hi hv, hc']⟩

/-- the caller's validity set and register values after a successful program, for ANY list of
    names handed to `clear_caller_register` -/
theorem framedata_caller {names : List String} {i : SInfo} {expr : List Char} {w : Walker}
    {c c' : Caller} {vs : Vars} (hi : i.thing = .prog expr)
    (hv : finalVars expr i.info w = .ok vs)
    (h : walkFramedata names i w c = .ok (true, c')) :
    (∀ r, r ∈ c'.valid ↔
      (r ∈ c.valid ∧ ¬ (r ∈ names ∧ r ∈ x86Regs)) ∨ (r ∈ outputRegs ∧ ∃ u, vs.get ("$" ++ r) = some u)) ∧
    (∀ r ∈ outputRegs, ∀ u, vs.get ("$" ++ r) = some u → c'.vals.get r = some u) := by
  rw [walkFramedata_ok c hi hv, Outcome.ok.injEq] at h
  obtain ⟨h1, h2, _⟩ := runPlan_caller h
  exact ⟨fun r => by rw [h1, mem_outputs_names], fun r hr u hu => by
    rw [h2 (outputs_names_nodup vs) _ (mem_outputs.mpr ⟨hr, u, hu, rfl⟩), UInt32.ofNat_toNat]⟩

/-- … and a register whose `$<reg>` the program leaves undefined keeps its value and cannot become valid,
    whether or not the calls complete -/
theorem framedata_frame {names : List String} {i : SInfo} {expr : List Char} {w : Walker}
    {c c' : Caller} {vs : Vars} {b : Bool} (hi : i.thing = .prog expr)
    (hv : finalVars expr i.info w = .ok vs) (h : walkFramedata names i w c = .ok (b, c'))
    {r : String} (hr : vs.get ("$" ++ r) = none) :
    (r ∈ c'.valid → r ∈ c.valid) ∧ c'.vals.get r = c.vals.get r := by
  rw [walkFramedata_ok c hi hv, Outcome.ok.injEq] at h
  exact runPlan_frame h fun hm => by
    obtain ⟨_, u, hu⟩ := mem_outputs_names.mp hm
    rw [hr] at hu; cases hu

/-- whichever STACK WIN record `walk_frame` selects, what it returns is the untouched caller (no record)
    or the run, after the clears, of a plan that names only `eip esp ebp ebx esi edi` -/
theorem winResult_is_plan {names : List String} {fd fpo : Option SInfo} {w : Walker} {c c' : Caller}
    {b : Bool} (h : winResult names fd fpo w c = .ok (b, c')) :
    (b = false ∧ c' = c) ∨
      ∃ p : Plan, (∀ s ∈ p.sets, s.1 ∈ outputRegs) ∧ runPlan (clearAll names c) p = (b, c') := by
  unfold winResult walkFramedata walkFpo at h
  split at h
  · split at h
    · split at h
      · cases h
      · rename_i p he
        exact .inr ⟨p, evalWin_names he, Outcome.ok.inj h⟩
    · cases h
  · split at h
    · split at h
      · cases h
      · rename_i p he
        refine .inr ⟨p, fun s hs => ?_, Outcome.ok.inj h⟩
        have := fpoPlan_sets he s hs
        simp only [List.mem_cons, List.not_mem_nil, or_false] at this
        rcases this with h1 | h1 | h1 | h1 <;> simp [outputRegs, h1]
    · cases h
  · cases h
    exact .inl ⟨rfl, rfl⟩

end MdModel.Win
