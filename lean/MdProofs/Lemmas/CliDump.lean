/-
  C20's raw-dump table (`MdModel.CliDump`): counting the sections that print a given stream type,
  for ANY statement list (induction), so that the property theorems only have to evaluate static
  facts of the translated table.
-/
import MdModel.CliDump
namespace MdModel.Cli

/-! ### one statement at a time

`runStmts` is a fold: a statement sees the variables, prints at most one section (`Stmt.secs`) and changes the
variables (`Stmt.next`). Every fact below about the printed list is a fact about one statement (`secs_…`,
`…_next`) and an induction that only uses `runStmts_cons`. -/

def Stmt.next (env : DumpEnv) : Stmt → Vars → Vars
  | .preload v t, vs => vs.set v (if env.stream t = .ok then some t else none)
  | .unify v a va eager b vb, vs => Cli.unify vs v a va eager b vb
  | .var v _, vs => vs.set v none
  | _, vs => vs

def Stmt.secs (env : DumpEnv) (brief : Bool) : Stmt → Vars → List Sec
  | .header, _ => [⟨.header, []⟩]
  | .stream t args, vs => if env.stream t = .ok then [⟨.typed t, args.map (resolveArg vs brief)⟩] else []
  | .var v args, vs =>
    match vs.get v with
    | some t => [⟨.typed t, args.map (resolveArg vs brief)⟩]
    | none => []
  | .streamOrNote t, _ =>
    match env.stream t with
    | .ok => [⟨.typed t, []⟩]
    | .absent => []
    | .unreadable => [⟨.note t, []⟩]
  | .raw n, _ => if env.raw n then [⟨.raw n, []⟩] else []
  | _, _ => []

theorem runStmts_cons (env : DumpEnv) (brief : Bool) (s : Stmt) (rest : List Stmt) (vs : Vars) :
    runStmts env brief (s :: rest) vs = s.secs env brief vs ++ runStmts env brief rest (s.next env vs) := by
  cases s <;> rfl

def typedCnt (t : String) (secs : List Sec) : Nat := secs.countP (fun s => s.what == .typed t)
def rawCnt (n : String) (secs : List Sec) : Nat := secs.countP (fun s => s.what == .raw n)

/-- how many sections of type `t` a statement prints without going through a variable, if `t` is readable -/
def Stmt.typedCnt (t : String) : Stmt → Nat
  | .stream t' _ | .streamOrNote t' => if t' = t then 1 else 0
  | _ => 0

def Stmt.rawCnt (n : String) : Stmt → Nat
  | .raw n' => if n' = n then 1 else 0
  | _ => 0

def staticTyped (t : String) (ss : List Stmt) : Nat := (ss.map (Stmt.typedCnt t)).sum
def staticRaw (n : String) (ss : List Stmt) : Nat := (ss.map (Stmt.rawCnt n)).sum

def Stmt.preloads : Stmt → Option String
  | .preload _ t => some t
  | _ => none

def preloadTypes (ss : List Stmt) : List String := ss.filterMap Stmt.preloads

theorem mem_preloadTypes_cons {t : String} {s : Stmt} {rest : List Stmt} :
    t ∈ preloadTypes (s :: rest) ↔ s.preloads = some t ∨ t ∈ preloadTypes rest := by
  simp only [preloadTypes, List.mem_filterMap, List.mem_cons, exists_eq_or_imp]

theorem staticTyped_cons (t : String) (s : Stmt) (rest : List Stmt) :
    staticTyped t (s :: rest) = s.typedCnt t + staticTyped t rest := rfl

theorem staticRaw_cons (n : String) (s : Stmt) (rest : List Stmt) :
    staticRaw n (s :: rest) = s.rawCnt n + staticRaw n rest := rfl

@[simp] theorem typedCnt_nil (t : String) : typedCnt t [] = 0 := rfl
@[simp] theorem rawCnt_nil (n : String) : rawCnt n [] = 0 := rfl
theorem typedCnt_cons (t : String) (s : Sec) (b : List Sec) :
    typedCnt t (s :: b) = (if s.what = .typed t then 1 else 0) + typedCnt t b := by
  simp [typedCnt, List.countP_cons]; omega
theorem rawCnt_cons (n : String) (s : Sec) (b : List Sec) :
    rawCnt n (s :: b) = (if s.what = .raw n then 1 else 0) + rawCnt n b := by
  simp [rawCnt, List.countP_cons]; omega

theorem secs_rawCnt (env : DumpEnv) (brief : Bool) (n : String) (s : Stmt) (vs : Vars) :
    rawCnt n (s.secs env brief vs) = if env.raw n then s.rawCnt n else 0 := by
  cases s with
  | raw n' =>
    by_cases hn : n' = n
    · subst hn; cases h : env.raw n' <;> simp [Stmt.secs, Stmt.rawCnt, rawCnt, h]
    · cases h : env.raw n' <;> cases env.raw n <;> simp [Stmt.secs, Stmt.rawCnt, rawCnt, h, hn]
  | header | preload | unify => cases env.raw n <;> rfl
  | stream | var | streamOrNote =>
    simp only [Stmt.secs, Stmt.rawCnt, ite_self]
    split <;> rfl

theorem rawCnt_run (env : DumpEnv) (brief : Bool) (n : String) (ss : List Stmt) (vs : Vars) :
    rawCnt n (runStmts env brief ss vs) = if env.raw n then staticRaw n ss else 0 := by
  induction ss generalizing vs with
  | nil => exact (ite_self _).symm
  | cons s rest ih =>
    rw [runStmts_cons, rawCnt, List.countP_append, ← rawCnt, ← rawCnt, ih, secs_rawCnt, staticRaw_cons]
    split <;> rfl

theorem countP_covers (t n : String) (hn : streamTypeName t = some n) (secs : List Sec) :
    secs.countP (covers t) = typedCnt t secs + rawCnt n secs := by
  induction secs with
  | nil => rfl
  | cons s rest ih =>
    rw [List.countP_cons, ih, typedCnt_cons, rawCnt_cons]
    unfold covers
    rw [hn]
    cases hw : s.what <;> simp <;> omega

/-! ### variables

Two invariants of the variables are needed: no variable holds a given stream type (`Avoid`), and every
variable holds only stream types of its Rust type (`VarsTyped`). Both say that every content satisfies a
property of (variable, content), and the statements that change variables keep any such property. -/

def VarsAll (P : String → String → Prop) (vs : Vars) : Prop := ∀ p ∈ vs, ∀ x, p.2 = some x → P p.1 x

theorem varsAll_get {P : String → String → Prop} {vs : Vars} (h : VarsAll P vs) {v x : String}
    (hg : vs.get v = some x) : P v x := by
  unfold Vars.get at hg
  split at hg
  · rename_i q y hf
    have hk := List.find?_some hf
    rw [beq_iff_eq] at hk
    exact hk ▸ h _ (List.mem_of_find?_eq_some hf) x hg
  · cases hg

theorem varsAll_set {P : String → String → Prop} {vs : Vars} (h : VarsAll P vs) (v : String)
    (x : Option String) (hx : ∀ y, x = some y → P v y) : VarsAll P (vs.set v x) := by
  intro p hp y hy
  simp only [Vars.set, List.mem_cons, List.mem_filter] at hp
  rcases hp with rfl | ⟨hp, _⟩
  · exact hx y hy
  · exact h p hp y hy

theorem varsAll_unify {P : String → String → Prop} {vs : Vars} (h : VarsAll P vs)
    (v a va : String) (e : Bool) (b vb : String)
    (ha : ∀ y, vs.get a = some y → variantType va = some y → P v y)
    (hb : ∀ y, vs.get b = some y → variantType vb = some y → P v y) :
    VarsAll P (unify vs v a va e b vb) := by
  unfold unify
  have pick : ∀ (c : String) (tc : Option String), (∀ y, vs.get c = some y → tc = some y → P v y) →
      ∀ y, (if vs.get c == tc then vs.get c else none) = some y → P v y := by
    intro c tc hc y hy
    split at hy
    · rename_i heq
      exact hc y hy (by rw [← beq_iff_eq.mp heq, hy])
    · cases hy
  have hxa := pick a _ ha
  have hxb := pick b _ hb
  generalize (if vs.get a == variantType va then vs.get a else none) = xa at hxa ⊢
  generalize (if vs.get b == variantType vb then vs.get b else none) = xb at hxb ⊢
  cases xa with
  | none => exact varsAll_set (varsAll_set h _ _ (by simp)) _ _ hxb
  | some x =>
    simp only
    split
    · exact varsAll_set (varsAll_set (varsAll_set h _ _ (by simp)) _ _ (by simp)) _ _ hxa
    · exact varsAll_set (varsAll_set h _ _ (by simp)) _ _ hxa

abbrev Avoid (vs : Vars) (t : String) : Prop := VarsAll (fun _ x => x ≠ t) vs

theorem avoid_next {env : DumpEnv} {t : String} {s : Stmt} (hs : s.preloads ≠ some t) {vs : Vars}
    (h : Avoid vs t) : Avoid (s.next env vs) t := by
  cases s with
  | preload v t' =>
    refine varsAll_set h _ _ fun y hy => ?_
    split at hy
    · cases hy; exact fun e => hs (congrArg some e)
    · cases hy
  | unify v a va e b vb =>
    exact varsAll_unify h _ _ _ _ _ _ (fun _ hy _ => varsAll_get h hy) (fun _ hy _ => varsAll_get h hy)
  | var v args => exact varsAll_set h _ _ (by simp)
  | header | stream | streamOrNote | raw => exact h

theorem secs_typedCnt (env : DumpEnv) (brief : Bool) (t : String) (s : Stmt) {vs : Vars} (h : Avoid vs t) :
    typedCnt t (s.secs env brief vs) = if env.stream t = .ok then s.typedCnt t else 0 := by
  cases s with
  | stream t' args | streamOrNote t' =>
    by_cases ht : t' = t
    · subst ht; cases h : env.stream t' <;> simp [Stmt.secs, Stmt.typedCnt, typedCnt, h]
    · cases h : env.stream t' <;> cases env.stream t <;> simp [Stmt.secs, Stmt.typedCnt, typedCnt, h, ht]
  | var v args =>
    simp only [Stmt.secs, Stmt.typedCnt, ite_self]
    split
    · rename_i x hx
      simp [typedCnt, show x ≠ t from varsAll_get h hx]
    · rfl
  | header | preload | unify => simp [Stmt.secs, Stmt.typedCnt, typedCnt]
  | raw n => simp only [Stmt.secs, Stmt.typedCnt, ite_self]; split <;> rfl

theorem typedCnt_run_static (env : DumpEnv) (brief : Bool) (t : String) (ss : List Stmt) (vs : Vars)
    (hpre : t ∉ preloadTypes ss) (hvs : Avoid vs t) :
    typedCnt t (runStmts env brief ss vs) = if env.stream t = .ok then staticTyped t ss else 0 := by
  induction ss generalizing vs with
  | nil => exact (ite_self _).symm
  | cons s rest ih =>
    rw [mem_preloadTypes_cons, not_or] at hpre
    rw [runStmts_cons, typedCnt, List.countP_append, ← typedCnt, ← typedCnt, secs_typedCnt env brief t s hvs,
      ih _ hpre.2 (avoid_next hpre.1 hvs), staticTyped_cons]
    split <;> rfl

/-- what a type that goes through a variable contributes depends on the statements between: `hpre` -/
theorem countP_covers_run (env : DumpEnv) (brief : Bool) (ss : List Stmt) (t n : String)
    (hn : streamTypeName t = some n)
    (hpre : t ∈ preloadTypes ss → typedCnt t (runStmts env brief ss []) = if env.stream t = .ok then 1 else 0) :
    (runStmts env brief ss []).countP (covers t) =
      (if env.stream t = .ok then (if t ∈ preloadTypes ss then 1 else staticTyped t ss) else 0)
      + (if env.raw n then staticRaw n ss else 0) := by
  rw [countP_covers t n hn, rawCnt_run]
  by_cases hp : t ∈ preloadTypes ss
  · rw [hpre hp, if_pos hp]
  · rw [typedCnt_run_static env brief t ss [] hp (by intro p hp; cases hp), if_neg hp]

theorem next_congr {e1 e2 : DumpEnv} {s : Stmt}
    (h : ∀ t, s.preloads = some t → (e1.stream t = .ok ↔ e2.stream t = .ok)) (vs : Vars) :
    s.next e1 vs = s.next e2 vs := by
  cases s with
  | preload v t => simp only [Stmt.next, h t rfl]
  | _ => rfl

/-- an unreadable stream prints a note, which does not count: only `Ok` matters -/
theorem secs_countQ_congr (Q : Sec → Bool) (e1 e2 : DumpEnv) (brief : Bool) (t : String)
    (hQ : ∀ s, Q s = true → s.what = .typed t) (ht : e1.stream t = .ok ↔ e2.stream t = .ok) (s : Stmt) (vs : Vars) :
    (s.secs e1 brief vs).countP Q = (s.secs e2 brief vs).countP Q := by
  have hne : ∀ (w : What) (a : List (String × String)), w ≠ .typed t → Q ⟨w, a⟩ = false := by
    intro w a hw
    cases hq : Q ⟨w, a⟩ with
    | false => rfl
    | true => exact absurd (hQ _ hq) hw
  cases s with
  | header | preload | unify | var => rfl
  | stream t' args =>
    by_cases htt : t' = t
    · subst htt
      simp only [Stmt.secs, ht]
    · have hq := hne (.typed t') (args.map (resolveArg vs brief)) (by simpa using htt)
      by_cases h : e1.stream t' = .ok <;> by_cases h2 : e2.stream t' = .ok <;> simp [Stmt.secs, h, h2, hq]
  | streamOrNote t' =>
    have side : ∀ e : DumpEnv, (Stmt.secs e brief (.streamOrNote t') vs).countP Q =
        if e.stream t' = .ok then List.countP Q [⟨.typed t', []⟩] else 0 := by
      intro e
      simp only [Stmt.secs]
      cases e.stream t' <;> simp [hne (.note t') [] (by simp)]
    rw [side e1, side e2]
    by_cases htt : t' = t
    · subst htt
      simp only [ht]
    · simp only [List.countP_cons, hne (.typed t') [] (by simpa using htt), List.countP_nil, Bool.false_eq_true,
        if_false, ite_self]
  | raw n =>
    have hq := hne (.raw n) [] (by simp)
    cases h : e1.raw n <;> cases h2 : e2.raw n <;> simp [Stmt.secs, h, h2, hq]

theorem countQ_run_congr (Q : Sec → Bool) (e1 e2 : DumpEnv) (brief : Bool) (t : String) (ss : List Stmt) (vs : Vars)
    (hQ : ∀ s, Q s = true → s.what = .typed t)
    (ht : e1.stream t = .ok ↔ e2.stream t = .ok)
    (hp : ∀ t' ∈ preloadTypes ss, (e1.stream t' = .ok ↔ e2.stream t' = .ok)) :
    (runStmts e1 brief ss vs).countP Q = (runStmts e2 brief ss vs).countP Q := by
  induction ss generalizing vs with
  | nil => rfl
  | cons s rest ih =>
    rw [runStmts_cons, runStmts_cons, List.countP_append, List.countP_append, secs_countQ_congr Q e1 e2 brief t hQ ht,
      next_congr (fun t' h => hp t' (mem_preloadTypes_cons.mpr (.inl h))),
      ih _ fun t' h => hp t' (mem_preloadTypes_cons.mpr (.inr h))]

theorem secs_what_brief (env : DumpEnv) (b1 b2 : Bool) (s : Stmt) (vs : Vars) :
    (s.secs env b1 vs).map (·.what) = (s.secs env b2 vs).map (·.what) := by
  cases s with
  | stream t args | var v args => simp only [Stmt.secs]; split <;> rfl
  | _ => rfl

theorem what_run_brief (env : DumpEnv) (b1 b2 : Bool) (ss : List Stmt) (vs : Vars) :
    (runStmts env b1 ss vs).map (·.what) = (runStmts env b2 ss vs).map (·.what) := by
  induction ss generalizing vs with
  | nil => rfl
  | cons s rest ih => rw [runStmts_cons, runStmts_cons, List.map_append, List.map_append, secs_what_brief env b1 b2, ih]

abbrev VarsTyped (allowed : String → List String) (vs : Vars) : Prop := VarsAll (fun v x => x ∈ allowed v) vs

/-- static check: a preload and the unified-memory selection respect `allowed` -/
def Stmt.respects (allowed : String → List String) : Stmt → Bool
  | .preload v t => (allowed v).contains t
  | .unify v _ va _ _ vb =>
    match variantType va, variantType vb with
    | some ta, some tb => (allowed v).contains ta && (allowed v).contains tb
    | _, _ => false
  | _ => true

def respects (allowed : String → List String) (ss : List Stmt) : Bool := ss.all (Stmt.respects allowed)

/-- static check: a statement that passes `brief` prints only stream types from `bt` -/
def Stmt.briefOnly (allowed : String → List String) (bt : List String) : Stmt → Bool
  | .stream t args => !args.contains "brief" || bt.contains t
  | .var v args => !args.contains "brief" || (allowed v).all bt.contains
  | _ => true

def briefOnly (allowed : String → List String) (bt : List String) (ss : List Stmt) : Bool :=
  ss.all (Stmt.briefOnly allowed bt)

def hasBrief (s : Sec) : Bool := s.args.any (fun p => p.1 == "brief")

theorem resolveArg_fst_brief (vs : Vars) (brief : Bool) (a : String) :
    ((resolveArg vs brief a).1 == "brief") = (a == "brief") := by
  unfold resolveArg
  by_cases h : a = "brief"
  · simp [h]
  · have : (a == "brief") = false := by simpa using h
    simp [this]

theorem hasBrief_mk (w : What) (vs : Vars) (brief : Bool) (args : List String) :
    hasBrief ⟨w, args.map (resolveArg vs brief)⟩ = args.contains "brief" := by
  unfold hasBrief
  induction args with
  | nil => rfl
  | cons a rest ih =>
    simp only [List.map_cons, List.any_cons, resolveArg_fst_brief, List.contains_cons] at ih ⊢
    rw [ih]
    cases h : (a == "brief") <;> simp [h, BEq.comm]

theorem varsTyped_next {allowed : String → List String} {env : DumpEnv} {s : Stmt}
    (hr : s.respects allowed = true) {vs : Vars} (hv : VarsTyped allowed vs) : VarsTyped allowed (s.next env vs) := by
  cases s with
  | preload v t =>
    refine varsAll_set hv _ _ fun y hy => ?_
    split at hy
    · cases hy; simpa [Stmt.respects] using hr
    · cases hy
  | unify v a va e b vb =>
    simp only [Stmt.respects] at hr
    split at hr
    · rename_i ta tb hta htb
      simp only [Bool.and_eq_true, List.contains_eq_mem, decide_eq_true_eq] at hr
      exact varsAll_unify hv v a va e b vb (fun y _ hy => by rw [hta] at hy; cases hy; exact hr.1)
        (fun y _ hy => by rw [htb] at hy; cases hy; exact hr.2)
    · cases hr
  | var v args => exact varsAll_set hv _ _ (by simp)
  | header | stream | streamOrNote | raw => exact hv

theorem secs_brief {allowed : String → List String} {bt : List String} (env : DumpEnv) (brief : Bool) {s : Stmt}
    (hb : s.briefOnly allowed bt = true) {vs : Vars} (hv : VarsTyped allowed vs) :
    ∀ x ∈ s.secs env brief vs, hasBrief x = true → ∃ t ∈ bt, x.what = .typed t := by
  intro x hx hbx
  cases s with
  | stream t args =>
    simp only [Stmt.briefOnly, Bool.or_eq_true, Bool.not_eq_true', List.contains_eq_mem, decide_eq_true_eq] at hb
    simp only [Stmt.secs] at hx
    split at hx
    · obtain rfl := List.mem_singleton.mp hx
      rw [hasBrief_mk] at hbx
      exact ⟨t, hb.resolve_left (by simpa using hbx), rfl⟩
    · cases hx
  | var v args =>
    simp only [Stmt.briefOnly, Bool.or_eq_true, Bool.not_eq_true', List.contains_eq_mem, List.all_eq_true,
      decide_eq_true_eq] at hb
    simp only [Stmt.secs] at hx
    split at hx
    · rename_i t hg
      obtain rfl := List.mem_singleton.mp hx
      rw [hasBrief_mk] at hbx
      exact ⟨t, hb.resolve_left (by simpa using hbx) t (varsAll_get hv hg), rfl⟩
    · cases hx
  | preload | unify => cases hx
  | header | streamOrNote | raw =>
    -- whichever section is printed here, it has no arguments
    have hargs : x.args = [] := by
      simp only [Stmt.secs] at hx
      try split at hx
      all_goals simp only [List.mem_singleton, List.not_mem_nil] at hx
      all_goals rw [hx]
    simp [hasBrief, hargs] at hbx

theorem brief_sections (allowed : String → List String) (bt : List String) (env : DumpEnv) (brief : Bool)
    (ss : List Stmt) (vs : Vars) (hv : VarsTyped allowed vs)
    (hr : respects allowed ss = true) (hb : briefOnly allowed bt ss = true) :
    ∀ s ∈ runStmts env brief ss vs, hasBrief s = true → ∃ t ∈ bt, s.what = .typed t := by
  induction ss generalizing vs with
  | nil => intro s hs; cases hs
  | cons st rest ih =>
    rw [respects, List.all_cons, Bool.and_eq_true] at hr
    rw [briefOnly, List.all_cons, Bool.and_eq_true] at hb
    intro s hs
    rw [runStmts_cons] at hs
    rcases List.mem_append.mp hs with hs | hs
    · exact secs_brief env brief hb.1 hv s hs
    · exact ih _ (varsTyped_next hr.1 hv) hr.2 hb.2 s hs

end MdModel.Cli
