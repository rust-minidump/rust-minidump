/-
  C12, the request-level model (`MdModel.OnceReq`): the item program generated for a request, read
  statically by `compS`/`consume`, is the list of providers `specConsulted` names (`req_static`);
  from that, which slots the compiled programs mention (`sym_slot_iff`, the private slots of
  uncached `get_file_path` requests) and what reaches a provider's statistics.
-/
import MdProofs.Lemmas.OnceSim
import MdProofs.Lemmas.OnceCount
import MdProofs.Lemmas.OnceKeys
import MdProofs.Lemmas.OncePriv
import MdProofs.Lemmas.Assoc
namespace MdModel.Once
open MdModel

/-- every request names a module of the table, and a file kind is one of the three `FileKind`s -/
def RCfg.WF (rc : RCfg) : Prop :=
  ∀ prog ∈ rc.progs, ∀ q ∈ prog, q.mod < rc.M ∧ ∀ fk, q.kind = .file fk → fk < 3


@[simp] theorem toICfg_ntasks (rc : RCfg) : (toICfg rc).ntasks = rc.T := by
  simp [toICfg, ICfg.ntasks, RCfg.T]

@[simp] theorem toICfg_sup (rc : RCfg) : (toICfg rc).sup = slotSup rc := rfl

@[simp] theorem toICfg_outcome (rc : RCfg) (k : Nat) : (toICfg rc).outcome k = (slotSup rc k).res := rfl

theorem toICfg_prog (rc : RCfg) {t : Nat} (ht : t < rc.T) :
    (toICfg rc).prog t = expandFrom rc t 0 (rc.prog t) := by
  simp [toICfg, ICfg.prog, List.getD_eq_getElem?_getD, ht]

theorem rc_prog_mem {rc : RCfg} {t : Nat} {q : Req} (h : q ∈ rc.prog t) : rc.prog t ∈ rc.progs := by
  unfold RCfg.prog at h ⊢
  by_cases ht : t < rc.progs.length
  · simp [List.getD_eq_getElem?_getD, ht]
  · simp [List.getD_eq_getElem?_getD, ht] at h

theorem mem_flatten_prog {rc : RCfg} {q : Req} (h : q ∈ rc.progs.flatten) :
    ∃ t, t < rc.T ∧ q ∈ rc.prog t := by
  rw [List.mem_flatten] at h
  obtain ⟨l, hl, hq⟩ := h
  obtain ⟨t, ht, rfl⟩ := List.getElem_of_mem hl
  exact ⟨t, ht, by simp [RCfg.prog, List.getD_eq_getElem?_getD, ht, hq]⟩

theorem key_lt {rc : RCfg} (hwf : rc.WF) {t : Nat} {q : Req} (h : q ∈ rc.prog t) :
    rc.key q.mod < rc.M :=
  keyIx_lt (hwf _ (rc_prog_mem h) q h).1

theorem fk_lt {rc : RCfg} (hwf : rc.WF) {t : Nat} {q : Req} (h : q ∈ rc.prog t) {fk : Nat}
    (hk : q.kind = .file fk) : fk < 3 :=
  (hwf _ (rc_prog_mem h) q h).2 fk hk


theorem rexec_log (rc : RCfg) (sched : List Nat) :
    (rexec rc sched).log =
      (exec (compile (toICfg rc)) sched (init (compile (toICfg rc)))).log :=
  sim_log (toICfg rc) sched

theorem rexec_abs (rc : RCfg) (sched : List Nat) :
    absS (toICfg rc) (rexec rc sched) =
      exec (compile (toICfg rc)) sched (init (compile (toICfg rc))) :=
  sim_exec (toICfg rc) sched


def leftSkip (ic : ICfg) : Nat → List Item → Nat
  | n, [] => n
  | n + 1, _ :: r => leftSkip ic n r
  | 0, i :: r => leftSkip ic (skipOf (ic.outcome i.slot) i) r

/-- the (position, result) observations, statically, of `items` (positions count from `p`) -/
def staticObs (ic : ICfg) : Nat → Nat → List Item → List (Nat × Res)
  | _, _, [] => []
  | n + 1, p, _ :: r => staticObs ic n (p + 1) r
  | 0, p, i :: r => (p, ic.outcome i.slot) :: staticObs ic (skipOf (ic.outcome i.slot) i) (p + 1) r

theorem compS_append (ic : ICfg) (n : Nat) (items rest : List Item) :
    compS ic n (items ++ rest) = compS ic n items ++ compS ic (leftSkip ic n items) rest := by
  induction items generalizing n with
  | nil => simp [compS, leftSkip]
  | cons i r ih =>
    cases n with
    | succ n => simp only [List.cons_append, compS, leftSkip]; exact ih n
    | zero => simp only [List.cons_append, compS, leftSkip, List.cons.injEq, true_and]; exact ih _

theorem skip_all (ic : ICfg) (p : Nat) (l : List Item) :
    compS ic l.length l = [] ∧ leftSkip ic l.length l = 0 ∧ staticObs ic l.length p l = [] := by
  induction l generalizing p with
  | nil => exact ⟨rfl, rfl, rfl⟩
  | cons a l ih => simp only [List.length_cons, compS, leftSkip, staticObs]; exact ih _

/-- the providers a walk consults from `a` on (`d` providers left): up to the first good one -/
def walkStop (good : Nat → Bool) : Nat → Nat → List Nat
  | _, 0 => []
  | a, d + 1 => a :: (if good a then [] else walkStop good (a + 1) d)

theorem mem_walkStop {good : Nat → Bool} {a d p : Nat} (h : p ∈ walkStop good a d) :
    p ∈ List.range' a d := by
  induction d generalizing a with
  | zero => simp [walkStop] at h
  | succ d ih =>
    simp only [walkStop, List.mem_cons] at h
    rw [List.range'_succ]
    rcases h with rfl | h
    · simp
    · split at h
      · cases h
      · exact List.mem_cons_of_mem _ (ih h)

/-- the items of a request: a provider whose symbols are found and have CFI ends a walk (`cfi` is
    constantly false for the other kinds of request, which consult every provider) -/
theorem walk_range' (ic : ICfg) (f : Nat → Item) (P : Nat) (cfi : Nat → Bool)
    (hsk : ∀ p, (f p).skipOk = if cfi p then P - 1 - p else 0) (a d : Nat) (had : a + d = P) :
    compS ic 0 ((List.range' a d).map f) =
      (walkStop (fun p => ic.outcome (f p).slot == .ok && cfi p) a d).map (fun p => (f p).slot) ∧
    leftSkip ic 0 ((List.range' a d).map f) = 0 ∧
    staticObs ic 0 a ((List.range' a d).map f) =
      (walkStop (fun p => ic.outcome (f p).slot == .ok && cfi p) a d).map
        (fun p => (p, ic.outcome (f p).slot)) := by
  induction d generalizing a with
  | zero => simp [compS, leftSkip, staticObs, walkStop]
  | succ d ih =>
    simp only [List.range'_succ, List.map_cons, compS, leftSkip, staticObs, walkStop]
    by_cases hg : (ic.outcome (f a).slot == .ok && cfi a) = true
    · simp only [Bool.and_eq_true, beq_iff_eq] at hg
      have hskip : skipOf (ic.outcome (f a).slot) (f a) = ((List.range' (a + 1) d).map f).length := by
        simp only [skipOf, hg.1, if_true, hsk a, hg.2, List.length_map, List.length_range']
        omega
      obtain ⟨hc, hl, ho⟩ := skip_all ic (a + 1) ((List.range' (a + 1) d).map f)
      rw [hskip, hc, hl, ho]
      simp [hg.1, hg.2]
    · have hskip : skipOf (ic.outcome (f a).slot) (f a) = 0 := by
        simp only [skipOf, hsk a]
        by_cases ho : ic.outcome (f a).slot = .ok
        · have : cfi a = false := by simpa [ho] using hg
          simp [this]
        · simp [ho]
      have hg' : (ic.outcome (f a).slot == .ok && cfi a) = false := by simpa using hg
      have := ih (a + 1) (by omega)
      rw [hskip]
      simp only [hg', this, Bool.false_eq_true, if_false, and_self]

theorem walkStop_find (good : Nat → Bool) (a d : Nat) :
    (walkStop good a d).find? good = (List.range' a d).find? good := by
  induction d generalizing a with
  | zero => rfl
  | succ d ih =>
    simp only [walkStop, List.range'_succ, List.find?_cons]
    by_cases hg : good a = true
    · simp [hg]
    · have hg' : good a = false := by simpa using hg
      simp only [hg', Bool.false_eq_true, if_false]
      exact ih (a + 1)

theorem walkStop_eq (good : Nat → Bool) (a d : Nat) :
    walkStop good a d =
      match (List.range' a d).find? good with
      | some p => List.range' a (p + 1 - a)
      | none => List.range' a d := by
  induction d generalizing a with
  | zero => simp [walkStop]
  | succ d ih =>
    simp only [walkStop, List.range'_succ, List.find?_cons]
    by_cases hg : good a = true
    · simp [hg, List.range'_succ]
    · have hg' : good a = false := by simpa using hg
      simp only [hg', Bool.false_eq_true, if_false]
      rw [ih (a + 1)]
      cases hf : (List.range' (a + 1) d).find? good with
      | none => rfl
      | some p =>
        simp only
        have hm := List.mem_of_find?_eq_some hf
        simp only [List.mem_range'_1] at hm
        have : p + 1 - a = (p + 1 - (a + 1)) + 1 := by omega
        rw [this, List.range'_succ]

theorem consume_static (ic : ICfg) (n p : Nat) (items rest : List Item) (tail : List (Nat × Res)) :
    consume n p items ((compS ic n (items ++ rest)).map (expected (compile ic)) ++ tail) =
      some (staticObs ic n p items,
        (compS ic (leftSkip ic n items) rest).map (expected (compile ic)) ++ tail) := by
  induction items generalizing n p with
  | nil => simp [consume, staticObs, leftSkip]
  | cons i r ih =>
    cases n with
    | succ n => simp only [List.cons_append, compS, consume, staticObs, leftSkip]; exact ih n _
    | zero =>
      simp only [List.cons_append, compS, List.map_cons, consume, staticObs, leftSkip, expected,
        compile_outcome]
      rw [ih]
      rfl

theorem compS_sublist (ic : ICfg) (n : Nat) (l : List Item) : (compS ic n l).Sublist (l.map (·.slot)) := by
  induction l generalizing n with
  | nil => exact .slnil
  | cons a l ih =>
    cases n with
    | succ n => exact (ih n).cons _
    | zero => exact (ih _).cons_cons _


theorem expandFrom_eq (rc : RCfg) (t j : Nat) (qs : List Req) :
    expandFrom rc t j qs = (qs.zipIdx j).flatMap fun x => expandReq rc t x.2 x.1 := by
  induction qs generalizing j with
  | nil => rfl
  | cons q qs ih => simp only [expandFrom, List.zipIdx_cons, List.flatMap_cons, ih]

theorem mem_expandFrom {rc : RCfg} {t : Nat} {i : Item} {j : Nat} {qs : List Req}
    (h : i ∈ expandFrom rc t j qs) :
    ∃ q j', j ≤ j' ∧ qs[j' - j]? = some q ∧ i ∈ expandReq rc t j' q := by
  rw [expandFrom_eq, List.mem_flatMap] at h
  obtain ⟨⟨q, j'⟩, hx, hi⟩ := h
  obtain ⟨hle, hget⟩ := List.mem_zipIdx_iff_le_and_getElem?_sub.mp hx
  exact ⟨q, j', hle, hget, hi⟩

theorem compS_flatMap (ic : ICfg) {α : Type} (f : α → List Item) (xs : List α)
    (h : ∀ x ∈ xs, leftSkip ic 0 (f x) = 0) :
    compS ic 0 (xs.flatMap f) = xs.flatMap fun x => compS ic 0 (f x) := by
  induction xs with
  | nil => rfl
  | cons x xs ih =>
    simp only [List.flatMap_cons, compS_append, h x List.mem_cons_self]
    rw [ih fun y hy => h y (List.mem_cons_of_mem _ hy)]

theorem call_mem_allKeys {cfg : Cfg} {s : State} (hA : InvA cfg s) (hC : CountInv s) {k : Nat}
    (hk : Event.call k ∈ s.log) : k ∈ allKeys cfg :=
  (List.mem_filter.mp ((callKeys_perm hA hC).mem_iff.mp (List.mem_filterMap.mpr ⟨_, hk, rfl⟩))).1


/-- distinct module keys of the table have distinct code-file leaf names (the hypothesis under
    which the leaf-name-keyed statistics tell the modules apart; finding F16 is its failure) -/
def RCfg.LeafDistinct (rc : RCfg) : Prop :=
  ∀ i j, i < rc.M → j < rc.M → leafOfKey rc (rc.key i) = leafOfKey rc (rc.key j) → rc.key i = rc.key j

theorem mem_statWrites {rc : RCfg} {p : Nat} {log : List Event} {l : Option Nat} {r : Res} :
    (l, r) ∈ statWrites rc p log ↔
      ∃ s, Event.ret s ∈ log ∧ isSym rc p s = true ∧ l = leafOfKey rc (s / 4 % rc.M) ∧
        r = (slotSup rc s).res := by
  simp only [statWrites, List.mem_filterMap]
  constructor
  · rintro ⟨e, he, h⟩
    cases e with
    | call _ => simp at h
    | seen _ _ _ => simp at h
    | ret s =>
      simp only at h
      split at h
      · rename_i hs
        simp only [Option.some.injEq, Prod.mk.injEq] at h
        exact ⟨s, he, hs, h.1.symm, h.2.symm⟩
      · cases h
  · rintro ⟨s, he, hs, rfl, rfl⟩
    exact ⟨_, he, by simp [hs]⟩

theorem statGet_eq_lookup (ws : List (Option Nat × Res)) (l : Option Nat) :
    statGet ws l = ws.reverse.lookup l := List.find?_fst_beq_eq_lookup _ _

theorem statGet_some_mem {ws : List (Option Nat × Res)} {l : Option Nat} {r : Res}
    (h : statGet ws l = some r) : (l, r) ∈ ws :=
  List.mem_reverse.mp (List.mem_of_lookup_eq_some (statGet_eq_lookup ws l ▸ h))

theorem statGet_of_unique {ws : List (Option Nat × Res)} {l : Option Nat} {r : Res}
    (hex : ∃ r0, (l, r0) ∈ ws) (huniq : ∀ r', (l, r') ∈ ws → r' = r) : statGet ws l = some r :=
  statGet_eq_lookup ws l ▸ List.lookup_eq_some_of_unique
    (hex.imp fun _ h => List.mem_reverse.mpr h) fun r' h => huniq r' (List.mem_reverse.mp h)


/-- the item of request `q` (request `j` of task `t`) at provider `p` -/
def reqItem (rc : RCfg) (t j : Nat) (q : Req) (p : Nat) : Item :=
  match q.kind with
  | .fill => ⟨symSlot rc p (rc.key q.mod), 0⟩
  | .walk => ⟨symSlot rc p (rc.key q.mod), if (rc.prov p).cfi (rc.key q.mod) then rc.P - 1 - p else 0⟩
  | .file fk =>
    ⟨if (rc.prov p).cached then fileSlot rc p (rc.key q.mod) fk else privSlot rc t j p, 0⟩

theorem expandReq_eq (rc : RCfg) (t j : Nat) (q : Req) :
    expandReq rc t j q = (List.range' 0 rc.P).map (reqItem rc t j q) := by
  unfold expandReq
  rw [List.range_eq_range']
  rfl

def provRes (rc : RCfg) (q : Req) (p : Nat) : Res :=
  match q.kind with
  | .file fk => ((rc.prov p).file (rc.key q.mod) fk).res
  | _ => ((rc.prov p).sym (rc.key q.mod)).res

theorem reqItem_outcome {rc : RCfg} (hwf : rc.WF) {t j : Nat} (ht : t < rc.T) {q : Req}
    (hq : (rc.prog t)[j]? = some q) {p : Nat} (hp : p < rc.P) :
    (toICfg rc).outcome (reqItem rc t j q p).slot = provRes rc q p := by
  have hmem : q ∈ rc.prog t := List.mem_of_getElem? hq
  have hk := key_lt hwf hmem
  simp only [toICfg_outcome, reqItem, provRes]
  cases hkind : q.kind with
  | fill => simp only [slotSup_sym rc hk]
  | walk => simp only [slotSup_sym rc hk]
  | file fk =>
    simp only
    by_cases hc : (rc.prov p).cached = true
    · simp only [hc, if_true, slotSup_file rc hk (fk_lt hwf hmem hkind)]
    · simp only [hc]
      have hq' : (rc.prog t)[j]? = some ⟨.file fk, q.mod⟩ := by
        rw [hq]; cases q with
        | mk kind m => simp only at hkind; subst hkind; rfl
      simp only [Bool.false_eq_true, if_false, slotSup_priv rc ht hp hq']

theorem filter_congr_mem {α : Type} {l : List α} {p q : α → Bool} (h : ∀ x ∈ l, p x = q x) :
    l.filter p = l.filter q := List.filter_congr h

theorem req_static {rc : RCfg} (hwf : rc.WF) {t j : Nat} (ht : t < rc.T) {q : Req}
    (hq : (rc.prog t)[j]? = some q) :
    leftSkip (toICfg rc) 0 (expandReq rc t j q) = 0 ∧
    staticObs (toICfg rc) 0 0 (expandReq rc t j q) =
      (specConsulted rc q).map (fun p => (p, provRes rc q p)) ∧
    compS (toICfg rc) 0 (expandReq rc t j q) =
      (specConsulted rc q).map (fun p => (reqItem rc t j q p).slot) := by
  rw [expandReq_eq]
  have hout : ∀ p ∈ List.range' 0 rc.P, (toICfg rc).outcome (reqItem rc t j q p).slot = provRes rc q p := by
    intro p hp
    simp only [List.mem_range'_1] at hp
    exact reqItem_outcome hwf ht hq (by omega)
  -- only a walk ever skips
  obtain ⟨cfi, hcfi⟩ : ∃ cfi : Nat → Bool, ∀ p, cfi p =
      match q.kind with
      | .walk => (rc.prov p).cfi (rc.key q.mod)
      | _ => false := ⟨_, fun _ => rfl⟩
  have hsk : ∀ p, (reqItem rc t j q p).skipOk = if cfi p then rc.P - 1 - p else 0 := by
    intro p; rw [hcfi]; cases hkind : q.kind <;> simp [reqItem, hkind]
  obtain ⟨h1, h2, h3⟩ := walk_range' (toICfg rc) (reqItem rc t j q) rc.P cfi hsk 0 rc.P (by omega)
  have hstop : walkStop (fun p => (toICfg rc).outcome (reqItem rc t j q p).slot == .ok && cfi p)
      0 rc.P = specConsulted rc q := by
    rw [walkStop_eq, List.find?_congr_mem (q := fun p => provRes rc q p == .ok && cfi p)
      (fun p hp => by rw [hout p hp])]
    have hnone : (List.range' 0 rc.P).find? (fun _ => false) = none :=
      List.find?_eq_none.mpr (by simp)
    cases hkind : q.kind with
    | walk => simp only [hcfi, specConsulted, provRes, hkind, List.range_eq_range', Nat.sub_zero]; rfl
    | fill => simp [hcfi, specConsulted, hkind, List.range_eq_range', hnone]
    | file fk => simp [hcfi, specConsulted, hkind, List.range_eq_range', hnone]
  rw [hstop] at h1 h3
  refine ⟨h2, ?_, h1⟩
  rw [h3]
  exact List.map_congr_left fun p hp => by rw [hout p (mem_walkStop (hstop ▸ hp))]

theorem combine_spec (rc : RCfg) (q : Req) :
    combine rc q ((specConsulted rc q).map (fun p => (p, provRes rc q p))) = specOut rc q := by
  cases hkind : q.kind with
  | fill =>
    simp only [combine, specOut, specConsulted, hkind, provRes, List.filter_map, List.getLast?_map,
      Function.comp_def]
    cases (List.filter (fun p => ((rc.prov p).sym (rc.key q.mod)).res == Res.ok) (List.range rc.P)).getLast? <;> rfl
  | walk =>
    simp only [combine, specOut, specConsulted, hkind, provRes]
    cases hf : (List.range rc.P).find? (fun p => ((rc.prov p).sym (rc.key q.mod)).res == .ok &&
        (rc.prov p).cfi (rc.key q.mod)) with
    | none => simp only [List.find?_map, Function.comp_def, hf]; rfl
    | some p =>
      -- within `range (p+1)` the first good provider is still `p`
      have : (List.range (p + 1)).find? (fun p => ((rc.prov p).sym (rc.key q.mod)).res == .ok &&
          (rc.prov p).cfi (rc.key q.mod)) = some p := by
        obtain ⟨hp, _, hall⟩ := List.find?_range_eq_some.mp hf
        exact List.find?_range_eq_some.mpr ⟨hp, by simp, hall⟩
      simp only [List.find?_map, Function.comp_def, this]; rfl
  | file fk =>
    simp only [combine, specOut, specConsulted, hkind, provRes, List.find?_map, Function.comp_def]
    cases (List.range rc.P).find? (fun p => ((rc.prov p).file (rc.key q.mod) fk).res == .ok) <;> rfl
theorem outcomesFrom_static {rc : RCfg} (hwf : rc.WF) {t : Nat} (ht : t < rc.T) (j : Nat)
    (qs : List Req) (hqs : ∀ x ∈ qs.zipIdx j, (rc.prog t)[x.2]? = some x.1) :
    outcomesFrom rc t j qs
      ((compS (toICfg rc) 0 (expandFrom rc t j qs)).map (expected (compile (toICfg rc)))) =
    qs.map (specOut rc) := by
  induction qs generalizing j with
  | nil => simp [outcomesFrom]
  | cons q qs ih =>
    rw [List.zipIdx_cons] at hqs
    obtain ⟨hl, ho, _⟩ := req_static hwf ht (hqs (q, j) List.mem_cons_self)
    simp only [outcomesFrom, expandFrom]
    have hc := consume_static (toICfg rc) 0 0 (expandReq rc t j q) (expandFrom rc t (j + 1) qs) []
    simp only [List.append_nil] at hc
    rw [hc, hl, ho]
    simp only [combine_spec, List.map_cons, List.cons.injEq, true_and]
    exact ih (j + 1) fun x hx => hqs x (List.mem_cons_of_mem _ hx)

theorem compS_prog {rc : RCfg} (hwf : rc.WF) {t : Nat} (ht : t < rc.T) :
    compS (toICfg rc) 0 (expandFrom rc t 0 (rc.prog t)) =
      ((rc.prog t).zipIdx 0).flatMap fun x =>
        (specConsulted rc x.1).map fun p => (reqItem rc t x.2 x.1 p).slot := by
  have hst := fun x (hx : x ∈ (rc.prog t).zipIdx 0) =>
    req_static hwf ht (List.mem_zipIdx_iff_getElem?.mp hx)
  rw [expandFrom_eq, compS_flatMap _ _ _ fun x hx => (hst x hx).1]
  simp only [List.flatMap_def]
  exact congrArg List.flatten (List.map_congr_left fun x hx => (hst x hx).2.2)


theorem reqItem_sym (rc : RCfg) (t j p : Nat) {q : Req} (hnf : ∀ fk, q.kind ≠ .file fk) :
    (reqItem rc t j q p).slot = symSlot rc p (rc.key q.mod) := by
  cases hk : q.kind with
  | file fk => exact absurd hk (hnf fk)
  | fill => simp [reqItem, hk]
  | walk => simp [reqItem, hk]

theorem sym_slot_iff {rc : RCfg} (hwf : rc.WF) {s p : Nat} :
    s ∈ allKeys (compile (toICfg rc)) ∧ isSym rc p s = true ↔
      ∃ t q, q ∈ rc.prog t ∧ (∀ fk, q.kind ≠ .file fk) ∧ p ∈ specConsulted rc q ∧
        s = symSlot rc p (rc.key q.mod) := by
  constructor
  · rintro ⟨h, hs⟩
    obtain ⟨t, ht, hm⟩ := exists_task_of_key h
    rw [compile_ntasks, toICfg_ntasks] at ht
    rw [compile_prog, toICfg_prog rc ht, compS_prog hwf ht, List.mem_flatMap] at hm
    obtain ⟨⟨q, j⟩, hx, hm⟩ := hm
    obtain ⟨p', hp', rfl⟩ := List.mem_map.mp hm
    have hq : q ∈ rc.prog t := List.mem_of_getElem? (List.mem_zipIdx_iff_getElem?.mp hx)
    by_cases hf : ∃ fk, q.kind = .file fk
    · obtain ⟨fk, hkind⟩ := hf
      simp only [reqItem, hkind] at hs
      split at hs
      · rw [isSym_fileSlot] at hs; cases hs
      · rw [isSym_privSlot] at hs; cases hs
    · have hnf : ∀ fk, q.kind ≠ .file fk := fun fk h => hf ⟨fk, h⟩
      have hslot := reqItem_sym rc t j p' hnf
      simp only at hs ⊢
      rw [hslot, isSym_symSlot rc (key_lt hwf hq), decide_eq_true_eq] at hs
      subst hs
      exact ⟨t, q, hq, hnf, hp', hslot⟩
  · rintro ⟨t, q, hq, hnf, hp, rfl⟩
    have ht : t < rc.T := Nat.lt_of_not_le fun h => by
      have : rc.progs.length ≤ t := h
      simp [RCfg.prog, List.getD_eq_getElem?_getD, this] at hq
    refine ⟨?_, by rw [isSym_symSlot rc (key_lt hwf hq)]; simp⟩
    apply mem_allKeys_of_prog (t := t)
    rw [compile_prog, toICfg_prog rc ht, compS_prog hwf ht, List.mem_flatMap]
    obtain ⟨j, hj, hjq⟩ := List.getElem_of_mem hq
    exact ⟨(q, j), List.mem_zipIdx_iff_getElem?.mpr (by simp [List.getElem?_eq_getElem hj, hjq]),
      List.mem_map.mpr ⟨p, hp, reqItem_sym rc t j p hnf⟩⟩

theorem mem_statWrites_req {rc : RCfg} (hwf : rc.WF) (sched : List Nat) (p : Nat) {l : Option Nat}
    {r : Res} :
    (l, r) ∈ statWrites rc p (rexec rc sched).log ↔
      ∃ t q, q ∈ rc.prog t ∧ Event.ret (symSlot rc p (rc.key q.mod)) ∈ (rexec rc sched).log ∧
        l = leafOfKey rc (rc.key q.mod) ∧ r = ((rc.prov p).sym (rc.key q.mod)).res := by
  rw [mem_statWrites]
  constructor
  · rintro ⟨s, hret, hs, rfl, rfl⟩
    have hret' := hret
    rw [rexec_log] at hret'
    obtain ⟨t, q, hq, _, _, rfl⟩ := (sym_slot_iff hwf).mp
      ⟨ret_mem_allKeys (invA_reach _ sched) (countInv_reach _ sched) hret', hs⟩
    have hk := key_lt hwf hq
    exact ⟨t, q, hq, hret, by rw [symSlot_div, Nat.mul_add_mod_of_lt hk], by rw [slotSup_sym rc hk]⟩
  · rintro ⟨t, q, hq, hret, rfl, rfl⟩
    have hk := key_lt hwf hq
    exact ⟨_, hret, by rw [isSym_symSlot rc hk]; simp, by rw [symSlot_div, Nat.mul_add_mod_of_lt hk],
      by rw [slotSup_sym rc hk]⟩

theorem count_map_le_of_inj_at {L : List Nat} {g : Nat → Nat} {s p : Nat}
    (h : ∀ x ∈ L, g x = s → x = p) : (L.map g).count s ≤ L.count p := by
  induction L with
  | nil => simp
  | cons a L ih =>
    have := ih (fun x hx => h x (List.mem_cons_of_mem _ hx))
    simp only [List.map_cons, List.count_cons]
    by_cases hg : g a = s
    · have hap := h a (by simp) hg
      subst hap
      simp [hg]; omega
    · simp [hg]; omega

theorem reqItem_priv {rc : RCfg} {t' j' p' t j p : Nat} {q : Req} (ht' : t' < rc.T) (ht : t < rc.T)
    (hp' : p' < rc.P) (hp : p < rc.P)
    (h : (reqItem rc t' j' q p').slot = privSlot rc t j p) : t' = t ∧ j' = j ∧ p' = p := by
  unfold reqItem at h
  cases hk : q.kind with
  | fill => simp only [hk] at h; exact absurd h (sym_ne_priv rc _ _ _ _ _)
  | walk => simp only [hk] at h; exact absurd h (sym_ne_priv rc _ _ _ _ _)
  | file fk =>
    simp only [hk] at h
    by_cases hc : (rc.prov p').cached = true
    · simp only [hc, if_true] at h; exact absurd h (file_ne_priv rc _ _ _ _ _ _)
    · simp only [hc] at h
      exact privSlot_inj ht' ht hp' hp h

theorem priv_mem_expandFrom {rc : RCfg} {t' t j p j0 : Nat} {qs : List Req} (ht' : t' < rc.T)
    (ht : t < rc.T) (hp : p < rc.P)
    (h : privSlot rc t j p ∈ (expandFrom rc t' j0 qs).map (·.slot)) : t' = t ∧ j0 ≤ j := by
  obtain ⟨i, hi, he⟩ := List.mem_map.mp h
  obtain ⟨q, j', hle, _, hij⟩ := mem_expandFrom hi
  simp only [expandReq_eq, List.mem_map, List.mem_range'_1] at hij
  obtain ⟨p', hp', rfl⟩ := hij
  obtain ⟨h1, h2, _⟩ := reqItem_priv ht' ht (by omega) hp he
  exact ⟨h1, by omega⟩

theorem count_priv_expandFrom {rc : RCfg} {t j p : Nat} (ht : t < rc.T) (hp : p < rc.P) (j0 : Nat)
    (qs : List Req) : ((expandFrom rc t j0 qs).map (·.slot)).count (privSlot rc t j p) ≤ 1 := by
  induction qs generalizing j0 with
  | nil => simp [expandFrom]
  | cons q qs ih =>
    simp only [expandFrom, List.map_append, List.count_append]
    by_cases hj : j0 = j
    · subst hj
      have hrest : ((expandFrom rc t (j0 + 1) qs).map (·.slot)).count (privSlot rc t j0 p) = 0 := by
        apply List.count_eq_zero.mpr
        intro hm
        have := (priv_mem_expandFrom ht ht hp hm).2
        omega
      have hseg : ((expandReq rc t j0 q).map (·.slot)).count (privSlot rc t j0 p) ≤ 1 := by
        rw [expandReq_eq, List.map_map]
        have h1 := count_map_le_of_inj_at (L := List.range' 0 rc.P)
          (g := (fun i : Item => i.slot) ∘ reqItem rc t j0 q) (s := privSlot rc t j0 p) (p := p)
          (by
            intro x hx hg
            simp only [List.mem_range'_1] at hx
            exact (reqItem_priv ht ht (by omega) hp hg).2.2)
        have h2 : (List.range' 0 rc.P).count p ≤ 1 :=
          List.nodup_iff_count.mp (List.nodup_range') p
        omega
      omega
    · have hseg : ((expandReq rc t j0 q).map (·.slot)).count (privSlot rc t j p) = 0 := by
        apply List.count_eq_zero.mpr
        intro hm
        obtain ⟨i, hi, he⟩ := List.mem_map.mp hm
        simp only [expandReq_eq, List.mem_map, List.mem_range'_1] at hi
        obtain ⟨p', hp', rfl⟩ := hi
        exact hj (reqItem_priv ht ht (by omega) hp he).2.1
      have := ih (j0 + 1)
      omega

theorem private_slot_never_waited {rc : RCfg} (sched : List Nat) {t j p : Nat} (ht : t < rc.T)
    (hp : p < rc.P) (u : Nat) :
    ((exec (compile (toICfg rc)) sched (init (compile (toICfg rc)))).task u).ctl ≠
      .waiting (privSlot rc t j p) := by
  have hprog : ∀ t', privSlot rc t j p ∈ (compile (toICfg rc)).prog t' → t' = t := by
    intro t' hm
    rw [compile_prog] at hm
    by_cases ht' : t' < rc.T
    · rw [toICfg_prog rc ht'] at hm
      exact (priv_mem_expandFrom ht' ht hp ((compS_sublist _ _ _).subset hm)).1
    · have : (toICfg rc).prog t' = [] := by
        have hle : rc.T ≤ t' := by omega
        simp [toICfg, ICfg.prog, List.getD_eq_getElem?_getD, hle]
      rw [this] at hm; simp [compS] at hm
  apply private_key_never_waited (invA_reach _ sched)
  · intro t₁ t₂ h1 h2; rw [hprog t₁ h1, hprog t₂ h2]
  · intro t'
    by_cases hm : privSlot rc t j p ∈ (compile (toICfg rc)).prog t'
    · have := hprog t' hm; subst this
      rw [compile_prog, toICfg_prog rc ht]
      exact Nat.le_trans ((compS_sublist _ _ _).count_le _) (count_priv_expandFrom ht hp 0 _)
    · rw [List.count_eq_zero.mpr hm]; omega

end MdModel.Once
