/-
  What C14 rests on about `MdModel.Index.index` itself. `index` is unfolded once, in `index_state_inv`, which
  gives every field of the state as a function of the dump; call stack `i` is then the thread's `stackOf`,
  attributed, and its frames are the walk from the thread's start context. A per-walk theorem is carried to the
  state in one of two forms: for a frame (`frame_of_walk`), for two consecutive frames (`stack_pair_of_walk`).
  "The last entry wins" (thread names, LSB fields, the requesting thread) is one fact about folds,
  `foldl_last_wins`.
-/
import MdModel.Index
namespace MdModel.Index
open MdModel
open MdModel.Reason (Exc Reason Os Cpu)

/-- the model tests flag bits arithmetically (`validity % 2 = 1`, `validity / 2 % 2 = 1`) -/
theorem bit0_eq (n : Nat) : (n % 2 = 1) = (n.testBit 0 = true) := by
  rw [Nat.testBit_zero, decide_eq_true_eq]

theorem bit1_eq (n : Nat) : (n / 2 % 2 = 1) = (n.testBit 1 = true) := by
  rw [Nat.testBit_succ, Nat.testBit_zero, decide_eq_true_eq]

theorem loop_stacks (d : Dump) (i : Nat) (ts : List Thread) (req : Option Nat) :
    (loop d i ts req).1 = ts.map (stackOf d) := by
  induction ts generalizing i req with
  | nil => rfl
  | cons t ts ih => simp [loop, ih]

theorem foldl_keep {α β γ : Type} (f : β → α → β) (g : β → γ) (l : List α) (b : β)
    (h : ∀ b, ∀ a ∈ l, g (f b a) = g b) : g (l.foldl f b) = g b :=
  l.foldlRecOn f (motive := fun x => g x = g b) rfl fun x hx a ha => (h x a ha).trans hx

theorem foldl_last_wins {α β γ : Type} (f : β → α → β) (g : β → γ) (pre post : List α) (x : α) (b : β)
    (h : ∀ b, ∀ a ∈ post, g (f b a) = g b) :
    g ((pre ++ x :: post).foldl f b) = g (f (pre.foldl f b) x) := by
  rw [List.foldl_append, List.foldl_cons, foldl_keep f g post _ h]

theorem exists_last_or_none {α : Type} (p : α → Bool) (l : List α) :
    (∃ i, ∃ hi : i < l.length, p l[i] = true ∧ ∀ j (hj : j < l.length), i < j → p l[j] = false) ∨
    ∀ a ∈ l, p a = false := by
  induction l with
  | nil => exact .inr fun _ h => nomatch h
  | cons a l ih =>
    rcases ih with ⟨i, hi, hp, hlast⟩ | hnone
    · refine .inl ⟨i + 1, Nat.succ_lt_succ hi, hp, fun j hj hij => ?_⟩
      cases j with
      | zero => omega
      | succ j => exact hlast j (Nat.lt_of_succ_lt_succ hj) (by omega)
    · cases ha : p a with
      | true =>
        refine .inl ⟨0, Nat.zero_lt_succ _, ha, fun j hj hij => ?_⟩
        cases j with
        | zero => omega
        | succ j => exact hnone _ (List.getElem_mem _)
      | false => exact .inr (List.forall_mem_cons.mpr ⟨ha, hnone⟩)

/-- the `requesting_thread` side of the thread loop is a fold over the positions: one more "last entry wins" -/
theorem loop_snd (d : Dump) (k : Nat) (ts : List Thread) (req : Option Nat) :
    (loop d k ts req).2 = (ts.zipIdx k).foldl (fun acc p => if isRequesting d p.1 then some p.2 else acc) req := by
  induction ts generalizing k req with
  | nil => rfl
  | cons t ts ih => simp only [loop, List.zipIdx_cons, List.foldl_cons, ih]

theorem loop_req_none (d : Dump) (k : Nat) (ts : List Thread) (req : Option Nat)
    (h : ∀ t ∈ ts, isRequesting d t = false) : (loop d k ts req).2 = req := by
  rw [loop_snd]
  exact foldl_keep _ (fun o => o) _ req fun b p hp => by
    simp only [h p.1 (List.fst_mem_of_mem_zipIdx hp), Bool.false_eq_true, if_false]

theorem loop_req_last (d : Dump) (k : Nat) (ts : List Thread) (req : Option Nat) (i : Nat) (hi : i < ts.length)
    (hp : isRequesting d ts[i] = true)
    (hlast : ∀ j (hj : j < ts.length), i < j → isRequesting d ts[j] = false) :
    (loop d k ts req).2 = some (k + i) := by
  have hsplit : ts = ts.take i ++ ts[i] :: ts.drop (i + 1) := by
    rw [List.getElem_cons_drop hi, List.take_append_drop]
  rw [loop_snd, hsplit, List.zipIdx_append, List.zipIdx_cons]
  refine (foldl_last_wins _ (fun o => o) _ _ _ req fun b p hp => ?_).trans ?_
  · obtain ⟨j, hj, e⟩ := List.mem_drop_iff_getElem.mp (List.fst_mem_of_mem_zipIdx hp)
    rw [← e, hlast (i + 1 + j) (by omega) (by omega)]
    rfl
  · simp only [hp, if_true, List.length_take, Nat.min_eq_left (Nat.le_of_lt hi)]

theorem optMap_eq_some {α β : Type} (g : α → Option β) (l : List α) (l' : List β)
    (h : optMap g l = some l') : l.map g = l'.map some := by
  induction l generalizing l' with
  | nil => cases h; rfl
  | cons a as ih =>
    simp only [optMap] at h
    split at h
    · rename_i b bs hb hbs
      cases h
      rw [List.map_cons, List.map_cons, hb, ih bs hbs]
    · cases h

theorem optMap_length {α β : Type} (g : α → Option β) (l : List α) (l' : List β)
    (h : optMap g l = some l') : l'.length = l.length := by
  simpa using (congrArg List.length (optMap_eq_some g l l' h)).symm

theorem optMap_getElem {α β : Type} (g : α → Option β) (l : List α) (l' : List β)
    (h : optMap g l = some l') (i : Nat) (h1 : i < l.length) (h2 : i < l'.length) :
    g l[i] = some l'[i] := by
  have := congrArg (fun x => x[i]?) (optMap_eq_some g l l' h)
  simpa [h1, h2] using this

theorem optMap_some_of {α β : Type} (g : α → Option β) (l : List α)
    (h : ∀ a ∈ l, ∃ b, g a = some b) : ∃ l', optMap g l = some l' := by
  induction l with
  | nil => exact ⟨[], rfl⟩
  | cons a as ih =>
    obtain ⟨b, hb⟩ := h a List.mem_cons_self
    obtain ⟨bs, hbs⟩ := ih (fun x hx => h x (List.mem_cons_of_mem _ hx))
    exact ⟨b :: bs, by simp [optMap, hb, hbs]⟩

theorem attachFrame_f (ums : List Mod) (f : Walk.Frame) (x : IFrame) (h : attachFrame ums f = some x) :
    x.f = f := by
  unfold attachFrame at h
  split at h
  · cases h; rfl
  · split at h
    · cases h; rfl
    · cases h

theorem attachStack_core (ums : List Mod) (p : PreStack) (s : Stack) (h : attachStack ums p = some s) :
    s.id = p.id ∧ s.name = p.name ∧ s.info = p.info ∧ s.frames.map (·.f) = p.frames ∧
    optMap (attachFrame ums) p.frames = some s.frames := by
  unfold attachStack at h
  split at h
  · rename_i fs hfs
    cases h
    refine ⟨rfl, rfl, rfl, ?_, hfs⟩
    apply List.ext_getElem (by rw [List.length_map, optMap_length _ _ _ hfs])
    intro i h1 h2
    rw [List.getElem_map]
    exact attachFrame_f ums _ _ (optMap_getElem _ _ _ hfs i h2 (by simpa using h1))
  · cases h

theorem index_state_inv (d : Dump) (ts : List Thread) (s : State)
    (hth : d.threads = some ts) (h : index d = .state s) :
    optMap (attachStack (unloadedModules d)) (ts.map (stackOf d)) = some s.stacks ∧
    s.requesting = (loop d 0 ts none).2 ∧
    s.exc = d.exc.map (fun p => (Reason.fromException p.1 (Os.ofPlatformId d.platformId) (Cpu.ofArch d.arch),
                                 Reason.crashAddress p.1 (Os.ofPlatformId d.platformId) (Cpu.ofArch d.arch))) ∧
    s.pid = processId d ∧ s.ctime = createTime d ∧ s.time = d.timestamp ∧
    s.modules = loadedModules d ∧ s.unloaded = unloadedModules d ∧
    s.sys = sysInfo d.platformId d.arch d.sys ∧ s.lsb = d.lsb.map lsbOf ∧
    s.macCrash = macCrashInfo d.macCrash ∧ s.bootArgs = d.bootArgs ∧ s.assertion = none ∧
    s.certs = [] ∧ s.handles = d.handles := by
  unfold index at h
  rw [hth] at h
  simp only at h
  split at h
  · cases h
  · rw [loop_stacks] at h
    split at h
    · cases h
    · rename_i ss hss
      cases h
      refine ⟨hss, rfl, ?_, rfl, rfl, rfl, rfl, rfl, rfl, rfl, rfl, rfl, rfl, rfl, rfl⟩
      cases d.exc with
      | none => rfl
      | some p => obtain ⟨e, c⟩ := p; rfl

theorem stack_at (d : Dump) (ts : List Thread) (s : State)
    (hth : d.threads = some ts) (h : index d = .state s) :
    s.stacks.length = ts.length ∧
    ∀ i (h1 : i < ts.length) (h2 : i < s.stacks.length),
      attachStack (unloadedModules d) (stackOf d ts[i]) = some s.stacks[i] := by
  obtain ⟨hatt, -⟩ := index_state_inv d ts s hth h
  have hlen := optMap_length _ _ _ hatt
  simp only [List.length_map] at hlen
  refine ⟨hlen, ?_⟩
  intro i h1 h2
  have := optMap_getElem _ _ _ hatt i (by simpa using h1) h2
  simpa using this

/-- the three branches of `stackOf` build the same record up to `info` and `frames` -/
theorem stackOf_eq (d : Dump) (t : Thread) :
    stackOf d t =
      { id := t.id, name := nameOf d.names t.id, sel := stackMemOf d t,
        info := if isDumpThread d t then .dumpThreadSkipped
          else match startCtx d t with
            | some _ => .ok
            | none => .missingContext,
        frames := match startCtx d t with
          | some r => framesOf d (stackMemOf d t) (toCtx d.arch r)
          | none => [] } := by
  fun_cases stackOf d t
  · rename_i hd; simp [startCtx, hd]
  · rename_i hd r hr; rw [if_neg hd, hr]
  · rename_i hd hr; rw [if_neg hd, hr]

theorem stack_walk (d : Dump) (ts : List Thread) (s : State)
    (hth : d.threads = some ts) (h : index d = .state s)
    (i : Nat) (h1 : i < ts.length) (h2 : i < s.stacks.length) {r : Regs} (hr : startCtx d ts[i] = some r) :
    s.stacks[i].frames.map (·.f) =
      Walk.walk (envOf d (selectMem (memoryList d) ts[i] (some r.sp)))
        (walkMem d (selectMem (memoryList d) ts[i] (some r.sp))) (toCtx d.arch r) := by
  obtain ⟨-, -, -, hfr, -⟩ := attachStack_core _ _ _ ((stack_at d ts s hth h).2 i h1 h2)
  rw [hfr, stackOf_eq]
  simp only [hr, framesOf, stackMemOf, Option.map_some]

theorem stack_no_ctx (d : Dump) (ts : List Thread) (s : State)
    (hth : d.threads = some ts) (h : index d = .state s)
    (i : Nat) (h1 : i < ts.length) (h2 : i < s.stacks.length) (hr : startCtx d ts[i] = none) :
    s.stacks[i].frames = [] := by
  obtain ⟨-, -, -, hfr, -⟩ := attachStack_core _ _ _ ((stack_at d ts s hth h).2 i h1 h2)
  rw [stackOf_eq] at hfr
  simp only [hr] at hfr
  exact List.map_eq_nil_iff.mp hfr

/-- what holds of every frame of every walk holds of every frame of every call stack -/
theorem frame_of_walk (d : Dump) (ts : List Thread) (s : State)
    (hth : d.threads = some ts) (h : index d = .state s)
    (i : Nat) (h1 : i < ts.length) (h2 : i < s.stacks.length) (x : IFrame) (hx : x ∈ s.stacks[i].frames) :
    ∃ r, startCtx d ts[i] = some r ∧
      x.f ∈ Walk.walk (envOf d (selectMem (memoryList d) ts[i] (some r.sp)))
        (walkMem d (selectMem (memoryList d) ts[i] (some r.sp))) (toCtx d.arch r) := by
  cases hs : startCtx d ts[i] with
  | none => rw [stack_no_ctx d ts s hth h i h1 h2 hs] at hx; cases hx
  | some r => exact ⟨r, rfl, stack_walk d ts s hth h i h1 h2 hs ▸ List.mem_map_of_mem hx⟩

theorem getElem_of_map_eq {fs : List IFrame} {L : List Walk.Frame} (h : fs.map (·.f) = L)
    (j : Nat) (hj : j < fs.length) : ∃ hj' : j < L.length, L[j] = fs[j].f := by
  subst h
  exact ⟨by simpa using hj, by simp⟩

/-- what holds of every two consecutive frames of every walk holds of every two consecutive frames of
    every call stack -/
theorem stack_pair_of_walk (d : Dump) (ts : List Thread) (s : State)
    (hth : d.threads = some ts) (h : index d = .state s)
    (i : Nat) (h1 : i < ts.length) (h2 : i < s.stacks.length) (r : Regs) (hr : startCtx d ts[i] = some r)
    (env : Walk.Env) (henv : envOf d (selectMem (memoryList d) ts[i] (some r.sp)) = env)
    (j : Nat) (hj : j + 1 < s.stacks[i].frames.length) {Q : Walk.Frame → Walk.Frame → Prop}
    (hQ : ∀ hj1 : j + 1 <
        (Walk.walk env (walkMem d (selectMem (memoryList d) ts[i] (some r.sp))) (toCtx d.arch r)).length,
      Q ((Walk.walk env (walkMem d (selectMem (memoryList d) ts[i] (some r.sp))) (toCtx d.arch r))[j]'(
          Nat.lt_of_succ_lt hj1))
        (Walk.walk env (walkMem d (selectMem (memoryList d) ts[i] (some r.sp))) (toCtx d.arch r))[j + 1]) :
    Q (s.stacks[i].frames[j]'(Nat.lt_of_succ_lt hj)).f s.stacks[i].frames[j + 1].f := by
  have hw := henv ▸ stack_walk d ts s hth h i h1 h2 hr
  obtain ⟨_, e0⟩ := getElem_of_map_eq hw j (Nat.lt_of_succ_lt hj)
  obtain ⟨hj1, e1⟩ := getElem_of_map_eq hw (j + 1) hj
  exact e0 ▸ e1 ▸ hQ hj1

end MdModel.Index
