/-
  The greatest admissible element of a list (`Greatest`): what `find_nearest_public` returns in each
  of its three forms — C11's sorted search (`findNearestPublic_spec`), the walker model's fold and
  the fold of C11's linear-scan specification (`maxStep`; `foldl_maxStep_greatest` for a total
  preorder; `foldl_maxStep_mem` needs no hypothesis on the order). For an antisymmetric order it is
  unique (`Greatest.unique`), and a translation that keeps the order keeps it (`Greatest.map`): that
  is how the three are shown equal.
-/
namespace MdModel.Symbolize

def maxStep {α : Type} (le : α → α → Bool) (ok : α → Prop) [DecidablePred ok]
    (best : Option α) (q : α) : Option α :=
  if ok q then
    match best with
    | none => some q
    | some b => if le b q then some q else some b
  else best

def Greatest {α : Type} (le : α → α → Bool) (ok : α → Prop) (l : List α) (o : Option α) : Prop :=
  (∀ p, o = some p → p ∈ l ∧ ok p ∧ ∀ q ∈ l, ok q → le q p = true) ∧
    (o = none → ∀ q ∈ l, ¬ ok q)

theorem Greatest.unique {α : Type} {le : α → α → Bool} {ok : α → Prop} {l : List α} {o o' : Option α}
    (hanti : ∀ x y, le x y = true → le y x = true → x = y)
    (h : Greatest le ok l o) (h' : Greatest le ok l o') : o = o' := by
  cases o with
  | none =>
    cases o' with
    | none => rfl
    | some q => exact absurd (h'.1 q rfl).2.1 (h.2 rfl q (h'.1 q rfl).1)
  | some p =>
    obtain ⟨hp1, hp2, hp3⟩ := h.1 p rfl
    cases o' with
    | none => exact absurd hp2 (h'.2 rfl p hp1)
    | some q =>
      obtain ⟨hq1, hq2, hq3⟩ := h'.1 q rfl
      rw [hanti p q (hq3 p hp1 hp2) (hp3 q hq1 hq2)]

theorem Greatest.map {α β : Type} {le : α → α → Bool} {ok : α → Prop} {l : List α} {o : Option α}
    (f : α → β) {le' : β → β → Bool} {ok' : β → Prop} (hle : ∀ x y, le' (f x) (f y) = le x y)
    (hok : ∀ x, ok' (f x) ↔ ok x) (h : Greatest le ok l o) :
    Greatest le' ok' (l.map f) (o.map f) := by
  constructor
  · intro p hp
    obtain ⟨x, rfl, rfl⟩ := Option.map_eq_some_iff.mp hp
    obtain ⟨h1, h2, h3⟩ := h.1 x rfl
    refine ⟨List.mem_map_of_mem h1, (hok x).mpr h2, fun q hq hqo => ?_⟩
    obtain ⟨y, hy, rfl⟩ := List.mem_map.mp hq
    rw [hle]
    exact h3 y hy ((hok y).mp hqo)
  · intro hn q hq hqo
    obtain ⟨y, hy, rfl⟩ := List.mem_map.mp hq
    exact h.2 (Option.map_eq_none_iff.mp hn) y hy ((hok y).mp hqo)

theorem foldl_maxStep_mem {α : Type} {le : α → α → Bool} {ok : α → Prop} [DecidablePred ok]
    (l : List α) (best : Option α) {p : α} (h : l.foldl (maxStep le ok) best = some p) :
    (p ∈ l ∧ ok p) ∨ best = some p := by
  induction l generalizing best with
  | nil => exact .inr h
  | cons q rest ih =>
    rcases ih _ h with h' | h'
    · exact .inl ⟨List.mem_cons_of_mem _ h'.1, h'.2⟩
    · unfold maxStep at h'
      split at h'
      · rename_i hq
        cases best with
        | none => cases h'; exact .inl ⟨List.mem_cons_self, hq⟩
        | some b =>
          simp only at h'
          split at h' <;> cases h'
          · exact .inl ⟨List.mem_cons_self, hq⟩
          · exact .inr rfl
      · exact .inr h'

theorem foldl_maxStep_greatest {α : Type} {le : α → α → Bool} {ok : α → Prop} [DecidablePred ok]
    (hrefl : ∀ x, le x x = true) (htrans : ∀ x y z, le x y = true → le y z = true → le x z = true)
    (htotal : ∀ x y, (le x y || le y x) = true) (l : List α) :
    Greatest le ok l (l.foldl (maxStep le ok) none) := by
  have step : ∀ (seen : List α) (best : Option α) (q : α), Greatest le ok seen best →
      Greatest le ok (seen ++ [q]) (maxStep le ok best q) := by
    intro seen best q ⟨h1, h2⟩
    have hold : ∀ p, (∀ x ∈ seen, ok x → le x p = true) → (ok q → le q p = true) →
        ∀ x ∈ seen ++ [q], ok x → le x p = true :=
      fun p hs hq => List.forall_mem_append.mpr ⟨hs, List.forall_mem_singleton.mpr hq⟩
    unfold maxStep
    by_cases hq : ok q
    · rw [if_pos hq]
      cases best with
      | none =>
        refine ⟨?_, fun e => nomatch e⟩
        rintro p ⟨⟩
        exact ⟨by simp, hq, hold _ (fun x hx hokx => absurd hokx (h2 rfl x hx)) (fun _ => hrefl _)⟩
      | some b =>
        obtain ⟨hb1, hb2, hb3⟩ := h1 b rfl
        by_cases hle : le b q = true
        · simp only [hle, if_true]
          refine ⟨?_, fun e => nomatch e⟩
          rintro p ⟨⟩
          exact ⟨by simp, hq, hold _ (fun x hx hokx => htrans _ _ _ (hb3 x hx hokx) hle) (fun _ => hrefl _)⟩
        · simp only [hle]
          refine ⟨?_, fun e => nomatch e⟩
          rintro p ⟨⟩
          refine ⟨by simp [hb1], hb2, hold _ hb3 fun _ => ?_⟩
          exact ((Bool.or_eq_true _ _).mp (htotal b q)).resolve_left hle
    · rw [if_neg hq]
      refine ⟨fun p hp => ?_, fun hb x hx => ?_⟩
      · obtain ⟨hb1, hb2, hb3⟩ := h1 p hp
        exact ⟨by simp [hb1], hb2, hold _ hb3 fun hokq => absurd hokq hq⟩
      · exact List.forall_mem_append.mpr ⟨h2 hb, List.forall_mem_singleton.mpr hq⟩ x hx
  have key : ∀ (l seen : List α) (best : Option α), Greatest le ok seen best →
      Greatest le ok (seen ++ l) (l.foldl (maxStep le ok) best) := by
    intro l
    induction l with
    | nil => intro seen best h; simpa using h
    | cons q rest ih =>
      intro seen best h
      have := ih (seen ++ [q]) _ (step seen best q h)
      simpa using this
  simpa using key l [] none ⟨fun _ e => (nomatch e), fun _ _ hq => (nomatch hq)⟩

end MdModel.Symbolize
