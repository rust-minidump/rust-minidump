/-
  C20's world model (`MdModel.CliIo`): the report stage `afterOpen` has three courses (`Stops`, one
  report, cyborg), and what it leaves on the primary is one statement (`Due`) for a file and for
  standard output alike (`Holds`, `Seen`), lifted through `emitReports` to `run` (`run_seen`). Beside it: one
  report into a standard output of bounded capacity (`run_sole_bounded`), and the exit status of a world in which
  nothing fails (`Healthy`, kept by each open: `openOpt_healthy`; `emitReports_exit_of_healthy`).
-/
import MdModel.CliIo
namespace MdModel.Cli

@[simp] theorem Fs.set_entry_same (fs : Fs) (p : Path) (e : Entry) : (fs.set p e).entry p = e := by
  simp [Fs.set]

theorem Fs.set_entry_other (fs : Fs) (p q : Path) (e : Entry) (h : q ≠ p) :
    (fs.set p e).entry q = fs.entry q := by
  simp [Fs.set, h]

@[simp] theorem Fs.set_limit (fs : Fs) (p : Path) (e : Entry) : (fs.set p e).limit = fs.limit := rfl

theorem create_some {fs fs' : Fs} {p : Path} {h : Handle} (hc : fs.create p = some (fs', h)) :
    h = ⟨p, 0⟩ ∧ (fs' = fs.set p (.file []) ∨ (fs' = fs ∧ (fs.entry p = .full ∨ fs.entry p = .null))) := by
  unfold Fs.create at hc
  split at hc
  · cases hc; exact ⟨rfl, Or.inl rfl⟩
  · cases hc
  · cases hc
  · cases hc; exact ⟨rfl, Or.inl rfl⟩
  · rename_i he; cases hc; exact ⟨rfl, Or.inr ⟨rfl, Or.inl he⟩⟩
  · rename_i he; cases hc; exact ⟨rfl, Or.inr ⟨rfl, Or.inr he⟩⟩

theorem create_limit {fs fs' : Fs} {p : Path} {h : Handle} (hc : fs.create p = some (fs', h)) :
    fs'.limit = fs.limit := by
  rcases (create_some hc).2 with rfl | ⟨rfl, _⟩ <;> rfl

theorem create_entry_other {fs fs' : Fs} {p q : Path} {h : Handle} (hc : fs.create p = some (fs', h))
    (hq : q ≠ p) : fs'.entry q = fs.entry q := by
  rcases (create_some hc).2 with rfl | ⟨rfl, _⟩
  · exact Fs.set_entry_other _ _ _ _ hq
  · rfl

def Regular (fs : Fs) (p : Path) : Prop := (∃ c, fs.entry p = .file c) ∨ fs.entry p = .absent true

/-- `File::create` TRUNCATES: whatever the file held before, it is empty afterwards -/
theorem create_regular {fs : Fs} {p : Path} (hr : Regular fs p) :
    fs.create p = some (fs.set p (.file []), ⟨p, 0⟩) := by
  unfold Fs.create
  rcases hr with ⟨c, hc⟩ | hc <;> rw [hc]

theorem regular_of_entry_eq {fs fs' : Fs} {p : Path} (h : fs'.entry p = fs.entry p) (hr : Regular fs p) :
    Regular fs' p := by
  unfold Regular; rw [h]; exact hr

theorem regular_set_file (fs : Fs) (q p : Path) (c : Bytes) (hr : Regular fs p) :
    Regular (fs.set q (.file c)) p := by
  by_cases hpq : p = q
  · subst hpq; left; exact ⟨c, by simp⟩
  · unfold Regular; rw [Fs.set_entry_other _ _ _ _ hpq]; exact hr

theorem create_some_entry_self {fs fs' : Fs} {p : Path} {h : Handle} (hc : fs.create p = some (fs', h)) :
    fs'.entry p = .file [] ∨ (fs'.entry p = fs.entry p ∧ (fs.entry p = .full ∨ fs.entry p = .null)) := by
  rcases (create_some hc).2 with rfl | ⟨rfl, h⟩
  · exact Or.inl (Fs.set_entry_same _ _ _)
  · exact Or.inr ⟨rfl, h⟩

theorem write_fs (fs : Fs) (h : Handle) (bs : Bytes) :
    (fs.write h bs).1 = fs ∨ ∃ c, (fs.write h bs).1 = fs.set h.path (.file c) := by
  unfold Fs.write
  split <;> try exact Or.inl rfl
  dsimp only
  split
  · exact Or.inl rfl
  · exact Or.inr ⟨_, rfl⟩

theorem write_entry_other (fs : Fs) (h : Handle) (bs : Bytes) (q : Path) (hq : q ≠ h.path) :
    (fs.write h bs).1.entry q = fs.entry q := by
  rcases write_fs fs h bs with e | ⟨c, e⟩ <;> rw [e]
  exact Fs.set_entry_other _ _ _ _ hq

theorem write_limit (fs : Fs) (h : Handle) (bs : Bytes) : (fs.write h bs).1.limit = fs.limit := by
  rcases write_fs fs h bs with e | ⟨c, e⟩ <;> rw [e]
  rfl

theorem write_path (fs : Fs) (h : Handle) (bs : Bytes) : (fs.write h bs).2.1.path = h.path := by
  unfold Fs.write
  split <;> rfl

theorem writeAt_end (c bs : Bytes) : writeAt c c.length bs = c ++ bs := by
  simp [writeAt]

theorem room_le (lim : Option Nat) (off n : Nat) : room lim off n ≤ n := by
  unfold room; split
  · exact Nat.le_refl _
  · exact Nat.min_le_left _ _

def Clean (fs : Fs) (h : Handle) (c : Bytes) : Prop := fs.entry h.path = .file c ∧ h.off = c.length

theorem write_clean {fs : Fs} {h : Handle} {c : Bytes} (hc : Clean fs h c) (bs : Bytes) :
    ∃ k, k ≤ bs.length ∧ Clean (fs.write h bs).1 (fs.write h bs).2.1 (c ++ bs.take k) ∧
      ((fs.write h bs).2.2 = true ↔ k = bs.length) ∧ k = room (fs.limit h.path) h.off bs.length := by
  refine ⟨room (fs.limit h.path) h.off bs.length, room_le _ _ _, ?_, ?_, rfl⟩
  · obtain ⟨he, ho⟩ := hc
    have hle := room_le (fs.limit h.path) h.off bs.length
    unfold Fs.write
    rw [he]
    dsimp only
    by_cases hk : room (fs.limit h.path) h.off bs.length = 0
    · rw [if_pos hk, hk]
      exact ⟨by simpa using he, by simpa using ho⟩
    · rw [if_neg hk]
      refine ⟨?_, ?_⟩
      · show (fs.set h.path _).entry h.path = _
        rw [Fs.set_entry_same, ho, writeAt_end]
      · show h.off + _ = _
        rw [List.length_append, List.length_take, Nat.min_eq_left hle, ho]
  · unfold Fs.write
    rw [hc.1]
    simp

theorem write_clean_ok {fs : Fs} {h : Handle} {c : Bytes} (hc : Clean fs h c) (bs : Bytes)
    (hok : (fs.write h bs).2.2 = true) : Clean (fs.write h bs).1 (fs.write h bs).2.1 (c ++ bs) := by
  obtain ⟨k, _, hcl, hiff, _⟩ := write_clean hc bs
  have := hiff.mp hok
  subst this
  simpa using hcl

theorem write_clean_unlimited {fs : Fs} {h : Handle} {c : Bytes} (hc : Clean fs h c) (bs : Bytes)
    (hl : fs.limit h.path = none) : (fs.write h bs).2.2 = true := by
  obtain ⟨k, _, _, hiff, hk⟩ := write_clean hc bs
  rw [hl] at hk
  exact hiff.mpr (by simpa [room] using hk)

theorem clean_write_other {fs : Fs} {h g : Handle} {c : Bytes} (hc : Clean fs h c) (bs : Bytes)
    (hne : h.path ≠ g.path) : Clean (fs.write g bs).1 h c :=
  ⟨by rw [write_entry_other _ _ _ _ hne]; exact hc.1, hc.2⟩

theorem clean_create_other {fs fs' : Fs} {h g : Handle} {p : Path} {c : Bytes} (hc : Clean fs h c)
    (hcr : fs.create p = some (fs', g)) (hne : h.path ≠ p) : Clean fs' h c :=
  ⟨by rw [create_entry_other hcr hne]; exact hc.1, hc.2⟩

theorem write_file_unlimited (fs : Fs) (h : Handle) (c bs : Bytes) (he : fs.entry h.path = .file c)
    (hl : fs.limit h.path = none) (hbs : bs ≠ []) :
    fs.write h bs = (fs.set h.path (.file (writeAt c h.off bs)), ⟨h.path, h.off + bs.length⟩, true) := by
  unfold Fs.write
  rw [he, hl]
  have : bs.length ≠ 0 := by simpa using hbs
  simp [room, this]

theorem writeAt_zero (c bs : Bytes) : writeAt c 0 bs = bs ++ c.drop bs.length := by
  simp [writeAt]

theorem stdout_write_healthy (s : Stdout) (r : Rep) (hs : s.cap = none) :
    (s.write r).2 = none ∧ (s.write r).1.cap = none ∧
      (s.write r).1.out ++ (s.write r).1.buf = s.out ++ s.buf ++ r.bytes := by
  have hroom : ∀ n, s.room n = n := by intro n; simp [Stdout.room, hs]
  unfold Stdout.write
  simp only [hroom, if_true]
  refine ⟨trivial, hs, ?_⟩
  simp [List.append_assoc]

theorem stdout_atExit_healthy (s : Stdout) (hs : s.cap = none) :
    s.atExit.out = s.out ++ s.buf := by
  simp [Stdout.atExit, Stdout.room, hs]

theorem take_append_left_le {α} (a b : List α) (k : Nat) (hk : k ≤ a.length) : (a ++ b).take k = a.take k := by
  rw [List.take_append_of_le_length hk]

theorem stdout_write_empty (s : Stdout) (r : Rep) (c : Nat) (he : s.out = [] ∧ s.buf = []) (hc : s.cap = some c) :
    s.write r =
      if r.bytes.length - min r.pend r.bytes.length ≤ c then
        ({ s with out := r.bytes.take (r.bytes.length - min r.pend r.bytes.length),
                  buf := r.bytes.drop (r.bytes.length - min r.pend r.bytes.length) }, none)
      else ({ s with out := r.bytes.take c, buf := [] }, some s.kind) := by
  have hlen : (r.bytes.take (r.bytes.length - min r.pend r.bytes.length)).length
      = r.bytes.length - min r.pend r.bytes.length := by
    rw [List.length_take]; omega
  unfold Stdout.write
  simp only [he.1, he.2, List.nil_append, Stdout.room, hc, List.length_nil, Nat.sub_zero, hlen]
  generalize r.bytes.length - min r.pend r.bytes.length = k
  by_cases hfit : k ≤ c
  · rw [if_pos (by omega), if_pos hfit]
  · rw [if_neg (by omega), if_neg hfit, List.take_take, show min (min k c) k = c by omega]

theorem flush_atExit (s : Stdout) : s.flush.1.atExit = s.atExit := by
  unfold Stdout.flush
  by_cases h : s.room s.buf.length = s.buf.length
  · simp only [h, if_true, Stdout.atExit, List.take_nil, List.append_nil, List.take_length]
  · simp only [h, if_false, Stdout.atExit, List.take_nil, List.append_nil]

theorem stdout_write_atExit (s : Stdout) (r : Rep) (c : Nat) (he : s.out = [] ∧ s.buf = []) (hc : s.cap = some c) :
    ((s.write r).1.atExit).out = r.bytes.take c := by
  rw [stdout_write_empty s r c he hc]
  by_cases hfit : r.bytes.length - min r.pend r.bytes.length ≤ c
  · rw [if_pos hfit]
    simp only [Stdout.atExit, Stdout.room, hc, List.length_take, List.length_drop]
    have hk : r.bytes.length - min r.pend r.bytes.length ≤ r.bytes.length := by omega
    generalize r.bytes.length - min r.pend r.bytes.length = k at *
    rw [show min k r.bytes.length = k by omega, ← List.length_drop, Nat.min_comm, ← List.take_eq_take_min,
      ← List.take_add, Nat.add_sub_cancel' hfit]
  · rw [if_neg hfit]
    simp only [Stdout.atExit, List.take_nil, List.append_nil]

theorem stdout_write_fits (s : Stdout) (r : Rep) (c : Nat) (he : s.out = [] ∧ s.buf = []) (hc : s.cap = some c)
    (hfit : r.bytes.length - min r.pend r.bytes.length ≤ c) :
    (s.write r).2 = none ∧ ((s.write r).1.atExit).out = r.bytes.take c :=
  ⟨by rw [stdout_write_empty s r c he hc, if_pos hfit], stdout_write_atExit s r c he hc⟩

@[simp] theorem finish_exit (c : Nat) (w : World) : (finish c w).exit = c := rfl
@[simp] theorem finish_fs (c : Nat) (w : World) : (finish c w).world.fs = w.fs := rfl
@[simp] theorem finish_stderr (c : Nat) (w : World) : (finish c w).world.stderr = w.stderr := rfl
@[simp] theorem finish_stdout (c : Nat) (w : World) : (finish c w).world.stdout = w.stdout.atExit := rfl

@[simp] theorem failWith_other_exit (w : World) : (failWith w .other).exit = 1 := rfl
@[simp] theorem failWith_pipe_exit (w : World) : (failWith w .brokenPipe).exit = 0 := rfl
@[simp] theorem failWith_fs (w : World) (k : ErrKind) : (failWith w k).world.fs = w.fs := by
  cases k <;> rfl
@[simp] theorem failWith_stdout (w : World) (k : ErrKind) :
    (failWith w k).world.stdout = w.stdout.atExit := by
  cases k <;> rfl

@[simp] theorem done_none (w : World) : done w none = finish 0 w := rfl
@[simp] theorem done_some (w : World) (k : ErrKind) : done w (some k) = failWith w k := rfl
@[simp] theorem done_fs (w : World) (e : Option ErrKind) : (done w e).world.fs = w.fs := by
  cases e <;> simp
@[simp] theorem done_stdout (w : World) (e : Option ErrKind) :
    (done w e).world.stdout = w.stdout.atExit := by
  cases e <;> simp

@[simp] theorem doneThen_file (w : World) (e : Option ErrKind) (h : Handle) : doneThen w e (.file h) = done w e := by
  cases e <;> rfl

@[simp] theorem finishOk_file (w : World) (h : Handle) : finishOk w (.file h) = finish 0 w := rfl

theorem finishOk_healthy (w : World) (hs : w.stdout.cap = none) : finishOk w .stdout = finish 0 w := by
  have h1 : w.stdout.flush.2 = none := by
    simp [Stdout.flush, Stdout.room, hs]
  unfold finishOk flushPrimary
  rw [h1, done_none]
  unfold finish
  simp only [flush_atExit]

theorem doneThen_stdout_out (w : World) (e : Option ErrKind) :
    (doneThen w e .stdout).world.stdout.out = w.stdout.atExit.out := by
  cases e with
  | some k => exact congrArg Stdout.out (failWith_stdout w k)
  | none => exact congrArg Stdout.out ((done_stdout _ _).trans (flush_atExit _))

theorem logErr_stdout (render : Diag → Bytes) (cfg : Cfg) (w : World) (lg : Option Handle) (d : Diag) :
    (logErr render cfg w lg d).stdout = w.stdout := by
  unfold logErr; split
  · rfl
  · split <;> rfl

theorem logErr_entry_other (render : Diag → Bytes) (cfg : Cfg) (w : World) (lg : Option Handle) (d : Diag)
    (q : Path) (hq : ∀ h, lg = some h → q ≠ h.path) :
    (logErr render cfg w lg d).fs.entry q = w.fs.entry q := by
  unfold logErr; split
  · rfl
  · split
    · rfl
    · rename_i h
      exact write_entry_other _ _ _ _ (hq h rfl)

theorem logErr_none_fs (render : Diag → Bytes) (cfg : Cfg) (w : World) (d : Diag) :
    (logErr render cfg w none d).fs = w.fs := by
  unfold logErr; split <;> rfl

theorem openOpt_some {w w' : World} {p : Option Path} {lg : Option Handle} (h : openOpt w p = some (w', lg)) :
    w'.stdout = w.stdout ∧ w'.stderr = w.stderr ∧ w'.fs.limit = w.fs.limit ∧
    lg = p.map (fun q => ⟨q, 0⟩) ∧ (∀ q, p ≠ some q → w'.fs.entry q = w.fs.entry q) ∧
    (p = none → w' = w) := by
  unfold openOpt at h
  cases p with
  | none => simp at h; obtain ⟨rfl, rfl⟩ := h; simp
  | some q =>
    simp only at h
    split at h
    · simp at h
    · rename_i fs' g hc
      simp at h
      obtain ⟨rfl, rfl⟩ := h
      refine ⟨rfl, rfl, create_limit hc, ?_, ?_, by simp⟩
      · simp [(create_some hc).1]
      · intro x hx
        exact create_entry_other hc (by intro hxq; exact hx (by rw [hxq]))

theorem openOpt_handle {w w' : World} {p : Option Path} {lg : Option Handle} (h : openOpt w p = some (w', lg))
    {g : Handle} (hg : lg = some g) : p = some g.path := by
  obtain ⟨_, _, _, hl, _⟩ := openOpt_some h
  subst hl
  cases p with
  | none => cases hg
  | some q => cases hg; rfl

theorem openOpt_regular {w : World} {p : Path} (h : Regular w.fs p) :
    openOpt w (some p) = some ({ w with fs := w.fs.set p (.file []) }, some ⟨p, 0⟩) := by
  simp only [openOpt, create_regular h]

theorem cyborg_only {f : Flags} (hg : groupCount f ≤ 1) (hc : f.cyborg = true) :
    f.human = false ∧ f.json = false ∧ f.dump = false := by
  have off : ∀ {b : Bool}, b2n b = 0 → b = false := by
    intro b
    cases b <;> simp [b2n]
  have hc1 : b2n f.cyborg = 1 := by rw [hc]; rfl
  unfold groupCount at hg
  exact ⟨off (by omega), off (by omega), off (by omega)⟩

def soleRep (f : Flags) (reps : Reports) : Rep :=
  if f.dump then dumpRep f reps else if f.json then jsonRep f reps else humanRep f reps

theorem primaryBytes_sole {f : Flags} (reps : Reports) (hc : f.cyborg = false) :
    primaryBytes f reps = (soleRep f reps).bytes := by
  unfold primaryBytes soleRep
  cases hd : f.dump with
  | true => simp
  | false => cases hj : f.json <;> simp [humanOn, jsonOn, hc, hd, hj]

theorem primaryBytes_cyborg {f : Flags} (reps : Reports) (hc : f.cyborg = true) (hd : f.dump = false) :
    primaryBytes f reps = (humanRep f reps).bytes := by
  simp [primaryBytes, hd, humanOn, jsonOn, hc]

def exitOf (f : Flags) (i : Input) : Nat :=
  match cli f i with
  | .usage => 2
  | .exit1 => 1
  | .exit0 _ _ => 0

/-- the diagnostic of the two validity tests `main_result` makes on the options (`none`: they pass) -/
def optsDiag (f : Flags) : Option Diag :=
  if f.pretty && !jsonOn f then some .prettyInvalid
  else if f.brief && !(humanOn f || f.dump) then some .briefInvalid
  else none

theorem exitOf_eq (f : Flags) (i : Input) :
    exitOf f i =
      if groupCount f > 1 then 2
      else match optsDiag f with
        | some _ => 1
        | none =>
          if i = .unreadable then 1
          else if f.dump then 0
          else if i = .unprocessable then 1 else 0 := by
  unfold exitOf cli optsDiag humanOn jsonOn
  by_cases h1 : groupCount f > 1
  · simp only [h1, if_true]
  by_cases h2 : (f.pretty && !(if f.cyborg = true then true else f.json)) = true
  · simp only [h1, h2, if_true, if_false]
  by_cases h3 : (f.brief && !((if f.cyborg = true then true else !f.json && !f.dump) || f.dump)) = true
  · simp only [h1, h2, h3, if_true, if_false, Bool.false_eq_true]
  simp only [h1, h2, h3, if_false, Bool.false_eq_true]
  cases i with
  | unreadable => rfl
  | unprocessable => cases f.dump <;> rfl
  | ok => cases f.dump <;> cases f.cyborg <;> rfl

theorem accepted_iff (f : Flags) : exitOf f .ok = 0 ↔ groupCount f ≤ 1 ∧ optsDiag f = none := by
  rw [exitOf_eq]
  by_cases h1 : groupCount f > 1
  · simp [h1]; omega
  · cases optsDiag f <;> cases f.dump <;> simp [h1] <;> omega

/-! ### `afterOpen` by mode

Once both files are open there are three courses: no report at all (`Stops`); outside cyborg mode ONE
report — raw dump, JSON or human — on the primary; in cyborg mode the human report on the primary and
then the JSON report on the cyborg file. Every later statement about reports goes through these. -/

abbrev Stops (cfg : Cfg) (inp : Input) : Prop :=
  cfg.flags.dump = false ∧ (inp = .unprocessable ∨ cfg.localUnsupported = true)

theorem afterOpen_stops {cfg : Cfg} {inp : Input} (h : Stops cfg inp) (render : Diag → Bytes) (reps : Reports)
    (human json : Bool) (lg cy : Option Handle) (out : Writer) (w : World) :
    afterOpen render cfg inp reps human json lg cy out w = finish 1 (logErr render cfg w lg
      (if inp = .unprocessable then .processError else .localDebuginfoError)) := by
  obtain ⟨hd, h⟩ := h
  unfold afterOpen
  cases inp with
  | unprocessable => simp only [hd, Bool.false_eq_true, if_false, if_true]
  | unreadable | ok => simp only [hd, h.resolve_left (by simp), Bool.false_eq_true, if_false, if_true, reduceCtorEq]

theorem afterOpen_goes {cfg : Cfg} {inp : Input} (h : ¬ Stops cfg inp) (render : Diag → Bytes) (reps : Reports)
    (human json : Bool) (lg cy : Option Handle) (out : Writer) (w : World) :
    afterOpen render cfg inp reps human json lg cy out w =
      if cfg.flags.dump then
        doneThen (emit w out (dumpRep cfg.flags reps)).1 (emit w out (dumpRep cfg.flags reps)).2.2
          (emit w out (dumpRep cfg.flags reps)).2.1
      else writeReports cfg.flags reps human json cy out w := by
  unfold afterOpen
  cases hd : cfg.flags.dump with
  | true => rfl
  | false =>
    have hi : inp ≠ .unprocessable := fun hi => h ⟨hd, Or.inl hi⟩
    have hl : cfg.localUnsupported = false := by
      cases hl : cfg.localUnsupported with
      | false => rfl
      | true => exact absurd ⟨hd, Or.inr hl⟩ h
    cases inp with
    | unprocessable => exact absurd rfl hi
    | unreadable | ok => simp only [hl, Bool.false_eq_true, if_false]

theorem afterOpen_sole {cfg : Cfg} {inp : Input} (h : ¬ Stops cfg inp) (hc : cfg.flags.cyborg = false)
    (render : Diag → Bytes) (reps : Reports) (lg : Option Handle) (out : Writer) (w : World) :
    afterOpen render cfg inp reps (humanOn cfg.flags) (jsonOn cfg.flags) lg none out w =
      doneThen (emit w out (soleRep cfg.flags reps)).1 (emit w out (soleRep cfg.flags reps)).2.2
        (emit w out (soleRep cfg.flags reps)).2.1 := by
  rw [afterOpen_goes h]
  unfold soleRep
  cases hd : cfg.flags.dump with
  | true => rfl
  | false =>
    have hh : humanOn cfg.flags = !cfg.flags.json := by simp [humanOn, hc, hd]
    have hj : jsonOn cfg.flags = cfg.flags.json := by simp [jsonOn, hc]
    simp only [Bool.false_eq_true, if_false, writeReports, hh, hj]
    cases cfg.flags.json with
    | true => rfl
    | false =>
      simp only [emitIf, Bool.not_false, if_true, writeJson, Bool.false_eq_true, if_false]
      cases (emit w out (humanRep cfg.flags reps)).2.2 <;> rfl

theorem afterOpen_cyborg {cfg : Cfg} {inp : Input} (h : ¬ Stops cfg inp) (hc : cfg.flags.cyborg = true)
    (hd : cfg.flags.dump = false)
    (render : Diag → Bytes) (reps : Reports) (lg : Option Handle) (g : Handle) (out : Writer) (w : World) :
    (∀ k, (emit w out (humanRep cfg.flags reps)).2.2 = some k →
      afterOpen render cfg inp reps (humanOn cfg.flags) (jsonOn cfg.flags) lg (some g) out w
        = failWith (emit w out (humanRep cfg.flags reps)).1 k) ∧
    ((emit w out (humanRep cfg.flags reps)).2.2 = none →
      afterOpen render cfg inp reps (humanOn cfg.flags) (jsonOn cfg.flags) lg (some g) out w =
        doneThen (emit (emit w out (humanRep cfg.flags reps)).1 (.file g) (jsonRep cfg.flags reps)).1
          (emit (emit w out (humanRep cfg.flags reps)).1 (.file g) (jsonRep cfg.flags reps)).2.2
          (emit w out (humanRep cfg.flags reps)).2.1) := by
  rw [afterOpen_goes h]
  simp only [hd, Bool.false_eq_true, if_false, writeReports, humanOn, jsonOn, hc, if_true, emitIf, writeJson]
  exact ⟨fun k hk => by rw [hk], fun hk => by rw [hk]; rfl⟩

/-! ### what the primary output holds

File and standard output as primary differ only in how "the bytes handed to it so far" are read off
the world; `Holds` and `Seen` hide that difference, `emit_holds` is the one step. The cyborg file is a second
writer of the same kind, and a report or a logged diagnostic that goes to one file leaves what another writer
holds alone (`emit_holds_other`, `logErr_holds`). -/

def Stdout.total (s : Stdout) : Bytes := s.out ++ s.buf

def Writer.path? : Writer → Option Path
  | .stdout => none
  | .file h => some h.path

def Holds (w : World) (out : Writer) (c : Bytes) : Prop :=
  match out with
  | .stdout => w.stdout.cap = none ∧ w.stdout.total = c
  | .file h => Clean w.fs h c

def Unlimited (w : World) : Writer → Prop
  | .stdout => True
  | .file h => w.fs.limit h.path = none

def Seen (r : Result) (t : Option Path) (c : Bytes) : Prop :=
  match t with
  | none => r.world.stdout.out = c
  | some p => r.world.fs.entry p = .file c

/-- what the report stage leaves on the primary `t`, which held `c0` before: a prefix of the bytes due on
    it. Status 0: all of them, and (given `cyGood`) the cyborg file `cp` holds exactly the JSON report.
    Another status and (given `unl`) no size limit on the primary: nothing — or, in cyborg mode only, the
    complete human report (the JSON write to the cyborg file failed afterwards). -/
def Due (f : Flags) (reps : Reports) (r : Result) (t : Option Path) (c0 : Bytes) (cp : Path)
    (cyGood unl : Prop) : Prop :=
  ∃ k, Seen r t (c0 ++ (primaryBytes f reps).take k) ∧
    (r.exit = 0 → (primaryBytes f reps).length ≤ k ∧
      (cyGood → r.world.fs.entry cp = .file (jsonRep f reps).bytes)) ∧
    (r.exit ≠ 0 → unl → k = 0 ∨ (f.cyborg = true ∧ (primaryBytes f reps).take k = (humanRep f reps).bytes))

theorem Due.imp {f : Flags} {reps : Reports} {r : Result} {t : Option Path} {c0 : Bytes} {cp : Path}
    {a a' u u' : Prop} (h : Due f reps r t c0 cp a u) (ha : a' → a) (hu : u' → u) :
    Due f reps r t c0 cp a' u' := by
  obtain ⟨k, hs, h0, hn⟩ := h
  exact ⟨k, hs, fun e => ⟨(h0 e).1, fun x => (h0 e).2 (ha x)⟩, fun e x => hn e (hu x)⟩

theorem emit_file (w : World) (h : Handle) (r : Rep) :
    emit w (.file h) r = ((emitFile w h r).1, .file (emitFile w h r).2.1, (emitFile w h r).2.2) := rfl

theorem emit_stdout (w : World) (r : Rep) :
    emit w .stdout r = ({ w with stdout := (w.stdout.write r).1 }, .stdout, (w.stdout.write r).2) := rfl

theorem emit_path (w : World) (out : Writer) (r : Rep) : (emit w out r).2.1.path? = out.path? := by
  cases out with
  | stdout => rfl
  | file h => exact congrArg some (write_path _ _ _)

theorem emit_holds {w : World} {out : Writer} {c : Bytes} (h : Holds w out c) (r : Rep) :
    ∃ k, k ≤ r.bytes.length ∧ Holds (emit w out r).1 (emit w out r).2.1 (c ++ r.bytes.take k) ∧
      (emit w out r).2.2 = (if k = r.bytes.length then none else some .other) ∧
      (Unlimited w out → k = r.bytes.length) := by
  cases out with
  | stdout =>
    obtain ⟨he, hh, ht⟩ := stdout_write_healthy w.stdout r h.1
    refine ⟨r.bytes.length, Nat.le_refl _, ⟨hh, ?_⟩, by rw [if_pos rfl]; exact he, fun _ => rfl⟩
    rw [List.take_length, ← h.2]; exact ht
  | file g =>
    obtain ⟨k, hk, hcl, hiff, hr⟩ := write_clean h r.bytes
    refine ⟨k, hk, hcl, ?_, fun hl => ?_⟩
    · show (if (w.fs.write g r.bytes).2.2 = true then none else some ErrKind.other) = _
      by_cases hkk : k = r.bytes.length
      · rw [if_pos (hiff.mpr hkk), if_pos hkk]
      · rw [if_neg (fun h => hkk (hiff.mp h)), if_neg hkk]
    · rw [hr, show w.fs.limit g.path = none from hl]; rfl

theorem emit_holds_other {w : World} {o : Writer} {c : Bytes} (h : Holds w o c) (out : Writer) (r : Rep)
    (hne : o.path? ≠ out.path?) : Holds (emit w out r).1 o c := by
  cases out with
  | stdout =>
    cases o with
    | stdout => exact absurd rfl hne
    | file g => exact h
  | file g =>
    cases o with
    | stdout => exact h
    | file g' => exact clean_write_other h r.bytes (fun e => hne (congrArg some e))

/-- a logged diagnostic is a write to a third file, its result ignored -/
theorem logErr_holds {w : World} {o : Writer} {c : Bytes} (h : Holds w o c) (render : Diag → Bytes) (cfg : Cfg)
    {lg : Option Handle} (hlg : ∀ g, lg = some g → o.path? ≠ some g.path) (d : Diag) :
    Holds (logErr render cfg w lg d) o c := by
  unfold logErr
  split
  · exact h
  · split
    · cases o <;> exact h
    · rename_i g
      exact emit_holds_other h (.file g) ⟨render d, 0⟩ (hlg g rfl)

theorem seen_of_holds {w : World} {out : Writer} {c : Bytes} (h : Holds w out c) {r : Result}
    (hfs : r.world.fs = w.fs) (hso : r.world.stdout = w.stdout.atExit) : Seen r out.path? c := by
  cases out with
  | stdout => show r.world.stdout.out = c; rw [hso, stdout_atExit_healthy _ h.1]; exact h.2
  | file g => show r.world.fs.entry g.path = .file c; rw [hfs]; exact h.1

theorem doneThen_holds {w : World} {out : Writer} {c : Bytes} (h : Holds w out c) (e : Option ErrKind) :
    doneThen w e out = done w e := by
  cases out with
  | stdout =>
    cases e with
    | none => exact finishOk_healthy w h.1
    | some k => rfl
  | file g => exact doneThen_file w e g

variable {render : Diag → Bytes} {cfg : Cfg} {inp : Input} {reps : Reports}

theorem afterOpen_seen {lg cy : Option Handle} {out : Writer} {w : World} {c0 : Bytes}
    (hold : Holds w out c0) (hgrp : groupCount cfg.flags ≤ 1)
    (hcy : cy = if cfg.flags.cyborg then some ⟨cfg.cyborgPath, 0⟩ else none)
    (hne : cfg.flags.cyborg = true → out.path? ≠ some cfg.cyborgPath)
    (hlg : ∀ g, lg = some g → out.path? ≠ some g.path)
    {r : Result} (hr : r = afterOpen render cfg inp reps (humanOn cfg.flags) (jsonOn cfg.flags) lg cy out w) :
    Due cfg.flags reps r out.path? c0 cfg.cyborgPath
      (cfg.flags.cyborg = true ∧ w.fs.entry cfg.cyborgPath = .file []) (Unlimited w out) := by
  by_cases hst : Stops cfg inp
  · rw [afterOpen_stops hst] at hr; subst hr
    refine ⟨0, ?_, fun h0 => absurd h0 (by simp), fun _ _ => Or.inl rfl⟩
    rw [List.take_zero, List.append_nil]
    exact seen_of_holds (logErr_holds hold render cfg hlg _) rfl rfl
  rcases Bool.eq_false_or_eq_true cfg.flags.cyborg with hc | hc
  · -- cyborg mode: the human report to the primary, then the JSON report to the cyborg file, a second writer
    obtain ⟨_, _, hd⟩ := cyborg_only hgrp hc
    rw [if_pos hc] at hcy; subst hcy
    replace hne := hne hc
    unfold Due
    rw [primaryBytes_cyborg reps hc hd, ← emit_path w out (humanRep cfg.flags reps)]
    obtain ⟨k, hk, hold1, he, hun⟩ := emit_holds hold (humanRep cfg.flags reps)
    by_cases hkk : k = (humanRep cfg.flags reps).bytes.length
    · rw [if_pos hkk] at he
      rw [(afterOpen_cyborg hst hc hd ..).2 he] at hr
      have hold2 := emit_holds_other hold1 (.file ⟨cfg.cyborgPath, 0⟩) (jsonRep cfg.flags reps)
        (by rw [emit_path]; exact hne)
      rw [doneThen_holds hold2] at hr; subst hr
      refine ⟨k, seen_of_holds hold2 (done_fs _ _) (done_stdout _ _), ?_,
        fun _ _ => Or.inr ⟨hc, by rw [hkk, List.take_length]⟩⟩
      intro h0
      refine ⟨by omega, fun ⟨_, hcl⟩ => ?_⟩
      obtain ⟨k2, _, hcl2, he2, _⟩ := emit_holds
        (emit_holds_other (o := .file ⟨cfg.cyborgPath, 0⟩) ⟨hcl, rfl⟩ out (humanRep cfg.flags reps) (Ne.symm hne))
        (jsonRep cfg.flags reps)
      rw [he2] at h0
      by_cases hk2 : k2 = (jsonRep cfg.flags reps).bytes.length
      · rw [hk2, List.take_length, List.nil_append] at hcl2
        show Seen _ (Writer.file ⟨cfg.cyborgPath, 0⟩).path? _
        rw [← emit_path (emit w out (humanRep cfg.flags reps)).1 _ (jsonRep cfg.flags reps)]
        exact seen_of_holds hcl2 (done_fs _ _) (done_stdout _ _)
      · rw [if_neg hk2] at h0; exact absurd h0 (by simp)
    · rw [if_neg hkk] at he
      rw [(afterOpen_cyborg hst hc hd ..).1 _ he] at hr; subst hr
      exact ⟨k, seen_of_holds hold1 (failWith_fs _ _) (failWith_stdout _ _),
        fun h0 => absurd h0 (by simp), fun _ hu => absurd (hun hu) hkk⟩
  · -- one report
    rw [if_neg (by simp [hc])] at hcy; subst hcy
    rw [afterOpen_sole hst hc] at hr
    obtain ⟨k, hk, hold1, he, hun⟩ := emit_holds hold (soleRep cfg.flags reps)
    rw [doneThen_holds hold1, he] at hr; subst hr
    unfold Due
    rw [primaryBytes_sole reps hc]
    refine ⟨k, by rw [← emit_path w out]; exact seen_of_holds hold1 (done_fs _ _) (done_stdout _ _), ?_, ?_⟩
    · intro h0
      by_cases hkk : k = (soleRep cfg.flags reps).bytes.length
      · exact ⟨by omega, fun ⟨hc', _⟩ => by rw [hc] at hc'; cases hc'⟩
      · rw [if_neg hkk] at h0; exact absurd h0 (by simp)
    · intro hne hu
      rw [if_pos (hun hu)] at hne; exact absurd rfl hne

def PrimaryOk (w : World) : Option Path → Prop
  | none => w.stdout.cap = none
  | some p => Regular w.fs p

/-- what the primary holds before the first report: a file is truncated -/
def startOf (w : World) : Option Path → Bytes
  | none => w.stdout.total
  | some _ => []

theorem primaryOk_of_frame {w w' : World} {t : Option Path} (h : PrimaryOk w t) (hso : w'.stdout = w.stdout)
    (hent : ∀ p, t = some p → w'.fs.entry p = w.fs.entry p) : PrimaryOk w' t := by
  cases t with
  | none => show w'.stdout.cap = none; rw [hso]; exact h
  | some p => exact regular_of_entry_eq (hent p rfl) h

theorem startOf_congr {w w' : World} (hso : w'.stdout = w.stdout) (t : Option Path) : startOf w' t = startOf w t := by
  cases t with
  | none => show w'.stdout.total = w.stdout.total; rw [hso]
  | some p => rfl

theorem openPrimary_holds {w : World} {t : Option Path} (h : PrimaryOk w t) :
    ∃ w2 out, openPrimary w t = some (w2, out) ∧ Holds w2 out (startOf w t) ∧ out.path? = t ∧
      w2.fs.limit = w.fs.limit ∧ ∀ q, t ≠ some q → w2.fs.entry q = w.fs.entry q := by
  cases t with
  | none => exact ⟨w, .stdout, rfl, ⟨h, rfl⟩, rfl, rfl, fun _ _ => rfl⟩
  | some p =>
    refine ⟨{ w with fs := w.fs.set p (.file []) }, .file ⟨p, 0⟩, ?_, ⟨Fs.set_entry_same _ _ _, rfl⟩, rfl, rfl,
      fun q hq => Fs.set_entry_other _ _ _ _ (fun e => hq (by rw [e]))⟩
    simp only [openPrimary, create_regular h]

theorem emitReports_seen {lg : Option Handle} {w : World}
    (hgrp : groupCount cfg.flags ≤ 1) (hprim : PrimaryOk w cfg.outputFile)
    (hcy : cfg.flags.cyborg = true → cfg.outputFile ≠ some cfg.cyborgPath)
    (hlg : ∀ g, lg = some g → cfg.outputFile ≠ some g.path)
    {r : Result} (hr : r = emitReports render cfg inp reps (humanOn cfg.flags) (jsonOn cfg.flags) lg w) :
    (r.exit ≠ 0 ∧ r.world.stdout = w.stdout.atExit ∧ r.world.fs = w.fs) ∨
    Due cfg.flags reps r cfg.outputFile (startOf w cfg.outputFile) cfg.cyborgPath
      (cfg.flags.cyborg = true ∧ Regular w.fs cfg.cyborgPath)
      (∀ p, cfg.outputFile = some p → w.fs.limit p = none) := by
  unfold emitReports at hr
  cases hco : openOpt w (if cfg.flags.cyborg = true then some cfg.cyborgPath else none) with
  | none => rw [hco] at hr; subst hr; exact Or.inl ⟨by simp, by simp, by simp⟩
  | some x =>
    obtain ⟨w1, cy⟩ := x
    obtain ⟨hso, _, hlim, hcy', hent, _⟩ := openOpt_some hco
    have hprim1 : PrimaryOk w1 cfg.outputFile := by
      refine primaryOk_of_frame hprim hso (fun p hp => hent p ?_)
      split
      · rename_i hc; exact fun e => hcy hc (by rw [hp, e])
      · exact fun e => by cases e
    obtain ⟨w2, out, hop, hold, hpath, hlim2, hent2⟩ := openPrimary_holds hprim1
    rw [hco] at hr
    simp only [hop] at hr
    have hdue := afterOpen_seen hold hgrp (by rw [hcy']; split <;> rfl) (by rw [hpath]; exact hcy)
      (by rw [hpath]; exact hlg) hr
    rw [hpath, startOf_congr hso] at hdue
    refine Or.inr (hdue.imp (fun ⟨hc, hrc⟩ => ?_) (fun hl => ?_))
    · -- the cyborg file was created (truncated) first and the creation of the primary left it alone
      rw [if_pos hc, openOpt_regular hrc] at hco
      cases hco
      exact ⟨hc, by rw [hent2 _ (hcy hc)]; simp⟩
    · cases out with
      | stdout => trivial
      | file h => show w2.fs.limit h.path = none; rw [hlim2, hlim]; exact hl _ hpath.symm

variable (render) (cfg) (inp) (reps) (w : World)

theorem run_eq (hmd : cfg.helpMarkdown = false) {w0 : World} {lg : Option Handle}
    (hlo : openOpt w cfg.logFile = some (w0, lg)) :
    run render cfg inp reps w =
      if groupCount cfg.flags > 1 then finish 2 { w with stderr := w.stderr ++ [.usage] }
      else match optsDiag cfg.flags with
        | some d => finish 1 (logErr render cfg w0 lg d)
        | none =>
          if inp = .unreadable then finish 1 (logErr render cfg w0 lg .readError)
          else emitReports render cfg inp reps (humanOn cfg.flags) (jsonOn cfg.flags) lg w0 := by
  unfold run optsDiag
  simp only [hmd, hlo, b2n, Bool.false_eq_true, if_false, Nat.add_zero]
  split
  · rfl
  split
  · rfl
  split
  · rfl
  cases inp <;> rfl

theorem run_accepted (hacc : exitOf cfg.flags .ok = 0) (hmd : cfg.helpMarkdown = false)
    (hlog : cfg.logFile = none) (hin : inp ≠ .unreadable) :
    run render cfg inp reps w
      = emitReports render cfg inp reps (humanOn cfg.flags) (jsonOn cfg.flags) none w := by
  obtain ⟨hg, hd⟩ := (accepted_iff cfg.flags).mp hacc
  rw [run_eq render cfg inp reps w hmd (show openOpt w cfg.logFile = some (w, none) by rw [hlog]; rfl),
    if_neg (by omega), hd, if_neg hin]

theorem run_cases (hmd : cfg.helpMarkdown = false) :
    (∃ c w', c ≠ 0 ∧ run render cfg inp reps w = finish c w' ∧ w'.stdout = w.stdout ∧
        ∀ q, cfg.logFile ≠ some q → w'.fs.entry q = w.fs.entry q) ∨
    (∃ w0 lg, openOpt w cfg.logFile = some (w0, lg) ∧ groupCount cfg.flags ≤ 1 ∧ inp ≠ .unreadable ∧
        run render cfg inp reps w
          = emitReports render cfg inp reps (humanOn cfg.flags) (jsonOn cfg.flags) lg w0) := by
  by_cases hg : groupCount cfg.flags > 1
  · refine Or.inl ⟨2, { w with stderr := w.stderr ++ [.usage] }, by simp, ?_, rfl, fun _ _ => rfl⟩
    simp only [run, hmd, b2n, Bool.false_eq_true, if_false, Nat.add_zero, hg, if_true]
  cases hlo : openOpt w cfg.logFile with
  | none =>
    refine Or.inl ⟨1, { w with stderr := w.stderr ++ [.ioError] }, by simp, ?_, rfl, fun _ _ => rfl⟩
    simp only [run, hmd, b2n, Bool.false_eq_true, if_false, Nat.add_zero, hg, hlo]
    rfl
  | some x =>
    obtain ⟨w0, lg⟩ := x
    obtain ⟨hso, _, _, _, hent, _⟩ := openOpt_some hlo
    have early : ∀ d, ∃ c w', c ≠ 0 ∧ finish 1 (logErr render cfg w0 lg d) = finish c w' ∧ w'.stdout = w.stdout ∧
        ∀ q, cfg.logFile ≠ some q → w'.fs.entry q = w.fs.entry q := fun d =>
      ⟨1, _, by simp, rfl, by rw [logErr_stdout, hso], fun q hq => by
        rw [logErr_entry_other render cfg w0 lg d q
          (fun g hg' e => hq (by rw [openOpt_handle hlo hg', e])), hent q hq]⟩
    rw [run_eq render cfg inp reps w hmd hlo, if_neg hg]
    cases optsDiag cfg.flags with
    | some d => exact Or.inl (early d)
    | none =>
      by_cases hin : inp = .unreadable
      · rw [if_pos hin]; exact Or.inl (early _)
      · rw [if_neg hin]; exact Or.inr ⟨w0, lg, rfl, by omega, hin, rfl⟩

theorem run_seen (hmd : cfg.helpMarkdown = false) (hprim : PrimaryOk w cfg.outputFile)
    (hlog : ∀ p, cfg.outputFile = some p → cfg.logFile ≠ some p)
    (hcy : cfg.flags.cyborg = true → cfg.outputFile ≠ some cfg.cyborgPath)
    {r : Result} (hr : r = run render cfg inp reps w) :
    (r.exit ≠ 0 ∧ r.world.stdout = w.stdout.atExit ∧
      ∀ q, cfg.logFile ≠ some q → r.world.fs.entry q = w.fs.entry q) ∨
    Due cfg.flags reps r cfg.outputFile (startOf w cfg.outputFile) cfg.cyborgPath
      (cfg.flags.cyborg = true ∧ Regular w.fs cfg.cyborgPath ∧ cfg.logFile ≠ some cfg.cyborgPath)
      (∀ p, cfg.outputFile = some p → w.fs.limit p = none) := by
  rcases run_cases render cfg inp reps w hmd with ⟨c, w', hc, hrun, hso, hent⟩ | ⟨w0, lg, hlo, hgrp, _, hrun⟩
  · rw [hrun] at hr; subst hr
    exact Or.inl ⟨hc, by rw [finish_stdout, hso], fun q hq => by rw [finish_fs]; exact hent q hq⟩
  · obtain ⟨hso, _, hlim, _, hent, _⟩ := openOpt_some hlo
    rw [hrun] at hr
    rcases emitReports_seen hgrp (primaryOk_of_frame hprim hso (fun p hp => hent p (hlog p hp))) hcy
      (fun g hg e => hlog _ e (openOpt_handle hlo hg)) hr with ⟨hne, hs, hf⟩ | h
    · exact Or.inl ⟨hne, by rw [hs, hso], fun q hq => by rw [hf]; exact hent q hq⟩
    · rw [startOf_congr hso] at h
      exact Or.inr (h.imp (fun ⟨hc, hrc, hlc⟩ => ⟨hc, regular_of_entry_eq (hent _ hlc) hrc⟩)
        (fun hl p hp => by rw [hlim]; exact hl p hp))

theorem run_seen_file {p : Path} (hmd : cfg.helpMarkdown = false) (hp : cfg.outputFile = some p)
    (hreg : Regular w.fs p) (hlog : cfg.logFile ≠ some p) (hcy : cfg.flags.cyborg = true → cfg.cyborgPath ≠ p) :
    ((run render cfg inp reps w).exit ≠ 0 ∧ (run render cfg inp reps w).world.fs.entry p = w.fs.entry p) ∨
    Due cfg.flags reps (run render cfg inp reps w) (some p) [] cfg.cyborgPath
      (cfg.flags.cyborg = true ∧ Regular w.fs cfg.cyborgPath ∧ cfg.logFile ≠ some cfg.cyborgPath)
      (w.fs.limit p = none) := by
  rcases run_seen render cfg inp reps w hmd (by rw [hp]; exact hreg)
    (fun q hq => by rw [hp] at hq; cases hq; exact hlog)
    (fun hc e => hcy hc (by rw [hp] at e; cases e; rfl)) rfl with ⟨hne, _, hent⟩ | h
  · exact Or.inl ⟨hne, hent p hlog⟩
  · rw [hp] at h
    exact Or.inr (h.imp id (fun hl q hq => by cases hq; exact hl))

theorem run_seen_stdout (hmd : cfg.helpMarkdown = false) (hp : cfg.outputFile = none)
    (hs : w.stdout.cap = none) (he : w.stdout.out = [] ∧ w.stdout.buf = []) :
    ((run render cfg inp reps w).exit ≠ 0 ∧ (run render cfg inp reps w).world.stdout.out = []) ∨
    Due cfg.flags reps (run render cfg inp reps w) none [] cfg.cyborgPath
      (cfg.flags.cyborg = true ∧ Regular w.fs cfg.cyborgPath ∧ cfg.logFile ≠ some cfg.cyborgPath) True := by
  rcases run_seen render cfg inp reps w hmd (by rw [hp]; exact hs) (fun q hq => by rw [hp] at hq; cases hq)
    (fun _ e => by rw [hp] at e; cases e) rfl with ⟨hne, hso, _⟩ | h
  · exact Or.inl ⟨hne, by rw [hso, stdout_atExit_healthy _ hs, he.1, he.2]; rfl⟩
  · rw [hp, show startOf w none = [] by simp [startOf, Stdout.total, he.1, he.2]] at h
    exact Or.inr (h.imp id (fun _ q hq => by cases hq))

/-- a non-cyborg run on a processable file, no `--log-file`, no `--output-file`, options accepted, is one
    `write` of the sole report, then `output.flush()?`, then `main`'s error handling. Into a standard output
    that starts empty and accepts `c` bytes: the first `c` bytes of the report are what it holds in the end;
    a report longer than that is an error — seen by the `write` or, when only the pending tail does not fit,
    by the explicit `flush()` — that `main` reports unless it is a broken pipe -/
theorem run_sole_bounded (c : Nat)
    (hacc : exitOf cfg.flags .ok = 0) (hc : cfg.flags.cyborg = false) (hmd : cfg.helpMarkdown = false)
    (hlu : cfg.localUnsupported = false) (hlog : cfg.logFile = none) (hout : cfg.outputFile = none)
    (he : w.stdout.out = [] ∧ w.stdout.buf = []) (hcap : w.stdout.cap = some c) :
    (run render cfg .ok reps w).world.stdout.out = (soleRep cfg.flags reps).bytes.take c ∧
    (c < (soleRep cfg.flags reps).bytes.length →
      (w.stdout.kind = .other →
        (run render cfg .ok reps w).exit = 1 ∧ (run render cfg .ok reps w).world.stderr = w.stderr ++ [.ioError]) ∧
      (w.stdout.kind = .brokenPipe →
        (run render cfg .ok reps w).exit = 0 ∧ (run render cfg .ok reps w).world.stderr = w.stderr)) := by
  rw [run_accepted render cfg .ok reps w hacc hmd hlog (by simp)]
  simp only [emitReports, hc, Bool.false_eq_true, if_false, openOpt, hout, openPrimary]
  rw [afterOpen_sole (fun hst => by simpa [hlu] using hst.2) hc, emit_stdout]
  refine ⟨(doneThen_stdout_out _ _).trans (stdout_write_atExit _ _ c he hcap), fun hshort => ?_⟩
  have hfail : ∃ s', doneThen { w with stdout := (w.stdout.write (soleRep cfg.flags reps)).1 }
      (w.stdout.write (soleRep cfg.flags reps)).2 .stdout = failWith { w with stdout := s' } w.stdout.kind := by
    rw [stdout_write_empty _ _ c he hcap]
    by_cases hfit : (soleRep cfg.flags reps).bytes.length
        - min (soleRep cfg.flags reps).pend (soleRep cfg.flags reps).bytes.length ≤ c
    · rw [if_pos hfit]
      simp only [doneThen, finishOk, flushPrimary, Stdout.flush, Stdout.room, hcap, List.length_take, List.length_drop]
      rw [if_neg (by omega)]
      exact ⟨_, rfl⟩
    · rw [if_neg hfit]
      exact ⟨_, rfl⟩
  obtain ⟨s', hs'⟩ := hfail
  rw [hs']
  exact ⟨fun hk => by rw [hk]; exact ⟨rfl, rfl⟩, fun hk => by rw [hk]; exact ⟨rfl, rfl⟩⟩

/-- both files are created (TRUNCATED) before the dump is processed, so a run that `Stops` (accepted
    options, no `--log-file`) leaves the `--output-file` and the `--cyborg` file EMPTY, whatever they
    held before; status 1, nothing on standard output -/
theorem run_stops_truncates (p : Path) (hst : Stops cfg inp) (hin : inp ≠ .unreadable)
    (hacc : exitOf cfg.flags .ok = 0) (hmd : cfg.helpMarkdown = false)
    (hlog : cfg.logFile = none) (hout : cfg.outputFile = some p) (hreg : Regular w.fs p)
    (hcy : cfg.flags.cyborg = true → Regular w.fs cfg.cyborgPath) :
    (run render cfg inp reps w).exit = 1 ∧
    (run render cfg inp reps w).world.fs.entry p = .file [] ∧
    (cfg.flags.cyborg = true → (run render cfg inp reps w).world.fs.entry cfg.cyborgPath = .file []) ∧
    (run render cfg inp reps w).world.stdout = w.stdout.atExit := by
  rw [run_accepted render cfg inp reps w hacc hmd hlog hin]
  unfold emitReports
  by_cases hc : cfg.flags.cyborg = true
  · rw [if_pos hc, openOpt_regular (hcy hc)]
    simp only [hout, openPrimary, create_regular (regular_set_file _ _ _ _ hreg), afterOpen_stops hst,
      finish_exit, finish_fs, finish_stdout, logErr_stdout, logErr_none_fs]
    refine ⟨trivial, by simp, fun _ => ?_, trivial⟩
    by_cases hpe : cfg.cyborgPath = p
    · rw [hpe]; simp
    · rw [Fs.set_entry_other _ _ _ _ hpe]; simp
  · simp only [if_neg hc, openOpt, hout, openPrimary, create_regular hreg, afterOpen_stops hst,
      finish_exit, finish_fs, finish_stdout, logErr_stdout, logErr_none_fs]
    exact ⟨trivial, by simp, fun h => absurd h hc, trivial⟩

theorem failWith_exit_le (w : World) (k : ErrKind) : (failWith w k).exit ≤ 1 := by
  cases k
  · exact Nat.le_refl 1
  · exact Nat.zero_le 1

theorem doneThen_exit_le (w : World) (e : Option ErrKind) (out : Writer) : (doneThen w e out).exit ≤ 1 := by
  cases e with
  | some k => exact failWith_exit_le w k
  | none =>
    show (done _ (flushPrimary w out).2).exit ≤ 1
    cases (flushPrimary w out).2 with
    | none => exact Nat.zero_le 1
    | some k => exact failWith_exit_le _ k

theorem emitReports_exit_le (human json : Bool) (lg : Option Handle) (w : World) :
    (emitReports render cfg inp reps human json lg w).exit ≤ 1 := by
  unfold emitReports
  split
  · exact failWith_exit_le _ _
  split
  · exact failWith_exit_le _ _
  unfold afterOpen
  split
  · exact doneThen_exit_le _ _ _
  split
  · exact Nat.le_refl 1
  split
  · exact Nat.le_refl 1
  unfold writeReports
  split
  · exact failWith_exit_le _ _
  unfold writeJson
  split
  · split <;> exact doneThen_exit_le _ _ _
  · exact doneThen_exit_le _ none _

/-! ### the exit status when nothing fails

With `--cyborg p --output-file p` two handles write over each other, `Holds` is false, and the status is still the
table's. So the status has an invariant of its own, indifferent to offsets and content: what is written to is an
unlimited regular file or an unbounded standard output (`PathOk`, `WriterOk`). -/

def PathOk (fs : Fs) (p : Path) : Prop := (∃ c, fs.entry p = .file c) ∧ fs.limit p = none

def WriterOk (w : World) : Option Path → Prop
  | none => w.stdout.cap = none
  | some p => PathOk w.fs p

theorem pathOk_set (fs : Fs) (q p : Path) (c : Bytes) (hp : PathOk fs p) : PathOk (fs.set q (.file c)) p := by
  refine ⟨?_, hp.2⟩
  by_cases hpq : p = q
  · exact ⟨c, by rw [hpq, Fs.set_entry_same]⟩
  · rw [Fs.set_entry_other _ _ _ _ hpq]; exact hp.1

theorem pathOk_write (fs : Fs) (h : Handle) (bs : Bytes) (p : Path) (hp : PathOk fs p) :
    PathOk (fs.write h bs).1 p := by
  rcases write_fs fs h bs with e | ⟨c, e⟩ <;> rw [e]
  · exact hp
  · exact pathOk_set _ _ _ _ hp

theorem write_ok (fs : Fs) (h : Handle) (bs : Bytes) (hh : PathOk fs h.path) : (fs.write h bs).2.2 = true := by
  obtain ⟨⟨c, hc⟩, hl⟩ := hh
  unfold Fs.write
  rw [hc, hl]
  simp [room]

theorem emit_ok (w : World) (out : Writer) (r : Rep) (ho : WriterOk w out.path?) :
    (emit w out r).2.2 = none ∧ ∀ t, WriterOk w t → WriterOk (emit w out r).1 t := by
  cases out with
  | stdout =>
    obtain ⟨he, hh, _⟩ := stdout_write_healthy w.stdout r ho
    exact ⟨he, fun t ht => by cases t; exact hh; exact ht⟩
  | file h =>
    refine ⟨?_, fun t ht => by cases t; exact ht; exact pathOk_write _ _ _ _ ht⟩
    show (if (w.fs.write h r.bytes).2.2 = true then none else some ErrKind.other) = none
    rw [write_ok _ _ _ ho]; rfl

theorem finishOk_ok (w : World) (out : Writer) (ho : WriterOk w out.path?) : (finishOk w out).exit = 0 := by
  cases out with
  | stdout => rw [finishOk_healthy w ho]; rfl
  | file h => rfl

theorem afterOpen_exit_of_ok (lg cy : Option Handle) (out : Writer) (w : World)
    (hgrp : groupCount cfg.flags ≤ 1) (hcy : cy = if cfg.flags.cyborg then some ⟨cfg.cyborgPath, 0⟩ else none)
    (ho : WriterOk w out.path?) (hok : cfg.flags.cyborg = true → PathOk w.fs cfg.cyborgPath) :
    (afterOpen render cfg inp reps (humanOn cfg.flags) (jsonOn cfg.flags) lg cy out w).exit
      = if Stops cfg inp then 1 else 0 := by
  by_cases hst : Stops cfg inp
  · rw [if_pos hst, afterOpen_stops hst]; rfl
  rw [if_neg hst]
  rcases Bool.eq_false_or_eq_true cfg.flags.cyborg with hc | hc
  · rw [if_pos hc] at hcy; subst hcy
    obtain ⟨he, hg1⟩ := emit_ok w out (humanRep cfg.flags reps) ho
    obtain ⟨he2, hg2⟩ := emit_ok (emit w out (humanRep cfg.flags reps)).1 (.file ⟨cfg.cyborgPath, 0⟩)
      (jsonRep cfg.flags reps) (hg1 (some _) (hok hc))
    rw [(afterOpen_cyborg hst hc (cyborg_only hgrp hc).2.2 ..).2 he, he2]
    exact finishOk_ok _ _ (by rw [emit_path]; exact hg2 _ (hg1 _ ho))
  · rw [if_neg (by simp [hc])] at hcy; subst hcy
    obtain ⟨he, hg⟩ := emit_ok w out (soleRep cfg.flags reps) ho
    rw [afterOpen_sole hst hc, he]
    exact finishOk_ok _ _ (by rw [emit_path]; exact hg _ ho)

structure Healthy (cfg : Cfg) (w : World) : Prop where
  stdout : w.stdout.cap = none
  log : ∀ l, cfg.logFile = some l → Regular w.fs l
  cyborg : cfg.flags.cyborg = true → Regular w.fs cfg.cyborgPath ∧ w.fs.limit cfg.cyborgPath = none
  output : ∀ p, cfg.outputFile = some p → Regular w.fs p ∧ w.fs.limit p = none

theorem openOpt_healthy {cfg : Cfg} {w : World} (hw : Healthy cfg w) {p : Option Path}
    (hp : ∀ q, p = some q → Regular w.fs q) :
    ∃ w', openOpt w p = some (w', p.map (⟨·, 0⟩)) ∧ Healthy cfg w' ∧ ∀ q, p = some q → w'.fs.entry q = .file [] := by
  cases p with
  | none => exact ⟨w, rfl, hw, fun _ e => by cases e⟩
  | some q =>
    refine ⟨_, openOpt_regular (hp q rfl), ⟨hw.stdout, fun l hl => regular_set_file _ _ _ _ (hw.log l hl),
      fun hc => ⟨regular_set_file _ _ _ _ (hw.cyborg hc).1, (hw.cyborg hc).2⟩,
      fun o ho => ⟨regular_set_file _ _ _ _ (hw.output o ho).1, (hw.output o ho).2⟩⟩, fun _ e => ?_⟩
    cases e; exact Fs.set_entry_same _ _ _

theorem emitReports_exit_of_healthy (lg : Option Handle) (w : World) (hgrp : groupCount cfg.flags ≤ 1)
    (hw : Healthy cfg w) :
    (emitReports render cfg inp reps (humanOn cfg.flags) (jsonOn cfg.flags) lg w).exit
      = if Stops cfg inp then 1 else 0 := by
  unfold emitReports
  obtain ⟨w1, ho, hw1, hent⟩ := openOpt_healthy hw (p := if cfg.flags.cyborg then some cfg.cyborgPath else none)
    (fun q hq => by split at hq <;> cases hq; exact (hw.cyborg ‹_›).1)
  have hcyok : cfg.flags.cyborg = true → PathOk w1.fs cfg.cyborgPath :=
    fun hc => ⟨⟨[], hent _ (if_pos hc)⟩, (hw1.cyborg hc).2⟩
  rw [ho]
  cases hof : cfg.outputFile with
  | none => exact afterOpen_exit_of_ok render cfg inp reps lg _ .stdout w1 hgrp (by split <;> rfl) hw1.stdout hcyok
  | some p =>
    obtain ⟨hr, hl⟩ := hw1.output p hof
    simp only [openPrimary, create_regular hr]
    exact afterOpen_exit_of_ok render cfg inp reps lg _ _ _ hgrp (by split <;> rfl) ⟨⟨[], by simp⟩, hl⟩
      (fun hc => pathOk_set _ _ _ _ (hcyok hc))

end MdModel.Cli
