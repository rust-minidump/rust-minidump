/-
  TABLE FACTS for the real `CfiStackWalker` (C06 / C07 on top of C18): finite facts about the
  tables generated from context.rs / format.rs (`MdModel.Gen.Regs`) and from the six unwinder files
  (`MdModel.Gen.CfiWalkerConsts`), decided by the kernel. They are re-decided whenever a generated
  table changes: a callee-saved register that is not a register of its context type, a stack
  pointer name that is an alias, `Mips32Context` not sharing CONTEXT_MIPS's rules … makes one
  of them false and the build of C06 fails.
-/
import MdProofs.C18
import MdModel.CfiWalker
namespace MdModel.CfiWalker
open MdModel MdModel.Gen.Regs MdModel.Regs MdModel.Gen.CfiWalkerConsts

/-- `stack_pointer_register_name()` / `instruction_pointer_register_name()` are two different names
    of `REGISTERS`, hence canonical (`memoName_register`): what `set_cfa` / `set_ra` put into the
    validity set is what `memoize_register` would put -/
theorem sp_ip_registers (c : Ctx) :
    spName c ∈ registers c ∧ ipName c ∈ registers c ∧ spName c ≠ ipName c := by
  cases c <;> decide +kernel

/-- `Mips32Context` keeps every provided method of the trait; CONTEXT_MIPS — whose tables the model
    of `Mips32Context` uses — has the trait defaults too -/
theorem mips_rules_default :
    (match memoRule .MIPS with | .default => true | _ => false) = true ∧
    (match validRule .MIPS with | .default => true | _ => false) = true ∧ mips32Bits = 32 := by
  decide

theorem calleeSaved_registers (k : Kind) :
    (∀ r ∈ calleeSaved k.file, r ∈ registers k.rawCtx ∧ r ≠ ipName k.rawCtx) ∧
      Regs.hasDup (calleeSaved k.file) = false := by
  cases k <;> decide +kernel

/-- a validity set is consulted literally (`which.contains`) only for context types with the trait's
    default `memoize_register`, which have no aliases (`sameReg_default`) -/
theorem literal_default (k : Kind) (h : fwdLookup k.file = .literal ∨ spLookup k.file = .literal) :
    memoArms k.rawCtx = some [] := by
  cases k <;> revert h <;> decide

theorem spTest_is_sp (k : Kind) :
    (memoName k.rawCtx (spTestName k.file) == some (spName k.rawCtx)) = true := by
  cases k <;> decide +kernel

theorem spTest_literal (k : Kind) :
    (match spLookup k.file with
     | .literal => spTestName k.file == spName k.rawCtx &&
         (knownNames k.rawCtx).all (fun n => !(sameReg k.rawCtx n (spName k.rawCtx)) || n == spName k.rawCtx)
     | .isValid => true) = true := by
  have noAlias : ∀ k : Kind, spLookup k.file = .literal →
      (knownNames k.rawCtx).all (fun n => !(sameReg k.rawCtx n (spName k.rawCtx)) || n == spName k.rawCtx) = true := by
    intro k hk
    rw [List.all_eq_true]
    intro n hn
    cases h : sameReg k.rawCtx n (spName k.rawCtx)
    · rfl
    · rw [sameReg_default (literal_default k (.inr hk)) hn (spName_known _) h]; simp
  cases k
  case x86 => exact (Bool.and_eq_true _ _).mpr ⟨by decide, noAlias .x86 rfl⟩
  case amd64 => exact (Bool.and_eq_true _ _).mpr ⟨by decide, noAlias .amd64 rfl⟩
  all_goals rfl

theorem strip_regs (k : Kind) :
    ((stripRegs k.file).map (fun p => memoName k.rawCtx p.1) =
      (match k with
       | .arm64 | .arm64old => [some "pc", some "lr", some "fp"]
       | _ => [])) = true := by
  cases k <;> decide +kernel

theorem kind_bits (k : Kind) :
    k.cpu.bits = (match k with | .x86 | .arm | .mips32 => 32 | _ => 64) := by
  cases k <;> rfl

end MdModel.CfiWalker
