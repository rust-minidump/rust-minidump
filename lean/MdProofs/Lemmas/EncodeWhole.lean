/-
  Layout/offset bookkeeping of the whole encoded file: stream sizes equal the formulas the encoder
  cites offsets with, every out-of-band group sits at its cited offset, the directory serves the
  core stream of each type (extras of the same type are overridden).
-/
import MdProofs.Lemmas.EncodeFile
import MdProofs.Lemmas.EncodeNames
import MdProofs.Lemmas.EncodeModules
import MdProofs.Lemmas.EncodeMisc
import MdProofs.Lemmas.EncodeHandles
import MdProofs.Lemmas.EncodeMaps
import MdProofs.Lemmas.EncodeCrashpad
import MdProofs.Lemmas.BytesStreams
import MdProofs.Lemmas.Assoc
namespace MdModel.Encode
open MdModel MdModel.Dump MdModel.Gen.Layouts MdModel.Gen.LayoutsC02

theorem listHeader_length (e : Endian) (pad : Bool) (n : Nat) : (listHeader e pad n).length = listHeaderSize pad := by
  cases pad <;> simp [listHeader, listHeaderSize]

theorem oobModules_length (e : Endian) (ms : List MModule) : (oobModules e ms).length = oobModulesSize ms := by
  induction ms with
  | nil => rfl
  | cons m ms ih => simp [oobModules, oobModulesSize, ih, oobModule_length]

theorem oobNames_length (e : Endian) (ns : List (List Nat)) : (oobNames e ns).length = oobNamesSize ns := by
  induction ns with
  | nil => rfl
  | cons n ns ih => simp [oobNames, oobNamesSize, ih, encString_length]

theorem streamsBytes_length (ss : List (Nat × List UInt8)) :
    (streamsBytes ss).length = sumSizes (ss.map fun x => (x.1, x.2.length)) := by
  induction ss with
  | nil => rfl
  | cons p rest ih => obtain ⟨t, bs⟩ := p; simp [streamsBytes, sumSizes, ih] at *

theorem encodeStreams_length (e : Endian) (flags : Nat) (ss : List (Nat × List UInt8)) :
    (encodeStreams e flags ss).length = 32 + 12 * ss.length + sumSizes (ss.map fun x => (x.1, x.2.length)) := by
  simp [encodeStreams, streamsBytes_length]; omega

theorem optList_map {α β γ : Type} (o : Option α) (g : α → β) (h : β → γ) :
    (optList o g).map h = optList o (fun a => h (g a)) := by
  cases o <;> rfl

theorem mem_optList {α β : Type} {o : Option α} {g : α → β} {b : β} :
    b ∈ optList o g ↔ ∃ a, o = some a ∧ g a = b := by
  cases o <;> simp [optList, eq_comm]

theorem optList_sublist_const {α β : Type} (o : Option α) (t : β) : List.Sublist (optList o (fun _ => t)) [t] := by
  cases o <;> simp [optList]

theorem encThreadList_length (e : Endian) (pad : Bool) (off : Nat) (ts : List MThread) :
    (encThreadList e pad off ts).length = listHeaderSize pad + 48 * ts.length := by
  simp [encThreadList, listHeader_length, threadRecs_length, size_thread]; omega

theorem encModuleList_length (e : Endian) (pad : Bool) (off : Nat) (ms : List MModule) :
    (encModuleList e pad off ms).length = listHeaderSize pad + 108 * ms.length := by
  simp [encModuleList, listHeader_length, moduleRecs_length, size_module]; omega

theorem encMemoryList_length (e : Endian) (pad : Bool) (off : Nat) (rs : List MRegion) :
    (encMemoryList e pad off rs).length = listHeaderSize pad + 16 * rs.length := by
  simp [encMemoryList, listHeader_length, memRecs_length, size_memdesc]; omega

theorem encMemory64List_length (e : Endian) (off : Nat) (rs : List MRegion) :
    (encMemory64List e off rs).length = 16 + 16 * rs.length := by
  simp [encMemory64List, mem64Recs, size_memdesc64]; omega

theorem encMemInfoList_length (e : Endian) (is : List MMemInfo) : (encMemInfoList e is).length = 12 + 48 * is.length := by
  simp [encMemInfoList, exListHeader, size_meminfo]; omega

theorem encThreadNames_length (e : Endian) (pad : Bool) (off : Nat) (ns : List (Nat × List Nat)) :
    (encThreadNames e pad off ns).length = listHeaderSize pad + 12 * ns.length := by
  simp [encThreadNames, listHeader_length, nameRecs_length, size_threadname]; omega

theorem encUnloadedList_length (e : Endian) (off : Nat) (us : List MUnloaded) :
    (encUnloadedList e off us).length = 12 + 24 * us.length := by
  simp [encUnloadedList, exListHeader, unloadedRecs_length, size_unloaded]; omega

theorem encException_length (e : Endian) (off : Nat) (x : MException) : (encException e off x).length = 168 := by
  simp [encException, size_exception]

theorem size_sysinfoLayout : Layout.size SYSTEM_INFO_LAYOUT = 56 := by decide

theorem encSysInfo_length (e : Endian) (off : Nat) (x : MSysInfo) : (encSysInfo e off x).length = 56 := by
  simp [encSysInfo, size_sysinfoLayout]

theorem encMiscInfo_length (e : Endian) (x : MMiscInfo) : (encMiscInfo e x).length = miscInfoSize x := by
  simp [encMiscInfo, miscInfoSize]

theorem encCrashpad_length (e : Endian) (off : Nat) (x : MCrashpad) : (encCrashpad e off x).length = 52 := by
  simp [encCrashpad, size_crashpadInfo]

theorem encHandleData_length (e : Endian) (off : Nat) (x : MHandleData) : (encHandleData e off x).length = handleDataSize x := by
  simp [encHandleData, handleDataSize, handleRecs_length, handleLayout_size, size_handleData, Nat.mul_comm]

theorem coreStreams_sizes (m : DumpModel) (e : Endian) (f : MemForm) :
    (coreStreams m e f).map (fun x => (x.1, x.2.length)) = coreStreamSizes m f := by
  unfold coreStreams coreStreamSizes
  simp only [List.map_append, List.map_cons, List.map_nil, optList_map, encThreadList_length, encModuleList_length,
    encMemInfoList_length, encThreadNames_length, encUnloadedList_length, encException_length, encSysInfo_length,
    encMiscInfo_length, encHandleData_length, encCrashpad_length]
  cases f <;> simp only [encMemoryList_length, encMemory64List_length]

theorem allStreams_sizes (m : DumpModel) (e : Endian) (f : MemForm) :
    (allStreams m e f).map (fun x => (x.1, x.2.length)) = streamSizes m f := by
  simp [allStreams, streamSizes, coreStreams_sizes]

theorem encodeStreams_all_length (m : DumpModel) (e : Endian) (f : MemForm) :
    (encodeStreams e m.flags (allStreams m e f)).length = oobStart m f := by
  rw [encodeStreams_length, allStreams_sizes, ← List.length_map (fun x => (x.1, x.2.length)), allStreams_sizes]; rfl

theorem encodeList_eq (m : DumpModel) (e : Endian) (f : MemForm) :
    (encode m e f).toList = encodeStreams e m.flags (allStreams m e f) ++ oobAll m e f := by
  simp [encode, encodeList]

structure OobPlaced (b : Bytes) (m : DumpModel) (e : Endian) (f : MemForm) : Prop where
  threads : Has b.toList (oobOffsets m f).threads (oobThreads m.threads)
  modules : Has b.toList (oobOffsets m f).modules (oobModules e m.modules)
  memory : Has b.toList (oobOffsets m f).memory (oobMemory m.memory)
  names : Has b.toList (oobOffsets m f).names (oobNames e (m.threadNames.map (·.2)))
  unloaded : Has b.toList (oobOffsets m f).unloaded (oobNames e (m.unloaded.map (·.name)))
  exc : Has b.toList (oobOffsets m f).exc (excCtx m)
  csd : Has b.toList (oobOffsets m f).csd (csdString e m)
  handles : Has b.toList (oobOffsets m f).handles (handlesOob e (oobOffsets m f).handles m)
  crashpad : Has b.toList (oobOffsets m f).crashpad (crashpadOob e (oobOffsets m f).crashpad m)
  size : b.size = (oobOffsets m f).stop

theorem Has.at {l : List UInt8} {o o' : Nat} {c : List UInt8} (h : Has l o c) (ho : o = o') : Has l o' c := ho ▸ h

theorem csdString_length (e : Endian) (m : DumpModel) : (csdString e m).length = csdSize m := by
  unfold csdString csdSize; cases m.sysInfo <;> simp [encString_length]

theorem handlesOob_length (e : Endian) (off : Nat) (m : DumpModel) : (handlesOob e off m).length = handlesOobSize m := by
  unfold handlesOob handlesOobSize; cases m.handles <;> simp [oobHandles_length]

theorem crashpadOob_length (e : Endian) (off : Nat) (m : DumpModel) : (crashpadOob e off m).length = crashpadOobSize m := by
  unfold crashpadOob crashpadOobSize; cases m.crashpad <;> simp [crashpadOobOf_length]

theorem oob_placed (m : DumpModel) (e : Endian) (f : MemForm) : OobPlaced (encode m e f) m e f := by
  have h0 : Has (encode m e f).toList (oobStart m f) (oobAll m e f) :=
    ⟨encodeStreams e m.flags (allStreams m e f), [], by simp [encodeList_eq], encodeStreams_all_length m e f⟩
  unfold oobAll oobAllAt at h0
  have hI := h0.right
  have hH := h0.left.right
  have hG := h0.left.left.right
  have hF := h0.left.left.left.right
  have hE := h0.left.left.left.left.right
  have hD := h0.left.left.left.left.left.right
  have hC := h0.left.left.left.left.left.left.right
  have hB := h0.left.left.left.left.left.left.left.right
  have hA := h0.left.left.left.left.left.left.left.left
  simp only [List.length_append, oobThreads_length, oobModules_length, oobMemory_length, oobNames_length,
    csdString_length, handlesOob_length] at hB hC hD hE hF hG hH hI
  have hsize := congrArg List.length (encodeList_eq m e f)
  simp only [Array.length_toList, List.length_append, encodeStreams_all_length, oobAll, oobAllAt, oobThreads_length,
    oobModules_length, oobMemory_length, oobNames_length, csdString_length, handlesOob_length, crashpadOob_length] at hsize
  refine ⟨hA, hB, hC.at ?_, hD.at ?_, hE.at ?_, hF.at ?_, hG.at ?_, hH.at ?_, hI.at ?_, hsize.trans ?_⟩ <;>
    simp only [oobOffsets] <;> omega

theorem lastOf_none_of_forall {α : Type} (ty : Nat) (xs : List (Nat × α)) (h : ∀ x ∈ xs, x.1 ≠ ty) :
    lastOf ty xs = none := by
  rw [lastOf_eq_lookup, List.lookup_eq_none_iff_not_mem_keys, List.map_reverse, List.mem_reverse]
  exact fun hm => let ⟨x, hx, e⟩ := List.mem_map.mp hm; h x hx e

theorem dirFits_of_bound : ∀ (ss : List (Nat × List UInt8)) (off : Nat), (∀ x ∈ ss, x.1 < 2 ^ 32) →
    off + (streamsBytes ss).length < 2 ^ 32 → DirFits off ss := by
  intro ss
  induction ss with
  | nil => intro off _ _; trivial
  | cons p rest ih =>
    intro off h1 h2
    obtain ⟨t, bs⟩ := p
    simp only [streamsBytes, List.length_append] at h2
    refine ⟨h1 (t, bs) (by simp), by omega, by omega, ?_⟩
    exact ih _ (fun x hx => h1 x (by simp [hx])) (by omega)

def coreTypes (m : DumpModel) (f : MemForm) : List Nat := (coreStreamSizes m f).map (·.1)

theorem coreStreams_types (m : DumpModel) (e : Endian) (f : MemForm) :
    (coreStreams m e f).map (·.1) = coreTypes m f := by
  have := congrArg (List.map (·.1)) (coreStreams_sizes m e f)
  simpa [coreTypes, List.map_map, Function.comp_def] using this

/-- A model the wire format can carry: every number fits its field, the file stays below 4 GiB
    (every RVA is a u32), names are Unicode scalar values, unloaded modules have a good image size,
    and the raw extra streams only use types the encoder emits again afterwards (so the real streams
    are the last of their type). -/
structure WellFormed (m : DumpModel) (f : MemForm) : Prop where
  flags : m.flags < 2 ^ 64
  size : (oobOffsets m f).stop < 2 ^ 32
  threads : ∀ t ∈ m.threads, ThreadFits t
  regions : ∀ r ∈ m.memory, RegionFits r
  memInfo : ∀ i ∈ m.memInfo, MemInfoFits i
  names : ∀ n ∈ m.threadNames, n.1 < 2 ^ 32 ∧ ValidName n.2
  unloaded : ∀ u ∈ m.unloaded, UnloadedFits u
  modules : ∀ x ∈ m.modules, ModuleFits x
  exception : ∀ x, m.exception = some x → ExcFits x
  sysInfo : ∀ x, m.sysInfo = some x → SysInfoFits x
  miscInfo : ∀ x, m.miscInfo = some x → MiscFits x
  handles : ∀ x, m.handles = some x → ∀ h ∈ x.handles, HandleFits h
  linuxMaps : ∀ x, m.linuxMaps = some x → ∀ en ∈ x, MapEntryFits en
  crashpad : ∀ x, m.crashpad = some x → CrashpadFits x
  extra : ∀ x ∈ m.extra, x.1 ∈ coreTypes m f

def fixedTypes (f : MemForm) : List Nat :=
  [ST_THREAD_LIST, ST_MODULE_LIST, (match f with | .mem => ST_MEMORY_LIST | .mem64 => ST_MEMORY64_LIST),
   ST_MEMORY_INFO_LIST, ST_THREAD_NAMES, ST_UNLOADED_MODULE_LIST]

def optionalTypes : List Nat :=
  [ST_EXCEPTION, ST_SYSTEM_INFO, ST_MISC_INFO, ST_HANDLE_DATA_STREAM, ST_LINUX_MAPS, ST_CRASHPAD]

def allTypes (f : MemForm) : List Nat := fixedTypes f ++ optionalTypes

theorem coreTypes_eq (m : DumpModel) (f : MemForm) :
    coreTypes m f = fixedTypes f ++ optList m.exception (fun _ => ST_EXCEPTION) ++
      optList m.sysInfo (fun _ => ST_SYSTEM_INFO) ++ optList m.miscInfo (fun _ => ST_MISC_INFO) ++
      optList m.handles (fun _ => ST_HANDLE_DATA_STREAM) ++ optList m.linuxMaps (fun _ => ST_LINUX_MAPS) ++
      optList m.crashpad (fun _ => ST_CRASHPAD) := by
  unfold coreTypes coreStreamSizes fixedTypes
  simp only [List.map_append, List.map_cons, List.map_nil, optList_map]
  cases f <;> rfl

theorem coreTypes_sublist (m : DumpModel) (f : MemForm) : List.Sublist (coreTypes m f) (allTypes f) := by
  rw [coreTypes_eq]
  simp only [List.append_assoc]
  exact (List.Sublist.refl _).append ((optList_sublist_const _ _).append ((optList_sublist_const _ _).append
    ((optList_sublist_const _ _).append ((optList_sublist_const _ _).append ((optList_sublist_const _ _).append
    (optList_sublist_const _ _))))))

theorem allTypes_nodup (f : MemForm) : (allTypes f).Nodup := by cases f <;> decide

theorem coreTypes_nodup (m : DumpModel) (f : MemForm) : (coreTypes m f).Nodup :=
  (allTypes_nodup f).sublist (coreTypes_sublist m f)

theorem coreTypes_lt (m : DumpModel) (f : MemForm) : ∀ t ∈ coreTypes m f, t < 2 ^ 32 := by
  have hall : ∀ t ∈ allTypes f, t < 2 ^ 32 := by cases f <;> decide
  exact fun t ht => hall t ((coreTypes_sublist m f).subset ht)

theorem oobStart_le_stop (m : DumpModel) (f : MemForm) : oobStart m f ≤ (oobOffsets m f).stop := by
  simp only [oobOffsets]; omega

theorem encode_size_lt {m : DumpModel} {f : MemForm} (wf : WellFormed m f) (e : Endian) : (encode m e f).size < 2 ^ 32 := by
  rw [(oob_placed m e f).size]; exact wf.size

theorem allStreams_types {m : DumpModel} {f : MemForm} (wf : WellFormed m f) (e : Endian) :
    ∀ x ∈ allStreams m e f, x.1 ∈ coreTypes m f := by
  intro x hx
  rcases List.mem_append.mp hx with h | h
  · exact wf.extra x h
  · rw [← coreStreams_types m e f]
    exact List.mem_map_of_mem h

theorem readDump_encode {m : DumpModel} {f : MemForm} (wf : WellFormed m f) (e : Endian) :
    readDump (encode m e f) =
      .ok ⟨e, encHeaderVal (allStreams m e f).length m.flags, dirMap (allStreams m e f), (allStreams m e f).length⟩ := by
  have hlen := encodeStreams_all_length m e f
  rw [encodeStreams_length] at hlen
  have hstop := oobStart_le_stop m f
  have hsz := wf.size
  have hsb := streamsBytes_length (allStreams m e f)
  apply readDump_enc e m.flags (allStreams m e f) (oobAll m e f) (encodeList_eq m e f) (by omega) wf.flags
  exact dirFits_of_bound _ _ (fun x hx => coreTypes_lt m f _ (allStreams_types wf e x hx)) (by omega)

theorem getRawStream_encode {m : DumpModel} {f : MemForm} (wf : WellFormed m f) (e : Endian) (ty : Nat)
    (bs : List UInt8) (hcore : lastOf ty (coreStreams m e f) = some bs) (d : Dump)
    (hd : d.streams = dirMap (allStreams m e f)) :
    getRawStream d (encode m e f) ty = .ok bs.toArray := by
  rw [getRawStream_enc e m.flags (allStreams m e f) (oobAll m e f) (encodeList_eq m e f) (encode_size_lt wf e) ty d hd]
  simp only [allStreams, lastOf_append, hcore]

theorem getRawStream_encode_none {m : DumpModel} {f : MemForm} (wf : WellFormed m f) (e : Endian) (ty : Nat)
    (hcore : ty ∉ coreTypes m f) (d : Dump) (hd : d.streams = dirMap (allStreams m e f)) :
    getRawStream d (encode m e f) ty = .error .StreamNotFound := by
  rw [getRawStream_enc e m.flags (allStreams m e f) (oobAll m e f) (encodeList_eq m e f) (encode_size_lt wf e) ty d hd,
    lastOf_none_of_forall ty _ fun x hx heq => hcore (heq ▸ allStreams_types wf e x hx)]

theorem streamRes_ok {α : Type} {d : Dump} {b : Bytes} {ty : Nat} {reader : Bytes → M α} {s : Bytes} {a : α}
    (h1 : getRawStream d b ty = .ok s) (h2 : (reader s).res = .ok a) : streamRes d b ty reader = .ok (.ok a) := by
  simp [streamRes, getStream, h1, M.catch', h2]

theorem streamRes_notFound {α : Type} {d : Dump} {b : Bytes} {ty : Nat} {reader : Bytes → M α}
    (h1 : getRawStream d b ty = .error .StreamNotFound) : streamRes d b ty reader = .ok (.error .StreamNotFound) := by
  simp [streamRes, getStream, h1]

theorem streamRes_encode_none {α : Type} {m : DumpModel} {f : MemForm} (wf : WellFormed m f) (e : Endian) {ty : Nat}
    (h : ty ∉ coreTypes m f) {d : Dump} (hd : d.streams = dirMap (allStreams m e f)) (reader : Bytes → M α) :
    streamRes d (encode m e f) ty reader = .ok (.error .StreamNotFound) :=
  streamRes_notFound (getRawStream_encode_none wf e ty h d hd)

theorem lastOf_of_mem_nodup {α : Type} (ty : Nat) (ss : List (Nat × α)) (a : α) (h : (ty, a) ∈ ss)
    (nd : (ss.map (·.1)).Nodup) : lastOf ty ss = some a := by
  rw [lastOf_eq_lookup]
  exact List.lookup_eq_some_of_mem (by rwa [List.map_reverse, (List.reverse_perm _).nodup_iff]) (List.mem_reverse.mpr h)

theorem core_of_mem (m : DumpModel) (e : Endian) (f : MemForm) {ty : Nat} {bs : List UInt8}
    (h : (ty, bs) ∈ coreStreams m e f) : lastOf ty (coreStreams m e f) = some bs := by
  apply lastOf_of_mem_nodup ty _ bs h
  rw [coreStreams_types]
  exact coreTypes_nodup m f

section core
variable (m : DumpModel) (e : Endian) (f : MemForm)

/-- the optional streams: (present?, type) -/
def optTypes (m : DumpModel) : List (Bool × Nat) :=
  [(m.exception.isSome, ST_EXCEPTION), (m.sysInfo.isSome, ST_SYSTEM_INFO), (m.miscInfo.isSome, ST_MISC_INFO),
   (m.handles.isSome, ST_HANDLE_DATA_STREAM), (m.linuxMaps.isSome, ST_LINUX_MAPS), (m.crashpad.isSome, ST_CRASHPAD)]

theorem mem_coreTypes {t : Nat} : t ∈ coreTypes m f ↔ t ∈ fixedTypes f ∨ (true, t) ∈ optTypes m := by
  rw [coreTypes_eq]
  simp only [List.mem_append, mem_optList, exists_and_right, ← Option.isSome_iff_exists, optTypes, List.mem_cons,
    Prod.mk.injEq, List.not_mem_nil, or_false, or_assoc, @eq_comm _ true, @eq_comm _ t]

theorem not_mem_coreTypes_of_allTypes {t : Nat} (h : t ∉ allTypes f) : t ∉ coreTypes m f :=
  fun hc => h ((coreTypes_sublist m f).subset hc)

/-- an optional stream that is absent: its type is not one of the six fixed ones, and no other
    optional stream has it -/
theorem not_mem_coreTypes {t : Nat} (h : (false, t) ∈ optTypes m) : t ∉ coreTypes m f := by
  obtain ⟨-, hnd, hdisj⟩ := List.nodup_append.mp (allTypes_nodup f)
  have ht : t ∈ optionalTypes := List.mem_map_of_mem (f := (·.2)) h
  rw [mem_coreTypes]
  rintro (h0 | h1)
  · exact hdisj t h0 t ht rfl
  · cases congrArg Prod.fst (List.eq_of_mem_of_map_eq (f := Prod.snd) (l := optTypes m) hnd h h1 rfl)

end core

theorem mem_streamsBytes_le {ty : Nat} {bs : List UInt8} : ∀ {ss : List (Nat × List UInt8)}, (ty, bs) ∈ ss →
    bs.length ≤ (streamsBytes ss).length
  | (_, _) :: _, h => by
    rw [streamsBytes, List.length_append]
    rcases List.mem_cons.mp h with h | h
    · cases h; omega
    · have := mem_streamsBytes_le h; omega

theorem core_stream_small {m : DumpModel} {f : MemForm} (wf : WellFormed m f) (e : Endian) {ty : Nat} {bs : List UInt8}
    (h : (ty, bs) ∈ coreStreams m e f) : bs.toArray.size < 2 ^ 32 := by
  have h1 := mem_streamsBytes_le (ss := allStreams m e f) (List.mem_append_right _ h)
  have h3 := encodeStreams_all_length m e f
  rw [encodeStreams_length, ← streamsBytes_length] at h3
  have h4 := oobStart_le_stop m f
  have h5 := wf.size
  rw [List.size_toArray]
  omega

theorem served {α : Type} {m : DumpModel} {f : MemForm} (wf : WellFormed m f) (e : Endian) {d : Dump}
    (hd : d.streams = dirMap (allStreams m e f)) {ty : Nat} {bs : List UInt8} (hmem : (ty, bs) ∈ coreStreams m e f)
    {reader : Bytes → M α} {P : α → Prop}
    (h : ∀ s : Bytes, s.toList = bs → s.size < 2 ^ 32 → ∃ a, (reader s).res = .ok a ∧ P a) :
    ∃ a, streamRes d (encode m e f) ty reader = .ok (.ok a) ∧ P a := by
  have hcore := core_of_mem m e f hmem
  obtain ⟨a, ha, hp⟩ := h bs.toArray rfl (core_stream_small wf e hmem)
  exact ⟨a, streamRes_ok (getRawStream_encode wf e ty bs hcore d hd) ha, hp⟩

theorem streamRes_opt {α β X : Type} {m : DumpModel} {f : MemForm} (wf : WellFormed m f) (e : Endian) {d : Dump}
    (hd : d.streams = dirMap (allStreams m e f)) {ty : Nat} (reader : Bytes → M α) (g : α → β) (o : Option X)
    (enc : X → List UInt8) (v : X → β) (hopt : (o.isSome, ty) ∈ optTypes m)
    (hsome : ∀ x, o = some x → (ty, enc x) ∈ coreStreams m e f ∧
      ∀ s : Bytes, s.toList = enc x → s.size < 2 ^ 32 → ∃ a, (reader s).res = .ok a ∧ g a = v x) :
    ∃ r, streamRes d (encode m e f) ty reader = .ok r ∧
      r.map g = match (generalizing := false) o with
        | none => .error .StreamNotFound
        | some x => .ok (v x) := by
  cases o with
  | none => exact ⟨_, streamRes_encode_none wf e (not_mem_coreTypes m f hopt) hd reader, rfl⟩
  | some x =>
    obtain ⟨a, ha, hg⟩ := served wf e hd (hsome x rfl).1 (hsome x rfl).2
    exact ⟨_, ha, congrArg Except.ok hg⟩

theorem streamRes_opt_id {α X : Type} {m : DumpModel} {f : MemForm} (wf : WellFormed m f) (e : Endian) {d : Dump}
    (hd : d.streams = dirMap (allStreams m e f)) {ty : Nat} (reader : Bytes → M α) (o : Option X)
    (enc : X → List UInt8) (v : X → α) (hopt : (o.isSome, ty) ∈ optTypes m)
    (hsome : ∀ x, o = some x → (ty, enc x) ∈ coreStreams m e f ∧
      ∀ s : Bytes, s.toList = enc x → s.size < 2 ^ 32 → (reader s).res = .ok (v x)) :
    streamRes d (encode m e f) ty reader = .ok (match (generalizing := false) o with
      | none => .error .StreamNotFound
      | some x => .ok (v x)) := by
  obtain ⟨r, h, hr⟩ := streamRes_opt wf e hd reader id o enc v hopt fun x hx =>
    ⟨(hsome x hx).1, fun s hs hsz => ⟨_, (hsome x hx).2 s hs hsz, rfl⟩⟩
  rw [Except.map_id, id] at hr
  rw [h, hr]

/-- every covered reader returns a value or an error (C01), so `get_stream` is total -/
theorem streamRes_total {α : Type} {B : Nat} (d : Dump) (b : Bytes) (ty : Nat) (reader : Bytes → M α)
    (h : ∀ s, s.size ≤ b.size → Safe B (reader s)) : ∃ x, streamRes d b ty reader = .ok x :=
  ((getStream_runOwn (H := True) (E := False) d b ty reader fun s hs _ => h s hs).value trivial).imp fun _ hx => hx.1

end MdModel.Encode
