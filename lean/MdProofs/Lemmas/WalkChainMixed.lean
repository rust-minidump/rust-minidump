/-
  C04, chains whose technique changes from frame to frame: the chain induction `walkLoop_follows` for
  step lemmas that give the frame in closed form, with precondition and expected frames written as
  folds over the chain (`walkLoop_chain_generic`), and the instance of `walkLoop_follows` for ARM64
  (both layouts) stacks that mix frame-pointer records and scanned frames.
-/
import MdProofs.Lemmas.WalkScanChain
namespace MdModel.Walk
open MdModel

theorem walkLoop_chain_generic {σ : Type} {env : Env} {mem : Mem}
    (View : Frame → σ → Prop) (link : σ → Exp → Bool) (endp : σ → Bool) (spOf : σ → Nat)
    (frameOf : σ → Exp → Frame) (next : σ → Exp → σ)
    (hsp : ∀ f st, View f st → f.ctx.sp = spOf st)
    (hsym : ∀ f st, View f st → View (symbolise env f) st)
    (hstep : ∀ f g st e, View f st → link st e = true → step env mem f g = some (frameOf st e))
    (hnext : ∀ st e, link st e = true → View (frameOf st e) (next st e))
    (hend : ∀ f g st, View f st → endp st = true → step env mem f g = none) :
    ∀ (chain : List Exp) (n : Nat) (f : Frame) (g : Option Frame) (st : σ),
      View f st →
      (chain.foldr (fun e (k : σ → Bool) => fun st => mem.inRange (spOf st) && link st e && k (next st e))
        (fun st => !mem.inRange (spOf st) || endp st)) st = true →
      need mem f ≤ n →
      walkLoop env mem n f g =
        symbolise env f ::
          (chain.foldr (fun e (k : σ → List Frame) => fun st => symbolise env (frameOf st e) :: k (next st e))
            (fun _ => [])) st := by
  intro chain n f g st hv hp hn
  obtain ⟨_, h, rfl⟩ := walkLoop_follows (fun f _ st => View f st) link endp spOf next
    (fun st chain => (chain.foldr (fun e (k : σ → Bool) => fun st => mem.inRange (spOf st) && link st e && k (next st e))
      (fun st => !mem.inRange (spOf st) || endp st)) st = true)
    (fun st chain fs => fs = (chain.foldr (fun e (k : σ → List Frame) => fun st =>
      symbolise env (frameOf st e) :: k (next st e)) (fun _ => [])) st)
    (fun _ h => h) (fun _ _ _ => Bool.and_eq_true_iff.mp) (fun _ => rfl) (fun f _ => hsp f)
    (fun f g st e hv hl => ⟨_, hstep _ g st e (hsym f st hv) hl, hnext st e hl, fun _ _ h => h ▸ rfl⟩)
    (fun f g st hv => hend _ g st (hsym f st hv)) chain n f g st hv hp hn
  exact h

/-- per-frame state: stack pointer, the frame pointer if it is valid, "is the context frame" -/
structure MixSt where
  sp : Nat
  fp : Option Nat
  first : Bool

def mixLink (env : Env) (a : Arch) (mem : Mem) (st : MixSt) (e : Exp) : Bool :=
  if e.tech = "fp" then
    match st.fp with
    | some f => linkFp a env.os env.mask mem st.sp f e
    | none => false
  else
    (st.fp == none || st.fp == some 0) && linkScan env a mem st.sp st.first e

def mixFrame (a : Arch) (_st : MixSt) (e : Exp) : Frame :=
  if e.tech = "fp" then fpFrame a e else scanFrame a e

def mixNext (st : MixSt) (e : Exp) : MixSt :=
  if e.tech = "fp" then { sp := e.sp, fp := some (e.fp.getD 0), first := false }
  else { sp := e.sp, fp := none, first := false }

/-- the generated end: a dead frame pointer and zero words, or the record `(0, 0)` and zero words -/
def mixEnd (env : Env) (a : Arch) (mem : Mem) (st : MixSt) : Bool :=
  match st.fp with
  | none => zerosFrom mem a.ptr st.sp
  | some f => (f == 0 && zerosFrom mem a.ptr st.sp) || endFp a env.os mem st.sp f

theorem deadFp_arm64 {a : Arch} (ha : a = .arm64 ∨ a = .arm64old) {os : Os} {mem : Mem} {fp : Option Nat}
    (h : fp = none ∨ fp = some 0) : DeadFp a os mem fp := by
  rcases ha with rfl | rfl <;> exact h

theorem step_mix_arm64 {env : Env} {a : Arch} {mem : Mem} (ha : a = .arm64 ∨ a = .arm64old)
    (harch : env.arch = a) (f : Frame) (g : Option Frame) (hcfi : env.cfi f g = none) (st : MixSt) (e : Exp)
    (hv : RView a f st.sp st.fp st.first) (hl : mixLink env a mem st e = true) :
    step env mem f g = some (mixFrame a st e) := by
  have hps : a.plainScan64 = true := by rcases ha with ha | ha <;> subst ha <;> rfl
  unfold mixLink at hl
  unfold mixFrame
  by_cases ht : e.tech = "fp"
  · simp only [ht, if_true] at hl ⊢
    cases hf : st.fp with
    | none => rw [hf] at hl; cases hl
    | some v =>
      rw [hf] at hl hv
      exact step_fp_arm64 ha harch hcfi hv hl
  · simp only [ht, if_false, Bool.and_eq_true, Bool.or_eq_true, beq_iff_eq] at hl ⊢
    rw [scanFrame_eq hps]
    exact step_scan_any harch hcfi hv (deadFp_arm64 ha hl.1)
      (fun hx => by rcases ha with rfl | rfl <;> cases hx) hl.2

theorem mixNext_view {env : Env} {a : Arch} {mem : Mem} (ha : a = .arm64 ∨ a = .arm64old)
    (st : MixSt) (e : Exp) (hl : mixLink env a mem st e = true) :
    RView a (mixFrame a st e) (mixNext st e).sp (mixNext st e).fp (mixNext st e).first := by
  unfold mixFrame mixNext
  by_cases ht : e.tech = "fp"
  · simp only [ht, if_true]
    exact fpFrame_rview a (by rcases ha with rfl | rfl <;> rfl) e
  · simp only [ht, if_false, mixLink, Bool.and_eq_true] at hl ⊢
    rw [scanFrame_eq (by rcases ha with rfl | rfl <;> rfl)]
    exact scanFrameA_rview a e (linkScan_sp_le hl.2)

theorem step_mix_end_arm64 {env : Env} {a : Arch} {mem : Mem} (ha : a = .arm64 ∨ a = .arm64old)
    (harch : env.arch = a) (f : Frame) (g : Option Frame) (hcfi : env.cfi f g = none) (st : MixSt)
    (hv : RView a f st.sp st.fp st.first) (he : mixEnd env a mem st = true) : step env mem f g = none := by
  have hend : st.fp = none ∨ st.fp = some 0 → zerosFrom mem a.ptr st.sp = true → step env mem f g = none :=
    fun hfp hz => step_scan_end_any harch hcfi (fun hx => by rcases ha with rfl | rfl <;> cases hx) hv
      (deadFp_arm64 ha hfp) hz
  unfold mixEnd at he
  cases hf : st.fp with
  | none => rw [hf] at he; exact hend (.inl hf) he
  | some v =>
    rw [hf] at he
    simp only [Bool.or_eq_true, Bool.and_eq_true, beq_iff_eq] at he
    rcases he with ⟨h0, hz⟩ | he
    · subst h0; exact hend (.inr hf) hz
    · rw [hf] at hv
      exact step_end_arm64 ha harch hcfi hv he

def preMix (env : Env) (a : Arch) (mem : Mem) : MixSt → List Exp → Bool
  | st, [] => !mem.inRange st.sp || mixEnd env a mem st
  | st, e :: rest => mem.inRange st.sp && mixLink env a mem st e && preMix env a mem (mixNext st e) rest

def expectedMix (env : Env) (a : Arch) : MixSt → List Exp → List Frame
  | _, [] => []
  | st, e :: rest => symbolise env (mixFrame a st e) :: expectedMix env a (mixNext st e) rest

theorem walk_layout_mix_arm64 (env : Env) (a : Arch) (ha : a = .arm64 ∨ a = .arm64old)
    (harch : env.arch = a) (hcfi : ∀ f g, env.cfi f g = none) (mem : Mem) (hm : mem.range?.isSome = true)
    (ctx : Ctx) (hv : ctx.valid = none) (chain : List Exp)
    (hpre : preMix env a mem { sp := ctx.sp, fp := some (ctx.raw a a.fpName), first := true } chain = true) :
    walk env (some mem) ctx =
      symbolise env (Frame.ofCtx ctx .context) ::
        expectedMix env a { sp := ctx.sp, fp := some (ctx.raw a a.fpName), first := true } chain := by
  rw [walk_of_range ctx hm]
  obtain ⟨_, h, rfl⟩ := walkLoop_follows (fun f _ (st : MixSt) => RView a f st.sp st.fp st.first) (mixLink env a mem)
    (mixEnd env a mem) (fun st => st.sp) mixNext (fun st c => preMix env a mem st c = true)
    (fun st c fs => fs = expectedMix env a st c)
    (fun _ h => h) (fun _ _ _ => Bool.and_eq_true_iff.mp) (fun _ => rfl) (fun _ _ _ h => h.sp)
    (fun _ g st e h hl => ⟨_, step_mix_arm64 ha harch _ g (hcfi _ g) st e (h.symbolise env) hl, mixNext_view ha st e hl,
      fun _ _ h => h ▸ rfl⟩)
    (fun _ g st h => step_mix_end_arm64 ha harch _ g (hcfi _ g) st (h.symbolise env)) chain _ _ none _
    (rview_context a ctx hv (by rcases ha with rfl | rfl <;> rfl)
      (fun h => by rcases ha with rfl | rfl <;> cases h)) hpre (need_context_le mem ctx)
  exact h

end MdModel.Walk
