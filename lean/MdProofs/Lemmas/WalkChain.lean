/-
  Frame-pointer chains of C04: what each frame-pointer unwinder returns on a record it can read, what
  every scanner returns on a stack of zero words, from these one `get_caller_frame` on a
  frame-pointer record and at the end of a chain, per architecture, and the chain
  (`walk_layout_fp_any`). Windows x86-64 apart: the frame-pointer record may sit up to 240 bytes
  above `rbp` (16 probes, 16 bytes apart; smaller probe positions holding a zero "saved rbp" are
  skipped), so the chain there ends in `endFpWin` and is followed under `preFpWin`
  (`walk_layout_fp_amd64_any`).
-/
import MdProofs.Lemmas.WalkRegs
namespace MdModel.Walk
open MdModel

def fpFrame (a : Arch) (e : Exp) : Frame :=
  let v := e.fp.getD 0
  match a with
  | .x86 => { ctx := { ip := e.ret, sp := e.sp, rest := [("ebp", v)], valid := some ["eip", "esp", "ebp"] },
              trust := .fp, instruction := e.ret - 1 }
  | .amd64 => { ctx := { ip := e.ret, sp := e.sp, rest := [("rbp", v)], valid := some ["rip", "rsp", "rbp"] },
                trust := .fp, instruction := e.ret - 1 }
  | .arm => { ctx := { ip := e.ret, sp := e.sp, rest := [("fp", v)], valid := some ["r15", "r11", "r13"] },
              trust := .fp, instruction := e.ret - 2 }
  | _ => { ctx := { ip := e.ret, sp := e.sp, rest := [("fp", v)], valid := some ["pc", "x29", "sp"] },
           trust := .fp, instruction := e.ret - 4 }

theorem fpX86_reads {mem : Mem} {c : Ctx} {bp ip cbp : Nat} (hlit : c.hasLit "ebp" = true)
    (hbp : c.raw .x86 "ebp" = bp) (hg : bp < U32MAX - 8) (hip : mem.read (bp + 4) 4 = some ip)
    (hcbp : mem.read bp 4 = some cbp) :
    fpX86 mem c =
      some { ip := ip, sp := bp + 8, rest := [("ebp", cbp)], valid := some ["eip", "esp", "ebp"] } := by
  simp only [fpX86, hlit, hbp, hip, hcbp, Bool.not_true, Bool.false_eq_true, if_false, if_neg (Nat.not_le.mpr hg)]

theorem fpArm_reads {mem : Mem} {c : Ctx} {fp sp cfp pc : Nat} (hfp : c.get .arm "r11" = some fp)
    (hsp : c.get .arm "r13" = some sp) (hg : fp < U32MAX - 8) (hne : fp ≠ 0)
    (hcfp : mem.read fp 4 = some cfp) (hpc : mem.read (fp + 4) 4 = some pc) :
    fpArm .ios mem c =
      some { ip := pc, sp := fp + 8, rest := [("fp", cfp)], valid := some ["r15", "r11", "r13"] } := by
  simp only [fpArm, ne_eq, not_true_eq_false, if_false, hfp, hsp, if_neg (Nat.not_le.mpr hg), if_neg hne, hcfp, hpc]

theorem fpArm_zero {mem : Mem} {c : Ctx} {sp : Nat} (hfp : c.get .arm "r11" = some 0)
    (hsp : c.get .arm "r13" = some sp) :
    fpArm .ios mem c = some { ip := 0, sp := sp, rest := [("fp", 0)], valid := some ["r15", "r11", "r13"] } := by
  simp only [fpArm, ne_eq, not_true_eq_false, if_false, hfp, hsp, if_neg (by decide : ¬ 0 ≥ U32MAX - 8), if_true]

theorem byFp_arm64 {env : Env} {a : Arch} (ha : a = .arm64 ∨ a = .arm64old) (mem : Mem) (c : Ctx) :
    byFp env a mem c = fpArm64 env a mem c := by
  rcases ha with rfl | rfl <;> rfl

theorem fpArm64_reads {env : Env} {a : Arch} {mem : Mem} {c : Ctx} {fp sp cfp pc : Nat}
    (hfp : c.get a "x29" = some fp) (hsp : c.get a "sp" = some sp) (hg : fp < U64MAX - 16) (hne : fp ≠ 0)
    (hcfp : mem.read fp 8 = some cfp) (hpc : mem.read (fp + 8) 8 = some pc) :
    fpArm64 env a mem c =
      if nonCanonArm64 (pc &&& env.mask) then none
      else some { ip := pc &&& env.mask, sp := fp + 16, rest := [("fp", cfp &&& env.mask)],
                  valid := some ["pc", "x29", "sp"] } := by
  simp only [fpArm64, hfp, hsp, if_neg (Nat.not_le.mpr hg), if_neg hne, hcfp, hpc]

/-- a zero frame pointer, or a record holding a zero return address, yields the non-canonical
    address 0: the ARM64 frame-pointer unwinder gives up -/
theorem fpArm64_null {env : Env} {a : Arch} {mem : Mem} {c : Ctx} {fp sp : Nat}
    (hfp : c.get a "x29" = some fp) (hsp : c.get a "sp" = some sp)
    (h : fp = 0 ∨ mem.read (fp + 8) 8 = some 0) : fpArm64 env a mem c = none := by
  have h0 : nonCanonArm64 (0 &&& env.mask) = true := by rw [Nat.zero_and]; rfl
  simp only [fpArm64, hfp, hsp]
  split
  · rfl
  · by_cases hz : fp = 0
    · simp only [hz, if_true, h0]
    · rw [if_neg hz]
      rcases h with h | h
      · exact absurd h hz
      · cases mem.read fp 8 with
        | none => rfl
        | some cfp => simp only [h, h0, if_true]

theorem byFp_none_arm64 {env : Env} {a : Arch} {mem : Mem} {c : Ctx} {sp : Nat}
    (ha : a = .arm64 ∨ a = .arm64old) (hsp : c.get a "sp" = some sp)
    (hfp : c.get a "x29" = none ∨ c.get a "x29" = some 0) : byFp env a mem c = none := by
  rw [byFp_arm64 ha]
  rcases hfp with h | h
  · simp only [fpArm64, h]
  · exact fpArm64_null h hsp (Or.inl rfl)

/-! ### the x86-64 probe loop: positions `bp`, `bp + 16`, … on Windows, the single position `bp` elsewhere -/

theorem resolveAmd64_one (mem : Mem) (bp sp st : Nat) :
    resolveAmd64 mem bp sp st 1 0 = resolveAmd64 mem bp sp 16 1 0 := by
  simp only [resolveAmd64, Nat.zero_mul]

theorem resolveAmd64_hit {mem : Mem} {bp sp k ret nfp : Nat}
    (hskip : ∀ j, j < k → mem.read (bp + 16 * j) 8 = some 0 ∧ (mem.read (bp + 16 * j + 8) 8).isSome = true)
    (hr1 : mem.read (bp + 16 * k + 8) 8 = some ret) (hr2 : mem.read (bp + 16 * k) 8 = some nfp)
    (hmax : bp + 16 * k + 16 ≤ U64MAX) (hle : bp + 16 * k + 16 ≤ nfp)
    (hr3 : (mem.read nfp 8).isSome = true) (hcan : nonCanonAmd64 ret = false)
    (hst : stackSeemsValid mem (bp + 16 * k + 16) sp = true) :
    ∀ (n i : Nat), i ≤ k → k < i + n →
      resolveAmd64 mem bp sp 16 n i = some (ret, nfp, bp + 16 * k + 16) := by
  intro n
  induction n with
  | zero => intro i h1 h2; omega
  | succ n ih =>
    intro i h1 h2
    unfold resolveAmd64
    simp only [Nat.mul_comm i 16]
    rw [if_neg (by omega), if_neg (by omega)]
    by_cases hik : i = k
    · subst hik
      obtain ⟨v3, hv3⟩ := Option.isSome_iff_exists.mp hr3
      have h4 : ¬ (bp + 16 * i + 16 ≤ bp ∨ nfp < bp + 16 * i + 16) := by omega
      simp only [hr1, hr2, if_neg (Nat.not_lt.mpr hmax), if_neg h4, hv3, hcan, hst, Bool.false_eq_true,
        Bool.not_true, if_false]
    · obtain ⟨hz, hv⟩ := hskip i (by omega)
      obtain ⟨v, hv⟩ := Option.isSome_iff_exists.mp hv
      simp only [hv, hz]
      rw [if_neg (by omega), if_pos (Or.inr (by omega))]
      exact ih (i + 1) (by omega) (by omega)

theorem resolveAmd64_zeros {mem : Mem} {bp sp : Nat} (n i : Nat)
    (hz : ∀ j v, i ≤ j → j < i + n → mem.read (bp + j * 16) 8 = some v → v = 0) :
    resolveAmd64 mem bp sp 16 n i = none := by
  cases h : resolveAmd64 mem bp sp 16 n i with
  | none => rfl
  | some r =>
    -- a zero "saved rbp" lies below the caller's stack pointer: no probe position is accepted
    obtain ⟨ip, cbp, csp⟩ := r
    obtain ⟨k, h1, h2, _, hcbp, rfl, _, hle⟩ := resolveAmd64_spec h
    have := hz k cbp h1 h2 hcbp
    omega

theorem fpAmd64_of_resolve {os : Os} {mem : Mem} {c : Ctx} {bp : Nat} (h1 : c.hasLit "rbp" = true)
    (h2 : c.hasLit "rsp" = true) (hbp : c.raw .amd64 "rbp" = bp) (hg : bp < U64MAX - 16) :
    fpAmd64 os mem c =
      match (if os = .windows then resolveAmd64 mem bp c.sp 16 16 0 else resolveAmd64 mem bp c.sp 0 1 0) with
      | none => none
      | some (ip, cbp, csp) =>
        some { ip := ip, sp := csp, rest := [("rbp", cbp)], valid := some ["rip", "rsp", "rbp"] } := by
  simp only [fpAmd64, h1, h2, hbp, Bool.not_true, Bool.false_eq_true, if_false, if_neg (Nat.not_le.mpr hg)]
  rfl

theorem step_fp_x86 {env : Env} {mem : Mem} {f : Frame} {g : Option Frame} {e : Exp} {sp fp : Nat} {first : Bool}
    (harch : env.arch = .x86) (hcfi : env.cfi f g = none)
    (hv : RView .x86 f sp (some fp) first) (hl : linkFp .x86 env.os env.mask mem sp fp e = true) :
    step env mem f g = some (fpFrame .x86 e) := by
  have hsp := hv.sp
  obtain ⟨(hlit : f.ctx.hasLit "ebp" = true), (hfp : f.ctx.raw .x86 "ebp" = fp)⟩ := hv.lit_fp (.inl rfl) rfl
  simp only [linkFp, Bool.and_eq_true, decide_eq_true_eq, beq_iff_eq] at hl
  obtain ⟨⟨⟨_, hret⟩, hlt⟩, ⟨⟨hg, hr1⟩, hr2⟩, hesp⟩ := hl
  have hby := fpX86_reads hlit hfp hg hr1 hr2
  rw [← hesp] at hby
  rw [step_of_byFp (a := .x86) (by rw [harch]; rfl) hcfi hby]
  exact epilogue_accept hret (hsp ▸ hlt)

theorem step_fp_amd64_any {env : Env} {mem : Mem} {f : Frame} {g : Option Frame} {e : Exp} {sp fp : Nat} {first : Bool}
    (harch : env.arch = .amd64) (hcfi : env.cfi f g = none)
    (hv : RView .amd64 f sp (some fp) first) (hl : linkFp .amd64 env.os env.mask mem sp fp e = true) :
    step env mem f g = some (fpFrame .amd64 e) := by
  have hsp := hv.sp
  obtain ⟨(hlit1 : f.ctx.hasLit "rbp" = true), (hfp : f.ctx.raw .amd64 "rbp" = fp)⟩ := hv.lit_fp (.inr rfl) rfl
  have hlit2 : f.ctx.hasLit "rsp" = true := hv.lit_sp (.inr rfl)
  simp only [linkFp, Bool.and_eq_true, decide_eq_true_eq, beq_iff_eq, Bool.not_eq_true', List.all_eq_true,
    List.mem_range] at hl
  obtain ⟨⟨⟨_, hret⟩, hlt⟩, ⟨⟨⟨⟨⟨⟨⟨⟨⟨⟨⟨hg, _⟩, hesp⟩, hk⟩, hall⟩, hr1⟩, hr2⟩, hle⟩, hr3⟩, hcan⟩, hr4⟩, _⟩⟩ := hl
  generalize (e.sp - 16 - fp) / 16 = k at hesp hk hall
  rw [show e.sp - 8 = fp + 16 * k + 8 by omega] at hr1
  rw [show e.sp - 16 = fp + 16 * k by omega] at hr2
  have hstack : stackSeemsValid mem e.sp f.ctx.sp = true := by
    unfold stackSeemsValid
    rw [if_neg (by omega)]
    exact hr4
  have hres := resolveAmd64_hit (sp := f.ctx.sp) hall hr1 hr2 (by omega) (by omega) hr3 hcan (hesp ▸ hstack)
  have hby : byFp env .amd64 mem f.ctx = some
      { ip := e.ret, sp := e.sp, rest := [("rbp", e.fp.getD 0)], valid := some ["rip", "rsp", "rbp"] } := by
    show fpAmd64 env.os mem f.ctx = _
    rw [fpAmd64_of_resolve hlit1 hlit2 hfp hg]
    by_cases hos : env.os = .windows
    · rw [if_pos hos] at hk ⊢
      rw [hres 16 0 (Nat.zero_le _) (by have := of_decide_eq_true hk; omega), ← hesp]
    · rw [if_neg hos] at hk ⊢
      rw [resolveAmd64_one, hres 1 0 (Nat.zero_le _) (by have := of_decide_eq_true hk; omega), ← hesp]
  rw [step_of_byFp (a := .amd64) (by rw [harch]; rfl) hcfi hby]
  exact epilogue_accept hret (hsp ▸ hlt)

theorem step_fp_arm {env : Env} {mem : Mem} {f : Frame} {g : Option Frame} {e : Exp} {sp fp : Nat} {first : Bool}
    (harch : env.arch = .arm) (hcfi : env.cfi f g = none)
    (hv : RView .arm f sp (some fp) first) (hl : linkFp .arm env.os env.mask mem sp fp e = true) :
    step env mem f g = some (fpFrame .arm e) := by
  obtain ⟨hget1, hget2⟩ := hv.get_arm rfl
  simp only [linkFp, Bool.and_eq_true, decide_eq_true_eq, beq_iff_eq] at hl
  obtain ⟨⟨⟨_, hret⟩, hlt⟩, ⟨⟨⟨⟨⟨hos, hne⟩, hg⟩, hr1⟩, hr2⟩, hesp⟩⟩ := hl
  have hby : byFp env .arm mem f.ctx = _ := hos ▸ fpArm_reads hget1 hget2 hg hne hr1 hr2
  rw [← hesp] at hby
  rw [step_of_byFp (by rw [harch]; rfl) hcfi hby]
  exact epilogue_accept hret (hv.sp ▸ hlt)

theorem step_fp_arm64 {env : Env} {a : Arch} {mem : Mem} {f : Frame} {g : Option Frame} {e : Exp} {sp fp : Nat} {first : Bool}
    (ha : a = .arm64 ∨ a = .arm64old) (harch : env.arch = a) (hcfi : env.cfi f g = none)
    (hv : RView a f sp (some fp) first) (hl : linkFp a env.os env.mask mem sp fp e = true) :
    step env mem f g = some (fpFrame a e) := by
  obtain ⟨hget1, hget2⟩ := hv.get_arm64 ha rfl
  have hl' : linkFp .arm64 env.os env.mask mem sp fp e = true := by rcases ha with rfl | rfl <;> exact hl
  simp only [linkFp, Bool.and_eq_true, decide_eq_true_eq, beq_iff_eq, Bool.not_eq_true'] at hl'
  obtain ⟨⟨⟨_, hret⟩, hlt⟩, ⟨⟨⟨⟨⟨⟨⟨hne, hg⟩, hr1⟩, hr2⟩, hesp⟩, hm1⟩, hm2⟩, hcan⟩⟩ := hl'
  have hby : byFp env a mem f.ctx = _ := (byFp_arm64 ha mem f.ctx).trans (fpArm64_reads hget1 hget2 hg hne hr1 hr2)
  rw [hm1, hm2, hcan, ← hesp] at hby
  rw [step_of_byFp (by rw [harch]; rcases ha with rfl | rfl <;> rfl) hcfi hby]
  rw [epilogue_accept hret (hv.sp ▸ hlt)]
  rcases ha with rfl | rfl <;> rfl

theorem read_some_bounds {mem : Mem} {a w v : Nat} (h : mem.read a w = some v) :
    mem.base ≤ a ∧ a + w ≤ mem.base + mem.size := by
  obtain ⟨h1, h2, -⟩ := Mem.read_eq_some_iff.mp h
  omega

theorem zerosFrom_read {mem : Mem} {p sp i v : Nat} (hp : 0 < p) (hz : zerosFrom mem p sp = true)
    (hr : mem.read (sp + i * p) p = some v) : v = 0 := by
  unfold zerosFrom at hz
  simp only [Bool.and_eq_true, decide_eq_true_eq, List.all_eq_true, List.mem_range, beq_iff_eq] at hz
  have hle := (read_some_bounds hr).2
  -- word `i` above `sp` ends inside the memory, so `i` is one of the indices `zerosFrom` ranges over
  have hi : i + 1 ≤ (mem.base + mem.size - sp) / p :=
    (Nat.le_div_iff_mul_le hp).mpr (by rw [Nat.succ_mul]; omega)
  exact Option.some.inj ((hr.symm.trans (hz.2 i hi)))

theorem scanFrom_zeros' {ok : Nat → Bool} {mem : Mem} {p lim s : Nat}
    (hz : ∀ i v, mem.read (s + i * p) p = some v → v = 0) (hok : ok 0 = false) (n i : Nat) :
    scanFrom ok mem p lim s n i = none := by
  cases h : scanFrom ok mem p lim s n i with
  | none => rfl
  | some r =>
    -- the accepted word would be one of the zeros
    obtain ⟨j, a, ip⟩ := r
    obtain ⟨hr, rfl, hacc, _⟩ := scanFrom_spec h
    rw [hz _ _ hr, hok] at hacc
    cases hacc

theorem scanFrom_zeros {ok : Nat → Bool} {mem : Mem} {p lim sp : Nat} (hp : 0 < p)
    (hz : zerosFrom mem p sp = true) (hok : ok 0 = false) :
    ∀ (n i : Nat), scanFrom ok mem p lim sp n i = none :=
  scanFrom_zeros' (fun _ _ hr => zerosFrom_read hp hz hr) hok

/-- on ARM32 only the by-symbols test rejects the word 0 -/
theorem instrValid_zero {env : Env} {a : Arch} (h : a = .arm → env.instrOk 0 = false) :
    instrValid env a 0 = false := by
  cases a <;> first | rfl | (simp only [instrValid, h rfl, Bool.and_false])

/-- `h32`: MIPS32 reads its stack pointer truncated to 32 bits -/
theorem byScan_zeros {env : Env} {a : Arch} {mem : Mem} {c : Ctx} {t : Trust}
    (hz : zerosFrom mem a.ptr c.sp = true) (hok : a = .arm → env.instrOk 0 = false)
    (h32 : a = .mips32 → c.sp ≤ U32MAX) : byScan env a mem c t = none := by
  cases h : byScan env a mem c t with
  | none => rfl
  | some c' =>
    obtain ⟨sp, n, _, _, _, hs, ⟨k, hk⟩, _⟩ := byScan_shape h
    have hsp : sp = c.sp + k * a.ptr := by
      rw [hk]
      split
      · rename_i hm; rw [Nat.mod_eq_of_lt (show c.sp < 2 ^ 32 from Nat.lt_succ_of_le (h32 hm))]
      · rfl
    -- the scan started among the zero words above the stack pointer, so it accepted none of them
    rw [scanFrom_zeros' (fun i v hr => zerosFrom_read (i := k + i) (ptr_pos a) hz
      (by rw [Nat.add_mul, ← Nat.add_assoc, ← hsp]; exact hr)) (instrValid_zero hok)] at hs
    cases hs

theorem step_none_of_zeros {env : Env} {a : Arch} {mem : Mem} {f : Frame} {g : Option Frame}
    (heff : effArch env.arch f.ctx = a) (hcfi : env.cfi f g = none) (hfp : byFp env a mem f.ctx = none)
    (hz : zerosFrom mem a.ptr f.ctx.sp = true) (hok : a = .arm → env.instrOk 0 = false)
    (h32 : a = .mips32 → f.ctx.sp ≤ U32MAX) : step env mem f g = none := by
  rw [step_of_byScan heff hcfi hfp, byScan_zeros hz hok h32]
  rfl

/-- the outermost frame's record `(0, 0)`: the frame-pointer technique yields a frame with return
    address 0, which the epilogue drops -/
theorem step_end_x86 {env : Env} {mem : Mem} {f : Frame} {g : Option Frame} {sp fp : Nat} {first : Bool}
    (harch : env.arch = .x86) (hcfi : env.cfi f g = none)
    (hv : RView .x86 f sp (some fp) first) (he : endFp .x86 env.os mem sp fp = true) :
    step env mem f g = none := by
  obtain ⟨(hlit : f.ctx.hasLit "ebp" = true), (hfp : f.ctx.raw .x86 "ebp" = fp)⟩ := hv.lit_fp (.inl rfl) rfl
  simp only [endFp, Bool.and_eq_true, decide_eq_true_eq, beq_iff_eq] at he
  obtain ⟨_, ⟨hr1, hr2⟩, hg⟩ := he
  rw [step_of_byFp (a := .x86) (by rw [harch]; rfl) hcfi (fpX86_reads hlit hfp hg hr2 hr1)]
  exact epilogue_null (Nat.zero_lt_succ _)

theorem step_end_arm {env : Env} {mem : Mem} {f : Frame} {g : Option Frame} {sp fp : Nat} {first : Bool}
    (harch : env.arch = .arm) (hcfi : env.cfi f g = none)
    (hv : RView .arm f sp (some fp) first) (he : endFp .arm env.os mem sp fp = true) :
    step env mem f g = none := by
  obtain ⟨hget1, hget2⟩ := hv.get_arm rfl
  simp only [endFp, Bool.and_eq_true, decide_eq_true_eq, beq_iff_eq] at he
  obtain ⟨_, ⟨⟨hos, hr1⟩, hr2⟩, hg⟩ := he
  by_cases h0 : fp = 0
  · subst h0
    have hby : byFp env .arm mem f.ctx = _ := hos ▸ fpArm_zero hget1 hget2
    rw [step_of_byFp (by rw [harch]; rfl) hcfi hby]
    exact epilogue_null (Nat.zero_lt_succ _)
  · have hby : byFp env .arm mem f.ctx = _ := hos ▸ fpArm_reads hget1 hget2 hg h0 hr1 hr2
    rw [step_of_byFp (by rw [harch]; rfl) hcfi hby]
    exact epilogue_null (Nat.zero_lt_succ _)

theorem step_end_amd64_any {env : Env} {mem : Mem} {f : Frame} {g : Option Frame} {sp fp : Nat} {first : Bool}
    (harch : env.arch = .amd64) (hcfi : env.cfi f g = none)
    (hv : RView .amd64 f sp (some fp) first) (hg : fp < U64MAX - 16) (hz : zerosFrom mem 8 sp = true)
    (hprobe : ∀ j v, env.os = .windows ∨ j = 0 → mem.read (fp + j * 16) 8 = some v → v = 0) :
    step env mem f g = none := by
  have hsp := hv.sp
  obtain ⟨(hlit1 : f.ctx.hasLit "rbp" = true), (hfp : f.ctx.raw .amd64 "rbp" = fp)⟩ := hv.lit_fp (.inr rfl) rfl
  have hlit2 : f.ctx.hasLit "rsp" = true := hv.lit_sp (.inr rfl)
  refine step_none_of_zeros (a := .amd64) (by rw [harch]; rfl) hcfi ?_ (hsp ▸ hz)
    (fun h => by cases h) (fun h => by cases h)
  show fpAmd64 env.os mem f.ctx = none
  rw [fpAmd64_of_resolve hlit1 hlit2 hfp hg]
  by_cases hos : env.os = .windows
  · rw [if_pos hos, resolveAmd64_zeros 16 0 fun j v _ _ => hprobe j v (Or.inl hos)]
  · rw [if_neg hos, resolveAmd64_one, resolveAmd64_zeros 1 0 fun j v _ hj => hprobe j v (Or.inr (by omega))]

theorem step_end_amd64 {env : Env} {mem : Mem} {f : Frame} {g : Option Frame} {sp fp : Nat} {first : Bool}
    (harch : env.arch = .amd64) (hos : env.os ≠ .windows) (hcfi : env.cfi f g = none)
    (hv : RView .amd64 f sp (some fp) first) (he : endFp .amd64 env.os mem sp fp = true) :
    step env mem f g = none := by
  simp only [endFp, Bool.and_eq_true, decide_eq_true_eq, beq_iff_eq] at he
  obtain ⟨⟨_, hz⟩, ⟨hr1, _⟩, hg⟩ := he
  refine step_end_amd64_any harch hcfi hv hg hz fun j v hj hr => ?_
  obtain rfl : j = 0 := hj.resolve_left hos
  rw [Nat.zero_mul, Nat.add_zero, hr1] at hr
  exact (Option.some.inj hr).symm

theorem step_end_arm64 {env : Env} {a : Arch} {mem : Mem} {f : Frame} {g : Option Frame} {sp fp : Nat} {first : Bool}
    (ha : a = .arm64 ∨ a = .arm64old) (harch : env.arch = a) (hcfi : env.cfi f g = none)
    (hv : RView a f sp (some fp) first) (he : endFp a env.os mem sp fp = true) :
    step env mem f g = none := by
  obtain ⟨hget1, hget2⟩ := hv.get_arm64 ha rfl
  have he' : endFp .arm64 env.os mem sp fp = true := by rcases ha with rfl | rfl <;> exact he
  simp only [endFp, Bool.and_eq_true, decide_eq_true_eq, beq_iff_eq] at he'
  obtain ⟨⟨_, hz⟩, ⟨_, hr2⟩, _⟩ := he'
  have hp : a.ptr = 8 := by rcases ha with rfl | rfl <;> rfl
  refine step_none_of_zeros (a := a) (by rw [harch]; rcases ha with rfl | rfl <;> rfl) hcfi
    ((byFp_arm64 ha mem f.ctx).trans (fpArm64_null hget1 hget2 (Or.inr hr2))) (by rw [hp, hv.sp]; exact hz)
    (fun h => by rcases ha with rfl | rfl <;> cases h) (fun h => by rcases ha with rfl | rfl <;> cases h)

def Arch.hasFp : Arch → Bool
  | .x86 | .amd64 | .arm | .arm64 | .arm64old => true
  | _ => false

theorem fpFrame_rview (a : Arch) (ha : a.hasFp = true) (e : Exp) :
    RView a (fpFrame a e) e.sp (some (e.fp.getD 0)) false := by
  cases a <;> first | (cases ha; done) | skip
  all_goals refine ⟨rfl, rfl, fun h => (by cases h), ?_, ?_, Iff.intro (fun h => by cases h) (fun h => by cases h)⟩
  all_goals simp [fpFrame, Ctx.has, Ctx.raw, Arch.aliases, Arch.spName, Arch.fpName, Arch.ipName, Arch.canon,
    Arch.registers, assocGet]

def expectedFp (env : Env) (a : Arch) (chain : List Exp) : List Frame :=
  chain.map fun e => symbolise env (fpFrame a e)

theorem step_fp_any {env : Env} {a : Arch} {mem : Mem} {f : Frame} {g : Option Frame} {e : Exp} {sp fp : Nat} {first : Bool}
    (ha : a.hasFp = true) (harch : env.arch = a) (hcfi : env.cfi f g = none)
    (hv : RView a f sp (some fp) first) (hl : linkFp a env.os env.mask mem sp fp e = true) :
    step env mem f g = some (fpFrame a e) := by
  cases a <;> simp only [Arch.hasFp, Bool.false_eq_true] at ha
  · exact step_fp_x86 harch hcfi hv hl
  · exact step_fp_amd64_any harch hcfi hv hl
  · exact step_fp_arm harch hcfi hv hl
  · exact step_fp_arm64 (Or.inl rfl) harch hcfi hv hl
  · exact step_fp_arm64 (Or.inr rfl) harch hcfi hv hl

theorem step_end_any {env : Env} {a : Arch} {mem : Mem} {f : Frame} {g : Option Frame} {sp fp : Nat} {first : Bool}
    (ha : a.hasFp = true) (harch : env.arch = a) (hwin : a = .amd64 → env.os ≠ .windows)
    (hcfi : env.cfi f g = none) (hv : RView a f sp (some fp) first) (he : endFp a env.os mem sp fp = true) :
    step env mem f g = none := by
  cases a <;> simp only [Arch.hasFp, Bool.false_eq_true] at ha
  · exact step_end_x86 harch hcfi hv he
  · exact step_end_amd64 harch (hwin rfl) hcfi hv he
  · exact step_end_arm harch hcfi hv he
  · exact step_end_arm64 (Or.inl rfl) harch hcfi hv he
  · exact step_end_arm64 (Or.inr rfl) harch hcfi hv he

theorem walk_layout_fp_any (env : Env) (a : Arch) (harch : env.arch = a) (ha : a.hasFp = true)
    (hwin : a = .amd64 → env.os ≠ .windows) (hcfi : ∀ f g, env.cfi f g = none)
    (mem : Mem) (hm : mem.range?.isSome = true) (ctx : Ctx) (hv : ctx.valid = none) (chain : List Exp)
    (hpre : preFp a env.os env.mask mem ctx.sp (ctx.raw a a.fpName) chain = true) :
    walk env (some mem) ctx = symbolise env (Frame.ofCtx ctx .context) :: expectedFp env a chain := by
  rw [walk_of_range ctx hm]
  obtain ⟨_, h, rfl⟩ := walkLoop_follows (σ := Nat × Nat) (fun f _ st => ∃ first, RView a f st.1 (some st.2) first)
    (fun st e => linkFp a env.os env.mask mem st.1 st.2 e) (fun st => endFp a env.os mem st.1 st.2)
    (fun st => st.1) (fun _ e => (e.sp, e.fp.getD 0))
    (fun st chain => preFp a env.os env.mask mem st.1 st.2 chain = true) (fun _ chain fs => fs = expectedFp env a chain)
    (fun _ h => h) (fun _ _ _ => Bool.and_eq_true_iff.mp) (fun _ => rfl) (fun _ _ _ ⟨_, h⟩ => h.sp)
    (fun _ g _ e ⟨_, h⟩ hl => ⟨_, step_fp_any ha harch (hcfi _ g) (h.symbolise env) hl, ⟨_, fpFrame_rview a ha e⟩,
      fun _ _ h => h ▸ rfl⟩)
    (fun _ g _ ⟨_, h⟩ => step_end_any ha harch hwin (hcfi _ g) (h.symbolise env)) chain _ _ none (ctx.sp, ctx.raw a a.fpName)
    ⟨_, rview_context a ctx hv (by cases a <;> first | rfl | cases ha) (fun h => by subst h; cases ha)⟩ hpre
    (need_context_le mem ctx)
  exact h

/-- the generated end of a Windows x86-64 frame-pointer chain: `endFp`, the outermost record aligned so
    that every further probe reads a zero word or nothing -/
def endFpWin (os : Os) (mem : Mem) (sp fp : Nat) : Bool :=
  endFp .amd64 os mem sp fp && decide (sp ≤ fp) && decide ((fp - sp) % 8 = 0)

theorem step_end_amd64_aligned {env : Env} {mem : Mem} {f : Frame} {g : Option Frame} {sp fp : Nat} {first : Bool}
    (harch : env.arch = .amd64) (hcfi : env.cfi f g = none)
    (hv : RView .amd64 f sp (some fp) first) (he : endFpWin env.os mem sp fp = true) :
    step env mem f g = none := by
  simp only [endFpWin, endFp, Bool.and_eq_true, decide_eq_true_eq] at he
  obtain ⟨⟨⟨⟨_, hz⟩, _, hg⟩, hle⟩, hal⟩ := he
  have hz8 : zerosFrom mem 8 sp = true := hz
  refine step_end_amd64_any harch hcfi hv hg hz8 fun j v _ hr => ?_
  -- every probe position is a word of the zero region above `sp`
  have hm : fp + j * 16 = sp + ((fp - sp) / 8 + 2 * j) * 8 := by omega
  rw [hm] at hr
  exact zerosFrom_read (by decide) hz8 hr

def preFpWin (os : Os) (mask : Nat) (mem : Mem) : Nat → Nat → List Exp → Bool
  | sp, fp, [] => !mem.inRange sp || endFpWin os mem sp fp
  | sp, fp, e :: rest =>
    mem.inRange sp && linkFp .amd64 os mask mem sp fp e && preFpWin os mask mem e.sp (e.fp.getD 0) rest

theorem walk_layout_fp_amd64_any (env : Env) (harch : env.arch = .amd64) (hcfi : ∀ f g, env.cfi f g = none)
    (mem : Mem) (hm : mem.range?.isSome = true) (ctx : Ctx) (hv : ctx.valid = none) (chain : List Exp)
    (hpre : preFpWin env.os env.mask mem ctx.sp (ctx.raw .amd64 Arch.amd64.fpName) chain = true) :
    walk env (some mem) ctx = symbolise env (Frame.ofCtx ctx .context) :: expectedFp env .amd64 chain := by
  rw [walk_of_range ctx hm]
  obtain ⟨_, h, rfl⟩ := walkLoop_follows (σ := Nat × Nat) (fun f _ st => ∃ first, RView .amd64 f st.1 (some st.2) first)
    (fun st e => linkFp .amd64 env.os env.mask mem st.1 st.2 e) (fun st => endFpWin env.os mem st.1 st.2)
    (fun st => st.1) (fun _ e => (e.sp, e.fp.getD 0))
    (fun st chain => preFpWin env.os env.mask mem st.1 st.2 chain = true) (fun _ chain fs => fs = expectedFp env .amd64 chain)
    (fun _ h => h) (fun _ _ _ => Bool.and_eq_true_iff.mp) (fun _ => rfl) (fun _ _ _ ⟨_, h⟩ => h.sp)
    (fun _ g _ e ⟨_, h⟩ hl => ⟨_, step_fp_amd64_any harch (hcfi _ g) (h.symbolise env) hl, ⟨_, fpFrame_rview .amd64 rfl e⟩,
      fun _ _ h => h ▸ rfl⟩)
    (fun _ g _ ⟨_, h⟩ he => step_end_amd64_aligned harch (hcfi _ g) (h.symbolise env) he) chain _ _ none
    (ctx.sp, ctx.raw .amd64 Arch.amd64.fpName) ⟨_, rview_context .amd64 ctx hv rfl (fun h => by cases h)⟩ hpre
    (need_context_le mem ctx)
  exact h

end MdModel.Walk
