/-
  `Outcome` with an explicit panic outcome (`MdModel.ProcessCore`): `NoPanic`, and when `mapO` returns
  (`mapO_eq_ok`; length, positions, members and totality follow). `MdModel.Json` spells `mapO` as
  `omapM` (`Lemmas/Json`: `omapM_eq_mapO`).
-/
import MdModel.ProcessCore
namespace MdModel.Process
open MdModel

def NoPanic {α : Type} (o : Outcome α) : Prop := ∃ v, o = .ok v

theorem noPanic_ok {α : Type} (v : α) : NoPanic (Outcome.ok v) := ⟨v, rfl⟩

theorem noPanic_iff_isOk {α : Type} {o : Outcome α} : NoPanic o ↔ Outcome.isOk o = true := by
  cases o with
  | ok v => exact ⟨fun _ => rfl, fun _ => ⟨v, rfl⟩⟩
  | panic s => exact ⟨fun ⟨_, h⟩ => (nomatch h), fun h => (nomatch h)⟩

theorem bind_ok {α β : Type} (a : α) (f : α → Outcome β) : (Outcome.ok a >>= f) = f a := rfl
theorem bind_panic {α β : Type} (s : String) (f : α → Outcome β) : (Outcome.panic s >>= f) = .panic s := rfl
theorem pure_eq {α : Type} (a : α) : (pure a : Outcome α) = .ok a := rfl

theorem noPanic_bind {α β : Type} {o : Outcome α} {f : α → Outcome β} (h : NoPanic o) (hf : ∀ a, NoPanic (f a)) :
    NoPanic (o >>= f) := by
  obtain ⟨a, rfl⟩ := h
  exact hf a

theorem mapO_eq_ok {α β : Type} (f : α → Outcome β) (l : List α) (ys : List β) :
    mapO f l = .ok ys ↔ l.map f = ys.map .ok := by
  induction l generalizing ys with
  | nil => cases ys <;> simp [mapO]
  | cons x xs ih =>
    cases ys with
    | nil =>
      simp only [mapO, List.map_cons, List.map_nil, reduceCtorEq, iff_false]
      split
      · nofun
      · split <;> nofun
    | cons y ys =>
      simp only [mapO, List.map_cons, List.cons.injEq, ← ih]
      cases f x with
      | panic s => simp
      | ok y' => cases mapO f xs <;> simp

theorem mapO_length {α β : Type} (f : α → Outcome β) :
    ∀ (l : List α) (ys : List β), mapO f l = .ok ys → ys.length = l.length := fun l ys h => by
  simpa using (congrArg List.length ((mapO_eq_ok f l ys).mp h)).symm

theorem mapO_getElem? {α β : Type} {f : α → Outcome β} {l : List α} {ys : List β} (h : mapO f l = .ok ys)
    {i : Nat} {x : α} (hx : l[i]? = some x) : ∃ y, ys[i]? = some y ∧ f x = .ok y := by
  have := congrArg (·[i]?) ((mapO_eq_ok f l ys).mp h)
  simp only [List.getElem?_map, hx, Option.map_some] at this
  cases hy : ys[i]? with
  | none => rw [hy] at this; cases this
  | some y => rw [hy] at this; exact ⟨y, rfl, Option.some.inj this⟩

theorem mapO_mem {α β : Type} {f : α → Outcome β} {l : List α} {ys : List β} (h : mapO f l = .ok ys) :
    ∀ y ∈ ys, ∃ x ∈ l, f x = .ok y := fun y hy => by
  have : Outcome.ok y ∈ l.map f := (mapO_eq_ok f l ys).mp h ▸ List.mem_map_of_mem hy
  obtain ⟨x, hx, hfx⟩ := List.mem_map.mp this
  exact ⟨x, hx, hfx⟩

theorem mapO_ok {α β : Type} (f : α → Outcome β) (l : List α) (h : ∀ x ∈ l, NoPanic (f x)) :
    NoPanic (mapO f l) := by
  induction l with
  | nil => exact ⟨[], rfl⟩
  | cons x xs ih =>
    obtain ⟨y, hy⟩ := h x List.mem_cons_self
    obtain ⟨ys, hys⟩ := ih fun z hz => h z (List.mem_cons_of_mem _ hz)
    exact ⟨y :: ys, by simp only [mapO, hy, hys]⟩

end MdModel.Process
