/-
  Round trip `parse (render j) = some j` for `MdModel.Json` (C15, "valid UTF-8 JSON"):
  strings (every Unicode scalar value; `parseStr_fuel`: the fuel `parseStr` finds by scanning for the closing quote
  is enough on every input, rendered or not), numbers, and the array/object structure by recursion on the value.
-/
import MdProofs.Lemmas.Json
namespace MdModel.Json
open MdModel

theorem hex4_ctrl : ∀ n, n < 32 →
    hex4 '0' '0' (digitChar (n / 16)) (digitChar (n % 16)) = some n := by decide

theorem escChar_cases (c : Char) :
    (escChar c = [c] ∧ c ≠ '"' ∧ c ≠ '\\' ∧ ¬ c.toNat < 32) ∨
    (∃ e, escChar c = ['\\', e] ∧ e ≠ 'u' ∧ unescSimple e = some c) ∨
    (c.toNat < 32 ∧
      escChar c = ['\\', 'u', '0', '0', digitChar (c.toNat / 16), digitChar (c.toNat % 16)]) := by
  fun_cases escChar c
  case case1 | case2 =>
    rename_i h
    exact .inr (.inl ⟨_, rfl, by decide, by rw [h]; rfl⟩)
  case case3 | case4 | case5 | case6 | case7 =>
    -- `\b \f \n \r \t`: the character is the one with the tested code
    rename_i h
    exact .inr (.inl ⟨_, rfl, by decide, by rw [← Char.ofNat_toNat c, h]; rfl⟩)
  case case8 h => exact .inr (.inr ⟨h, rfl⟩)
  case case9 h1 h2 _ _ _ _ _ h => exact .inl ⟨rfl, h1, h2, h⟩

theorem escChar_length (c : Char) : 1 ≤ (escChar c).length := by
  rcases escChar_cases c with ⟨h, _⟩ | ⟨e, h, _⟩ | ⟨_, h⟩ <;> rw [h] <;> simp

theorem flatMap_esc_length (s : List Char) : s.length ≤ (s.flatMap escChar).length := by
  induction s with
  | nil => simp
  | cons c s ih =>
    have := escChar_length c
    simp only [List.flatMap_cons, List.length_append, List.length_cons]
    omega

theorem parseStrBody_quote (fuel : Nat) (r acc : List Char) :
    parseStrBody (fuel + 1) ('"' :: r) acc = some (String.ofList acc.reverse, r) := by
  simp only [parseStrBody, if_true]

theorem parseStrBody_bs (fuel : Nat) (r acc : List Char) :
    parseStrBody (fuel + 1) ('\\' :: r) acc =
      (parseEscape r).bind fun p => parseStrBody fuel p.2 (p.1 :: acc) := by
  simp only [parseStrBody, show ('\\' : Char) ≠ '"' by decide, if_false, if_true]
  cases parseEscape r <;> rfl

theorem parseStrBody_plain (fuel : Nat) (c : Char) (r acc : List Char)
    (h1 : c ≠ '"') (h2 : c ≠ '\\') (h3 : ¬ c.toNat < 32) :
    parseStrBody (fuel + 1) (c :: r) acc = parseStrBody fuel r (c :: acc) := by
  simp only [parseStrBody, if_neg h1, if_neg h2, if_neg h3]

theorem parseStrBody_esc (fuel : Nat) (c : Char) (r acc : List Char) :
    parseStrBody (fuel + 1) (escChar c ++ r) acc = parseStrBody fuel r (c :: acc) := by
  rcases escChar_cases c with ⟨h, h1, h2, h3⟩ | ⟨e, h, hu, he⟩ | ⟨h32, h⟩
  · rw [h]; exact parseStrBody_plain fuel c r acc h1 h2 h3
  · rw [h]
    show parseStrBody (fuel + 1) ('\\' :: e :: r) acc = _
    simp only [parseStrBody_bs, parseEscape, if_neg hu, he, Option.bind_some]
  · -- `\u00XY` is below the surrogate range: the code point itself
    have h1 : ¬ (0xD800 ≤ c.toNat ∧ c.toNat < 0xDC00) := by omega
    have h2 : ¬ (0xDC00 ≤ c.toNat ∧ c.toNat < 0xE000) := by omega
    rw [h]
    show parseStrBody (fuel + 1) ('\\' :: 'u' :: '0' :: '0' :: _ :: _ :: r) acc = _
    simp only [parseStrBody_bs, parseEscape, if_true, parseU, hex4_ctrl c.toNat h32, if_neg h1, if_neg h2,
      Option.bind_some, Char.ofNat_toNat]

theorem parseStrBody_flatMap (s : List Char) (rest acc : List Char) (fuel : Nat) (hf : s.length + 1 ≤ fuel) :
    parseStrBody fuel (s.flatMap escChar ++ '"' :: rest) acc = some (String.ofList (acc.reverse ++ s), rest) := by
  induction s generalizing acc fuel with
  | nil =>
    obtain ⟨f, rfl⟩ : ∃ f, fuel = f + 1 := ⟨fuel - 1, by omega⟩
    simp [parseStrBody_quote]
  | cons c s ih =>
    obtain ⟨f, rfl⟩ : ∃ f, fuel = f + 1 := ⟨fuel - 1, by omega⟩
    rw [List.flatMap_cons, List.append_assoc, parseStrBody_esc, ih _ _ (by simpa using hf)]
    simp

theorem strEnd_acc (b : Bool) (l : List Char) (a : Nat) : strEnd b l a = a + strEnd b l 0 := by
  induction l generalizing b a with
  | nil => simp [strEnd]
  | cons c r ih =>
    cases b with
    | true => simp only [strEnd]; rw [ih false (a + 1), ih false (0 + 1)]; omega
    | false =>
      simp only [strEnd]
      split
      · omega
      · split
        · rw [ih true (a + 1), ih true (0 + 1)]; omega
        · rw [ih false (a + 1), ih false (0 + 1)]; omega

theorem strEnd_plain (c : Char) (r : List Char) (a : Nat) (h1 : c ≠ '"') (h2 : c ≠ '\\') :
    strEnd false (c :: r) a = strEnd false r (a + 1) := by
  simp [strEnd, h1, h2]

theorem strEnd_true_cons (c : Char) (r : List Char) (a : Nat) :
    strEnd true (c :: r) a = strEnd false r (a + 1) := by simp [strEnd]

theorem strEnd_bs (r : List Char) (a : Nat) : strEnd false ('\\' :: r) a = strEnd true r (a + 1) := by
  simp [strEnd]

theorem isHexAny_plain (c : Char) (h : isHexAny c = true) : c ≠ '"' ∧ c ≠ '\\' := by
  constructor <;> (intro hc; subst hc; revert h; decide)

theorem hex4_plain {a b c d : Char} {h : Nat} (hh : hex4 a b c d = some h) :
    isHexAny a = true ∧ isHexAny b = true ∧ isHexAny c = true ∧ isHexAny d = true := by
  unfold hex4 at hh
  split at hh
  · rename_i hc
    simpa [Bool.and_eq_true, and_assoc] using hc
  · cases hh

theorem strEnd_hex4 {a b c d : Char} {h : Nat} (hh : hex4 a b c d = some h) (r : List Char) (n : Nat) :
    strEnd false (a :: b :: c :: d :: r) n = strEnd false r (n + 4) := by
  obtain ⟨ha, hb, hc, hd⟩ := hex4_plain hh
  rw [strEnd_plain a _ _ (isHexAny_plain a ha).1 (isHexAny_plain a ha).2,
    strEnd_plain b _ _ (isHexAny_plain b hb).1 (isHexAny_plain b hb).2,
    strEnd_plain c _ _ (isHexAny_plain c hc).1 (isHexAny_plain c hc).2,
    strEnd_plain d _ _ (isHexAny_plain d hd).1 (isHexAny_plain d hd).2]

theorem strEnd_le (b : Bool) (l : List Char) : strEnd b l 0 ≤ l.length := by
  -- along `strEnd`, the counter grows by at most one per character
  have h : ∀ a, strEnd b l a ≤ a + l.length := fun a => by
    fun_induction strEnd b l a <;> simp only [List.length_cons, List.length_nil] <;> omega
  simpa using h 0

/-- whatever an escape consumes, the scan (in its "after a backslash" state) steps over too and is
    back in its normal state at the same place -/
theorem parseEscape_strEnd (r r' : List Char) (ch : Char) (h : parseEscape r = some (ch, r')) :
    strEnd false r' 0 + 1 ≤ strEnd true r 0 ∧ r'.length < r.length := by
  cases r with
  | nil => simp [parseEscape] at h
  | cons e r2 =>
    simp only [parseEscape] at h
    split at h
    · -- `\u`: of the branches of `parseU` only the surrogate pair and the single code point return
      revert h
      fun_cases parseU r2 <;> intro h <;> simp_all
      · rename_i hh _ _ _ _ _ _ _ _ _ _ hl _
        rw [strEnd_true_cons, strEnd_hex4 hh, strEnd_bs, strEnd_true_cons, strEnd_hex4 hl,
          strEnd_acc _ _ (_ + _)]
        omega
      · rename_i hh _ _
        rw [strEnd_true_cons, strEnd_hex4 hh, strEnd_acc _ _ (_ + _)]
        omega
    · split at h
      · cases h
        rw [strEnd_true_cons, strEnd_acc _ _ (_ + _)]
        simp only [List.length_cons]
        omega
      · cases h

/-- fuel that is certainly sufficient: past the closing quote, or the whole input -/
def EnoughFuel (f : Nat) (cs : List Char) : Prop := strEnd false cs 0 + 1 ≤ f ∨ cs.length ≤ f

theorem EnoughFuel.pos {f : Nat} {c : Char} {r : List Char} (h : EnoughFuel f (c :: r)) : 1 ≤ f := by
  rcases h with h | h
  · omega
  · simp only [List.length_cons] at h; omega

theorem EnoughFuel.step {f : Nat} {c : Char} {r r' : List Char} (h : EnoughFuel (f + 1) (c :: r))
    (hs : strEnd false r' 0 + 1 ≤ strEnd false (c :: r) 0) (hl : r'.length ≤ r.length) :
    EnoughFuel f r' := by
  rcases h with h | h
  · left; omega
  · right; simp only [List.length_cons] at h; omega

theorem parseStrBody_enough (f g : Nat) (cs acc : List Char) (hf : EnoughFuel f cs) (hg : EnoughFuel g cs) :
    parseStrBody f cs acc = parseStrBody g cs acc := by
  fun_induction parseStrBody f cs acc generalizing g
  case case1 cs _ =>
    obtain rfl : cs = [] := List.eq_nil_of_length_eq_zero (by rcases hf with h | h <;> omega)
    cases g <;> rfl
  case case2 => cases g <;> rfl
  -- the input is not empty: the other fuel is positive as well
  all_goals obtain ⟨g, rfl⟩ : ∃ g', g = g' + 1 := ⟨g - 1, by have := hg.pos; omega⟩
  case case3 => rw [parseStrBody_quote]
  case case4 r ch r' hpe _ ih =>
    obtain ⟨h1, h2⟩ := parseEscape_strEnd r r' ch hpe
    have hs : strEnd false r' 0 + 1 ≤ strEnd false ('\\' :: r) 0 := by
      rw [strEnd_bs, strEnd_acc _ _ (_ + _)]; omega
    rw [parseStrBody_bs, hpe]
    exact ih g (hf.step hs (by omega)) (hg.step hs (by omega))
  case case5 hpe _ => rw [parseStrBody_bs, hpe]; rfl
  case case6 hq hb h32 => simp only [parseStrBody, if_neg hq, if_neg hb, if_pos h32]
  case case7 c r hq hb h32 ih =>
    have hs : strEnd false r 0 + 1 ≤ strEnd false (c :: r) 0 := by
      rw [strEnd_plain c r 0 hq hb, strEnd_acc _ _ (_ + _)]; omega
    rw [parseStrBody_plain _ _ _ _ hq hb h32]
    exact ih g (hf.step hs (Nat.le_refl _)) (hg.step hs (Nat.le_refl _))

/-- the scan is enough fuel on EVERY input, not only on rendered strings: `parseStr` is
    `parseStrBody` with the length of the whole remaining document as fuel -/
theorem parseStr_fuel (r : List Char) : parseStr r = parseStrBody r.length r [] :=
  parseStrBody_enough _ _ r [] (Or.inl (Nat.le_refl _)) (Or.inr (Nat.le_refl _))

theorem parseStr_renderStr (s : String) (rest : List Char) :
    ∃ body, renderStr s ++ rest = '"' :: body ∧ parseStr body = some (s, rest) := by
  refine ⟨s.toList.flatMap escChar ++ '"' :: rest, by simp [renderStr], ?_⟩
  rw [parseStr_fuel, parseStrBody_flatMap]
  · simp
  · have := flatMap_esc_length s.toList
    simp only [List.length_append, List.length_cons]
    omega

def Delim (rest : List Char) : Prop := ∀ c r, rest = c :: r → c = ',' ∨ c = ']' ∨ c = '}'

theorem isDigit_ne {c d : Char} (hc : isDigit c = true) (hd : isDigit d = false) : c ≠ d :=
  fun h => by rw [h, hd] at hc; cases hc

theorem natDigits_head (n : Nat) :
    ∃ c r, natDigits n = c :: r ∧ isDigit c = true ∧ (c = '0' → r = []) := by
  obtain ⟨d, r, h1, h2, h3⟩ := digitsB_head 10 (by decide) n
  refine ⟨digitChar d, r, h1, (digitChar_dec d h2).1, fun h0 => (h3 ((digitChar_hex d (by omega)).2.2 h0)).2⟩

theorem Delim.head {rest : List Char} (h : Delim rest) (c : Char) (r : List Char) (hc : rest = c :: r) :
    isDigit c = false ∧ c ≠ '.' ∧ c ≠ 'e' ∧ c ≠ 'E' := by
  rcases h c r hc with h | h | h <;> subst h <;> decide

theorem toFin10_fracChar : ∀ d : Fin 10, toFin10 (fracChar d) = d := by decide
theorem fracChar_digit : ∀ d : Fin 10, isDigit (fracChar d) = true := by decide

theorem parseFrac_none (tail : List Char) (h : ∀ c r, tail = c :: r → c ≠ '.') :
    parseFrac tail = some ([], tail) := by
  cases tail with
  | nil => rfl
  | cons c r => simp [parseFrac, h c r rfl]

theorem parseFrac_some (frac : List (Fin 10)) (hne : frac ≠ []) (tail : List Char)
    (ht : StartsNot isDigit tail) :
    parseFrac ('.' :: (frac.map fracChar ++ tail)) = some (frac.map fracChar, tail) := by
  have hall : (frac.map fracChar).all isDigit = true := by
    simp [List.all_map, fracChar_digit]
  obtain ⟨h1, h2⟩ := takeWhile_app isDigit _ tail hall ht
  have : frac.map fracChar ≠ [] := by simpa using hne
  simp [parseFrac, h1, h2, this]

theorem parseExp_none (tail : List Char) (h : ∀ c r, tail = c :: r → c ≠ 'e' ∧ c ≠ 'E') :
    parseExp tail = some (none, tail) := by
  cases tail with
  | nil => rfl
  | cons c r => simp [parseExp, (h c r rfl).1, (h c r rfl).2]

theorem parseExp_some (neg : Bool) (e : Nat) (tail : List Char) (ht : StartsNot isDigit tail) :
    parseExp ('e' :: ((if neg then ['-'] else []) ++ natDigits e ++ tail)) = some (some (neg, e), tail) := by
  obtain ⟨h1, h2⟩ := takeWhile_app isDigit _ tail (natDigits_all e) ht
  obtain ⟨c, r, hd, hc, _⟩ := natDigits_head e
  have hne : natDigits e ≠ [] := digitsB_ne_nil 10 e
  cases neg with
  | true =>
    simp [parseExp, h1, h2, hne, decValue_natDigits]
  | false =>
    have hm : c ≠ '-' := isDigit_ne hc (by decide)
    have hp : c ≠ '+' := isDigit_ne hc (by decide)
    have hh : (natDigits e ++ tail).head? = some c := by rw [hd]; rfl
    simp [parseExp, hh, hm, hp, h1, h2, hne, decValue_natDigits]

theorem parseNum_renderNum (n : JNum) (rest : List Char) (hd : Delim rest) :
    parseNum (renderNum n ++ rest) = some (n, rest) := by
  obtain ⟨neg, ip, frac, exp⟩ := n
  let T2 : List Char := (match exp with
    | none => []
    | some (eneg, e) => 'e' :: ((if eneg then ['-'] else []) ++ natDigits e)) ++ rest
  let T1 : List Char := (if frac = [] then [] else '.' :: frac.map fracChar) ++ T2
  obtain ⟨hT2, hT2h⟩ : parseExp T2 = some (exp, rest) ∧
      ∀ c r, T2 = c :: r → isDigit c = false ∧ c ≠ '.' := by
    cases exp with
    | none =>
      exact ⟨parseExp_none _ fun c r hc => (hd.head c r hc).2.2,
        fun c r hc => ⟨(hd.head c r hc).1, (hd.head c r hc).2.1⟩⟩
    | some p =>
      obtain ⟨eneg, e⟩ := p
      have := parseExp_some eneg e rest fun c r hc => (hd.head c r hc).1
      refine ⟨by simpa [T2, List.append_assoc] using this, fun c r hc => ?_⟩
      simp only [T2, List.cons_append] at hc
      cases hc
      decide
  obtain ⟨hT1, hT1d⟩ : parseFrac T1 = some (frac.map fracChar, T2) ∧ StartsNot isDigit T1 := by
    by_cases hf : frac = []
    · subst hf
      exact ⟨by simpa [T1] using parseFrac_none T2 fun c r hc => (hT2h c r hc).2,
        fun c r hc => (hT2h c r (by simpa [T1] using hc)).1⟩
    · refine ⟨by simpa [T1, hf] using parseFrac_some frac hf T2 fun c r hc => (hT2h c r hc).1,
        fun c r hc => ?_⟩
      simp only [T1, hf, if_false, List.cons_append] at hc
      cases hc
      decide
  obtain ⟨h1, h2⟩ := takeWhile_app isDigit (natDigits ip) T1 (natDigits_all ip) hT1d
  obtain ⟨c, r, hdg, hc, hz⟩ := natDigits_head ip
  have hne : natDigits ip ≠ [] := digitsB_ne_nil 10 ip
  have hlead : ¬ ((natDigits ip).head? = some '0' ∧ (natDigits ip).length > 1) := by
    rw [hdg]
    intro ⟨ha, hb⟩
    simp at ha
    have := hz ha
    subst this
    simp at hb
  have hmap : (frac.map fracChar).map toFin10 = frac := by
    simp [List.map_map, Function.comp_def, toFin10_fracChar]
  have hshape : renderNum ⟨neg, ip, frac, exp⟩ ++ rest = (if neg then ['-'] else []) ++ (natDigits ip ++ T1) := by
    simp only [renderNum, T1, T2, List.append_assoc]
    cases exp <;> rfl
  rw [hshape]
  cases neg with
  | true =>
    simp only [parseNum, if_true, List.cons_append, List.nil_append, List.head?_cons, List.drop_succ_cons,
      List.drop_zero, h1, h2, hne, hlead, if_false, hT1, hT2, hmap, decValue_natDigits]
    simp
  | false =>
    have hm : c ≠ '-' := isDigit_ne hc (by decide)
    have hh : (natDigits ip ++ T1).head? = some c := by rw [hdg]; rfl
    simp only [parseNum, Bool.false_eq_true, if_false, List.nil_append, hh, Option.some.injEq, hm, h1, h2, hne, hlead,
      hT1, hT2, hmap, decValue_natDigits]
    simp

theorem skipWs_cons (c : Char) (r : List Char) (h : isWs c = false) : skipWs (c :: r) = c :: r := by
  simp [skipWs, List.dropWhile, h]

def Starter (c : Char) : Prop :=
  isWs c = false ∧ c ≠ ']' ∧ c ≠ '}' ∧ c ≠ ',' ∧ c ≠ ':'

theorem starter_lit (c : Char) (h : isWs c = false ∧ c ≠ ']' ∧ c ≠ '}' ∧ c ≠ ',' ∧ c ≠ ':') : Starter c := h

theorem numStart_facts (c : Char) (h : c = '-' ∨ isDigit c = true) :
    Starter c ∧ c ≠ '"' ∧ c ≠ '[' ∧ c ≠ '{' ∧ c ≠ 'n' ∧ c ≠ 't' ∧ c ≠ 'f' := by
  rcases h with h | h
  · subst h; refine ⟨⟨?_, ?_, ?_, ?_, ?_⟩, ?_, ?_, ?_, ?_, ?_, ?_⟩ <;> decide
  · have ne : ∀ {d : Char}, isDigit d = false → c ≠ d := isDigit_ne h
    refine ⟨⟨?_, ne (by decide), ne (by decide), ne (by decide), ne (by decide)⟩,
      ne (by decide), ne (by decide), ne (by decide), ne (by decide), ne (by decide),
      ne (by decide)⟩
    have hr : 48 ≤ c.toNat ∧ c.toNat ≤ 57 := by simpa [isDigit] using h
    simp only [isWs, Bool.or_eq_false_iff, decide_eq_false_iff_not]
    omega

theorem renderNum_head (n : JNum) :
    ∃ c r, renderNum n = c :: r ∧ (c = '-' ∨ isDigit c = true) := by
  obtain ⟨neg, ip, frac, exp⟩ := n
  obtain ⟨c, r, hd, hc, _⟩ := natDigits_head ip
  cases neg
  · exact ⟨c, _, by simp only [renderNum, hd]; rfl, .inr hc⟩
  · exact ⟨'-', _, rfl, .inl rfl⟩

theorem render_head (j : Json) : ∃ c r, render j = c :: r ∧ Starter c := by
  cases j with
  | num n =>
    obtain ⟨c, r, h1, h2⟩ := renderNum_head n
    exact ⟨c, r, by simp only [render, h1], (numStart_facts c h2).1⟩
  | bool b => cases b <;> exact ⟨_, _, rfl, starter_lit _ (by decide)⟩
  | arr xs => cases xs <;> exact ⟨_, _, rfl, starter_lit _ (by decide)⟩
  | obj kvs => rcases kvs with _ | ⟨⟨k, v⟩, kvs⟩ <;> exact ⟨_, _, rfl, starter_lit _ (by decide)⟩
  | null | str s => exact ⟨_, _, rfl, starter_lit _ (by decide)⟩

theorem renderTail_delim (xs : List Json) (rest : List Char) : Delim (renderTail xs ++ rest) := by
  intro c r h
  cases xs with
  | nil => simp [renderTail] at h; exact Or.inr (Or.inl h.1.symm)
  | cons x xs => simp [renderTail] at h; exact Or.inl h.1.symm

theorem renderFTail_delim (kvs : List (String × Json)) (rest : List Char) : Delim (renderFTail kvs ++ rest) := by
  intro c r h
  cases kvs with
  | nil => simp [renderFTail] at h; exact Or.inr (Or.inr h.1.symm)
  | cons kv kvs =>
    obtain ⟨k, v⟩ := kv
    simp [renderFTail] at h; exact Or.inl h.1.symm

theorem render_length_pos (j : Json) : 1 ≤ (render j).length := by
  obtain ⟨c, r, h, _⟩ := render_head j
  rw [h]; simp

theorem renderTail_length_pos (xs : List Json) : 1 ≤ (renderTail xs).length := by
  cases xs <;> simp [renderTail]

theorem renderFTail_length_pos (kvs : List (String × Json)) : 1 ≤ (renderFTail kvs).length := by
  cases kvs with
  | nil => simp [renderFTail]
  | cons kv kvs => obtain ⟨k, v⟩ := kv; simp [renderFTail]

theorem parseElems_step {fuel : Nat} {cs r : List Char} {v : Json} {c : Char} (acc : List Json)
    (hv : parseValue fuel cs = some (v, c :: r)) (hc : isWs c = false) :
    parseElems (fuel + 1) cs acc =
      if c = ',' then parseElems fuel r (v :: acc) else if c = ']' then some (.arr (v :: acc).reverse, r) else none := by
  rw [parseElems, hv]
  simp only [skipWs_cons c r hc]

theorem parseMembers_step (k : String) {fuel : Nat} {cs r : List Char} {v : Json} {c : Char} (acc : List (String × Json))
    (hv : parseValue fuel cs = some (v, c :: r)) (hc : isWs c = false) :
    parseMembers (fuel + 1) (renderStr k ++ ':' :: cs) acc =
      if c = ',' then parseMembers fuel r ((k, v) :: acc)
      else if c = '}' then some (.obj ((k, v) :: acc).reverse, r) else none := by
  obtain ⟨body, hb1, hb2⟩ := parseStr_renderStr k (':' :: cs)
  rw [hb1, parseMembers]
  simp only [skipWs_cons '"' _ (by decide), if_true, hb2, skipWs_cons ':' _ (by decide), hv, skipWs_cons c r hc]

/-! The round trip by recursion on the value. The parser spends one unit of fuel per value and one per element or
    member, so the rendered length is enough. The two loops are entered after their first element has been read
    (`…_tail`, over the step equations above): their statements speak of the parse of that element, not of its text. -/

mutual
theorem parseValue_render : ∀ (j : Json) (fuel : Nat) (rest : List Char),
    (render j).length ≤ fuel → Delim rest → parseValue fuel (render j ++ rest) = some (j, rest)
  | j, 0, _, hlen, _ => by have := render_length_pos j; omega
  | .null, _ + 1, _, _, _ => by simp [render, parseValue, skipWs, isWs]
  | .bool b, _ + 1, _, _, _ => by cases b <;> simp [render, parseValue, skipWs, isWs]
  | .num n, _ + 1, rest, _, hd => by
    obtain ⟨c, r, h1, h2⟩ := renderNum_head n
    obtain ⟨⟨hw, _⟩, q1, q2, q3, q4, q5, q6⟩ := numStart_facts c h2
    have hp := parseNum_renderNum n rest hd
    simp only [render, h1, List.cons_append] at hp ⊢
    simp only [parseValue, skipWs_cons c _ hw, q1, q2, q3, q4, q5, q6, if_false, h2, if_true, hp]
  | .str s, _ + 1, rest, _, _ => by
    obtain ⟨body, h1, h2⟩ := parseStr_renderStr s rest
    simp only [render, h1]
    simp [parseValue, skipWs, isWs, h2]
  | .arr [], _ + 1, _, _, _ => by simp [render, parseValue, skipWs, isWs]
  | .arr (x :: xs), f + 1, rest, hlen, hd => by
    have hx := render_length_pos x
    have ht := renderTail_length_pos xs
    simp only [render, List.length_cons, List.length_append] at hlen
    obtain ⟨f, rfl⟩ : ∃ g, f = g + 1 := ⟨f - 1, by omega⟩
    obtain ⟨c, r, h1, hs, hb, _⟩ := render_head x
    have hv := parseValue_render x f (renderTail xs ++ rest) (by omega) (renderTail_delim xs rest)
    have := parseElems_tail x f _ [] rest xs hv (by omega) hd
    simp only [render, List.cons_append, List.append_assoc]
    simp only [h1, List.cons_append] at this ⊢
    simp [parseValue, skipWs_cons '[' _ (by decide), skipWs_cons c _ hs, hb, this]
  | .obj [], _ + 1, _, _, _ => by simp [render, parseValue, skipWs, isWs]
  | .obj ((k, v) :: kvs), f + 1, rest, hlen, hd => by
    have hx := render_length_pos v
    have ht := renderFTail_length_pos kvs
    simp only [render, List.length_cons, List.length_append] at hlen
    obtain ⟨f, rfl⟩ : ∃ g, f = g + 1 := ⟨f - 1, by omega⟩
    have hv := parseValue_render v f (renderFTail kvs ++ rest) (by omega) (renderFTail_delim kvs rest)
    have := parseMembers_tail k v f _ [] rest kvs hv (by omega) hd
    simp only [render, List.cons_append, List.append_assoc]
    simp only [renderStr, List.cons_append, List.append_assoc, List.nil_append, List.reverse_nil] at this ⊢
    simp [parseValue, skipWs_cons '{' _ (by decide), skipWs_cons '"' _ (by decide), this]
theorem parseElems_tail (x : Json) (fuel : Nat) (cs : List Char) (acc : List Json) (rest : List Char) :
    ∀ xs : List Json, parseValue fuel cs = some (x, renderTail xs ++ rest) → (renderTail xs).length ≤ fuel + 1 →
      Delim rest → parseElems (fuel + 1) cs acc = some (.arr (acc.reverse ++ x :: xs), rest)
  | [], hv, _, _ => by
    rw [parseElems_step acc hv (by decide)]
    simp
  | y :: ys, hv, hlen, hd => by
    have hy := render_length_pos y
    have ht := renderTail_length_pos ys
    simp only [renderTail, List.length_cons, List.length_append, List.cons_append, List.append_assoc] at hlen hv
    obtain ⟨f, rfl⟩ : ∃ g, fuel = g + 1 := ⟨fuel - 1, by omega⟩
    have hvy := parseValue_render y f (renderTail ys ++ rest) (by omega) (renderTail_delim ys rest)
    rw [parseElems_step acc hv (by decide), if_pos rfl, parseElems_tail y f _ (x :: acc) rest ys hvy (by omega) hd]
    simp
theorem parseMembers_tail (k : String) (v : Json) (fuel : Nat) (cs : List Char) (acc : List (String × Json))
    (rest : List Char) :
    ∀ kvs : List (String × Json), parseValue fuel cs = some (v, renderFTail kvs ++ rest) →
      (renderFTail kvs).length ≤ fuel + 1 → Delim rest →
      parseMembers (fuel + 1) (renderStr k ++ ':' :: cs) acc = some (.obj (acc.reverse ++ (k, v) :: kvs), rest)
  | [], hv, _, _ => by
    rw [parseMembers_step k acc hv (by decide)]
    simp
  | (k', v') :: kvs, hv, hlen, hd => by
    have hy := render_length_pos v'
    have ht := renderFTail_length_pos kvs
    simp only [renderFTail, List.length_cons, List.length_append, List.cons_append, List.append_assoc] at hlen hv
    obtain ⟨f, rfl⟩ : ∃ g, fuel = g + 1 := ⟨fuel - 1, by omega⟩
    have hvy := parseValue_render v' f (renderFTail kvs ++ rest) (by omega) (renderFTail_delim kvs rest)
    rw [parseMembers_step k acc hv (by decide), if_pos rfl,
      parseMembers_tail k' v' f _ ((k, v) :: acc) rest kvs hvy (by omega) hd]
    simp
end

end MdModel.Json
