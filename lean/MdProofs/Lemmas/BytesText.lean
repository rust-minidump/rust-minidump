/-
  The text-stream iterators of `MdModel.DumpText`: no panic
  (slice indices, `idx + 1`), every span handed out lies inside the line it came from, the line
  loop ends within `len + 1` iterations, nothing is allocated.
-/
import MdModel.DumpText
import MdProofs.Lemmas.Bytes
namespace MdModel.Dump
open MdModel

def SpanIn (lo hi : Nat) (sp : Span) : Prop := lo ≤ sp.1 ∧ sp.1 ≤ sp.2 ∧ sp.2 ≤ hi

theorem findFwd_some (b : Bytes) (p : UInt8 → Bool) (n i j : Nat) (h : findFwd b p n i = some j) :
    i ≤ j ∧ j < i + n ∧ p (b.getD j 0) = true ∧ ∀ k, i ≤ k → k < j → p (b.getD k 0) = false := by
  fun_induction findFwd b p n i with
  | case1 => cases h
  | case2 _ _ hp => cases h; exact ⟨Nat.le_refl _, by omega, hp, fun k h1 h2 => by omega⟩
  | case3 _ i hp ih =>
    have ⟨h1, h2, h3, h4⟩ := ih h
    refine ⟨by omega, by omega, h3, fun k hk1 hk2 => ?_⟩
    by_cases hki : k = i
    · subst hki; simpa using hp
    · exact h4 k (by omega) hk2

theorem findBwd_some (b : Bytes) (p : UInt8 → Bool) (lo n j : Nat) (h : findBwd b p lo n = some j) :
    lo ≤ j ∧ j < lo + n ∧ p (b.getD j 0) = true := by
  fun_induction findBwd b p lo n with
  | case1 => cases h
  | case2 _ hp => cases h; exact ⟨by omega, by omega, hp⟩
  | case3 _ _ ih => have ⟨h1, h2, h3⟩ := ih h; exact ⟨h1, by omega, h3⟩

theorem position_some {b : Bytes} {p : UInt8 → Bool} {lo hi j : Nat} (h : position b p lo hi = some j) :
    lo ≤ j ∧ j < hi ∧ p (b.getD j 0) = true ∧ ∀ k, lo ≤ k → k < j → p (b.getD k 0) = false := by
  unfold position at h
  have ⟨h1, h2, h3, h4⟩ := findFwd_some b p _ _ _ h
  exact ⟨h1, by omega, h3, h4⟩

theorem rposition_some {b : Bytes} {p : UInt8 → Bool} {lo hi j : Nat} (h : rposition b p lo hi = some j) :
    lo ≤ j ∧ j < hi ∧ p (b.getD j 0) = true := by
  unfold rposition at h
  have ⟨h1, h2, h3⟩ := findBwd_some b p lo _ _ h
  exact ⟨h1, by omega, h3⟩

section
variable {H : Prop} {B : Nat} {E : Prop}

theorem checkRange_run (site : String) {len a c : Nat} (h : H → a ≤ c ∧ c ≤ len) :
    Run H B 0 (checkRange site len a c) (fun _ => True) E :=
  run_ite (fun _ => run_pure trivial) (fun hn => run_panic _ (fun hH => hn (h hH)))

theorem checkRangeInclusive_run (site : String) {len f l : Nat}
    (h : H → f ≤ l + 1 ∧ l + 1 ≤ len ∧ len < 9223372036854775808) :
    Run H B 0 (checkRangeInclusive site len f l) (fun r => r = (f, l + 1) ∧ f ≤ l + 1 ∧ l + 1 ≤ len) E := by
  unfold checkRangeInclusive
  refine run_ite (fun hc => run_panic _ (fun hH => ?_)) (fun _ =>
    run_ite (fun hc => run_pure ⟨rfl, hc⟩) (fun hn => run_panic _ (fun hH => hn ⟨(h hH).1, (h hH).2.1⟩)))
  have := h hH
  unfold USIZE_MAX U64MAX at hc
  omega

theorem trim_run (b : Bytes) {lo hi : Nat} (hle : lo ≤ hi) (hhi : H → hi < 9223372036854775808) :
    Run H B 0 (trimAsciiWhitespace b lo hi) (SpanIn lo hi) E := by
  unfold trimAsciiWhitespace
  split
  · rename_i f l hf hl
    have ⟨hf1, hf2, _, hfmin⟩ := position_some hf
    have ⟨hl1, hl2, hlp⟩ := rposition_some hl
    -- the first non-blank byte is not after the last one
    have hfl : f ≤ l := by
      refine Decidable.by_contra fun h => ?_
      rw [hfmin l hl1 (by omega)] at hlp
      cases hlp
    refine run_bind0 (checkRangeInclusive_run _ (fun hH => by have := hhi hH; omega)) (fun r hr => ?_)
    obtain ⟨rfl, _, _⟩ := hr
    exact run_pure (by unfold SpanIn; dsimp only; omega)
  · exact run_pure ⟨Nat.le_refl _, Nat.le_refl _, hle⟩

theorem stripQuotes_run (b : Bytes) {lo hi : Nat} (hle : lo ≤ hi) (hhi : H → hi < 9223372036854775808) :
    Run H B 0 (stripQuotes b lo hi) (SpanIn lo hi) E := by
  unfold stripQuotes
  refine run_bind0 (trim_run b hle hhi) (fun t ht => ?_)
  split
  · split
    · exact run_pure (by unfold SpanIn at *; dsimp only; omega)
    · exact run_pure ht
  · exact run_pure ht

def SplitOk (lo hi : Nat) (o : Option (Span × Span)) : Prop :=
  ∀ l v, o = some (l, v) → l.1 = lo ∧ l.1 ≤ l.2 ∧ l.2 + 1 = v.1 ∧ v.1 ≤ v.2 ∧ v.2 = hi

theorem splitOnce_run (b : Bytes) (sep : UInt8) {lo hi : Nat} (hhi : H → hi < 9223372036854775808) :
    Run H B 0 (splitOnce b sep lo hi) (SplitOk lo hi) E := by
  unfold splitOnce
  split
  · exact run_pure (fun l v h => by cases h)
  · rename_i i hi'
    have ⟨h1, h2, _, _⟩ := position_some hi'
    refine run_bind0 (checkRange_run _ (fun _ => ⟨by omega, by omega⟩)) (fun _ _ => ?_)
    refine run_bind0 (run_usizeAdd _ (fun hH => by have := hhi hH; unfold USIZE_MAX U64MAX; omega)) (fun j hj => ?_)
    subst hj
    refine run_bind0 (checkRange_run _ (fun _ => ⟨by omega, by omega⟩)) (fun _ _ => run_pure ?_)
    intro l v h
    cases h
    dsimp only
    omega

def KvIn (lo hi : Nat) (o : Option (Span × Span)) : Prop :=
  ∀ k v, o = some (k, v) → SpanIn lo hi k ∧ SpanIn lo hi v ∧ k.2 < v.1

theorem kvLine_run (b : Bytes) (sep : UInt8) {lo hi : Nat} (hhi : H → hi < 9223372036854775808) :
    Run H B 0 (kvLine b sep lo hi) (KvIn lo hi) E := by
  unfold kvLine
  refine run_bind0 (splitOnce_run b sep hhi) (fun r hr => ?_)
  split
  · exact run_pure (fun k v h => by cases h)
  · rename_i label val
    have ⟨a1, a2, a3, a4, a5⟩ := hr label val rfl
    refine run_bind0 (stripQuotes_run b a2 (fun hH => by have := hhi hH; omega)) (fun k hk => ?_)
    refine run_bind0 (stripQuotes_run b a4 (fun hH => by have := hhi hH; omega)) (fun v hv => run_pure ?_)
    intro k' v' h
    cases h
    unfold SpanIn at *
    omega

/-- the justification for `scanLines` taking a plain outcome: one line's work allocates nothing -/
theorem kvLine_allocs (b : Bytes) (sep : UInt8) (lo hi : Nat) : (kvLine b sep lo hi).allocs = [] :=
  (kvLine_run (H := False) (B := 0) (E := True) b sep False.elim).allocs_nil

/-- Every iteration that does not end the loop consumes a byte, so with `fuel ≥ len - start + 1` the
    "does not end" outcome is unreachable. The line's work `f` is a plain outcome: what the judgement asks of
    a step is asked of it outcome by outcome. -/
theorem scanLines_run {α : Type} (b : Bytes) (f : Nat → Nat → Res (Option α)) (Q : α → Prop)
    (hf : ∀ lo hi, lo ≤ hi → hi ≤ b.size → (∀ o, f lo hi = .ok o → ∀ x, o = some x → Q x) ∧
      (∀ e, f lo hi = .err e → E) ∧ ∀ s, f lo hi = .panic s → ¬ H) :
    ∀ (fuel start : Nat) (acc : List α), start ≤ b.size → b.size - start + 1 ≤ fuel → (∀ x ∈ acc, Q x) →
      Run H B 0 (scanLines b f fuel start acc)
        (fun l => (∀ x ∈ l, Q x) ∧ l.length ≤ acc.length + (b.size - start) + 1) E := by
  intro fuel
  induction fuel with
  | zero => intro start acc _ h; omega
  | succ fuel ih =>
    intro start acc hstart hfuel hacc
    unfold scanLines
    dsimp only
    have hstop : start ≤ (position b (fun c => c == 0x0A) start b.size).getD b.size ∧
        (position b (fun c => c == 0x0A) start b.size).getD b.size ≤ b.size := by
      cases hp : position b (fun c => c == 0x0A) start b.size with
      | none => exact ⟨hstart, Nat.le_refl _⟩
      | some idx => have := position_some hp; exact ⟨this.1, by simp only [Option.getD_some]; omega⟩
    obtain ⟨hok, herr, hpanic⟩ := hf start _ hstop.1 hstop.2
    split
    · rename_i s hs
      exact run_panic _ (hpanic s hs)
    · rename_i e he
      exact run_fail _ (herr e he)
    · rename_i o ho
      have hacc' : ∀ x ∈ consOpt o acc, Q x := by
        intro x hx
        cases o with
        | none => exact hacc x hx
        | some y =>
          cases List.mem_cons.mp hx with
          | inl h => exact h ▸ hok _ ho y rfl
          | inr h => exact hacc x h
      have hlen' : (consOpt o acc).length ≤ acc.length + 1 := by cases o <;> simp [consOpt]
      split
      · exact run_pure ⟨fun x hx => hacc' x (List.mem_reverse.mp hx), by rw [List.length_reverse]; omega⟩
      · rename_i idx hidx
        have := position_some hidx
        exact (ih (idx + 1) (consOpt o acc) (by omega) (by omega) hacc').post fun l hl => ⟨hl.1, by have := hl.2; omega⟩

theorem scanLines_safe {α : Type} {B : Nat} {b : Bytes} {f : Nat → Nat → Res (Option α)} {fuel start : Nat} {acc : List α}
    (h : NoPanic (scanLines b f fuel start acc) ∧ (scanLines b f fuel start acc).allocs = [] ∧
      ∀ l, (scanLines b f fuel start acc).res = .ok l → True) : Safe B (scanLines b f fuel start acc) :=
  ⟨h.1, fun a ha => by rw [h.2.1] at ha; cases ha⟩

def KvOk (len : Nat) (kv : Span × Span) : Prop := SpanIn 0 len kv.1 ∧ SpanIn 0 len kv.2 ∧ kv.1.2 < kv.2.1

theorem linuxListIter_run (b : Bytes) (sep : UInt8) (hsz : H → b.size < 9223372036854775808) :
    Run H B 0 (linuxListIter b sep) (fun l => (∀ kv ∈ l, KvOk b.size kv) ∧ l.length ≤ b.size + 1) E := by
  have := scanLines_run (H := H) (B := B) (E := E) b (fun lo hi => (kvLine b sep lo hi).res) (KvOk b.size) (by
    intro lo hi hle hhi
    have r := kvLine_run (H := H) (B := B) (E := E) b sep (lo := lo) (hi := hi) (fun hH => by have := hsz hH; omega)
    refine ⟨fun o ho x hx => ?_, r.err, r.panic⟩
    obtain ⟨k, v⟩ := x
    have := r.ok o ho k v hx
    unfold KvOk SpanIn at *
    dsimp only at *
    omega)
    (b.size + 1) 0 [] (by omega) (by omega) (by intro x hx; cases hx)
  simpa [linuxListIter] using this

theorem linesIter_run (b : Bytes) :
    Run H B 0 (linesIter b) (fun l => (∀ sp ∈ l, SpanIn 0 b.size sp) ∧ l.length ≤ b.size + 1) E := by
  have := scanLines_run (H := H) (B := B) (E := E) b (fun lo hi => .ok (some (lo, hi))) (SpanIn 0 b.size)
    (fun lo hi hle hhi => ⟨fun o ho x hx => by cases ho; cases hx; exact ⟨Nat.zero_le _, hle, hhi⟩,
      fun _ h => (nomatch h), fun _ h => (nomatch h)⟩)
    (b.size + 1) 0 [] (by omega) (by omega) (by intro x hx; cases hx)
  simpa [linesIter] using this

end

end MdModel.Dump
