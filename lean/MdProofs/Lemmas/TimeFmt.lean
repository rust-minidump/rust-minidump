/-
  Lemmas about MdModel.TimeFmt. `doeParts` (civil-from-days within one 400-year era) is taken in its two stages,
  day of era → year of era (name the century, then the day lies between the start of the computed year and the
  start of the next) and day of year → month and day, each proved by arithmetic; the facts that carry the result
  to every era; the digits of the rendering and their injectivity.
-/
import MdModel.TimeFmt
import MdProofs.Lemmas.Word

namespace MdModel.TimeFmt

theorem isLeap_iff (y : Nat) : isLeap y = true ↔ y % 4 = 0 ∧ (y % 100 ≠ 0 ∨ y % 400 = 0) := by
  simp [isLeap]

/-- The century `c` of a day of the era: `doe / 36524`, but the era's last day (the 29 February that only the
    fourth century has) still belongs to century 3. -/
theorem century (doe : Nat) (h : doe < 146097) :
    ∃ c, doe / 36524 = c + doe / 146096 ∧ c ≤ 3 ∧ 36524 * c ≤ doe ∧ doe < 36524 * (c + 1) + (c + 1) / 4 := by
  by_cases e : doe = 146096
  · subst e; exact ⟨3, by decide⟩
  · have : doe / 146096 = 0 := Nat.div_eq_of_lt (by omega)
    exact ⟨doe / 36524, by omega⟩

/-- The year formula inside century `c`: the computed year lies in that century, and the day lies between the
    first day of that year and the first day of the next (year `y` of a century starts `365 * y + y / 4 - c` days
    into the era). `doe / 1460` estimates the leap days before `doe`: with `k < 365` the remainder of the division
    by 365, `yoe / 4 ≤ doe / 1460 + k < 365 + (yoe + 1) / 4`. -/
theorem year_bounds (doe c yoe : Nat) (hc : c ≤ 3) (h1 : 36524 * c ≤ doe)
    (h2 : doe < 36524 * (c + 1) + (c + 1) / 4) (hy : yoe = (doe - doe / 1460 + c) / 365) :
    yoe / 100 = c ∧ 365 * yoe + yoe / 4 ≤ doe + c ∧ doe + c < 365 * (yoe + 1) + (yoe + 1) / 4 := by
  have h100 : yoe / 100 = c := by omega
  exact ⟨h100, by clear hc h1 h2; omega, by clear h1; omega⟩

theorem year_of_era (doe yoe doy : Nat) (h : doe < 146097)
    (hy : yoe = (doe - doe / 1460 + doe / 36524 - doe / 146096) / 365)
    (hdoy : doy = doe - (365 * yoe + yoe / 4 - yoe / 100)) :
    yoe < 400 ∧ yoe * 365 + yoe / 4 - yoe / 100 + doy = doe ∧ doy ≤ 365
      ∧ (doy = 365 → isLeap (yoe + 1) = true) := by
  obtain ⟨c, hc, hc3, h1, h2⟩ := century doe h
  rw [hc, ← Nat.add_assoc, Nat.add_sub_cancel] at hy
  obtain ⟨h100, lo, hi⟩ := year_bounds doe c yoe hc3 h1 h2 hy
  clear hy hc h h1
  rw [h100] at hdoy ⊢
  have hd : doe + c = 365 * yoe + yoe / 4 + doy := by omega
  clear hdoy lo
  -- a 366th day: the next year starts a leap day later, and a century's last year has one only in century 3
  rw [isLeap_iff]
  omega

theorem daysInMonth_le (y m : Nat) : daysInMonth y m ≤ 31 := by
  unfold daysInMonth; split
  · split <;> omega
  · split <;> omega

/-- March to January: the length of a month is the distance between two month starts. -/
theorem daysInMonth_of_mp (y mp : Nat) (h : mp ≤ 10) :
    daysInMonth y (if mp < 10 then mp + 3 else mp - 9) = (153 * (mp + 1) + 2) / 5 - (153 * mp + 2) / 5 := by
  obtain _|_|_|_|_|_|_|_|_|_|_|mp := mp
  iterate 11 rfl
  omega

/-- Second stage of `doeParts`, in the year that starts on 1 March of year `yoe`; January and February belong
    to the civil year `yoe + 1`. -/
theorem month_day_of_doy (yoe doy : Nat) (h : doy ≤ 365) (hl : doy = 365 → isLeap (yoe + 1) = true)
    (mp m d : Nat) (hmp : mp = (5 * doy + 2) / 153)
    (hm : m = if mp < 10 then mp + 3 else mp - 9) (hd : d = doy - (153 * mp + 2) / 5 + 1) :
    1 ≤ m ∧ m ≤ 12 ∧ 1 ≤ d ∧ d ≤ daysInMonth (yoe + (if m ≤ 2 then 1 else 0)) m
      ∧ doeOfParts yoe m d = yoe * 365 + yoe / 4 - yoe / 100 + doy := by
  have h11 : mp ≤ 11 := by omega
  obtain ⟨hm1, hm12, hback⟩ : 1 ≤ m ∧ m ≤ 12 ∧ (if m > 2 then m - 3 else m + 9) = mp := by
    clear hmp hd; split at hm <;> split <;> omega
  -- month `mp` (0 = March) starts on day `(153 * mp + 2) / 5` of the year
  have hs : (153 * mp + 2) / 5 ≤ doy ∧ doy < (153 * (mp + 1) + 2) / 5 := by omega
  clear hmp
  refine ⟨hm1, hm12, by omega, ?_, by rw [doeOfParts, hback]; congr 1; omega⟩
  by_cases hf : mp = 11
  · -- February: 28 days, the 29th is day 365
    have : m = 2 := by rw [hm, hf]; rfl
    subst this hf
    show d ≤ if isLeap (yoe + 1) then 29 else 28
    split
    · omega
    · next hn => have : doy ≠ 365 := fun e => hn (hl e); omega
  · rw [hm, daysInMonth_of_mp _ mp (by omega)]; omega

theorem doeParts_spec (doe : Nat) (h : doe < 146097) :
    (doeParts doe).1 < 400 ∧ 1 ≤ (doeParts doe).2.1 ∧ (doeParts doe).2.1 ≤ 12 ∧ 1 ≤ (doeParts doe).2.2
      ∧ (doeParts doe).2.2 ≤ daysInMonth ((doeParts doe).1 + (if (doeParts doe).2.1 ≤ 2 then 1 else 0)) (doeParts doe).2.1
      ∧ doeOfParts (doeParts doe).1 (doeParts doe).2.1 (doeParts doe).2.2 = doe := by
  obtain ⟨y1, y2, y3, y4⟩ := year_of_era doe _ _ h rfl rfl
  obtain ⟨m1, m2, m3, m4, m5⟩ := month_day_of_doy _ _ y3 y4 _ _ _ rfl rfl rfl
  exact ⟨y1, m1, m2, m3, m4, m5.trans y2⟩

theorem isLeap_add_era (k e : Nat) : isLeap (k + e * 400) = isLeap k := by
  rw [Bool.eq_iff_iff, isLeap_iff, isLeap_iff]; omega

theorem daysInMonth_add_era (k e m : Nat) : daysInMonth (k + e * 400) m = daysInMonth k m := by
  simp only [daysInMonth, isLeap_add_era]

theorem digit_toNat (k : Nat) : (digit k).toNat = 48 + k % 10 :=
  Char.toNat_ofNat_of_lt (by omega)

theorem digit_isDigit (k : Nat) : (digit k).isDigit = true :=
  (digit k).isDigit_iff.mpr (by rw [digit_toNat]; omega)

theorem digit_inj {a b : Nat} (h : digit a = digit b) : a % 10 = b % 10 := by
  have := congrArg Char.toNat h
  rw [digit_toNat, digit_toNat] at this
  omega

theorem pad2_inj {a b : Nat} (ha : a < 100) (hb : b < 100)
    (h1 : digit (a / 10) = digit (b / 10)) (h0 : digit a = digit b) : a = b := by
  have := digit_inj h1; have := digit_inj h0; omega

theorem pad4_inj {a b : Nat} (ha : a < 10000) (hb : b < 10000)
    (h3 : digit (a / 1000) = digit (b / 1000)) (h2 : digit (a / 100) = digit (b / 100))
    (h1 : digit (a / 10) = digit (b / 10)) (h0 : digit a = digit b) : a = b := by
  have := digit_inj h3; have := digit_inj h2; have := digit_inj h1; have := digit_inj h0; omega

theorem renderChars_Z (f : Fields) : renderChars f ++ ['Z'] =
    [digit (f.y / 1000), digit (f.y / 100), digit (f.y / 10), digit f.y, '-', digit (f.mo / 10), digit f.mo, '-',
      digit (f.d / 10), digit f.d, 'T', digit (f.h / 10), digit f.h, ':', digit (f.mi / 10), digit f.mi, ':',
      digit (f.s / 10), digit f.s, 'Z'] := by
  -- `rfl` holds, but the elaborator is slow over the nested `++`
  simp only [renderChars, pad4, pad2, List.cons_append, List.nil_append]

theorem formatUnix_toList (n : Nat) (h : n ≤ MAX_TS) : (formatUnix n).toList = renderChars (fieldsOf n) ++ ['Z'] := by
  rw [formatUnix, String.toList_ofList, formatUnixChars, if_pos h]

theorem formatUnix_length (n : Nat) (h : n ≤ MAX_TS) : (formatUnix n).length = 20 := by
  rw [← String.length_toList, formatUnix_toList n h, renderChars_Z]; rfl

theorem formatTimeT_eq (t : Nat) (h : t < 4294967296) : formatTimeT t = formatUnix t ∧ t ≤ MAX_TS :=
  ⟨by rw [formatTimeT, Nat.mod_eq_of_lt h], by unfold MAX_TS; omega⟩

end MdModel.TimeFmt
