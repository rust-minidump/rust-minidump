/-
  The readers of `MdModel.DumpMisc` (Breakpad info, assertion info, macOS crash info, macOS boot args) and the
  `exception_information` reads of the crash-reason / crash-address accessors under `Run`.
-/
import MdModel.DumpMisc
import MdProofs.Lemmas.BytesCtx
namespace MdModel.Dump
open MdModel MdModel.Gen.Layouts MdModel.Gen.LayoutsX

theorem size_assertion : Layout.size MINIDUMP_ASSERTION_INFO = 776 := by decide +kernel
theorem size_mac_header : Layout.size MINIDUMP_MAC_CRASH_INFO = 172 := by decide +kernel
theorem mac_header_length : MINIDUMP_MAC_CRASH_INFO.length = 43 := by decide +kernel

theorem misc_layouts_used :
    MINIDUMP_BREAKPAD_INFO = [("validity", 4), ("dump_thread_id", 4), ("requesting_thread_id", 4)] ∧
    fieldIdx MINIDUMP_ASSERTION_INFO "expression[0]" = some 0 ∧ fieldIdx MINIDUMP_ASSERTION_INFO "function[0]" = some 128 ∧
    fieldIdx MINIDUMP_ASSERTION_INFO "file[0]" = some 256 ∧ fieldIdx MINIDUMP_ASSERTION_INFO "line" = some 384 ∧
    fieldIdx MINIDUMP_ASSERTION_INFO "_type" = some 385 ∧ MINIDUMP_ASSERTION_INFO.length = 386 ∧
    fieldIdx MINIDUMP_MAC_CRASH_INFO "record_count" = some 1 ∧ fieldIdx MINIDUMP_MAC_CRASH_INFO "record_start_size" = some 2 ∧
    fieldIdx MINIDUMP_MAC_CRASH_INFO "records[0].data_size" = some 3 ∧ fieldIdx MINIDUMP_MAC_CRASH_INFO "records[0].rva" = some 4 ∧
    fieldIdx MINIDUMP_MAC_CRASH_INFO "records[19].rva" = some 42 ∧
    MINIDUMP_MAC_CRASH_INFO_RECORD = [("stream_type", 8), ("version", 8)] ∧
    MINIDUMP_MAC_CRASH_INFO_RECORD_4 = [("stream_type", 8), ("version", 8), ("thread", 8), ("dialog_mode", 8)] ∧
    MINIDUMP_MAC_CRASH_INFO_RECORD_5 = [("stream_type", 8), ("version", 8), ("thread", 8), ("dialog_mode", 8), ("abort_cause", 8)] ∧
    MINIDUMP_MAC_BOOTARGS = [("stream_type", 4), ("bootargs", 8)] ∧
    BREAKPAD_VALID_DumpThreadId = 1 ∧ BREAKPAD_VALID_RequestingThreadId = 2 ∧
    NUM_STRINGS_MINIDUMP_MAC_CRASH_INFO_RECORD_STRINGS = 0 ∧ NUM_STRINGS_MINIDUMP_MAC_CRASH_INFO_RECORD_STRINGS_4 = 5 ∧
    NUM_STRINGS_MINIDUMP_MAC_CRASH_INFO_RECORD_STRINGS_5 = 5 := by decide +kernel

section
variable {H : Prop} {B : Nat}

theorem readBreakpadInfo_run (b : Bytes) (e : Endian) : Run H B 0 (readBreakpadInfo b e) (fun _ => True) True := by
  unfold readBreakpadInfo
  split
  · exact run_fail _ trivial
  · exact run_pure trivial

theorem length_takeWhile_le {α : Type} (p : α → Bool) (l : List α) : (l.takeWhile p).length ≤ l.length :=
  (List.takeWhile_sublist p).length_le

theorem utf16ToString_run {E : Prop} (data : List Nat) (h : H → 3 * data.length ≤ B) :
    Run H B 1 (utf16ToString data) (fun _ => True) E := by
  unfold utf16ToString
  have hle : (data.takeWhile (· ≠ 0)).length ≤ data.length := length_takeWhile_le _ _
  dsimp only
  rw [if_pos hle]
  exact run_map (run_alloc (fun hH => by have := h hH; omega)) (fun _ _ => trivial)

theorem readAssertion_run (b : Bytes) (e : Endian) (hH : H → b.size ≤ B) :
    Run H B 3 (readAssertion b e) (fun _ => True) True := by
  unfold readAssertion
  split
  · exact run_fail _ trivial
  · rename_i v hv
    have h776 := readFields_some (by decide) hv
    rw [size_assertion, Nat.zero_add] at h776
    have hu : ∀ l : List Nat, Run H B 1 (utf16ToString (l.take 128)) (fun _ => True) True := fun l =>
      utf16ToString_run _ (fun h => by have := hH h; simp only [List.length_take]; omega)
    exact run_bind (hu _) fun _ _ => run_bind (hu _) fun _ _ => run_map (hu _) fun _ _ => trivial

theorem readCStringUtf8X_run {E : Prop} (b : Bytes) (off : Nat) (hB : H → b.size ≤ B) :
    Run H B 1 (readCStringUtf8X b off) (fun _ => True) E := by
  unfold readCStringUtf8X
  refine run_bind0 (readCStringUtf8_run b off) (fun r hr => ?_)
  split
  · exact run_pure trivial
  · rename_i s stop
    have := hr s stop rfl
    refine run_ite (fun _ => ?_) (fun _ => run_pure trivial)
    exact run_map (run_alloc (fun h => by have := hB h; omega)) (fun _ _ => trivial)

theorem readCStrings_run (rec : Bytes) (hB : H → rec.size ≤ B) :
    ∀ (n off : Nat), Run H B n (readCStrings rec n off) (fun _ => True) True := by
  intro n
  induction n with
  | zero => intro off; exact run_pure trivial
  | succ n ih =>
    intro off
    unfold readCStrings
    refine (run_bind (readCStringUtf8X_run rec off hB) (C := n) fun r _ => ?_).mono (by omega)
    split
    · exact run_fail _ trivial
    · exact run_map (ih _) (fun _ _ => trivial)

theorem readMacVariant_run (rec : Bytes) (e : Endian) (so variant : Nat) (l : Layout) (n : Nat)
    (hB : H → rec.size ≤ B) : Run H B n (readMacVariant rec e so variant l n) (fun _ => True) True := by
  unfold readMacVariant
  split
  · exact run_fail _ trivial
  · split
    · exact run_fail _ trivial
    · exact run_map (readCStrings_run rec hB _ _) (fun _ _ => trivial)

theorem readMacRecord_run (all : Bytes) (e : Endian) (so : Nat) (loc : Loc) (prev : Option Nat)
    (hB : H → all.size ≤ B) : Run H B 5 (readMacRecord all e so loc prev) (fun _ => True) True := by
  unfold readMacRecord
  split
  · exact run_fail _ trivial
  · rename_i rec hrec
    have hr : H → rec.size ≤ B := fun h => Nat.le_trans (locationSlice_size hrec) (hB h)
    split
    · exact run_fail _ trivial
    · -- a record of version 1, 4 or 5 has as many strings as its version's layout names: at most five
      have hv : ∀ {variant : Nat} {l : Layout} {n v : Nat}, n ≤ 5 →
          Run H B 5 (readMacVariant rec e so variant l n >>= fun r => pure (v, some r)) (fun _ => True) True :=
        fun hn => (run_map (readMacVariant_run _ _ _ _ _ _ hr) (fun _ _ => trivial)).mono hn
      exact run_ite (fun _ => run_fail _ trivial) fun _ => run_ite (fun _ => hv (by decide)) fun _ =>
        run_ite (fun _ => hv (by decide)) fun _ => run_ite (fun _ => hv (by decide)) fun _ => run_pure trivial

theorem readMacRecords_run (all : Bytes) (e : Endian) (so : Nat) (hB : H → all.size ≤ B) :
    ∀ (locs : List Loc) (prev : Option Nat),
      Run H B (5 * locs.length) (readMacRecords all e so locs prev) (fun rs => rs.length ≤ locs.length) True := by
  intro locs
  induction locs with
  | nil => intro prev; exact run_pure (Nat.le_refl _)
  | cons loc rest ih =>
    intro prev
    unfold readMacRecords
    refine (run_bind (readMacRecord_run all e so loc prev hB) fun r _ =>
      run_map (ih _) fun rs hrs => ?_).mono (by simp only [List.length_cons]; omega)
    cases r.2 <;> simp <;> omega

/-- the record loop runs at most 20 times, whatever `record_count` says -/
theorem macRecordLocs_length : ∀ (v : List Nat), (macRecordLocs v).length ≤ v.length / 2 := by
  intro v
  induction v using macRecordLocs.induct with
  | case1 sz rva rest ih => simp only [macRecordLocs, List.length_cons]; omega
  | case2 v h =>
    cases v with
    | nil => simp [macRecordLocs]
    | cons a t =>
      cases t with
      | nil => simp [macRecordLocs]
      | cons c t' => exact absurd rfl (h a c t')

theorem readMacRecords_length (all : Bytes) (e : Endian) (so : Nat) :
    ∀ (locs : List Loc) (prev : Option Nat) (rs : List MacRecord),
      (readMacRecords all e so locs prev).res = .ok rs → rs.length ≤ locs.length :=
  fun locs prev => (readMacRecords_run (H := False) (B := 0) all e so False.elim locs prev).ok

/-- at most 5 strings per record and 20 records, each string at most as long as the file -/
theorem readMacCrashInfo_run (b all : Bytes) (e : Endian) (hB : H → all.size ≤ B) :
    Run H B 100 (readMacCrashInfo b all e) (fun _ => True) True := by
  unfold readMacCrashInfo
  split
  · exact run_fail _ trivial
  · rename_i v hv
    have hlen := readFields_length hv
    rw [mac_header_length] at hlen
    have h1 := macRecordLocs_length (v.drop 3)
    have h2 : ((macRecordLocs (v.drop 3)).take (fld v 1)).length ≤ 20 := by
      have : (v.drop 3).length = 40 := by simp [hlen]
      simp only [List.length_take]
      omega
    exact ((readMacRecords_run all e _ hB _ _).mono (by omega)).post (fun _ _ => trivial)

theorem macRecordAt_run (rs : List MacRecord) (i : Nat) (h : i < rs.length) :
    Run H B 0 (macRecordAt rs i) (fun _ => True) False := by
  unfold macRecordAt
  rw [List.getElem?_eq_getElem h]
  exact run_pure trivial

theorem readMacBootargs_run (b all : Bytes) (e : Endian) (hH : H → SliceLen all.size ∧ 2 * all.size ≤ B) :
    Run H B 1 (readMacBootargs b all e) (fun _ => True) True := by
  unfold readMacBootargs
  split
  · exact run_fail _ trivial
  · exact run_map (readStringUtf16_run _ _ _ hH) (fun _ _ => trivial)

theorem infoAt_run (x : Exception) (i : Nat) (h : H → i < x.info.length) :
    Run H B 0 (infoAt x i) (fun _ => True) False := by
  unfold infoAt
  split
  · exact run_pure trivial
  · rename_i hn
    exact run_panic _ (fun hH => Nat.not_le_of_lt (h hH) (List.getElem?_eq_none_iff.mp hn))

/-- `get_crash_address` reads `exception_information[1]` -/
theorem crashAddressRaw_run (x : Exception) (w : Bool) (h : H → 2 ≤ x.info.length) :
    Run H B 0 (crashAddressRaw x w) (fun _ => True) False := by
  unfold crashAddressRaw
  exact run_ite (fun _ => infoAt_run x 1 (fun hH => h hH)) fun _ => run_pure trivial

/-- `print`'s parameter loop, whatever `number_parameters` says: one line per existing element of the array, at most -/
theorem printedParams_in_bounds (x : Exception) :
    (printedParams x).length = min x.numberParameters x.info.length ∧
    ∀ p ∈ printedParams x, p.1 < x.info.length ∧ x.info[p.1]? = some p.2 := by
  refine ⟨by simp [printedParams], fun p hp => ?_⟩
  simp only [printedParams, List.mem_map] at hp
  obtain ⟨⟨v, i⟩, hmem, rfl⟩ := hp
  have := List.mem_zipIdx (List.mem_of_mem_take hmem)
  simp at this
  obtain ⟨h1, h2⟩ := this
  exact ⟨h1, by rw [List.getElem?_eq_getElem h1]; simp [h2]⟩

/-- the crash-reason accessors read `exception_information[0]`, `[1]`, `[2]` -/
theorem reasonInputs_run (x : Exception) (h : H → 3 ≤ x.info.length) :
    Run H B 0 (reasonInputs x) (fun _ => True) False := by
  unfold reasonInputs
  refine run_bind0 (infoAt_run x 0 (fun hH => by have := h hH; omega)) (fun _ _ => ?_)
  refine run_bind0 (infoAt_run x 1 (fun hH => by have := h hH; omega)) (fun _ _ => ?_)
  exact run_bind0 (infoAt_run x 2 (fun hH => by have := h hH; omega)) (fun _ _ => run_pure trivial)

end

/-- once the fuel covers the rest of the buffer, more fuel changes nothing: a `none` of
    `cstringScan b (b.size + 1) off` is a genuine "no NUL before the end", never an exhausted loop -/
theorem cstringScan_enough (b : Bytes) (fuel off : Nat) (h : b.size + 1 ≤ fuel + off) :
    cstringScan b (fuel + 1) off = cstringScan b fuel off := by
  fun_induction cstringScan b fuel off with
  | case1 off => rw [cstringScan, show readScalar b off 1 .little = none by unfold readScalar; rw [if_pos (by omega)]]
  | case2 _ _ hv => rw [cstringScan, hv]
  | case3 _ _ hv => rw [cstringScan, hv]; rfl
  | case4 _ _ v hne hv ih =>
    cases v with
    | zero => exact absurd rfl hne
    | succ v => rw [cstringScan, hv]; exact ih (by omega)

theorem cstringScan_fuel_irrelevant (b : Bytes) (off extra : Nat) :
    cstringScan b (b.size + 1 + extra) off = cstringScan b (b.size + 1) off := by
  induction extra with
  | zero => rfl
  | succ n ih =>
    rw [← ih]
    have h : b.size + 1 + (n + 1) = (b.size + 1 + n) + 1 := by omega
    rw [h]
    exact cstringScan_enough b (b.size + 1 + n) off (by omega)

end MdModel.Dump
