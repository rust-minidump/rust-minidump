/-
  C04, chains whose technique changes from frame to frame, off x86: the dispatcher on `e.tech` along
  `PreW`'s own `linkMixed`, the generated end of the stack (`step_endMixed` of WalkWinChain through
  `MView.rview`), the context frame in `PreW`'s initial state, and the chain of any depth as an instance
  of `walkLoop_chain_rel`.
-/
import MdProofs.Lemmas.WalkMixedArch
namespace MdModel.Walk
open MdModel

theorem scanFrom_zeros_at {env : Env} {a : Arch} {mem : Mem} {sp : Nat} (hz : zerosFrom mem a.ptr sp = true)
    (hok : instrValid env a 0 = false) (lim n : Nat) :
    scanFrom (instrValid env a) mem a.ptr lim sp n 0 = none :=
  scanFrom_zeros (ptr_pos a) hz hok n 0

theorem cfi_none_arch {a : Arch} {os : Os} {w : World} {wins : List (List Win.Rec)} {mem : Mem} {f : Frame}
    {g : Option Frame} (hx : a ≠ .x86)
    (hn : noRecordAt w wins f.instruction = true) : (mkEnvW a os w wins mem).cfi f g = none := by
  rw [mkEnvW_cfi_arch hx]
  simp only [noRecordAt, Bool.and_eq_true, Option.isNone_iff_eq_none] at hn
  exact cfiOf_of_none hn.1.1

theorem step_arch_mixed {a : Arch} {os : Os} {w : World} {wins : List (List Win.Rec)} {mem : Mem}
    (hx : a ≠ .x86) (f : Frame) (g : Option Frame) (st : MState) (e : Exp)
    (hv : MView w a f st)
    (hl : linkMixed w wins (mkEnvW a os w wins mem) a os mem st e = true) :
    ∃ f', step (mkEnvW a os w wins mem) mem (symbolise (mkEnvW a os w wins mem) f) g = some f' ∧
      MView w a f' (nextState (mkEnvW a os w wins mem) a st e) ∧ FrameIsA a (techTrust e) e f' := by
  have hvs := hv.symbolise (mkEnvW a os w wins mem)
  suffices h : ∃ f', step (mkEnvW a os w wins mem) mem (symbolise (mkEnvW a os w wins mem) f) g = some f' ∧
      FrameIsA a (techTrust e) e f' by
    obtain ⟨f', h1, h2⟩ := h
    exact ⟨f', h1, MView.next h2 (techTrust_ne_context e), h2⟩
  have hnone : noRecordAt w wins st.instr = true →
      (mkEnvW a os w wins mem).cfi (symbolise (mkEnvW a os w wins mem) f) g = none :=
    fun hn => cfi_none_arch hx (by rw [hvs.instr]; exact hn)
  obtain ⟨hret, hspm, hretm, hsp, hc⟩ := linkMixed_cases hl
  rcases hc with ⟨_, hx', _⟩ | ⟨ht, _, _, hl⟩ | ⟨ht, hn, _, hregs, f0, hfp, hl⟩ | ⟨ht, hn, hdead, hl⟩
  · exact absurd hx' hx
  · rw [techTrust_cfi ht]
    exact step_cfi_arch rfl (mkEnvW_cfi_arch hx os w wins mem) hvs hret hspm hretm hsp hl
  · rw [techTrust_fp ht]
    exact step_fp_arch rfl (hnone hn) hvs hfp hl hregs hspm hretm
  · rw [techTrust_scan ht]
    exact step_scan_arch hx rfl (hnone hn) hvs hdead hl hret hretm

theorem step_arch_end {a : Arch} {os : Os} {w : World} {wins : List (List Win.Rec)} {mem : Mem}
    (hx : a ≠ .x86) (f : Frame) (g : Option Frame) (st : MState)
    (hv : MView w a f st) (he : endMixed w wins a os mem st = true) :
    step (mkEnvW a os w wins mem) mem (symbolise (mkEnvW a os w wins mem) f) g = none := by
  have hvs := hv.symbolise (mkEnvW a os w wins mem)
  obtain ⟨hn, hbase, hz, halt⟩ := endMixed_spec he
  have hcfi : (mkEnvW a os w wins mem).cfi (symbolise (mkEnvW a os w wins mem) f) g = none :=
    cfi_none_arch hx (by rw [hvs.instr]; exact hn)
  exact step_endMixed rfl hcfi (fun _ => by simp [mkEnvW, instrOkOf]) hvs.rview hbase hz halt

theorem lrName_registers {a : Arch} (h : a.leafOk = true) : lrName a ∈ a.registers :=
  mem_registers_of_canon (lrName_canon h)

theorem has_of_hasLit {a : Arch} {c : Ctx} {r : String} (hr : a.canon r = some r) (h : c.hasLit r = true) :
    c.has a r = true := by
  unfold Ctx.has
  unfold Ctx.hasLit at h
  cases hv : c.valid with
  | none => simp only [hr, Option.isSome_some]
  | some V =>
    rw [hv] at h
    exact List.any_eq_true.mpr ⟨r, self_mem_aliases a r, h⟩

theorem mview_context {w : World} {a : Arch} (ctx : Ctx) (hsp : ctx.has a a.spName = true)
    (hm : ctx.m64 = (a == .mips64)) (hfit : ∀ r ∈ a.registers, ctx.raw a r ≤ a.regMax)
    (hlr : a.leafOk = true → (ctx.has a (lrName a) = true ∨
      ∀ rec, cfiRecordAt w ctx.ip = some rec → tokenize rec.init ≠ leafToks a)) :
    MView w a (Frame.ofCtx ctx .context) (initState a ctx) := by
  have hfitc : ∀ r, a.calleeSaved.contains r = true → ctx.raw a r ≤ a.regMax := fun r hr =>
    hfit r (mem_registers_of_canon (canon_calleeSaved hr).1)
  refine ⟨hm, rfl, rfl, ?_, hsp, rfl, ?_, ?_, ?_, ?_⟩
  · have := hfit a.spName (mem_registers_of_canon (spName_canon a))
    rw [raw_sp] at this
    exact this
  · intro v hv
    have hv' : (if ctx.has a a.fpName = true then some (ctx.raw a a.fpName) else none) = some v := hv
    split at hv'
    · injection hv' with hv'
      rw [← hv']
      exact hfitc _ (fpName_calleeSaved a).1
    · cases hv'
  · -- a register of the initial state: callee-saved and valid by its literal name
    intro r v hl
    obtain ⟨x, hx, hxr⟩ := List.mem_map.mp (List.mem_of_lookup_eq_some hl)
    obtain ⟨rfl, rfl⟩ := Prod.mk.inj hxr
    obtain ⟨hmem, hp⟩ := List.mem_filter.mp hx
    have hc : a.calleeSaved.contains x = true := List.contains_iff_mem.mpr hmem
    have hlit : ctx.hasLit x = true := (of_decide_eq_true hp).2.2
    exact ⟨has_of_hasLit (canon_calleeSaved hc).1 hlit, rfl, hfitc x hc⟩
  · exact ⟨fun _ => rfl, fun _ => rfl⟩
  · intro _ hleaf
    exact ⟨rfl, hlr hleaf⟩

theorem walkLoop_arch_chain {a : Arch} {os : Os} {w : World} {wins : List (List Win.Rec)} {mem : Mem}
    (hx : a ≠ .x86) (chain : List Exp) (n : Nat) (f : Frame) (g : Option Frame) (st : MState)
    (hv : MView w a f st)
    (hp : preMixedFrom w wins (mkEnvW a os w wins mem) a os mem st chain = true)
    (hn : need mem f ≤ n) :
    ∃ frames, walkLoop (mkEnvW a os w wins mem) mem n f g =
        symbolise (mkEnvW a os w wins mem) f :: frames ∧
      All2 (fun fr e => ∃ f', fr = symbolise (mkEnvW a os w wins mem) f' ∧ FrameIsA a (techTrust e) e f')
        frames chain :=
  walkLoop_chain_rel (fun f _ st => MView w a f st) _ _ (fun st => st.sp) _ (fun e f' => FrameIsA a (techTrust e) e f')
    (fun _ _ _ h => h.sp) (step_arch_mixed hx) (step_arch_end hx) chain n f g st hv
    (preMixedFrom_eq_preChain w wins (mkEnvW a os w wins mem) a os mem chain st ▸ hp) hn

end MdModel.Walk
