/-
  Normalised range tables (`Sep`) for C08: `mkRange` read as arithmetic (`mkRange_eq_some`), the loop `keep` one step
  at a time (`keep_cons`), what it keeps (`keep_some_sep`; `keep_forall` for any property that survives a merge), the
  sort orders, the binary search, and what becomes of every source entry (`keep_serves`, `get_served_or_blocked`:
  served unless an entry with another value reaches its start; `get_complete_of_mem` when none can). When the value
  determines the range the loop looks at ranges only (`keep_map_eq_thin`).
  The parser-local copy builds the same table (`safeVecP_validOnly`: a stable sort commutes with dropping the
  entries without a range), so everything said of `safeVec` holds of it. Last, the invariant of `insert_win_stack_info`.
-/
import MdModel.RangeMap
import MdProofs.Lemmas.Sort
namespace MdModel.RangeMap
open MdModel

def WF (e : Entry) : Prop := e.1.lo ≤ e.1.hi ∧ e.1.hi ≤ U64MAX

/-- consecutive entries `p`, `n` of a normalized vector: strictly separated and not mergeable -/
def Gap (p n : Entry) : Prop := p.1.hi < n.1.lo ∧ ¬ (n.1.lo ≤ satSucc p.1.hi ∧ n.2 = p.2)

def Sep : List Entry → Prop
  | [] => True
  | [e] => WF e
  | p :: n :: rest => WF p ∧ Gap p n ∧ Sep (n :: rest)

theorem satSucc_ge (x : Nat) (h : x ≤ U64MAX) : x ≤ satSucc x := by
  unfold satSucc; split <;> omega

theorem satSucc_le (x : Nat) : satSucc x ≤ x + 1 := by
  unfold satSucc; split <;> omega

theorem mkRange_eq_some {b s : Nat} {r : Rng} :
    mkRange b s = some r ↔ 0 < s ∧ b + s ≤ U64MAX ∧ r = ⟨b, b + s - 1⟩ := by
  unfold mkRange
  split
  · simp; omega
  · split
    · simp; omega
    · simp only [Option.some.injEq]
      exact ⟨fun h => ⟨by omega, by omega, h.symm⟩, fun h => h.2.2.symm⟩

/-- a `memory_range()` is ordered and inside `u64`: what every table input has to satisfy (C08's `InputWF`) -/
theorem mkRange_ok {b s : Nat} {r : Rng} (h : mkRange b s = some r) : r.lo ≤ r.hi ∧ r.hi ≤ U64MAX := by
  obtain ⟨_, _, rfl⟩ := mkRange_eq_some.mp h
  exact ⟨by simp only; omega, by simp only; omega⟩

theorem Sep.tail {p : Entry} {rest : List Entry} (h : Sep (p :: rest)) : Sep rest := by
  cases rest with
  | nil => trivial
  | cons n rest => exact h.2.2

theorem Sep.head {p : Entry} {rest : List Entry} (h : Sep (p :: rest)) : WF p := by
  cases rest with
  | nil => exact h
  | cons n rest => exact h.1

theorem Sep.wf {m : List Entry} (h : Sep m) : ∀ e ∈ m, WF e := by
  induction m with
  | nil => exact fun _ he => nomatch he
  | cons p rest ih => exact List.forall_mem_cons.mpr ⟨h.head, ih h.tail⟩

theorem Sep.lt_of_mem {p : Entry} {rest : List Entry} (h : Sep (p :: rest)) :
    ∀ x ∈ rest, p.1.hi < x.1.lo := by
  induction rest generalizing p with
  | nil => exact fun _ hx => nomatch hx
  | cons n rest ih =>
    refine List.forall_mem_cons.mpr ⟨h.2.1.1, fun x hx => ?_⟩
    exact Nat.lt_trans (Nat.lt_of_lt_of_le h.2.1.1 h.tail.head.1) (ih h.2.2 x hx)

theorem Sep.sorted_disjoint {m : List Entry} (h : Sep m) :
    m.Pairwise (fun a b => a.1.lo ≤ a.1.hi ∧ a.1.hi < b.1.lo) := by
  induction m with
  | nil => exact List.Pairwise.nil
  | cons p rest ih =>
    exact List.Pairwise.cons (fun x hx => ⟨h.head.1, h.lt_of_mem x hx⟩) (ih h.tail)

theorem Sep.pairwise {m : List Entry} (h : Sep m) :
    m.Pairwise (fun a b => a.1.hi < b.1.lo) :=
  h.sorted_disjoint.imp And.right

theorem keep_cons (l e : Entry) (rest : List Entry) :
    ((e.1.lo ≤ l.1.hi ∧ e.2 ≠ l.2) ∧ keep (some l) (e :: rest) = keep (some l) rest) ∨
    ((e.1.lo ≤ satSucc l.1.hi ∧ e.2 = l.2) ∧
      keep (some l) (e :: rest) = keep (some (⟨l.1.lo, max e.1.hi l.1.hi⟩, l.2)) rest) ∨
    (¬ (e.1.lo ≤ l.1.hi ∧ e.2 ≠ l.2) ∧ ¬ (e.1.lo ≤ satSucc l.1.hi ∧ e.2 = l.2) ∧
      keep (some l) (e :: rest) = l :: keep (some e) rest) := by
  obtain ⟨lr, lv⟩ := l
  rw [keep]
  split
  · exact .inl ⟨‹_›, rfl⟩
  · split
    · exact .inr (.inl ⟨‹_›, rfl⟩)
    · exact .inr (.inr ⟨‹_›, ‹_›, rfl⟩)

theorem keep_some_sep (l : Entry) (xs : List Entry) (hl : WF l) (hx : ∀ e ∈ xs, WF e) :
    ∃ l' t, keep (some l) xs = l' :: t ∧ l'.1.lo = l.1.lo ∧ l'.2 = l.2 ∧ Sep (l' :: t) := by
  induction xs generalizing l with
  | nil => exact ⟨l, [], rfl, rfl, rfl, hl⟩
  | cons e rest ih =>
    obtain ⟨he, hrest⟩ := List.forall_mem_cons.mp hx
    rcases keep_cons l e rest with ⟨_, h⟩ | ⟨_, h⟩ | ⟨h1, h2, h⟩ <;> rw [h]
    · exact ih l hl hrest
    · exact ih _ ⟨Nat.le_trans hl.1 (Nat.le_max_right ..), Nat.max_le.mpr ⟨he.2, hl.2⟩⟩ hrest
    · obtain ⟨l', t, hk, hlo, hv, hs⟩ := ih e he hrest
      refine ⟨l, _, rfl, rfl, rfl, ?_⟩
      rw [hk]
      refine ⟨hl, ⟨?_, by rw [hlo, hv]; exact h2⟩, hs⟩
      -- `e` starts above `l`: it was neither dropped (other value) nor merged (same value)
      rw [hlo]
      have := satSucc_ge l.1.hi hl.2
      by_cases hv' : e.2 = l.2
      · have : ¬ e.1.lo ≤ satSucc l.1.hi := fun h => h2 ⟨h, hv'⟩
        omega
      · have : ¬ e.1.lo ≤ l.1.hi := fun h => h1 ⟨h, hv'⟩
        omega

theorem keep_sep (xs : List Entry) (hx : ∀ e ∈ xs, WF e) : Sep (keep none xs) := by
  cases xs with
  | nil => trivial
  | cons e rest =>
    obtain ⟨he, hrest⟩ := List.forall_mem_cons.mp hx
    obtain ⟨l', t, hk, _, _, hs⟩ := keep_some_sep e rest he hrest
    rw [keep, hk]; exact hs

theorem keep_disc_of_sep (p : Entry) (rest : List Entry) (h : Sep (p :: rest)) :
    keep (some p) rest = p :: rest ∧ disc (some p) rest = [] := by
  induction rest generalizing p with
  | nil => exact ⟨rfl, rfl⟩
  | cons n rest ih =>
    obtain ⟨pr, pv⟩ := p
    obtain ⟨_, ⟨hlt, hnm⟩, hs⟩ := h
    have h1 : ¬ (n.1.lo ≤ pr.hi ∧ n.2 ≠ pv) := by
      intro ⟨h, _⟩; simp at hlt; omega
    obtain ⟨ihk, ihd⟩ := ih n hs
    simp only [keep, disc, if_neg h1, if_neg hnm, ihk, ihd, and_self]

theorem pass_of_sep (m : List Entry) (h : Sep m) : pass m = (m, []) := by
  cases m with
  | nil => rfl
  | cons p rest =>
    obtain ⟨hk, hd⟩ := keep_disc_of_sep p rest h
    simp [pass, keep, disc, hk, hd]

theorem rle_trans (a b c : Entry) : rle a.1 b.1 = true → rle b.1 c.1 = true → rle a.1 c.1 = true := by
  simp only [rle, Bool.or_eq_true, Bool.and_eq_true, decide_eq_true_eq, beq_iff_eq]
  omega

theorem rle_total (a b : Entry) : (rle a.1 b.1 || rle b.1 a.1) = true := by
  simp only [rle, Bool.or_eq_true, Bool.and_eq_true, decide_eq_true_eq, beq_iff_eq]
  omega

theorem orle_trans (a b c : Option Rng × Val) :
    orle a.1 b.1 = true → orle b.1 c.1 = true → orle a.1 c.1 = true := by
  obtain ⟨a, _⟩ := a; obtain ⟨b, _⟩ := b; obtain ⟨c, _⟩ := c
  cases a <;> cases b <;> cases c <;> simp [orle]
  rename_i a b c
  exact rle_trans (a, 0) (b, 0) (c, 0)

theorem orle_total (a b : Option Rng × Val) : (orle a.1 b.1 || orle b.1 a.1) = true := by
  obtain ⟨a, _⟩ := a; obtain ⟨b, _⟩ := b
  cases a <;> cases b <;> simp [orle]
  rename_i a b
  simpa using rle_total (a, 0) (b, 0)

theorem mem_validOnly {xs : List (Option Rng × Val)} {e : Entry} : e ∈ validOnly xs ↔ (some e.1, e.2) ∈ xs := by
  simp only [validOnly, List.mem_filterMap, Option.map_eq_some_iff]
  constructor
  · rintro ⟨⟨o, v⟩, hx, r, hr, rfl⟩
    exact hr ▸ hx
  · exact fun h => ⟨_, h, e.1, rfl, rfl⟩

theorem mem_validOnly_sortOpt {xs : List (Option Rng × Val)} {e : Entry} :
    e ∈ validOnly (sortOpt xs) ↔ (some e.1, e.2) ∈ xs :=
  mem_validOnly.trans List.mem_mergeSort

theorem validOnly_sortOpt (xs : List (Option Rng × Val)) : validOnly (sortOpt xs) = sortEntries (validOnly xs) :=
  List.filterMap_mergeSort orle_trans orle_total rle_trans rle_total (fun a a' b b' ha ha' => by
    obtain ⟨r, hr, rfl⟩ := Option.map_eq_some_iff.mp ha
    obtain ⟨r', hr', rfl⟩ := Option.map_eq_some_iff.mp ha'
    rw [hr, hr']; rfl) xs

theorem safeVecP_validOnly (xs : List (Option Rng × Val)) : safeVecP (validOnly xs) = safeVec xs := by
  rw [safeVec, safeVecP, validOnly_sortOpt]

theorem sortEntries_of_sep (m : List Entry) (h : Sep m) : sortEntries m = m := by
  refine List.mergeSort_of_pairwise (h.sorted_disjoint.imp fun hab => ?_)
  simp only [rle, Bool.or_eq_true, Bool.and_eq_true, decide_eq_true_eq, beq_iff_eq]
  omega

theorem tryFromIter_of_sep (m : List Entry) (h : Sep m) : tryFromIter m = (m, []) := by
  rw [tryFromIter, sortEntries_of_sep m h, pass_of_sep m h]

theorem safeVecP_of_sep (m : List Entry) (h : Sep m) : safeVecP m = m :=
  congrArg Prod.fst (tryFromIter_of_sep m h)

theorem keep_some_forall {P : Entry → Prop}
    (hmerge : ∀ l e : Entry, P l → P e → e.1.lo ≤ satSucc l.1.hi → e.2 = l.2 →
      P (⟨l.1.lo, max e.1.hi l.1.hi⟩, l.2))
    (l : Entry) (xs : List Entry) (hl : P l) (hx : ∀ e ∈ xs, P e) : ∀ e' ∈ keep (some l) xs, P e' := by
  induction xs generalizing l with
  | nil => intro e' he'; rw [List.mem_singleton.mp he']; exact hl
  | cons e rest ih =>
    obtain ⟨he, hrest⟩ := List.forall_mem_cons.mp hx
    rcases keep_cons l e rest with ⟨_, h⟩ | ⟨h2, h⟩ | ⟨_, _, h⟩ <;> rw [h]
    · exact ih l hl hrest
    · exact ih _ (hmerge l e hl he h2.1 h2.2) hrest
    · exact List.forall_mem_cons.mpr ⟨hl, ih e he hrest⟩

theorem keep_forall {P : Entry → Prop}
    (hmerge : ∀ l e : Entry, P l → P e → e.1.lo ≤ satSucc l.1.hi → e.2 = l.2 →
      P (⟨l.1.lo, max e.1.hi l.1.hi⟩, l.2))
    (xs : List Entry) (hx : ∀ e ∈ xs, P e) : ∀ e' ∈ keep none xs, P e' := by
  cases xs with
  | nil => exact fun _ he' => nomatch he'
  | cons e rest =>
    obtain ⟨he, hrest⟩ := List.forall_mem_cons.mp hx
    exact keep_some_forall hmerge e rest he hrest

theorem keep_covered (xs : List Entry) : ∀ e' ∈ keep none xs,
    ∀ a, e'.1.lo ≤ a → a ≤ e'.1.hi → ∃ s ∈ xs, s.2 = e'.2 ∧ s.1.lo ≤ a ∧ a ≤ s.1.hi := by
  refine keep_forall (fun l e hl he h1 h2 a h3 h4 => ?_) xs fun e he _ h1 h2 => ⟨e, he, rfl, h1, h2⟩
  -- the merged range: below `l.hi` it is `l`'s, above it `e`'s, which starts at most at `l.hi + 1`
  by_cases ha : a ≤ l.1.hi
  · exact hl a h3 ha
  · have := satSucc_le l.1.hi
    have h4 : a ≤ max e.1.hi l.1.hi := h4
    obtain ⟨s, hs, hv, hs1, hs2⟩ := he a (by omega) (by omega)
    exact ⟨s, hs, hv.trans h2, hs1, hs2⟩

theorem keep_loval (xs : List Entry) : ∀ e' ∈ keep none xs, ∃ s ∈ xs, s.1.lo = e'.1.lo ∧ s.2 = e'.2 :=
  keep_forall (fun _ _ hl _ _ _ => hl) xs fun e he => ⟨e, he, rfl, rfl⟩

/-- When the value determines the range (a record that carries its address and size, a position in a list), a
    merge joins an entry with a copy of itself: every kept entry is a source entry. -/
theorem keep_mem_of_selfranged (xs : List Entry) (hself : ∀ x ∈ xs, ∀ y ∈ xs, x.2 = y.2 → x.1 = y.1) :
    ∀ e' ∈ keep none xs, e' ∈ xs := by
  refine keep_forall (P := (· ∈ xs)) (fun l e hl he _ hv => ?_) xs fun _ he => he
  rw [hself e he l hl hv, Nat.max_self]
  exact hl

theorem bsearch_go_step (m : Array Entry) (a lo hi fuel : Nat) (h : lo < hi)
    (hm : lo + (hi - lo) / 2 < m.size) :
    bsearch.go m a lo hi (fuel + 1) =
      if (m[lo + (hi - lo) / 2]).1.hi < a then bsearch.go m a (lo + (hi - lo) / 2 + 1) hi fuel
      else if (m[lo + (hi - lo) / 2]).1.lo > a then bsearch.go m a lo (lo + (hi - lo) / 2) fuel
      else some (m[lo + (hi - lo) / 2]).2 := by
  rw [bsearch.go, dif_pos h, dif_pos hm]

theorem bsearch_go_sound (m : Array Entry) (a : Nat) (lo hi fuel : Nat) (v : Val)
    (h : bsearch.go m a lo hi fuel = some v) :
    ∃ e ∈ m.toList, (e.1.lo ≤ a ∧ a ≤ e.1.hi) ∧ e.2 = v := by
  fun_induction bsearch.go m a lo hi fuel with
  | case1 => cases h
  | case2 | case3 => rename_i ih; exact ih h
  | case4 => rename_i hm e _ _; cases h; exact ⟨e, Array.getElem_mem_toList hm, ⟨by omega, by omega⟩, rfl⟩
  | case5 | case6 => cases h

theorem get_sound_mem (m : List Entry) (a : Nat) (v : Val) (h : get m a = some v) :
    ∃ e ∈ m, (e.1.lo ≤ a ∧ a ≤ e.1.hi) ∧ e.2 = v := by
  have := bsearch_go_sound m.toArray a 0 _ _ v h
  simpa using this

theorem get_keep_sound (src : List Entry) (a : Nat) (v : Val) (h : get (keep none src) a = some v) :
    ∃ s ∈ src, s.2 = v ∧ s.1.lo ≤ a ∧ a ≤ s.1.hi := by
  obtain ⟨e, he, hc, rfl⟩ := get_sound_mem _ a v h
  exact keep_covered _ e he a hc.1 hc.2

/-- Both halves of the interval are shorter than it, so the fuel suffices. (A lemma of its own:
    `omega` is slow with the table and its facts in the context.) -/
theorem bsearch_mid {lo hi fuel : Nat} (hlt : lo < hi) (hf : hi - lo < fuel + 1) :
    lo ≤ lo + (hi - lo) / 2 ∧ lo + (hi - lo) / 2 < hi ∧
      hi - (lo + (hi - lo) / 2 + 1) < fuel ∧ lo + (hi - lo) / 2 - lo < fuel := by
  have h1 : lo ≤ lo + (hi - lo) / 2 := Nat.le_add_right ..
  have h2 : lo + (hi - lo) / 2 < hi :=
    Nat.add_lt_of_lt_sub' (Nat.div_lt_self (Nat.sub_pos_of_lt hlt) (by decide))
  generalize lo + (hi - lo) / 2 = mid at h1 h2 ⊢
  omega

theorem bsearch_go_complete (m : Array Entry) (a : Nat) (hs : Sep m.toList)
    (i : Nat) (hi' : i < m.size) (hc : (m[i]).1.lo ≤ a ∧ a ≤ (m[i]).1.hi)
    (lo hi fuel : Nat) (hlo : lo ≤ i) (hhi : i < hi) (hhm : hi ≤ m.size) (hf : hi - lo < fuel) :
    bsearch.go m a lo hi fuel = some (m[i]).2 := by
  have key : ∀ j (hj : j < m.size), (j < i → (m[j]).1.hi < a) ∧ (i < j → a < (m[j]).1.lo) ∧
      (m[j]).1.lo ≤ (m[j]).1.hi := by
    have hpw := List.pairwise_iff_getElem.mp hs.pairwise
    exact fun j hj => ⟨fun hji => Nat.lt_of_lt_of_le (hpw j i hj hi' hji) hc.1,
      fun hji => Nat.lt_of_le_of_lt hc.2 (hpw i j hi' hj hji),
      (hs.wf _ (Array.getElem_mem_toList hj)).1⟩
  induction fuel generalizing lo hi with
  | zero => exact absurd hf (Nat.not_lt_zero _)
  | succ fuel ih =>
    have hlt := Nat.lt_of_le_of_lt hlo hhi
    obtain ⟨_, hb, hf1, hf2⟩ := bsearch_mid hlt hf
    have hm := Nat.lt_of_lt_of_le hb hhm
    rw [bsearch_go_step m a lo hi fuel hlt hm]
    generalize lo + (hi - lo) / 2 = mid at hb hm hf1 hf2 ⊢
    obtain ⟨k1, k2, k3⟩ := key mid hm
    rcases Nat.lt_trichotomy mid i with h | rfl | h
    · rw [if_pos (k1 h)]
      exact ih _ _ h hhi hhm hf1
    · rw [if_neg (Nat.not_lt.mpr hc.2), if_neg (Nat.not_lt.mpr hc.1)]
    · rw [if_neg (Nat.not_lt.mpr (Nat.le_of_lt (Nat.lt_of_lt_of_le (k2 h) k3))), if_pos (k2 h)]
      exact ih _ _ hlo h (Nat.le_of_lt hm) hf2

theorem get_complete_mem (m : List Entry) (hs : Sep m) (e : Entry) (he : e ∈ m) (a : Nat)
    (hc : e.1.lo ≤ a ∧ a ≤ e.1.hi) : get m a = some e.2 := by
  obtain ⟨i, hi, rfl⟩ := List.getElem_of_mem he
  have := bsearch_go_complete m.toArray a (by simpa using hs) i (by simpa using hi)
    (by simpa using hc) 0 m.toArray.size (m.toArray.size + 1) (Nat.zero_le _) (by simpa using hi)
    (Nat.le_refl _) (by omega)
  simpa [get, bsearch] using this

/-! ### what becomes of every source entry

The loop serves an entry `s` (some kept range of `s`'s value spans `s`) unless it drops it, and it drops it only
when the entry before it in the order, or the run merged so far, has another value and reaches `s.lo`. -/

def Serves (out : List Entry) (s : Entry) : Prop :=
  ∃ e' ∈ out, e'.2 = s.2 ∧ e'.1.lo ≤ s.1.lo ∧ s.1.hi ≤ e'.1.hi

def Blocked (src : List Entry) (s : Entry) : Prop :=
  ∃ t ∈ src, t.2 ≠ s.2 ∧ t.1.lo ≤ s.1.lo ∧ s.1.lo ≤ t.1.hi

theorem keep_some_last (l : Entry) (xs : List Entry) :
    ∃ e' ∈ keep (some l) xs, e'.2 = l.2 ∧ e'.1.lo = l.1.lo ∧ l.1.hi ≤ e'.1.hi := by
  induction xs generalizing l with
  | nil => exact ⟨l, List.mem_singleton_self l, rfl, rfl, Nat.le_refl _⟩
  | cons e rest ih =>
    rcases keep_cons l e rest with ⟨_, h⟩ | ⟨_, h⟩ | ⟨_, _, h⟩ <;> rw [h]
    · exact ih l
    · obtain ⟨e', he', hv, hlo, hhi⟩ := ih (⟨l.1.lo, max e.1.hi l.1.hi⟩, l.2)
      exact ⟨e', he', hv, hlo, Nat.le_trans (Nat.le_max_right ..) hhi⟩
    · exact ⟨l, List.mem_cons_self, rfl, rfl, Nat.le_refl _⟩

theorem keep_some_serves (src : List Entry) (l : Entry) (xs : List Entry)
    (hsorted : xs.Pairwise fun x y => x.1.lo ≤ y.1.lo) (hx : ∀ x ∈ xs, x ∈ src ∧ l.1.lo ≤ x.1.lo)
    (hl : ∃ t ∈ src, t.2 = l.2 ∧ t.1.hi = l.1.hi ∧ ∀ x ∈ xs, t.1.lo ≤ x.1.lo) :
    ∀ s ∈ xs, Serves (keep (some l) xs) s ∨ Blocked src s := by
  induction xs generalizing l with
  | nil => exact fun _ hs => nomatch hs
  | cons e rest ih =>
    obtain ⟨hle, hsorted⟩ := List.pairwise_cons.mp hsorted
    obtain ⟨⟨hesrc, hel⟩, hrest⟩ := List.forall_mem_cons.mp hx
    obtain ⟨t, ht, htv, hthi, htlo⟩ := hl
    obtain ⟨hte, htrest⟩ := List.forall_mem_cons.mp htlo
    rcases keep_cons l e rest with ⟨h1, h⟩ | ⟨h2, h⟩ | ⟨_, _, h⟩ <;> rw [h] <;>
      refine List.forall_mem_cons.mpr ⟨?_, ?_⟩
    · -- dropped: the source entry that gave the last element its end reaches `e.lo`
      exact .inr ⟨t, ht, fun hv => h1.2 (hv.symm.trans htv), hte, hthi ▸ h1.1⟩
    · exact ih l hsorted hrest ⟨t, ht, htv, hthi, htrest⟩
    · obtain ⟨e', he', hv, hlo, hhi⟩ := keep_some_last (⟨l.1.lo, max e.1.hi l.1.hi⟩, l.2) rest
      exact .inl ⟨e', he', hv.trans h2.2.symm, hlo ▸ hel, Nat.le_trans (Nat.le_max_left ..) hhi⟩
    · -- merged: the end of the new last element is `e`'s or the old one
      refine ih _ hsorted hrest ?_
      rcases Nat.le_total l.1.hi e.1.hi with hm | hm
      · exact ⟨e, hesrc, h2.2, (Nat.max_eq_left hm).symm, hle⟩
      · exact ⟨t, ht, htv, hthi.trans (Nat.max_eq_right hm).symm, htrest⟩
    · obtain ⟨e', he', hv, hlo, hhi⟩ := keep_some_last e rest
      exact .inl ⟨e', List.mem_cons_of_mem _ he', hv, Nat.le_of_eq hlo, hhi⟩
    · intro s hs
      refine (ih e hsorted (fun x hx' => ⟨(hrest x hx').1, hle x hx'⟩) ⟨e, hesrc, rfl, rfl, hle⟩ s hs).imp_left ?_
      rintro ⟨e', he', h'⟩
      exact ⟨e', List.mem_cons_of_mem _ he', h'⟩

theorem keep_serves (xs : List Entry) (hsorted : xs.Pairwise fun x y => x.1.lo ≤ y.1.lo) :
    ∀ s ∈ xs, Serves (keep none xs) s ∨ Blocked xs s := by
  cases xs with
  | nil => exact fun _ hs => nomatch hs
  | cons e rest =>
    obtain ⟨hle, hsorted⟩ := List.pairwise_cons.mp hsorted
    rw [keep]
    refine List.forall_mem_cons.mpr ⟨?_, ?_⟩
    · obtain ⟨e', he', hv, hlo, hhi⟩ := keep_some_last e rest
      exact .inl ⟨e', he', hv, Nat.le_of_eq hlo, hhi⟩
    · exact keep_some_serves (e :: rest) e rest hsorted
        (fun x hx => ⟨List.mem_cons_of_mem _ hx, hle x hx⟩) ⟨e, List.mem_cons_self, rfl, rfl, hle⟩

theorem mem_safeVec_src {xs : List (Option Rng × Val)} {e : Entry} (he : e ∈ safeVec xs) :
    ∃ r, (some r, e.2) ∈ xs ∧ r.lo = e.1.lo := by
  obtain ⟨s, hs, hlo, hv⟩ := keep_loval _ e he
  exact ⟨s.1, hv ▸ mem_validOnly_sortOpt.mp hs, hlo⟩

theorem get_served_or_blocked (xs : List (Option Rng × Val)) (hwf : ∀ e ∈ validOnly xs, WF e)
    {r : Rng} {v : Val} (he : (some r, v) ∈ xs) :
    (∀ a, r.lo ≤ a → a ≤ r.hi → get (safeVec xs) a = some v) ∨
      ∃ s w, (some s, w) ∈ xs ∧ w ≠ v ∧ s.lo ≤ r.lo ∧ r.lo ≤ s.hi := by
  have hsorted : (validOnly (sortOpt xs)).Pairwise fun x y => x.1.lo ≤ y.1.lo := by
    rw [validOnly_sortOpt]
    refine (List.pairwise_mergeSort rle_trans rle_total _).imp fun h => ?_
    simp only [rle, Bool.or_eq_true, Bool.and_eq_true, decide_eq_true_eq, beq_iff_eq] at h; omega
  rcases keep_serves _ hsorted (r, v) (mem_validOnly_sortOpt.mpr he) with
    ⟨e', he', hv, hlo, hhi⟩ | ⟨t, ht, hv, hlo, hhi⟩
  · refine .inl fun a h1 h2 => ?_
    have hsep : Sep (safeVec xs) :=
      keep_sep _ fun e he => hwf e (mem_validOnly.mpr (mem_validOnly_sortOpt.mp he))
    rw [← show e'.2 = v from hv]
    exact get_complete_mem _ hsep e' he' a ⟨Nat.le_trans hlo h1, Nat.le_trans h2 hhi⟩
  · exact .inr ⟨t.1, t.2, mem_validOnly_sortOpt.mp ht, hv, hlo, hhi⟩

theorem get_complete_of_mem (xs : List (Option Rng × Val)) (hwf : ∀ e ∈ validOnly xs, WF e)
    {r : Rng} {v : Val} (he : (some r, v) ∈ xs)
    (hiso : ∀ s w, (some s, w) ∈ xs → w ≠ v → r.intersects s = false)
    {a : Nat} (ha : r.lo ≤ a ∧ a ≤ r.hi) : get (safeVec xs) a = some v := by
  rcases get_served_or_blocked xs hwf he with h | ⟨s, w, hs, hw, h1, h2⟩
  · exact h a ha.1 ha.2
  · have := hiso s w hs hw
    have := (hwf (r, v) (mem_validOnly.mpr he)).1
    simp only [Rng.intersects, Bool.and_eq_false_iff, decide_eq_false_iff_not] at *
    omega

/-- The loop on ranges alone: an entry that starts at or below the end of the last kept one goes. -/
def thin {α : Type} (rng : α → Rng) : Option α → List α → List α
  | none, [] => []
  | some l, [] => [l]
  | none, e :: rest => thin rng (some e) rest
  | some l, e :: rest =>
    if (rng e).lo ≤ (rng l).hi then thin rng (some l) rest else l :: thin rng (some e) rest

theorem thin_some_subset {α : Type} (rng : α → Rng) (l : α) (xs : List α) : thin rng (some l) xs ⊆ l :: xs := by
  induction xs generalizing l with
  | nil => exact List.Subset.refl _
  | cons e rest ih =>
    rw [thin]
    split
    · exact (ih l).trans (List.cons_subset_cons _ (List.subset_cons_self ..))
    · exact List.cons_subset_cons _ (ih e)

theorem thin_subset {α : Type} (rng : α → Rng) (xs : List α) : thin rng none xs ⊆ xs := by
  cases xs with
  | nil => exact List.Subset.refl _
  | cons e rest => exact thin_some_subset rng e rest

/-- When equal values occur only on equal ranges, an entry that could be merged is a copy of the last one, and an
    entry with another value is dropped exactly when it starts inside it: the values play no part. -/
theorem keep_some_map_eq_thin {α : Type} (g : α → Entry) (src : List α) (hwf : ∀ z ∈ src, WF (g z))
    (hself : ∀ z ∈ src, ∀ z' ∈ src, (g z).2 = (g z').2 → (g z).1 = (g z').1)
    (l : α) (xs : List α) (hl : l ∈ src) (hx : ∀ x ∈ xs, x ∈ src) :
    keep (some (g l)) (xs.map g) = (thin (fun z => (g z).1) (some l) xs).map g := by
  induction xs generalizing l with
  | nil => rfl
  | cons e rest ih =>
    obtain ⟨he, hrest⟩ := List.forall_mem_cons.mp hx
    have hwl := hwf l hl
    rw [List.map_cons, thin]
    rcases keep_cons (g l) (g e) (rest.map g) with ⟨h1, h⟩ | ⟨h2, h⟩ | ⟨n1, n2, h⟩ <;> rw [h]
    · rw [if_pos h1.1]; exact ih l hl hrest
    · have hr := hself e he l hl h2.2
      have hm : ((⟨(g l).1.lo, max (g e).1.hi (g l).1.hi⟩, (g l).2) : Entry) = g l := by
        rw [hr, Nat.max_self]
      rw [hm, if_pos (by rw [hr]; exact hwl.1)]
      exact ih l hl hrest
    · have hgt : ¬ (g e).1.lo ≤ (g l).1.hi := fun hle => by
        have hv : (g e).2 = (g l).2 := Decidable.byContradiction fun hv => n1 ⟨hle, hv⟩
        exact n2 ⟨Nat.le_trans hle (satSucc_ge _ hwl.2), hv⟩
      rw [if_neg hgt, List.map_cons, ih e he hrest]

theorem keep_map_eq_thin {α : Type} (g : α → Entry) (xs : List α) (hwf : ∀ z ∈ xs, WF (g z))
    (hself : ∀ z ∈ xs, ∀ z' ∈ xs, (g z).2 = (g z').2 → (g z).1 = (g z').1) :
    keep none (xs.map g) = (thin (fun z => (g z).1) none xs).map g := by
  cases xs with
  | nil => rfl
  | cons e rest =>
    rw [List.map_cons, keep, thin]
    exact keep_some_map_eq_thin g (e :: rest) hwf hself e rest List.mem_cons_self
      fun x hx => List.mem_cons_of_mem _ hx

end MdModel.RangeMap

/-! ### `insert_win_stack_info`: the invariant of the accumulated records

Every accumulated record has its own `memory_range()` and a `u32` size; the repair changes sizes only, so whatever
holds of the tags of the records put in (`P`) holds of those kept. -/

namespace MdModel.SymBridge
open MdModel MdModel.RangeMap

def WInv (P : Nat → Prop) (acc : List (Rng × Rec)) : Prop :=
  ∀ p ∈ acc, mkRange p.2.addr p.2.size = some p.1 ∧ p.2.size < 2 ^ 32 ∧ P p.2.tag

end MdModel.SymBridge

namespace MdModel.RangeMap
open MdModel SymBridge

/-- The repaired size `info.addr - last.addr` of a record overlapped by a later one: positive and
    below the old size, so the `as u32` cast is exact and `memory_range()` is still `Some`. -/
theorem repair_range {la ls ia is : Nat} {lr mr : Rng} (hl : mkRange la ls = some lr)
    (hm : mkRange ia is = some mr) (hint : lr.intersects mr = true) (hgt : ia > la)
    (hls : ls < 2 ^ 32) : ∃ r', mkRange la ((ia - la) % 2 ^ 32) = some r' := by
  obtain ⟨_, _, rfl⟩ := mkRange_eq_some.mp hl
  obtain ⟨_, _, rfl⟩ := mkRange_eq_some.mp hm
  simp only [Rng.intersects, Bool.and_eq_true, decide_eq_true_eq] at hint
  -- the later record starts inside the earlier one
  have hd : ia - la < ls := by omega
  have hfit : la + (ia - la) ≤ U64MAX := by omega
  rw [Nat.mod_eq_of_lt (Nat.lt_trans hd hls)]
  exact ⟨_, mkRange_eq_some.mpr ⟨Nat.sub_pos_of_lt hgt, hfit, rfl⟩⟩

theorem winv_cons {P : Nat → Prop} {acc : List (Rng × Rec)} {p : Rng × Rec} (h : WInv P acc)
    (hp : mkRange p.2.addr p.2.size = some p.1 ∧ p.2.size < 2 ^ 32 ∧ P p.2.tag) : WInv P (p :: acc) :=
  List.forall_mem_cons.mpr ⟨hp, h⟩

theorem insertWin_ok {P : Nat → Prop} (acc : List (Rng × Rec)) (info : Rec) (hacc : WInv P acc)
    (hs : info.size < 2 ^ 32) (hp : P info.tag) :
    ∃ acc', insertWin acc info = .ok acc' ∧ WInv P acc' := by
  unfold insertWin
  cases hmr : mkRange info.addr info.size with
  | none => exact ⟨acc, rfl, hacc⟩
  | some mr =>
    have hpush : WInv P ((mr, info) :: acc) := winv_cons hacc ⟨hmr, hs, hp⟩
    match acc, hacc, hpush with
    | [], _, hpush => exact ⟨_, rfl, hpush⟩
    | (lr, li) :: rest, hacc, hpush =>
      obtain ⟨hli, (hrest : WInv P rest)⟩ := List.forall_mem_cons.mp hacc
      simp only
      by_cases hint : lr.intersects mr = true
      · rw [if_pos hint]
        by_cases hgt : info.addr > li.addr
        · rw [if_pos hgt]
          obtain ⟨r', hsome⟩ := repair_range hli.1 hmr hint hgt hli.2.1
          simp only [hsome]
          have hrep : WInv P ((r', { li with size := _ }) :: rest) :=
            winv_cons hrest ⟨hsome, Nat.mod_lt _ (by decide), hli.2.2⟩
          exact ⟨_, rfl, winv_cons (p := (mr, info)) hrep ⟨hmr, hs, hp⟩⟩
        · rw [if_neg hgt]
          split
          · exact ⟨_, rfl, hacc⟩
          · exact ⟨_, rfl, hpush⟩
      · rw [if_neg hint]; exact ⟨_, rfl, hpush⟩

theorem insertWinAll_ok {P : Nat → Prop} (recs : List Rec) (hr : ∀ r ∈ recs, r.size < 2 ^ 32 ∧ P r.tag)
    (acc : List (Rng × Rec)) (hacc : WInv P acc) :
    ∃ v, insertWinAll acc recs = .ok v ∧ WInv P v := by
  induction recs generalizing acc with
  | nil => exact ⟨_, rfl, fun p hp => hacc p (List.mem_reverse.mp hp)⟩
  | cons r rest ih =>
    obtain ⟨hr0, hrest⟩ := List.forall_mem_cons.mp hr
    obtain ⟨acc', hok, hinv⟩ := insertWin_ok acc r hacc hr0.1 hr0.2
    simp only [insertWinAll, hok]
    exact ih hrest acc' hinv

end MdModel.RangeMap
