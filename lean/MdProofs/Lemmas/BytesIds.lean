/-
  MdModel.DumpIds / MdModel.DumpUnified under `Run`: the identifier accessors and
  the module printer on modules whose CodeView records are as `ModuleOk` says (what a module list that was
  read guarantees: Lemmas/BytesStreams), the soft-errors stream, the memory-info lookup table — it never
  fails and its lookups stay inside the region vector —, `UnifiedMemoryInfoList`.
-/
import MdModel.DumpIds
import MdModel.DumpUnified
import MdProofs.Lemmas.BytesFull
import MdProofs.Lemmas.BytesMaps
namespace MdModel.Dump
open MdModel MdModel.Gen.Layouts

theorem length_bytesToNul_le (bs : List UInt8) : (Encode.bytesToNul bs).length ≤ bs.length := by
  unfold Encode.bytesToNul
  exact length_takeWhile_le _ bs

section
variable {H : Prop} {B : Nat} {E : Prop}

theorem stringFromBytesNul_run (bs : List UInt8) (h : H → 3 * bs.length ≤ B) :
    Run H B 1 (stringFromBytesNul bs) (fun _ => True) E := by
  unfold stringFromBytesNul
  dsimp only
  refine run_bind (A := 1) (C := 0) (P := fun _ => True)
    (run_ite (fun _ => run_pure trivial) fun _ => run_alloc fun hH => ?_) fun _ _ => run_pure trivial
  have := length_bytesToNul_le bs
  have := h hH
  omega

theorem debugFileX_run {n : Nat} (m : Module) (hH : H → ModuleOk n m ∧ 3 * n ≤ B) :
    Run H B 1 (debugFileX m) (fun _ => True) E := by
  unfold debugFileX
  split
  · rename_i g a name hcv
    refine run_map (stringFromBytesNul_run _ fun h => ?_) fun _ _ => trivial
    have := ((hH h).1 _ hcv).2
    have := (hH h).2
    simp only [Array.length_toList]; omega
  · rename_i o s a name hcv
    refine run_map (stringFromBytesNul_run _ fun h => ?_) fun _ _ => trivial
    have : name.size ≤ n := (hH h).1 _ hcv
    have := (hH h).2
    simp only [Array.length_toList]; omega
  · exact run_pure trivial
  · exact run_pure trivial

theorem moduleIds_run {n : Nat} (os : Encode.Os) (e : Endian) (m : Module)
    (hH : H → ModuleOk n m ∧ 3 * n ≤ B) : Run H B 2 (moduleIds os e m) (fun _ => True) E := by
  unfold moduleIds
  dsimp only
  refine run_bind (A := 1) (C := 1) (P := fun _ => True) ?_ fun _ _ => run_map (debugFileX_run m hH) fun _ _ => trivial
  split
  · rename_i bid hcv
    refine run_alloc fun h => ?_
    have : bid.size ≤ n := (hH h).1 _ hcv
    have := (hH h).2
    omega
  · exact run_pure trivial

/-- `raw.signature.data4[i]`: a PDB 7.0 record that was read has its 11 GUID scalars; the hex printers allocate one
    24-byte `String` per byte and the joined string -/
theorem modulePrint_run {n : Nat} (m : Module) (hH : H → ModuleOk n m ∧ 24 * n ≤ B) :
    Run H B 2 (modulePrint m) (fun _ => True) E := by
  have h2 : ∀ (sz v : Nat), (H → sz ≤ n) →
      Run H B 2 (M.alloc sz 24 false >>= fun _ => M.alloc sz 2 false >>= fun _ => pure v) (fun _ => True) E :=
    fun sz v h => run_bind (run_alloc fun hh => by have := h hh; have := (hH hh).2; omega) fun _ _ =>
      run_bind (run_alloc fun hh => by have := h hh; have := (hH hh).2; omega) (C := 0) fun _ _ => run_pure trivial
  unfold modulePrint
  split
  · rename_i guid a name hcv
    refine (run_loop 8 0 _ (fun _ _ => True) 0 trivial fun s i hi _ => ?_).mono (by omega)
    split
    · exact run_pure trivial
    · rename_i hnone
      refine run_panic _ fun h => ?_
      have hg := ((hH h).1 _ hcv).1
      have := List.getElem?_eq_none_iff.mp hnone
      omega
  · exact run_pure trivial
  · rename_i bid hcv
    exact h2 _ _ fun h => (hH h).1 _ hcv
  · rename_i raw hcv
    exact h2 _ _ fun h => (hH h).1 _ hcv
  · exact run_pure trivial

theorem modulesOut_run {n : Nat} (os : Encode.Os) (e : Endian) (ms : List Module)
    (hH : H → (∀ m ∈ ms, ModuleOk n m) ∧ 24 * n ≤ B) :
    Run H B (4 * ms.length) (modulesOut os e ms) (fun _ => True) E := by
  induction ms with
  | nil => exact run_pure trivial
  | cons m rest ih =>
    unfold modulesOut
    have hm : H → ModuleOk n m ∧ 24 * n ≤ B := fun h => ⟨(hH h).1 m List.mem_cons_self, (hH h).2⟩
    refine (run_bind (moduleIds_run os e m fun h => ⟨(hm h).1, by have := (hm h).2; omega⟩) fun _ _ =>
      run_bind (modulePrint_run m hm) fun _ _ =>
      run_map (ih fun h => ⟨fun x hx => (hH h).1 x (List.mem_cons_of_mem _ hx), (hH h).2⟩) fun _ _ => trivial).mono
      (by simp only [List.length_cons]; omega)

theorem readSoftErrors_run (b : Bytes) : Run H B 0 (readSoftErrors b) (fun _ => True) True := by
  unfold readSoftErrors
  exact run_ite (fun _ => run_pure trivial) fun _ => run_fail _ trivial

theorem memInfoInput_wf (is : List MemInfo) :
    RangeMap.InputWF (is.zipIdx.map fun (x, i) => (RangeMap.mkRange x.base x.size, i)) :=
  RangeMap.idx_mkRange_wf MemInfo.base MemInfo.size is

theorem memInfoFromRegions_run (is : List MemInfo) (h : H → is.length * 32 ≤ B) :
    Run H B 1 (memInfoFromRegions is)
      (· = RangeMap.safeVec (is.zipIdx.map fun (x, i) => (RangeMap.mkRange x.base x.size, i))) E := by
  unfold memInfoFromRegions
  rw [RangeMap.safe_ok _ (memInfoInput_wf is)]
  exact run_bind (run_alloc h) (C := 0) fun _ _ => run_pure rfl

theorem tableAt_run (site : String) (table : List RangeMap.Entry) (n a : Nat)
    (h : H → TableInto table n) : Run H B 0 (tableAt site table n a) (fun _ => True) E := by
  unfold tableAt
  split
  · exact run_pure trivial
  · rename_i i hi
    exact run_ite (fun _ => run_pure trivial) fun hn => run_panic _ fun hH => hn ((h hH).1 a i hi)

theorem byAddrIndices_run (site : String) (n : Nat) (table : List RangeMap.Entry)
    (h : H → ∀ en ∈ table, en.2 < n) : Run H B 0 (byAddrIndices site n table) (fun _ => True) E := by
  induction table with
  | nil => exact run_pure trivial
  | cons en rest ih =>
    obtain ⟨r, i⟩ := en
    unfold byAddrIndices
    exact run_ite (fun _ => run_map (ih fun hH x hx => h hH x (List.mem_cons_of_mem _ hx)) fun _ _ => trivial)
      fun hn => run_panic _ fun hH => hn (h hH (r, i) List.mem_cons_self)

theorem probeAll_run (site : String) (table : List RangeMap.Entry) (n : Nat)
    (as : List Nat) (h : H → TableInto table n) : Run H B 0 (probeAll site table n as) (fun _ => True) E :=
  run_mapM (probeAll site table n) (h := fun a r => (a, r)) rfl (fun _ _ => rfl) as fun a _ => tableAt_run site table n a h

/-- one allocation, the lookup table of the memory-info list; `&self.regions[index]` is in bounds because every value
    of either table is a position of its region vector -/
theorem unifiedOut_run (info : Option (List MemInfo)) (maps : Option LinuxMapsX)
    (hH : H → (∀ is, info = some is → is.length * 32 ≤ B) ∧
      ∀ m, maps = some m → MapsWF m) :
    Run H B 1 (unifiedOut info maps) (fun _ => True) E := by
  have hlook : ∀ site site' n (table : List RangeMap.Entry) (as : List Nat)
      (k : List Nat → List (Nat × Option Nat) → Option UnifiedOut), (H → TableInto table n) →
      Run H B 0 (byAddrIndices site n table >>= fun idx => probeAll site' table n as >>= fun ps => pure (k idx ps))
        (fun _ => True) E :=
    fun _ _ _ _ _ _ h => run_bind0 (byAddrIndices_run _ _ _ fun hh => (h hh).2) fun _ _ =>
      run_map (probeAll_run _ _ _ _ h) fun _ _ => trivial
  unfold unifiedOut
  split
  · exact run_pure trivial
  · rename_i hk
    cases info with
    | none => unfold unifiedNew at hk; cases maps <;> cases hk
    | some is =>
      simp only [Option.getD_some]
      refine run_bind (memInfoFromRegions_run is fun hh => (hH hh).1 is rfl) (C := 0) fun t ht => ?_
      subst ht
      exact hlook _ _ _ _ _ _ fun _ =>
        table_into (fun _ _ h => RangeMap.idx_val_lt (rng := fun x : MemInfo => RangeMap.mkRange x.base x.size) h)
  · rename_i hk
    cases maps with
    | none => unfold unifiedNew at hk; cases info <;> cases hk
    | some m =>
      simp only [Option.getD_some]
      exact (hlook _ _ _ _ _ _ fun hh => ((hH hh).2 m rfl).into).mono (by omega)

end

end MdModel.Dump
