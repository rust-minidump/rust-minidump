/-
  Range tables as their clients meet them, on top of C08.

  When the value determines the range — a position in a module or memory list, a record that carries its address
  and size — a merge of the normalising loop joins an entry with a copy of itself, so every entry of the table IS
  an entry of the list with its own range (`safeVec_mem_of_selfranged`), and a value served at one address is served
  on that whole range (`get_same_of_selfranged`). Pairwise distinct values are the usual instance.

  Over records that do not overlap (`Apart`) the table finds what a scan of the records finds (`get_eq_find?`).
  The tables over a list whose values are the positions are in Lemmas/RangeMapIdx.
-/
import MdProofs.C08
import MdProofs.Lemmas.Assoc
namespace MdModel.RangeMap
open MdModel

theorem validOnly_vals_nodup {xs : List (Option Rng × Val)} (hd : (xs.map (·.2)).Nodup) :
    ((validOnly xs).map (·.2)).Nodup := by
  rw [List.Nodup, List.pairwise_map] at hd ⊢
  refine List.Pairwise.filterMap _ ?_ hd
  intro a a' hne b hb b' hb'
  simp only [Option.map_eq_some_iff] at hb hb'
  obtain ⟨r, _, rfl⟩ := hb
  obtain ⟨r', _, rfl⟩ := hb'
  exact hne

theorem selfranged_of_nodup {xs : List (Option Rng × Val)} (hd : (xs.map (·.2)).Nodup) :
    ∀ r s v, (some r, v) ∈ xs → (some s, v) ∈ xs → r = s := fun _ _ _ h1 h2 =>
  Option.some.inj (congrArg Prod.fst (List.eq_of_mem_of_map_eq hd h1 h2 rfl))

theorem safeVec_mem_of_selfranged (xs : List (Option Rng × Val))
    (hself : ∀ r s v, (some r, v) ∈ xs → (some s, v) ∈ xs → r = s) :
    ∀ e ∈ safeVec xs, (some e.1, e.2) ∈ xs := fun e he =>
  mem_validOnly_sortOpt.mp (keep_mem_of_selfranged _ (fun _ hx _ hy hv =>
    hself _ _ _ (mem_validOnly_sortOpt.mp hx) (hv ▸ mem_validOnly_sortOpt.mp hy)) e he)

theorem safeVec_mem_of_distinct (xs : List (Option Rng × Val)) (hd : (xs.map (·.2)).Nodup) :
    ∀ e ∈ safeVec xs, (some e.1, e.2) ∈ xs :=
  safeVec_mem_of_selfranged xs (selfranged_of_nodup hd)

theorem get_same_of_selfranged (xs : List (Option Rng × Val)) (hwf : InputWF xs)
    (hself : ∀ r s v, (some r, v) ∈ xs → (some s, v) ∈ xs → r = s)
    (a : Nat) (v : Val) (h : get (safeVec xs) a = some v) :
    ∃ r, (some r, v) ∈ xs ∧ r.lo ≤ a ∧ a ≤ r.hi ∧
      ∀ b, r.lo ≤ b → b ≤ r.hi → get (safeVec xs) b = some v := by
  obtain ⟨e, he, hc, rfl⟩ := get_sound_mem _ a v h
  exact ⟨e.1, safeVec_mem_of_selfranged xs hself e he, hc.1, hc.2,
    fun b h1 h2 => get_complete_mem (safeVec xs) (safeVec_sep xs hwf) e he b ⟨h1, h2⟩⟩

theorem get_same_entry (xs : List (Option Rng × Val)) (hwf : InputWF xs) (hd : (xs.map (·.2)).Nodup)
    (a : Nat) (v : Val) (h : get (safeVec xs) a = some v) :
    ∃ r, (some r, v) ∈ xs ∧ r.lo ≤ a ∧ a ≤ r.hi ∧
      ∀ b, r.lo ≤ b → b ≤ r.hi → get (safeVec xs) b = some v :=
  get_same_of_selfranged xs hwf (selfranged_of_nodup hd) a v h

/-- entries that pairwise do not overlap: each of them is isolated in the sense of C08's `get_complete` -/
theorem get_complete_pairwise {xs : List (Option Rng × Val)} (hwf : InputWF xs)
    (hpw : xs.Pairwise fun e e' => ∀ r r', e.1 = some r → e'.1 = some r' → r.intersects r' = false)
    {r : Rng} {v : Val} (he : (some r, v) ∈ xs) {a : Nat} (ha : r.lo ≤ a ∧ a ≤ r.hi) :
    get (safeVec xs) a = some v := by
  obtain ⟨pre, post, rfl⟩ := List.append_of_mem he
  obtain ⟨_, hpost, hpre⟩ := List.pairwise_append.mp hpw
  refine get_complete pre post r v a hwf (fun e he' s hs => ?_) ha
  rcases List.mem_append.mp he' with h | h
  · have := hpre e h _ List.mem_cons_self s r hs rfl
    simp only [Rng.intersects, Bool.and_eq_false_iff, decide_eq_false_iff_not] at this ⊢
    omega
  · exact List.rel_of_pairwise_cons hpost h r s rfl hs

section Records
variable {α : Type} {xs : List α} {rng : α → Option Rng} {val : α → Val}

def Apart (rng : α → Option Rng) (x y : α) : Prop :=
  ∀ r s, rng x = some r → rng y = some s → r.intersects s = false

def covers (rng : α → Option Rng) (a : Nat) (x : α) : Bool := (rng x).any (·.contains a)

theorem covers_iff {a : Nat} {x : α} :
    covers rng a x = true ↔ ∃ r, rng x = some r ∧ r.lo ≤ a ∧ a ≤ r.hi := by
  simp only [covers, Option.any_eq_true, Rng.contains, Bool.and_eq_true, decide_eq_true_eq]

theorem covers_mkRange (ad sz : α → Nat) (a : Nat) (x : α) :
    covers (fun x => mkRange (ad x) (sz x)) a x = true ↔
      0 < sz x ∧ ad x + sz x ≤ U64MAX ∧ ad x ≤ a ∧ a < ad x + sz x := by
  rw [covers_iff]
  constructor
  · rintro ⟨r, hr, h1, h2⟩
    obtain ⟨hpos, hmax, rfl⟩ := mkRange_eq_some.mp hr
    simp only at h1 h2
    omega
  · rintro ⟨h1, h2, h3, h4⟩
    exact ⟨_, mkRange_eq_some.mpr ⟨h1, h2, rfl⟩, h3, by show a ≤ ad x + sz x - 1; omega⟩

theorem apart_mkRange (ad sz : α → Nat) {x y : α} (h : ad x + sz x ≤ ad y ∨ ad y + sz y ≤ ad x) :
    Apart (fun x => mkRange (ad x) (sz x)) x y := by
  intro r s hr hs
  obtain ⟨_, _, rfl⟩ := mkRange_eq_some.mp hr
  obtain ⟨_, _, rfl⟩ := mkRange_eq_some.mp hs
  simp only [Rng.intersects, Bool.and_eq_false_iff, decide_eq_false_iff_not]
  omega

theorem find?_covers {a : Nat} {q : α → Bool} (h : ∀ x ∈ xs, (q x = true ↔ covers rng a x = true)) :
    xs.find? q = xs.find? (covers rng a) :=
  List.find?_congr_mem fun x hx => Bool.eq_iff_iff.mpr (h x hx)

theorem find?_covers_unique (hpw : xs.Pairwise (Apart rng)) {a : Nat} {x y : α}
    (hf : xs.find? (covers rng a) = some x) (hy : y ∈ xs) (hc : covers rng a y = true) : y = x := by
  obtain ⟨hpx, as, bs, rfl, has⟩ := List.find?_eq_some_iff_append.mp hf
  rcases List.mem_append.mp hy with h | h
  · have := has y h; simp [hc] at this
  · rcases List.mem_cons.mp h with rfl | h
    · rfl
    · obtain ⟨r, hr, r1, r2⟩ := covers_iff.mp hpx
      obtain ⟨s, hs, s1, s2⟩ := covers_iff.mp hc
      have := List.rel_of_pairwise_cons (List.pairwise_append.mp hpw).2.1 h r s hr hs
      simp only [Rng.intersects, Bool.and_eq_false_iff, decide_eq_false_iff_not] at this
      omega

theorem get_eq_find? (hwf : ∀ x ∈ xs, ∀ r, rng x = some r → r.lo ≤ r.hi ∧ r.hi ≤ U64MAX)
    (hpw : xs.Pairwise (Apart rng)) (a : Nat) :
    get (safeVec (xs.map fun x => (rng x, val x))) a = (xs.find? (covers rng a)).map val := by
  cases hf : xs.find? (covers rng a) with
  | none =>
    cases hg : get (safeVec (xs.map fun x => (rng x, val x))) a with
    | none => rfl
    | some v =>
      obtain ⟨r, hr, h1, h2⟩ := get_sound _ a v hg
      obtain ⟨x, hx, he⟩ := List.mem_map.mp hr
      have hrx : rng x = some r := congrArg Prod.fst he
      exact absurd (covers_iff.mpr ⟨r, hrx, h1, h2⟩) (List.find?_eq_none.mp hf x hx)
  | some x =>
    obtain ⟨r, hr, h1, h2⟩ := covers_iff.mp (List.find?_some hf)
    refine get_complete_pairwise ?_ (List.pairwise_map.mpr hpw) (r := r) ?_ ⟨h1, h2⟩
    · intro e he s hs
      obtain ⟨y, hy, rfl⟩ := List.mem_map.mp he
      exact hwf y hy s hs
    · exact List.mem_map.mpr ⟨x, List.mem_of_find?_eq_some hf, by rw [hr]⟩

end Records

end MdModel.RangeMap
