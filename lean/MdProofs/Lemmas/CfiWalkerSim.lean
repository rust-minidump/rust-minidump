/-
  The real `CfiStackWalker` IS an instance of C06's abstract `Walker`.

  `toWalker w` is the C06 record of a real walker `w` (names and aliases from the C18 tables, the
  valid callee registers, the stack image, the register width). This file proves that every
  question `walk_with_stack_cfi` asks is answered alike by both (`memo_toWalker`, `envOf_eq`,
  `fits_toWalker`), that the loop over the remaining rules acts on the view of every canonical
  caller register by `ruleOn` (`foldReal_view`), so that a whole walk is that loop started from
  `ip ↦ ra, sp ↦ cfa` (`walkCfiReal_view`: what `walk_with_stack_cfi` does on the real walker, in the
  real walker's own terms; `real_walk_regs` reads it). `ruleOn` is what C06's `upd` does on the
  record (`upd_ruleOn`), hence `walkCfiReal` is `MdModel.Cfi.walkCfi` on `toWalker w`
  (`walkCfiReal_bridge`).

  As in the bridge to the stack-walk model (`CfiBridgeWalk`), the real walker keeps the CFA and the
  return address IN the stack-pointer and instruction-pointer registers, where later rules can
  overwrite or clear them, while the C06 record has two separate slots: the caller registers are
  compared with the C06 run that starts from `sp ↦ cfa, ip ↦ ra` (`Cfi.storeCfaRa`).

  Also here: what C06Walker's statements about `callee_forwarded_regs`, a list of
  `clear_caller_register` calls and the pointer-authentication strip rest on.
-/
import MdProofs.Lemmas.CfiWalker
namespace MdModel.CfiWalker
open MdModel MdModel.Gen.Regs MdModel.Regs MdModel.CfiBridge

theorem nameStr_eq_some {b : Cfi.Name} {s : String} : nameStr b = some s ↔ b = utf8 s := by
  rw [nameStr, String.fromUTF8?_eq_some_iff, ← utf8_eq_toByteArray, List.toByteArray_inj]

theorem nameStr_none {b : Cfi.Name} (h : nameStr b = none) (n : String) : b ≠ utf8 n := by
  intro e; rw [nameStr_eq_some.mpr e] at h; cases h

def aliasOf (c : Ctx) (k : String) : Option String :=
  match memoName c k with
  | some r => if r = k then none else some r
  | none => none

def aliasPairs (c : Ctx) : List (String × String) :=
  (knownNames c).filterMap fun k => (aliasOf c k).map fun r => (k, r)

/-- `fwd`: the caller registers it starts with -/
def toWalker (w : CfiStackWalker) (fwd : List (Cfi.Name × UInt64)) : Cfi.Walker :=
  { instr := w.instruction
    ptr := w.cpu.bits / 8
    known := (registers w.cpu.tbl).map utf8
    aliases := (aliasPairs w.cpu.tbl).map fun p => (utf8 p.1, utf8 p.2)
    callee := (registers w.cpu.tbl).filterMap fun r => (calleeView w r).map fun v => (utf8 r, UInt64.ofNat v)
    memBase := w.stack.base
    mem := w.stack.bytes
    be := w.stack.bigEndian
    fwd := fwd }

theorem lookup_aliasPairs (p : Cpu) {n : String} (hn : n ∉ registers p.tbl) :
    Cfi.lookupName ((aliasPairs p.tbl).map fun q => (utf8 q.1, utf8 q.2)) (utf8 n) = (p.canon n).map utf8 := by
  have : (aliasPairs p.tbl).map (fun q => (utf8 q.1, utf8 q.2)) =
      (knownNames p.tbl).filterMap fun k => ((aliasOf p.tbl k).map utf8).map fun v => (utf8 k, v) := by
    unfold aliasPairs
    rw [List.map_filterMap]
    congr 1; funext k
    cases aliasOf p.tbl k <;> rfl
  rw [this, lookupName_filterMap_utf8]
  simp only [List.contains_iff_mem]
  by_cases hk : n ∈ knownNames p.tbl
  · simp only [hk, if_true, aliasOf]
    obtain ⟨r, hr⟩ := canon_of_known (p := p) hk
    have hr' : memoName p.tbl n = some r := hr
    rw [hr', hr]
    have : ¬ r = n := fun e => hn (e ▸ (canon_canon hr).1)
    simp [this]
  · simp only [hk, if_false]
    rw [canon_unknown hk]; rfl

theorem memo_toWalker (w : CfiStackWalker) (fwd : List (Cfi.Name × UInt64)) (n : String) :
    (toWalker w fwd).memo (utf8 n) = (w.cpu.canon n).map utf8 := by
  unfold Cfi.Walker.memo toWalker
  simp only
  rw [contains_map_utf8]
  by_cases hr : n ∈ registers w.cpu.tbl
  · have : (registers w.cpu.tbl).contains n = true := by simpa using hr
    rw [this, canon_register hr]; rfl
  · have : (registers w.cpu.tbl).contains n = false := by simpa using hr
    rw [this, lookup_aliasPairs w.cpu hr]
    simp only [Bool.false_eq_true, if_false]
    cases hc : w.cpu.canon n with
    | none => rfl
    | some r =>
      simp only [Option.map_some]
      rw [contains_map_utf8]
      have : (registers w.cpu.tbl).contains r = true := by simpa using (canon_canon hc).1
      rw [this]; rfl

/-- a label that is not UTF-8 text (none reaches the evaluator: the symbol-file parser rejects the
    line) names no register -/
theorem memo_toWalker_not_text (w : CfiStackWalker) (fwd : List (Cfi.Name × UInt64)) (b : Cfi.Name)
    (hb : ∀ n : String, b ≠ utf8 n) : (toWalker w fwd).memo b = none := by
  unfold Cfi.Walker.memo toWalker
  simp only
  have h1 : ((registers w.cpu.tbl).map utf8).contains b = false := by
    rw [← Bool.not_eq_true, List.contains_iff_mem, List.mem_map]
    rintro ⟨r, _, e⟩; exact hb r e.symm
  rw [h1]
  simp only [Bool.false_eq_true, if_false]
  have : Cfi.lookupName ((aliasPairs w.cpu.tbl).map fun p => (utf8 p.1, utf8 p.2)) b = none := by
    induction aliasPairs w.cpu.tbl with
    | nil => rfl
    | cons p t ih => rw [List.map_cons, Cfi.lookupName_cons, if_neg (fun e => hb p.1 e.symm)]; exact ih
  rw [this]

theorem getCallee_toWalker (w : CfiStackWalker) (fwd : List (Cfi.Name × UInt64)) (n : String) :
    (toWalker w fwd).getCallee (utf8 n) = (calleeView w n).map UInt64.ofNat := by
  unfold Cfi.Walker.getCallee
  rw [memo_toWalker]
  cases hc : w.cpu.canon n with
  | none => simp only [Option.map_none, calleeView, hc]
  | some r =>
    simp only [Option.map_some]
    rw [calleeView_canon w hc]
    have := lookupName_filterMap_utf8 (registers w.cpu.tbl) (fun k => (calleeView w k).map UInt64.ofNat) r
    simp only [Option.map_map, List.contains_iff_mem, (canon_canon hc).1, if_true] at this
    exact this

theorem fits_toWalker (w : CfiStackWalker) (fwd : List (Cfi.Name × UInt64)) (v : UInt64) :
    (toWalker w fwd).fits v = w.cpu.fits v.toNat := by
  have hbits : w.cpu.bits = 32 ∨ w.cpu.bits = 64 := by
    cases w.cpu with
    | ctx c => exact (widens_iff c).2
    | mips32 => exact .inl rfl
  unfold Cfi.Walker.fits Cpu.fits toWalker
  simp only
  rcases hbits with h | h <;> rw [h]

theorem leVal_append (a b : Cfi.Bytes) : Cfi.leVal (a ++ b) = Cfi.leVal a + 256 ^ a.length * Cfi.leVal b := by
  induction a with
  | nil => simp [Cfi.leVal]
  | cons x t ih =>
    simp only [List.cons_append, Cfi.leVal, ih, List.length_cons, Nat.pow_succ]
    rw [Nat.mul_add, Nat.add_assoc, Nat.mul_comm (256 ^ t.length) 256, Nat.mul_assoc]

/-- the record reads big-endian by `beVal`, the real walker by `pread_with(.., BE)`: the
    little-endian value of the reversed bytes -/
theorem beVal_eq (bs : Cfi.Bytes) : Cfi.beVal bs = Cfi.leVal bs.reverse := by
  induction bs with
  | nil => rfl
  | cons b t ih =>
    rw [List.reverse_cons, leVal_append, Cfi.beVal, ih, List.length_reverse]
    simp only [Cfi.leVal, Nat.mul_zero, Nat.add_zero]
    rw [Nat.mul_comm, Nat.add_comm]

theorem readMem_toWalker (w : CfiStackWalker) (fwd : List (Cfi.Name × UInt64)) (a : UInt64) :
    (toWalker w fwd).readMem a = toU64 (w.getRegisterAtAddress a.toNat) := by
  unfold Cfi.Walker.readMem CfiStackWalker.getRegisterAtAddress StackMem.read toWalker toU64
  simp only [beVal_eq]
  by_cases h1 : a.toNat < w.stack.base
  · simp [h1]
  · simp only [h1, if_false]
    by_cases h2 : a.toNat - w.stack.base + w.cpu.bits / 8 ≤ w.stack.bytes.length <;>
      cases w.stack.bigEndian <;> simp [h2]

theorem envOf_eq (w : CfiStackWalker) (fwd : List (Cfi.Name × UInt64))
    (hv : validityWf w.cpu.tbl w.calleeValidity = true) :
    envOf w = (toWalker w fwd).env := by
  unfold envOf Cfi.Walker.env
  congr 1
  · funext b
    cases hb : nameStr b with
    | none =>
      simp only
      unfold Cfi.Walker.getCallee
      rw [memo_toWalker_not_text w fwd b (nameStr_none hb)]
    | some s =>
      simp only
      rw [nameStr_eq_some.mp hb, getCallee_toWalker, getCalleeRegister_eq w hv]
      rfl
  · funext a
    exact (readMem_toWalker w fwd a).symm

def CallerSim (w : CfiStackWalker) (c : Cfi.Caller) (s : String) : Prop :=
  (c.get (utf8 s)).map UInt64.toNat = callerView w s

theorem withCaller_self (w : CfiStackWalker) : w.withCaller w.callerCtx w.callerValidity = w := rfl

def labelReg (w : CfiStackWalker) (b : Cfi.Name) : Option String := (nameStr b).bind w.cpu.canon

/-- what one iteration of the loop over the remaining rules makes of the view of caller register
    `s`; the rule is evaluated against the callee half, which the loop does not change -/
def ruleOn (w : CfiStackWalker) (cfa : UInt64) (s : String) (v : Option Nat) (r : Cfi.Name × Cfi.Expr) : Option Nat :=
  Cfi.ruleView w.cpu.fits (labelReg w r.1) s
    ((Cfi.evalCfi (envOf w) (some cfa) r.2).map UInt64.toNat) v

theorem applyOtherReal_view (w : CfiStackWalker) (cfa : UInt64) (r : Cfi.Name × Cfi.Expr) :
    ∃ st vs, applyOtherReal cfa w r = .ok (w.withCaller st vs) ∧
      ∀ s ∈ registers w.cpu.tbl, callerView (w.withCaller st vs) s = ruleOn w cfa s (callerView w s) r := by
  unfold applyOtherReal ruleOn Cfi.ruleView labelReg
  cases nameStr r.1 with
  | none => exact ⟨_, _, rfl, fun _ _ => (if_neg nofun).symm⟩
  | some n =>
    simp only [Option.bind_some]
    obtain ⟨vs, hcl, _, hclv⟩ := clearCallerRegister_view w n
    cases Cfi.evalCfi (envOf w) (some cfa) r.2 with
    | none => exact ⟨_, vs, hcl, fun s _ => hclv s⟩
    | some v =>
      obtain ⟨st, vs', hset, hfail, hsetv⟩ := setCallerRegister_view w n v.toNat
      simp only [hset]
      cases hok : (w.cpu.canon n).isSome && w.cpu.fits v.toNat with
      | true =>
        refine ⟨st, vs', rfl, fun s hs => ?_⟩
        rw [hsetv s hs]
        simp [((Bool.and_eq_true _ _).mp hok).2, Option.filter_some]
      | false =>
        -- the write failed and changed nothing: the rule's register is cleared, as for a failing rule
        refine ⟨_, vs, by rw [hfail hok]; exact hcl, fun s _ => ?_⟩
        rw [hclv s]
        by_cases hc : w.cpu.canon n = some s
        · have : w.cpu.fits v.toNat = false := by simpa [hc] using hok
          simp [hc, this, Option.filter_some]
        · simp [hc]

theorem foldReal_view (w : CfiStackWalker) (cfa : UInt64) (rules : List (Cfi.Name × Cfi.Expr)) :
    ∀ (st : State) (vs : List String),
      ∃ st' vs', foldReal cfa rules (w.withCaller st vs) = .ok (w.withCaller st' vs') ∧
        ∀ s ∈ registers w.cpu.tbl, callerView (w.withCaller st' vs') s =
          rules.foldl (ruleOn w cfa s) (callerView (w.withCaller st vs) s) := by
  induction rules with
  | nil => intro st vs; exact ⟨st, vs, rfl, fun _ _ => rfl⟩
  | cons r rs ih =>
    intro st vs
    obtain ⟨st1, vs1, h1, hv1⟩ := applyOtherReal_view (w.withCaller st vs) cfa r
    obtain ⟨st2, vs2, h2, hv2⟩ := ih st1 vs1
    refine ⟨st2, vs2, by unfold foldReal; rw [h1]; exact h2, fun s hs => ?_⟩
    exact (hv2 s hs).trans (congrArg (fun z => rs.foldl (ruleOn w cfa s) z) (hv1 s hs))

/-- each rule acts on the view of a register by `ruleView`, and two such actions commute unless
    they are rules for that same register -/
theorem foldReal_order_independent (w : CfiStackWalker) (cfa : UInt64)
    (l₁ l₂ : List (Cfi.Name × Cfi.Expr)) (hperm : l₁.Perm l₂)
    (hdistinct : ∀ x ∈ l₁, ∀ y ∈ l₁, labelReg w x.1 = labelReg w y.1 →
      labelReg w x.1 ≠ none → x = y)
    (s : String) (hs : s ∈ registers w.cpu.tbl) :
    ∃ w₁ w₂, foldReal cfa l₁ w = .ok w₁ ∧ foldReal cfa l₂ w = .ok w₂ ∧ callerView w₁ s = callerView w₂ s := by
  obtain ⟨st1, vs1, hf1, hv1⟩ := foldReal_view w cfa l₁ w.callerCtx w.callerValidity
  obtain ⟨st2, vs2, hf2, hv2⟩ := foldReal_view w cfa l₂ w.callerCtx w.callerValidity
  refine ⟨_, _, hf1, hf2, ?_⟩
  rw [hv1 s hs, hv2 s hs]
  refine hperm.foldl_eq' (fun x hx y hy z => Cfi.ruleView_comm _ s _ _ _ _ z fun h1 h2 => ?_) _
  rw [hdistinct x hx y hy (h1.trans h2.symm) (by rw [h1]; nofun)]

theorem memo_toWalker_label (w : CfiStackWalker) (fwd : List (Cfi.Name × UInt64)) (b : Cfi.Name) :
    (toWalker w fwd).memo b = (labelReg w b).map utf8 := by
  unfold labelReg
  cases hb : nameStr b with
  | none => exact memo_toWalker_not_text w fwd b (nameStr_none hb)
  | some n => rw [nameStr_eq_some.mp hb]; exact memo_toWalker w fwd n

theorem upd_ruleOn (w : CfiStackWalker) (fwd : List (Cfi.Name × UInt64))
    (hv : validityWf w.cpu.tbl w.calleeValidity = true)
    (cfa : UInt64) (s : String) (x : Option UInt64) (r : Cfi.Name × Cfi.Expr) :
    (Cfi.upd (toWalker w fwd) cfa (utf8 s) x r).map UInt64.toNat = ruleOn w cfa s (x.map UInt64.toNat) r := by
  rw [ruleOn, envOf_eq w fwd hv]
  exact upd_view _ (fits_toWalker w fwd) cfa (memo_toWalker_label w fwd r.1) s r.2 x

theorem foldl_upd_ruleOn (w : CfiStackWalker) (fwd : List (Cfi.Name × UInt64))
    (hv : validityWf w.cpu.tbl w.calleeValidity = true)
    (cfa : UInt64) (s : String) (rules : List (Cfi.Name × Cfi.Expr)) (x : Option UInt64) :
    (rules.foldl (Cfi.upd (toWalker w fwd) cfa (utf8 s)) x).map UInt64.toNat =
      rules.foldl (ruleOn w cfa s) (x.map UInt64.toNat) :=
  (List.foldl_hom (Option.map UInt64.toNat) fun x r => (upd_ruleOn w fwd hv cfa s x r).symm).symm

theorem get_foldl_ruleOn (w : CfiStackWalker) (fwd : List (Cfi.Name × UInt64))
    (hv : validityWf w.cpu.tbl w.calleeValidity = true)
    (cfa : UInt64) (s : String) (rules : List (Cfi.Name × Cfi.Expr)) (c : Cfi.Caller) :
    ((rules.foldl (Cfi.applyOther (toWalker w fwd) cfa) c).get (utf8 s)).map UInt64.toNat =
      rules.foldl (ruleOn w cfa s) ((c.get (utf8 s)).map UInt64.toNat) := by
  rw [Cfi.get_foldl_applyOther, foldl_upd_ruleOn w fwd hv]

theorem applyOtherReal_sim (w : CfiStackWalker) (fwd : List (Cfi.Name × UInt64))
    (hv : validityWf w.cpu.tbl w.calleeValidity = true)
    (cfa : UInt64) (c : Cfi.Caller) (r : Cfi.Name × Cfi.Expr) :
    ∃ st vs, applyOtherReal cfa w r = .ok (w.withCaller st vs) ∧
      ∀ s ∈ registers w.cpu.tbl, CallerSim w c s →
        CallerSim (w.withCaller st vs) (Cfi.applyOther (toWalker w fwd) cfa c r) s := by
  obtain ⟨st, vs, hf, hview⟩ := applyOtherReal_view w cfa r
  exact ⟨st, vs, hf, fun s hs hsim => (get_foldl_ruleOn w fwd hv cfa s [r] c).trans (by rw [hview s hs, hsim]; rfl)⟩

def seededFwd (w : CfiStackWalker) (fwd : List (Cfi.Name × UInt64)) (cfa ra : UInt64) : List (Cfi.Name × UInt64) :=
  Cfi.storeCfaRa (utf8 w.cpu.spName) (utf8 w.cpu.ipName) fwd cfa ra

/-- **`walk_with_stack_cfi` on the real walker, register by register.** `W` is any C06 record that
    evaluates expressions and tests widths as `w` does (`toWalker w fwd` is one: `envOf_eq`,
    `fits_toWalker`); it serves to name the stages. The two fail together, the real walker without
    a panic and changing at most its caller half; when they succeed, C06's stages give the rule
    map, the CFA and the return address, and the real walker's view of every register of the
    context type is the remaining rules, in C06's order, acting by `ruleOn` on what `set_cfa; set_ra`
    left: the return address in the instruction pointer, the CFA in the stack pointer, any other
    register as before. -/
theorem walkCfiReal_view (w : CfiStackWalker) (W : Cfi.Walker) (henv : envOf w = W.env)
    (hfits : ∀ v : UInt64, W.fits v = w.cpu.fits v.toNat) (lines : List Cfi.Bytes) :
    (Cfi.walkCfi W lines = none ∧ ∃ st vs, walkCfiReal w lines = .ok (false, w.withCaller st vs)) ∨
    ∃ m cfaE raE cfa ra st vs, Cfi.Stages W lines m cfaE raE cfa ra ∧
      walkCfiReal w lines = .ok (true, w.withCaller st vs) ∧
      ∀ s ∈ registers w.cpu.tbl, callerView (w.withCaller st vs) s =
        (Cfi.sortOthers (Cfi.others m)).foldl (ruleOn w cfa s)
          (if s = w.cpu.ipName then some ra.toNat else if s = w.cpu.spName then some cfa.toNat
           else callerView w s) := by
  have hself : ∃ st vs, (Outcome.ok (false, w) : Outcome (Bool × CfiStackWalker)) = .ok (false, w.withCaller st vs) :=
    ⟨w.callerCtx, w.callerValidity, rfl⟩
  -- both sides have the same shape: the same case analysis serves both
  unfold walkCfiReal
  rw [Cfi.walkCfi_eq, henv]
  cases hp : Cfi.parseAll lines [] with
  | none => exact .inl ⟨rfl, hself⟩
  | some m =>
    simp only [Option.bind_some]
    cases hc : m.get .cfa with
    | none => exact .inl ⟨rfl, by cases m.get .ra <;> exact hself⟩
    | some cfaE =>
      cases hr : m.get .ra with
      | none => exact .inl ⟨rfl, hself⟩
      | some raE =>
        simp only [Option.bind_some]
        cases he1 : Cfi.evalCfi W.env none cfaE with
        | none => exact .inl ⟨rfl, hself⟩
        | some cfa =>
          simp only [Option.bind_some]
          cases he2 : Cfi.evalCfi W.env (some cfa) raE with
          | none => exact .inl ⟨rfl, hself⟩
          | some ra =>
            -- `set_cfa`, `set_ra`: `set_caller_register` under two canonical names
            obtain ⟨st1, vs1, hs1, hfail1, hv1⟩ := setCallerRegister_view w w.cpu.spName cfa.toNat
            obtain ⟨st2, vs2, hs2, _, hv2⟩ := setCallerRegister_view (w.withCaller st1 vs1) w.cpu.ipName ra.toNat
            have hsp : w.cpu.canon w.cpu.spName = some w.cpu.spName := canon_register (sp_known w.cpu).1
            have hip : (w.withCaller st1 vs1).cpu.canon w.cpu.ipName = some w.cpu.ipName :=
              canon_register (p := w.cpu) (sp_known w.cpu).2.1
            rw [hsp] at hs1 hfail1 hv1
            rw [hip] at hs2 hv2
            simp only [Option.bind_some, hfits, setCfa_eq, hs1, Option.isSome_some, Bool.true_and]
            cases hf1 : w.cpu.fits cfa.toNat with
            | false => rw [hfail1 hf1]; exact .inl ⟨by simp, hself⟩
            | true =>
              simp only [(setRa_eq (w.withCaller st1 vs1) ra.toNat).trans hs2, Option.isSome_some, Bool.true_and]
              cases hf2 : (w.withCaller st1 vs1).cpu.fits ra.toNat with
              | false => exact .inl ⟨by simp [show w.cpu.fits ra.toNat = false from hf2], _, _, rfl⟩
              | true =>
                obtain ⟨st, vs, hfold, hview⟩ := foldReal_view w cfa (Cfi.sortOthers (Cfi.others m)) st2 vs2
                refine .inr ⟨m, cfaE, raE, cfa, ra, st, vs, ⟨hp, hc, hr, he1, he2, (hfits _).trans hf1, (hfits _).trans hf2⟩,
                  by simp only [show (w.withCaller st1 vs1).withCaller st2 vs2 = w.withCaller st2 vs2 from rfl, hfold],
                  fun s hs => ?_⟩
                rw [hview s hs]
                refine congrArg (fun z => List.foldl (ruleOn w cfa s) z _) ?_
                rw [show w.withCaller st2 vs2 = (w.withCaller st1 vs1).withCaller st2 vs2 from rfl, hv2 s hs, hv1 s hs]
                simp [hf1, show (w.withCaller st1 vs1).cpu.fits ra.toNat = true from hf2, eq_comm]

/-- the bridge below, for a stack memory of either byte order -/
theorem walkCfiReal_sim (w : CfiStackWalker) (fwd : List (Cfi.Name × UInt64))
    (hv : validityWf w.cpu.tbl w.calleeValidity = true)
    (lines : List Cfi.Bytes) :
    match Cfi.walkCfi (toWalker w fwd) lines with
    | none => ∃ st vs, walkCfiReal w lines = .ok (false, w.withCaller st vs)
    | some c =>
      ∃ cfa ra st vs c', c.cfa = some cfa ∧ c.ra = some ra ∧
        walkCfiReal w lines = .ok (true, w.withCaller st vs) ∧
        Cfi.walkCfi (toWalker w (seededFwd w fwd cfa ra)) lines = some c' ∧
        c'.cfa = some cfa ∧ c'.ra = some ra ∧
        ∀ s ∈ registers w.cpu.tbl,
          (s = w.cpu.spName ∨ s = w.cpu.ipName ∨ CallerSim w ⟨none, none, fwd⟩ s) →
            CallerSim (w.withCaller st vs) c' s := by
  rcases walkCfiReal_view w _ (envOf_eq w fwd hv) (fits_toWalker w fwd) lines with
    ⟨hn, hr⟩ | ⟨m, cfaE, raE, cfa, ra, st, vs, hst, hw, hview⟩
  · rw [hn]; exact hr
  · rw [hst.walk]
    -- the record seeded with `sp ↦ cfa, ip ↦ ra` goes through the same stages
    refine ⟨cfa, ra, st, vs, _, (Cfi.foldl_applyOther_cfa_ra _ cfa _ _).1, (Cfi.foldl_applyOther_cfa_ra _ cfa _ _).2, hw,
      Cfi.Stages.walk (w := toWalker w (seededFwd w fwd cfa ra)) hst,
      (Cfi.foldl_applyOther_cfa_ra _ cfa _ _).1, (Cfi.foldl_applyOther_cfa_ra _ cfa _ _).2, fun s hs hrel => ?_⟩
    unfold CallerSim
    rw [get_foldl_ruleOn w _ hv, hview s hs]
    exact congrArg (fun z => List.foldl (ruleOn w cfa s) z _) (lookup_storeCfaRa_view w.cpu.spName w.cpu.ipName s fwd cfa ra _ hrel)

/-- **`walk_with_stack_cfi` on the real walker IS C06's `walkCfi` on its record.** For every real
    walker (any of the ten context types, any validity set of its names, any little-endian stack
    memory) and every list of rule lines: the real walker never panics; the two fail together; when
    they succeed, C06's CFA and return address are what the real walker stored in its stack pointer
    and instruction pointer before the remaining rules ran, only the caller half of the real
    walker changed, and — running C06 with those two stored as registers — every canonical caller
    register is valid with the same value, or unknown, on both sides. -/
theorem walkCfiReal_bridge (w : CfiStackWalker) (fwd : List (Cfi.Name × UInt64))
    (hv : validityWf w.cpu.tbl w.calleeValidity = true) (hle : w.stack.bigEndian = false)
    (lines : List Cfi.Bytes) :
    match Cfi.walkCfi (toWalker w fwd) lines with
    | none => ∃ st vs, walkCfiReal w lines = .ok (false, w.withCaller st vs)
    | some c =>
      ∃ cfa ra st vs c', c.cfa = some cfa ∧ c.ra = some ra ∧
        walkCfiReal w lines = .ok (true, w.withCaller st vs) ∧
        Cfi.walkCfi (toWalker w (seededFwd w fwd cfa ra)) lines = some c' ∧
        c'.cfa = some cfa ∧ c'.ra = some ra ∧
        ∀ s ∈ registers w.cpu.tbl,
          (s = w.cpu.spName ∨ s = w.cpu.ipName ∨ CallerSim w ⟨none, none, fwd⟩ s) →
            CallerSim (w.withCaller st vs) c' s :=
  walkCfiReal_sim w fwd hv lines

/-- **a successful walk of the real walker, register by register.** The lines parse into a map with
    a `.cfa` and a `.ra` rule that evaluate against the real walker (the CFA with no CFA available)
    to values of the register width; and a register `s` of the context type is afterwards
    * what the one remaining rule whose label denotes `s` says: its value if it evaluates and fits the
      register, unknown otherwise;
    * if no remaining rule's label denotes `s`: the return address for the instruction pointer, the
      CFA for the stack pointer, unchanged otherwise. -/
theorem real_walk_regs (w : CfiStackWalker) (hv : validityWf w.cpu.tbl w.calleeValidity = true)
    (lines : List Cfi.Bytes) (w' : CfiStackWalker)
    (hw : walkCfiReal w lines = .ok (true, w')) :
    ∃ m cfaE raE cfa ra, Cfi.parseAll lines [] = some m ∧ m.get .cfa = some cfaE ∧ m.get .ra = some raE ∧
      Cfi.evalCfi (envOf w) none cfaE = some cfa ∧ Cfi.evalCfi (envOf w) (some cfa) raE = some ra ∧
      cfa.toNat < 2 ^ w.cpu.bits ∧ ra.toNat < 2 ^ w.cpu.bits ∧
      ∀ s ∈ registers w.cpu.tbl,
        (∀ p ∈ Cfi.others m, labelReg w p.1 = some s →
          (∀ q ∈ Cfi.others m, labelReg w q.1 = some s → q = p) →
          callerView w' s = match Cfi.evalCfi (envOf w) (some cfa) p.2 with
                            | some v => if v.toNat < 2 ^ w.cpu.bits then some v.toNat else none
                            | none => none) ∧
        ((∀ q ∈ Cfi.others m, labelReg w q.1 ≠ some s) →
          callerView w' s = if s = w.cpu.ipName then some ra.toNat
                            else if s = w.cpu.spName then some cfa.toNat
                            else callerView w s) := by
  have henv := envOf_eq w [] hv
  rcases walkCfiReal_view w _ henv (fits_toWalker w []) lines with
    ⟨_, st, vs, e⟩ | ⟨m, cfaE, raE, cfa, ra, st, vs, ⟨hm, hc, hr, he1, he2, hf1, hf2⟩, e, hview⟩
  · rw [e] at hw; cases hw
  rw [e] at hw
  cases hw
  rw [fits_toWalker] at hf1 hf2
  refine ⟨m, cfaE, raE, cfa, ra, hm, hc, hr, henv ▸ he1, henv ▸ he2, by simpa [Cpu.fits] using hf1,
    by simpa [Cpu.fits] using hf2, fun s hs => ?_⟩
  have hperm := Cfi.sortBy_perm (fun a b : Cfi.Name × Cfi.Expr => Cfi.bytesLe a.1 b.1) (Cfi.others m)
  rw [hview s hs, Cfi.sortOthers]
  unfold ruleOn Cfi.ruleView
  constructor
  · -- the one rule that denotes `s` decides, whatever stood there before
    intro p hp hlab huniq
    rw [List.foldl_ite_unique _ _ (hperm.mem_iff.mpr hp) hlab fun q hq => huniq q (hperm.mem_iff.mp hq)]
    cases Cfi.evalCfi (envOf w) (some cfa) p.2 with
    | none => rfl
    | some v => simp only [Option.map_some, Option.filter_some, Cpu.fits, decide_eq_true_eq]
  · exact fun hno => List.foldl_ite_untouched _ _ (fun q hq => hno q (hperm.mem_iff.mp hq)) _

theorem mem_setInsert (l : List String) (a r : String) : r ∈ setInsert l a ↔ r ∈ l ∨ r = a :=
  Walk.mem_setInsert

theorem mem_toSet (l : List String) (r : String) : r ∈ toSet l ↔ r ∈ l := by
  simpa [toSet] using List.mem_foldl_insert (key := id) (fun _ _ _ => mem_setInsert _ _ _) l [] r

theorem filterO_ok (f : String → Outcome Bool) (g : String → Bool) (l : List String)
    (h : ∀ r ∈ l, f r = .ok (g r)) : filterO f l = .ok (l.filter g) := by
  induction l with
  | nil => rfl
  | cons a t ih =>
    unfold filterO
    rw [h a List.mem_cons_self, ih (fun r hr => h r (List.mem_cons_of_mem _ hr))]
    cases hg : g a <;> simp [hg]

theorem saved_known (k : Kind) {r : String} (hr : r ∈ Gen.CfiWalkerConsts.calleeSaved k.file) :
    r ∈ registers k.rawCtx :=
  ((calleeSaved_registers k).1 r hr).1

theorem sameReg_self {c : Ctx} {r : String} (hr : r ∈ knownNames c) : sameReg c r r = true := by
  obtain ⟨cell, _, f⟩ := known_facts hr
  simp [sameReg, f.getCell]

theorem clearAllReal_unknown (w : CfiStackWalker) (names : List String) (hn : ∀ n ∈ names, w.cpu.canon n = none) :
    (∀ n ∈ names, w.clearCallerRegister n = .ok w) ∧ clearAllReal names w = .ok w := by
  have h1 : ∀ n ∈ names, w.clearCallerRegister n = .ok w := fun n h => by rw [clearCallerRegister_eq, hn n h]
  refine ⟨h1, ?_⟩
  induction names with
  | nil => rfl
  | cons n t ih =>
    unfold clearAllReal
    rw [h1 n List.mem_cons_self]
    exact ih (fun m hm => hn m (List.mem_cons_of_mem _ hm)) fun m hm => h1 m (List.mem_cons_of_mem _ hm)

theorem clearAllReal_view (w : CfiStackWalker) (names : List String)
    (hn : ∀ n ∈ names, w.cpu.canon n = some n) :
    ∃ vs, clearAllReal names w = .ok (w.withCaller w.callerCtx vs) ∧
      ∀ s, callerView (w.withCaller w.callerCtx vs) s = if s ∈ names then none else callerView w s := by
  induction names generalizing w with
  | nil => exact ⟨w.callerValidity, rfl, fun s => by simp [withCaller_self]⟩
  | cons n t ih =>
    obtain ⟨vs1, h1, _, hv1⟩ := clearCallerRegister_view w n
    obtain ⟨vs, h2, hv2⟩ := ih (w.withCaller w.callerCtx vs1) fun m hm => hn m (List.mem_cons_of_mem _ hm)
    refine ⟨vs, by unfold clearAllReal; rw [h1]; exact h2, fun s => (hv2 s).trans ?_⟩
    rw [hv1 s, hn n List.mem_cons_self]
    by_cases hs : n = s <;> by_cases hst : s ∈ t <;> simp [hs, hst, eq_comm]

theorem getAlways_raw {c : Ctx} (st : Regs.State) {n : String} (hn : n ∈ knownNames c) :
    Regs.getAlways c st n = .ok (rawOf c st n) :=
  Cpu.getAlways_known (.ctx c) st hn

theorem setRegister_raw {c : Ctx} (st : Regs.State) {n : String} (hn : n ∈ knownNames c) (v : Nat) :
    Regs.setRegister c st n v = .ok (some (writeOf c st n v)) :=
  Cpu.setRegister_known (.ctx c) st hn v

theorem getRegister_raw {c : Ctx} (st : Regs.State) {n : String} {S : List String} (hn : n ∈ knownNames c)
    (hS : ∀ s ∈ S, s ∈ knownNames c) :
    Regs.getRegister c st n (.some S) = .ok (if S.any (sameReg c n) then some (rawOf c st n) else none) := by
  obtain ⟨_, cell, hc, hg⟩ := validity_honoured c st n S hn hS
  rw [hg]; simp only [rawOf, hc]

theorem stripStep_eq (k : Kind) (valid : List String) (hvalid : ∀ s ∈ valid, s ∈ knownNames k.rawCtx)
    (mask : Nat) (st : Regs.State) (r : String × Bool) (hr : r.1 ∈ knownNames k.rawCtx) :
    stripStep k valid mask st r = .ok
      (if r.2 || valid.any (sameReg k.rawCtx r.1) then writeOf k.rawCtx st r.1 (rawOf k.rawCtx st r.1 &&& mask)
       else st) := by
  unfold stripStep
  cases hb : r.2 with
  | true => simp only [if_true, getAlways_raw st hr, setRegister_raw st hr, Bool.true_or]
  | false =>
    simp only [Bool.false_eq_true, if_false, getRegister_raw st hr hvalid, Bool.false_or]
    by_cases hc : valid.any (sameReg k.rawCtx r.1) = true
    · simp only [hc, if_true, setRegister_raw st hr]
    · simp only [hc, Bool.false_eq_true, if_false]

/-- `r.2`: the step applies always; otherwise only when the register is valid in the caller under
    any name -/
theorem stripStep_raw (k : Kind) (valid : List String) (hvalid : ∀ s ∈ valid, s ∈ knownNames k.rawCtx)
    (mask : Nat) (st : Regs.State) (r : String × Bool) {m : String} (hm : k.cpu.canon r.1 = some m) :
    ∃ st', stripStep k valid mask st r = .ok st' ∧ ∀ s ∈ registers k.rawCtx,
      rawOf k.rawCtx st' s =
        if s = m ∧ (r.2 || valid.any (sameReg k.rawCtx m)) = true then rawOf k.rawCtx st m &&& mask
        else rawOf k.rawCtx st s := by
  refine ⟨_, stripStep_eq k valid hvalid mask st r (canon_known hm), fun s hs => ?_⟩
  have hsame : sameReg k.rawCtx r.1 = sameReg k.rawCtx m := sameReg_canon hm
  have hraw : rawOf k.rawCtx st r.1 = rawOf k.rawCtx st m := rawOf_canon hm st
  rw [hsame, hraw]
  by_cases hc : (r.2 || valid.any (sameReg k.rawCtx m)) = true
  · rw [if_pos hc]
    have := rawOf_write k.cpu st hm hs (rawOf k.rawCtx st m &&& mask)
    rw [show k.cpu.tbl = k.rawCtx from rfl] at this
    rw [this]
    by_cases hsm : s = m <;> simp [hsm, hc]
  · rw [if_neg hc, if_neg (fun h => hc h.2)]

end MdModel.CfiWalker
