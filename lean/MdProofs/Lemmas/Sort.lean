/-
  Sorting. The models sort with `List.mergeSort` or with an insertion sort (`Cfi.sortBy`; `Det.isort` is the
  same function), which, unlike `mergeSort`, the kernel evaluates. For a total preorder they are one function
  (`sortBy_eq_mergeSort`), so core's lemmas on `mergeSort` serve both. On top: a sorted arrangement of
  given elements is unique under an antisymmetric order (`sortBy_unique`, `sortBy_congr_perm`), and a
  stable sort commutes with `map` and `filterMap` (`sortBy_map`, `List.filterMap_mergeSort`).
-/
import MdModel.Cfi
namespace MdModel.Cfi

theorem insertBy_perm {α} (le : α → α → Bool) (x : α) (l : List α) : (insertBy le x l).Perm (x :: l) := by
  induction l with
  | nil => exact List.Perm.refl _
  | cons y ys ih =>
    unfold insertBy
    by_cases h : le x y = true
    · simp [h]
    · simp only [h, Bool.false_eq_true, if_false]
      exact (List.Perm.cons y ih).trans (List.Perm.swap x y ys)

theorem sortBy_perm {α} (le : α → α → Bool) (l : List α) : (sortBy le l).Perm l := by
  induction l with
  | nil => exact List.Perm.refl _
  | cons x xs ih =>
    unfold sortBy
    exact (insertBy_perm le x _).trans (List.Perm.cons x ih)

theorem insertBy_append {α} (le : α → α → Bool) (a : α) (l₁ l₂ : List α)
    (h₁ : ∀ b ∈ l₁, le a b = false) (h₂ : ∀ b ∈ l₂.head?, le a b = true) :
    insertBy le a (l₁ ++ l₂) = l₁ ++ a :: l₂ := by
  induction l₁ with
  | nil =>
    cases l₂ with
    | nil => rfl
    | cons y ys => simp [insertBy, h₂ y rfl]
  | cons y ys ih =>
    simp only [List.forall_mem_cons] at h₁
    simp [insertBy, h₁.1, ih h₁.2]

/-- The model's insertion sort is core's merge sort (both are stable: `List.mergeSort_cons` says that
    sorting `a :: l` puts `a` into the sorted `l` after the elements strictly below it), so what
    core proves of `mergeSort` holds of `sortBy`, and `sortBy` is the form of `mergeSort` that the
    kernel evaluates. -/
theorem sortBy_eq_mergeSort {α} {le : α → α → Bool} (trans : ∀ a b c, le a b → le b c → le a c)
    (total : ∀ a b, le a b || le b a) (l : List α) : sortBy le l = l.mergeSort le := by
  induction l with
  | nil => simp [sortBy]
  | cons a l ih =>
    obtain ⟨l₁, l₂, h₁, h₂, h₃⟩ := List.mergeSort_cons trans total a l
    have hs := h₁ ▸ List.pairwise_mergeSort trans total (a :: l)
    rw [sortBy, ih, h₁, h₂]
    exact insertBy_append le a l₁ l₂ (fun b hb => by simpa using h₃ b hb)
      fun b hb => List.rel_of_pairwise_cons (List.pairwise_append.mp hs).2.1 (List.mem_of_mem_head? hb)

theorem sortBy_pairwise {α} (le : α → α → Bool)
    (total : ∀ a b, le a b = true ∨ le b a = true)
    (trans : ∀ a b c, le a b = true → le b c = true → le a c = true)
    (l : List α) : (sortBy le l).Pairwise (fun a b => le a b = true) := by
  have total' : ∀ a b, (le a b || le b a) = true := fun a b => Bool.or_eq_true .. ▸ total a b
  exact sortBy_eq_mergeSort trans total' l ▸ List.pairwise_mergeSort trans total' l

/-- `sortBy` returns THE sorted arrangement, so it stands for every correct sort: a list `l'` with
    the same elements that is sorted by `le` is `sortBy`'s result, provided `le` is antisymmetric on
    those elements. -/
theorem sortBy_unique {α} (le : α → α → Bool)
    (total : ∀ a b, le a b = true ∨ le b a = true)
    (trans : ∀ a b c, le a b = true → le b c = true → le a c = true)
    {l l' : List α} (hp : l.Perm l') (hs : l'.Pairwise (fun a b => le a b = true))
    (anti : ∀ a ∈ l', ∀ b ∈ l', le a b = true → le b a = true → a = b) :
    sortBy le l = l' :=
  have hperm := (sortBy_perm le l).trans hp
  List.Perm.eq_of_pairwise (le := fun a b => le a b = true)
    (fun a b ha hb => anti a (hperm.mem_iff.mp ha) b hb) (sortBy_pairwise le total trans l) hs hperm

theorem sortBy_congr_perm {α} (le : α → α → Bool)
    (total : ∀ a b, le a b = true ∨ le b a = true)
    (trans : ∀ a b c, le a b = true → le b c = true → le a c = true)
    {l l' : List α} (hp : l.Perm l')
    (anti : ∀ a ∈ l, ∀ b ∈ l, le a b = true → le b a = true → a = b) :
    sortBy le l = sortBy le l' :=
  have hp' := hp.trans (sortBy_perm le l').symm
  sortBy_unique le total trans hp' (sortBy_pairwise le total trans l') fun a ha b hb =>
    anti a (hp'.mem_iff.mpr ha) b (hp'.mem_iff.mpr hb)

theorem insertBy_map {α β} (le : α → α → Bool) (le' : β → β → Bool) (f : α → β)
    (h : ∀ a b, le' (f a) (f b) = le a b) (x : α) (l : List α) :
    insertBy le' (f x) (l.map f) = (insertBy le x l).map f := by
  induction l with
  | nil => rfl
  | cons y ys ih =>
    simp only [List.map_cons, insertBy, h]
    by_cases hxy : le x y = true
    · simp [hxy]
    · simp [hxy, ih]

theorem sortBy_map {α β} (le : α → α → Bool) (le' : β → β → Bool) (f : α → β)
    (h : ∀ a b, le' (f a) (f b) = le a b) (l : List α) :
    sortBy le' (l.map f) = (sortBy le l).map f := by
  induction l with
  | nil => rfl
  | cons x xs ih => simp only [List.map_cons, sortBy, ih, insertBy_map le le' f h]

theorem _root_.List.takeWhile_eq_filter_of_pairwise {α} {p : α → Bool} {l : List α}
    (h : l.Pairwise fun x y => p y = true → p x = true) : l.takeWhile p = l.filter p := by
  induction l with
  | nil => rfl
  | cons x l ih =>
    rw [List.pairwise_cons] at h
    cases hx : p x with
    | true => rw [List.takeWhile_cons_of_pos hx, List.filter_cons_of_pos hx, ih h.2]
    | false =>
      rw [List.takeWhile_cons_of_neg (by simp [hx]), List.filter_cons_of_neg (by simp [hx])]
      exact (List.filter_eq_nil_iff.mpr fun y hy hpy => by simp [h.1 y hy hpy] at hx).symm

section filterMap
variable {α β : Type} {f : α → Option β} {r : α → α → Bool} {s : β → β → Bool}

theorem filterMap_insertBy (rtrans : ∀ a b c, r a b → r b c → r a c)
    (hrs : ∀ a a' b b', f a = some b → f a' = some b' → r a a' = s b b') (a : α) (l : List α)
    (hl : l.Pairwise (r · ·)) :
    (insertBy r a l).filterMap f = match f a with
      | none => l.filterMap f
      | some b => insertBy s b (l.filterMap f) := by
  induction l with
  | nil => cases h : f a <;> simp [insertBy, h]
  | cons y l ih =>
    rw [insertBy]
    by_cases hay : r a y = true
    · rw [if_pos hay, List.filterMap_cons]
      cases hfa : f a with
      | none => rfl
      | some b =>
        -- `a` is below all of `y :: l`, so `b` is below everything kept
        refine (insertBy_append s b [] _ nofun fun c hc => ?_).symm
        obtain ⟨z, hz, hfz⟩ := List.mem_filterMap.mp (List.mem_of_mem_head? hc)
        rw [← hrs a z b c hfa hfz]
        rcases List.mem_cons.mp hz with rfl | hz
        · exact hay
        · exact rtrans _ _ _ hay (List.rel_of_pairwise_cons hl hz)
    · rw [if_neg hay, List.filterMap_cons, List.filterMap_cons, ih hl.of_cons]
      cases hfy : f y with
      | none => rfl
      | some c =>
        cases hfa : f a with
        | none => rfl
        | some b => simp only [insertBy, ← hrs a y b c hfa hfy, hay]; rfl

theorem _root_.List.filterMap_mergeSort
    (rtrans : ∀ a b c, r a b → r b c → r a c) (rtotal : ∀ a b, r a b || r b a)
    (strans : ∀ a b c, s a b → s b c → s a c) (stotal : ∀ a b, s a b || s b a)
    (hrs : ∀ a a' b b', f a = some b → f a' = some b' → r a a' = s b b') (l : List α) :
    (l.mergeSort r).filterMap f = (l.filterMap f).mergeSort s := by
  rw [← sortBy_eq_mergeSort rtrans rtotal, ← sortBy_eq_mergeSort strans stotal]
  induction l with
  | nil => rfl
  | cons a l ih =>
    rw [sortBy, filterMap_insertBy rtrans hrs a _
      (sortBy_eq_mergeSort rtrans rtotal l ▸ List.pairwise_mergeSort rtrans rtotal l), List.filterMap_cons, ih]
    cases f a <;> rfl

end filterMap

end MdModel.Cfi
