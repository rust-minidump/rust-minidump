/-
  Lemmas about the text-report model (`MdModel.Text`); the property theorems are in
  `MdProofs/C13Text.lean`. Every section of the printer is looked at three times: it is total under
  the well-formedness the printer needs; it does not see the iteration order of a hash container;
  and what a line-based reading of the report (thread headers, numbered frame lines, module lines)
  finds in it is known. Then the two `by_addr()` lists on top of C08, and the way back from the
  written characters to the lines.
-/
import MdModel.Text
import MdProofs.Lemmas.Assoc
import MdProofs.Lemmas.Json
import MdProofs.Lemmas.RangeMapIdx
namespace MdModel.Text
open MdModel MdModel.Json

theorem obind_ok_iff {α β : Type} {x : Outcome α} {f : α → Outcome β} {b : β} :
    obind x f = .ok b ↔ ∃ a, x = .ok a ∧ f a = .ok b :=
  obind_ok x f b

theorem obind_total {α β : Type} {x : Outcome α} {f : α → Outcome β} (hx : ∃ a, x = .ok a)
    (hf : ∀ a, ∃ b, f a = .ok b) : ∃ b, obind x f = .ok b := by
  obtain ⟨a, rfl⟩ := hx
  exact hf a

theorem addr_length (pw : PW) (v : Nat) : (addr pw v).length = 2 + max pw.digits (hexDigits v).length := by
  simp only [addr, hexAddr, hexPad_toList, List.length_cons, (padLeft_hexDigits _ _).2.2.1]
  omega

theorem zipD_map_fst {α β : Type} (d : β) (as : List α) (bs : List β) : (zipD d as bs).map (·.1) = as := by
  induction as generalizing bs with
  | nil => simp [zipD]
  | cons a as ih => cases bs <;> simp [zipD, ih]

theorem zipD_length {α β : Type} (d : β) (as : List α) (bs : List β) : (zipD d as bs).length = as.length := by
  have h := congrArg List.length (zipD_map_fst d as bs)
  rwa [List.length_map] at h

theorem zipD_getElem? {α β : Type} (d : β) (as : List α) (bs : List β) (i : Nat) :
    (zipD d as bs)[i]? = (as[i]?).map fun a => (a, bs[i]?.getD d) := by
  induction as generalizing bs i with
  | nil => simp [zipD]
  | cons a as ih =>
    cases bs with
    | nil => cases i <;> simp [zipD, ih]
    | cons b bs => cases i <;> simp [zipD, ih]

theorem mem_zipD_fst {α β : Type} {d : β} {as : List α} {bs : List β} {p : α × β}
    (h : p ∈ zipD d as bs) : p.1 ∈ as := by
  rw [← zipD_map_fst d as bs]
  exact List.mem_map_of_mem h

theorem renderLines_append (a b : List TLine) : renderLines (a ++ b) = renderLines a ++ renderLines b := by
  simp [renderLines]

/-- what the three subtractions of a frame line need -/
def FrameOK (f : FrameM) (x : FrameX) : Prop :=
  (∀ nm base, f.module = some (nm, base) → base ≤ f.instruction) ∧
  (∀ fb, f.functionBase = some fb → fb ≤ f.instruction) ∧
  (∀ lb, x.lineBase = some lb → lb ≤ f.instruction)

theorem frameBody_total (f : FrameM) (x : FrameX) (h : FrameOK f x) : ∃ cs, frameBody f x = .ok cs := by
  obtain ⟨hm, hf, hl⟩ := h
  fun_cases frameBody f x
  · rw [(checkedSub_ok _ _ _ _).mpr ⟨hl _ ‹_›, rfl⟩]; exact ⟨_, rfl⟩
  · rw [(checkedSub_ok _ _ _ _).mpr ⟨hf _ ‹_›, rfl⟩]; exact ⟨_, rfl⟩
  · rw [(checkedSub_ok _ _ _ _).mpr ⟨hm _ _ ‹_›, rfl⟩]; exact ⟨_, rfl⟩
  · exact ⟨_, rfl⟩

theorem framesLines_total (n : Nat) (ps : List (FrameM × FrameX)) (h : ∀ p ∈ ps, FrameOK p.1 p.2) :
    ∃ ls, framesLines n ps = .ok ls := by
  induction ps generalizing n with
  | nil => exact ⟨[], rfl⟩
  | cons p ps ih =>
    obtain ⟨f, x⟩ := p
    exact obind_total (frameBody_total f x (h _ List.mem_cons_self)) fun _ =>
      obind_total (ih _ fun q hq => h q (List.mem_cons_of_mem _ hq)) fun _ => ⟨_, rfl⟩

def ThreadOK (t : ThreadM) (x : ThreadX) : Prop :=
  ∀ p ∈ zipD FrameX.dflt t.frames x.frames, FrameOK p.1 p.2

theorem stackLines_total (t : ThreadM) (x : ThreadX) (h : ThreadOK t x) : ∃ ls, stackLines t x = .ok ls :=
  obind_total (framesLines_total 0 _ h) fun _ => ⟨_, rfl⟩

theorem otherThreadsLines_total (req : Option Nat) (i : Nat) (ps : List (ThreadM × ThreadX))
    (h : ∀ p ∈ ps, ThreadOK p.1 p.2) : ∃ ls, otherThreadsLines req i ps = .ok ls := by
  induction ps generalizing i with
  | nil => exact ⟨[], rfl⟩
  | cons p ps ih =>
    obtain ⟨t, x⟩ := p
    have hrest := ih (i + 1) fun q hq => h q (List.mem_cons_of_mem _ hq)
    simp only [otherThreadsLines]
    split
    · exact hrest
    · exact obind_total (stackLines_total t x (h _ List.mem_cons_self)) fun _ => obind_total hrest fun _ => ⟨_, rfl⟩

/-! the module lists never panic (C08: only modules with a valid range are iterated) -/

theorem modulesByAddr_eq (ms : List ModuleM) :
    modulesByAddr ms =
      (RangeMap.safeVec (RangeMap.idx (fun m : ModuleM => RangeMap.mkRange m.base m.size) ms)).map (·.2) := rfl

theorem mem_modulesByAddr {ms : List ModuleM} {i : Nat} (h : i ∈ modulesByAddr ms) :
    ∃ m r, ms[i]? = some m ∧ RangeMap.mkRange m.base m.size = some r := by
  rw [modulesByAddr_eq, List.mem_map] at h
  obtain ⟨e, he, rfl⟩ := h
  obtain ⟨m, hm, hr⟩ := RangeMap.safeVec_idx_entry he
  exact ⟨m, e.1, hm, hr⟩

theorem rangeText_total (site : String) (base size : Nat) (r : RangeMap.Rng)
    (h : RangeMap.mkRange base size = some r) : ∃ cs, rangeText site base size = .ok cs := by
  obtain ⟨_, _, -⟩ := RangeMap.mkRange_eq_some.mp h
  simp only [rangeText, (checkedAdd_ok _ base size _).mpr ⟨by omega, rfl⟩,
    (checkedSub_ok _ (base + size) 1 _).mpr ⟨by omega, rfl⟩, obind]
  exact ⟨_, rfl⟩

theorem moduleLines_total (s : StateModel) (is : List Nat) (h : ∀ i ∈ is, i ∈ modulesByAddr s.modules) :
    ∃ ls, moduleLines s is = .ok ls := by
  induction is with
  | nil => exact ⟨[], rfl⟩
  | cons i rest ih =>
    obtain ⟨m, r, hm, hr⟩ := mem_modulesByAddr (h i List.mem_cons_self)
    simp only [moduleLines, hm, moduleLine]
    exact obind_total (obind_total (rangeText_total _ _ _ r hr) fun _ => ⟨_, rfl⟩) fun _ =>
      obind_total (ih fun j hj => h j (List.mem_cons_of_mem _ hj)) fun _ => ⟨_, rfl⟩

theorem mem_unloadedByAddr_iff (ms : List UnloadedM) (i : Nat) :
    i ∈ unloadedByAddr ms ↔ ∃ m r, ms[i]? = some m ∧ RangeMap.mkRange m.base m.size = some r := by
  simp only [unloadedByAddr, List.mem_map]
  constructor
  · rintro ⟨e, he, rfl⟩
    obtain ⟨m, hm, hr⟩ := RangeMap.mem_unloadedFrom.mp he
    exact ⟨m, e.1, hm, hr⟩
  · rintro ⟨m, r, hm, hr⟩
    exact ⟨(r, i), RangeMap.mem_unloadedFrom.mpr ⟨m, hm, hr⟩, rfl⟩

theorem unloadedLines_total (s : StateModel) (is : List Nat) (h : ∀ i ∈ is, i ∈ unloadedByAddr s.unloaded) :
    ∃ ls, unloadedLines s is = .ok ls := by
  induction is with
  | nil => exact ⟨[], rfl⟩
  | cons i rest ih =>
    obtain ⟨m, r, hm, hr⟩ := (mem_unloadedByAddr_iff _ i).mp (h i List.mem_cons_self)
    simp only [unloadedLines, hm, unloadedLine]
    exact obind_total (obind_total (rangeText_total _ _ _ r hr) fun _ => ⟨_, rfl⟩) fun _ =>
      obind_total (ih fun j hj => h j (List.mem_cons_of_mem _ hj)) fun _ => ⟨_, rfl⟩

theorem lookupS_eq_lookup {α : Type} (k : String) : ∀ l : List (String × α), lookupS k l = l.lookup k
  | [] => rfl
  | (k', v) :: r => by
    rw [lookupS, List.lookup_cons, lookupS_eq_lookup k r]
    by_cases h : k = k'
    · simp [h]
    · rw [if_neg h, beq_eq_false_iff_ne.mpr h]

theorem lookupS_perm {α : Type} {l l' : List (String × α)} (hp : l.Perm l')
    (nd : (l.map (·.1)).Nodup) (k : String) : lookupS k l = lookupS k l' := by
  rw [lookupS_eq_lookup, lookupS_eq_lookup, hp.lookup_eq nd]

def AllRel {α : Type} (R : α → α → Prop) : List α → List α → Prop
  | [], [] => True
  | a :: as, b :: bs => R a b ∧ AllRel R as bs
  | _, _ => False

theorem AllRel.refl {α : Type} {R : α → α → Prop} (hr : ∀ a, R a a) : ∀ l, AllRel R l l
  | [] => trivial
  | a :: as => ⟨hr a, AllRel.refl hr as⟩

theorem AllRel.length {α : Type} {R : α → α → Prop} : ∀ {l l' : List α}, AllRel R l l' → l.length = l'.length
  | [], [], _ => rfl
  | _ :: _, _ :: _, h => by simp [AllRel.length h.2]
  | [], _ :: _, h => h.elim
  | _ :: _, [], h => h.elim

theorem AllRel.getElem? {α : Type} {R : α → α → Prop} : ∀ {l l' : List α}, AllRel R l l' → ∀ i : Nat,
    (l[i]? = none ∧ l'[i]? = none) ∨ ∃ a b, l[i]? = some a ∧ l'[i]? = some b ∧ R a b
  | [], [], _, _ => Or.inl ⟨rfl, rfl⟩
  | x :: _, y :: _, h, 0 => Or.inr ⟨x, y, rfl, rfl, h.1⟩
  | _ :: _, _ :: _, h, i + 1 => by simpa only [List.getElem?_cons_succ] using AllRel.getElem? h.2 i
  | [], _ :: _, h, _ => h.elim
  | _ :: _, [], h, _ => h.elim

/-- the validity set: the same set, in any iteration order -/
def ValidEquiv : Option (List String) → Option (List String) → Prop
  | none, none => True
  | some a, some b => a.Perm b
  | _, _ => False

structure CtxEquiv (c c' : RegCtx) : Prop where
  regSize : c.regSize = c'.regSize
  gpr : c.gpr = c'.gpr
  valid : ValidEquiv c.valid c'.valid

theorem regValid_equiv {c c' : RegCtx} (h : CtxEquiv c c') (name : String) : regValid c name = regValid c' name := by
  have hv := h.valid
  unfold regValid
  revert hv
  cases c.valid <;> cases c'.valid <;> intro hv
  · rfl
  · exact hv.elim
  · exact hv.elim
  · exact Bool.eq_iff_iff.mpr (by simp only [List.contains_iff_mem]; exact List.Perm.mem_iff hv)

theorem regLoop_equiv {c c' : RegCtx} (h : CtxEquiv c c') (rs : List (String × Nat)) (out : List (List Char))
    (cur : List Char) : regLoop c rs out cur = regLoop c' rs out cur := by
  have hc : ∀ r, regCell c r = regCell c' r := fun r => by simp only [regCell, h.regSize]
  induction rs generalizing out cur with
  | nil => rfl
  | cons r rest ih => simp only [regLoop, regValid_equiv h, hc, ih]

theorem regLines_equiv {c c' : RegCtx} (h : CtxEquiv c c') : regLines c = regLines c' := by
  unfold regLines
  rw [regLoop_equiv h, h.gpr]

structure FrameEquiv (f f' : FrameM) : Prop where
  rest : f' = { f with ctx := f'.ctx }
  ctx : CtxEquiv f.ctx f'.ctx

theorem FrameEquiv.refl (f : FrameM) : FrameEquiv f f :=
  ⟨rfl, rfl, rfl, by cases f.ctx.valid <;> simp [ValidEquiv]⟩

theorem frameBody_equiv {f f' : FrameM} (h : FrameEquiv f f') (x : FrameX) : frameBody f x = frameBody f' x := by
  rw [h.rest]; rfl

theorem inlineLines_equiv {f f' : FrameM} (h : FrameEquiv f f') (n : Nat) (is : List InlineM) :
    inlineLines f n is = inlineLines f' n is := by
  induction is generalizing n with
  | nil => rfl
  | cons i rest ih =>
    simp only [inlineLines, ih]
    rw [h.rest]; rfl

theorem framesLines_equiv (d : FrameX) : ∀ {fs fs' : List FrameM} (xs : List FrameX) (n : Nat),
    AllRel FrameEquiv fs fs' → framesLines n (zipD d fs xs) = framesLines n (zipD d fs' xs)
  | [], [], _, _, _ => rfl
  | f :: fs, f' :: fs', xs, n, ⟨hf, hrest⟩ => by
    have hin : f'.inlines = f.inlines := by rw [hf.rest]
    have htr : f'.trust = f.trust := by rw [hf.rest]
    cases xs <;> simp only [zipD, framesLines, frameBody_equiv hf, hin, htr, ← inlineLines_equiv hf,
      ← regLines_equiv hf.ctx, framesLines_equiv d _ _ hrest]
  | [], _ :: _, _, _, h => h.elim
  | _ :: _, [], _, _, h => h.elim

structure ThreadEquiv (t t' : ThreadM) : Prop where
  rest : t' = { t with frames := t'.frames }
  frames : AllRel FrameEquiv t.frames t'.frames

theorem ThreadEquiv.refl (t : ThreadM) : ThreadEquiv t t := ⟨rfl, AllRel.refl FrameEquiv.refl _⟩

theorem stackLines_equiv {t t' : ThreadM} (h : ThreadEquiv t t') (x : ThreadX) : stackLines t x = stackLines t' x := by
  have he : t'.frames.isEmpty = t.frames.isEmpty := by
    rw [Bool.eq_iff_iff, List.isEmpty_iff_length_eq_zero, List.isEmpty_iff_length_eq_zero, h.frames.length]
  simp only [stackLines, framesLines_equiv FrameX.dflt x.frames 0 h.frames, he]

theorem headerText_equiv {t t' : ThreadM} (h : ThreadEquiv t t') (i : Nat) (m : Option Bool) :
    headerText i t m = headerText i t' m := by
  rw [h.rest]; rfl

theorem otherThreadsLines_equiv (req : Option Nat) (d : ThreadX) :
    ∀ {ts ts' : List ThreadM} (xs : List ThreadX) (i : Nat), AllRel ThreadEquiv ts ts' →
      otherThreadsLines req i (zipD d ts xs) = otherThreadsLines req i (zipD d ts' xs)
  | [], [], _, _, _ => rfl
  | t :: ts, t' :: ts', xs, i, ⟨ht, hrest⟩ => by
    cases xs <;> simp only [zipD, otherThreadsLines, stackLines_equiv ht, headerText_equiv ht,
      otherThreadsLines_equiv req d _ _ hrest]
  | [], _ :: _, _, _, h => h.elim
  | _ :: _, [], _, _, h => h.elim

theorem certText_congr {c c' : List (String × String)} (h : ∀ k, lookupS k c = lookupS k c') (name : String) :
    certText c name = certText c' name := by
  simp only [certText, h]

theorem moduleLines_congr {s s' : StateModel} (hm : s.modules = s'.modules)
    (hc : ∀ k, lookupS k s.certInfo = lookupS k s'.certInfo) (is : List Nat) :
    moduleLines s is = moduleLines s' is := by
  induction is with
  | nil => rfl
  | cons i rest ih => simp only [moduleLines, moduleLine, hm, certText_congr hc, ih]

theorem unloadedLines_congr {s s' : StateModel} (hu : s.unloaded = s'.unloaded)
    (hc : ∀ k, lookupS k s.certInfo = lookupS k s'.certInfo) (is : List Nat) :
    unloadedLines s is = unloadedLines s' is := by
  induction is with
  | nil => rfl
  | cons i rest ih => simp only [unloadedLines, unloadedLine, hu, certText_congr hc, ih]

theorem requestingLines_equiv {s s' : StateModel} (x : TextExtra)
    (hreq : s.requestingThread = s'.requestingThread) (hexc : s.exc = s'.exc)
    (ht : AllRel ThreadEquiv s.threads s'.threads) : requestingLines s x = requestingLines s' x := by
  unfold requestingLines
  rw [← hreq, ← hexc]
  cases s.requestingThread with
  | none => rfl
  | some i =>
    rcases ht.getElem? i with ⟨h1, h2⟩ | ⟨t, t', h1, h2, hr⟩
    · simp only [h1, h2]
    · simp only [h1, h2, stackLines_equiv hr, headerText_equiv hr]

/-- what a bit-flip line shows of an entry -/
def flipShown (f : BitFlip × FlipX) : Option String × Nat × String := (f.1.sourceRegister, f.1.address, f.2.conf3)

theorem flipLines_shown (pw : PW) :
    ∀ (n : Nat) (l l' : List (BitFlip × FlipX)), l.map flipShown = l'.map flipShown →
      flipLines pw n l = flipLines pw n l'
  | _, [], [], _ => rfl
  | n, (b, x) :: l, (b', x') :: l', h => by
    simp only [List.map_cons, List.cons.injEq, flipShown, Prod.mk.injEq] at h
    obtain ⟨⟨h1, h2, h3⟩, hrest⟩ := h
    simp only [flipLines, h1, h2, h3, flipLines_shown pw (n + 1) l l' hrest]
  | _, [], _ :: _, h => by simp at h
  | _, _ :: _, [], h => by simp at h

theorem map_eq_of_key {α κ σ : Type} (key : α → κ) (shown : α → σ) :
    ∀ l1 l2 : List α, (∀ a ∈ l1, ∀ b ∈ l2, key a = key b → shown a = shown b) → l1.map key = l2.map key →
      l1.map shown = l2.map shown
  | [], [], _, _ => rfl
  | a :: l1, b :: l2, h, hk => by
    simp only [List.map_cons, List.cons.injEq] at hk ⊢
    exact ⟨h a List.mem_cons_self b List.mem_cons_self hk.1, map_eq_of_key key shown l1 l2
      (fun x hx y hy => h x (List.mem_cons_of_mem _ hx) y (List.mem_cons_of_mem _ hy)) hk.2⟩
  | [], _ :: _, _, hk => nomatch hk
  | _ :: _, [], _, hk => nomatch hk

theorem validOrder_keys {fs : List (BitFlip × FlipX)} {o : List Nat} (h : validOrder fs o = true) :
    (o.filterMap (fs[·]?)).map flipKey = (sortFlips fs).map flipKey := by
  simp only [validOrder, Bool.and_eq_true, beq_iff_eq] at h
  exact h.2

theorem mem_filterMap_getElem? {α : Type} {fs : List α} {o : List Nat} {a : α}
    (h : a ∈ o.filterMap (fs[·]?)) : a ∈ fs := by
  simp only [List.mem_filterMap] at h
  obtain ⟨i, _, hi⟩ := h
  exact List.mem_of_getElem? hi

def headerOf (l : TLine) : Option (Nat × Bool) :=
  match l.kind with
  | .header i m => some (i, m)
  | _ => none
def frameOf (l : TLine) : Option Nat :=
  match l.kind with
  | .frame i => some i
  | _ => none
def loadedOf (l : TLine) : Option Nat :=
  match l.kind with
  | .loaded i => some i
  | _ => none
def unloadedOf (l : TLine) : Option Nat :=
  match l.kind with
  | .unloaded i => some i
  | _ => none

def AllPlain (ls : List TLine) : Prop := ∀ l ∈ ls, l.kind = .plain

theorem AllPlain.nil : AllPlain [] := fun _ h => nomatch h
theorem AllPlain.append {a b : List TLine} (ha : AllPlain a) (hb : AllPlain b) : AllPlain (a ++ b) :=
  fun l hl => (List.mem_append.mp hl).elim (ha l) (hb l)
theorem AllPlain.cons {l : TLine} {ls : List TLine} (h : l.kind = .plain) (hs : AllPlain ls) : AllPlain (l :: ls) :=
  List.forall_mem_cons.mpr ⟨h, hs⟩
theorem AllPlain.map {α : Type} (f : α → TLine) (hf : ∀ a, (f a).kind = .plain) (as : List α) :
    AllPlain (as.map f) :=
  List.forall_mem_map.mpr fun a _ => hf a

/-- for a list written out line by line: the kinds are read off its spine, the texts are not looked at -/
theorem AllPlain.of_all {ls : List TLine} (h : ls.all (fun l => l.kind == .plain) = true) : AllPlain ls :=
  fun l hl => eq_of_beq (List.all_eq_true.mp h l hl)

theorem optLine_plain (label : String) (o : Option String) : AllPlain (optLine label o) := by
  cases o <;> exact .of_all rfl
theorem optLine0x_plain (label : String) (o : Option Nat) : AllPlain (optLine0x label o) := by
  cases o <;> exact .of_all rfl

theorem sysLines_plain (s : StateModel) : AllPlain (sysLines s) := by
  unfold sysLines
  cases s.sys.osVer <;> cases s.sys.cpuInfo <;> cases s.lsb <;> exact .of_all rfl

theorem memAccessLines_plain (pw : PW) : ∀ (n : Nat) (l : List MemAccess), AllPlain (memAccessLines pw n l)
  | _, [] => .nil
  | n, a :: rest => by
    unfold memAccessLines
    refine .append (.append (.append (.append (.of_all rfl) (.cons ?_ .nil)) ?_) ?_) (memAccessLines_plain pw (n + 1) rest)
    · split <;> rfl
    · split <;> exact .of_all rfl
    · split <;> exact .of_all rfl

theorem flipLines_plain (pw : PW) : ∀ (n : Nat) (l : List (BitFlip × FlipX)), AllPlain (flipLines pw n l)
  | _, [] => .nil
  | n, (_, _) :: rest => .cons rfl (flipLines_plain pw (n + 1) rest)

theorem crashLines_plain (pw : PW) (e : ExcInfo) (x : TextExtra) : AllPlain (crashLines pw e x) := by
  unfold crashLines
  refine .append (.append (.append (.append (.append (.append (.of_all rfl) ?_) ?_) ?_) ?_) ?_) ?_
  · split <;> exact .of_all rfl
  · split <;> exact .of_all rfl
  · split
    · exact .of_all rfl
    · exact .cons rfl (memAccessLines_plain pw 0 _)
    · exact .nil
  · split
    · exact .append (.of_all rfl) (by split <;> exact .of_all rfl)
    · exact .of_all rfl
    · exact .nil
  · split
    · exact .nil
    · exact .cons rfl (flipLines_plain pw 0 _)
  · split
    · exact .nil
    · exact .cons rfl (.map _ (fun _ => rfl) _)

theorem macRecordLines_plain : ∀ (n : Nat) (l : List MacRecord), AllPlain (macRecordLines n l)
  | _, [] => .nil
  | n, r :: rest => by
    unfold macRecordLines
    exact .append (.append (.append (.append (.append (.append (.append (.append (.append (.of_all rfl)
      (optLine0x_plain _ _)) (optLine0x_plain _ _)) (optLine0x_plain _ _)) (optLine_plain _ _)) (optLine_plain _ _))
      (optLine_plain _ _)) (optLine_plain _ _)) (optLine_plain _ _)) (macRecordLines_plain (n + 1) rest)

theorem miscLines_plain (s : StateModel) (x : TextExtra) : AllPlain (miscLines s x) := by
  unfold miscLines
  refine .append (.append (.append (.append (.append (optLine_plain _ _) ?_) ?_) ?_) (.of_all rfl)) ?_
  · split
    · exact .cons rfl (.append (macRecordLines_plain 0 _) (.of_all rfl))
    · exact .nil
  · split <;> exact .of_all rfl
  · split <;> exact .of_all rfl
  · split <;> exact .of_all rfl

theorem regLines_plain (c : RegCtx) : AllPlain (regLines c) := .map _ (fun _ => rfl) _

theorem streamLines_plain (x : TextExtra) : AllPlain (streamLines x) := by
  unfold streamLines
  refine .append ?_ ?_ <;> split
  · exact .nil
  · exact .cons rfl (.cons rfl (.map _ (fun _ => rfl) _))
  · exact .nil
  · exact .cons rfl (.cons rfl (.map _ (fun _ => rfl) _))

theorem softLines_plain (s : StateModel) : AllPlain (softLines s) := by
  unfold softLines
  split <;> exact .of_all rfl

theorem briefLines_shape (pw : PW) (s : StateModel) (x : TextExtra) (hd : List TLine)
    (h : briefLines pw s x = .ok hd) :
    ∃ pre req, hd = pre ++ req ∧ AllPlain pre ∧ requestingLines s x = .ok req := by
  simp only [briefLines, obind_ok_iff, Outcome.ok.injEq] at h
  obtain ⟨req, hreq, rfl⟩ := h
  refine ⟨_, req, rfl, .append (.append (sysLines_plain s) ?_) (miscLines_plain s x), hreq⟩
  split
  · exact crashLines_plain _ _ _
  · exact .of_all rfl

/-- leading decimal digits followed by two spaces; `one`: exactly one digit, else at least two -/
def numbered (one : Bool) (cs : List Char) : Bool :=
  (if one then (cs.takeWhile isDigit).length == 1 else decide (2 ≤ (cs.takeWhile isDigit).length)) &&
  (cs.dropWhile isDigit).take 2 == [' ', ' ']

/-- the shape `{frame_idx:2}  …` of a numbered frame line — the very test engine `text`'s oracle
    applies to the lines of the real output (`frame_line_index` in harness/src/engines/text.rs):
    a space and ONE digit, or at least two digits, then two spaces -/
def isFrameLine : List Char → Bool
  | [] => false
  | c :: rest => if c = ' ' then numbered true rest else numbered false (c :: rest)

theorem natDigits_small (n : Nat) (h : n < 10) : natDigits n = [digitChar n] := by
  unfold natDigits
  rw [digitsB_eq, if_pos (Or.inl h)]

theorem natDigits_large (n : Nat) (h : 10 ≤ n) : 2 ≤ (natDigits n).length := by
  unfold natDigits
  rw [digitsB_eq, if_neg (by omega)]
  have := digitsB_ne_nil 10 (n / 10)
  cases hd : digitsB 10 (n / 10) with
  | nil => exact absurd hd this
  | cons a b => simp

theorem numbered_digits (one : Bool) (ds body : List Char) (hd : ds.all isDigit = true) :
    numbered one (ds ++ ' ' :: ' ' :: body) = if one then ds.length == 1 else decide (2 ≤ ds.length) := by
  obtain ⟨t1, t2⟩ := takeWhile_app isDigit ds (' ' :: ' ' :: body) hd fun _ _ h => by cases h; decide
  simp only [numbered, t1, t2, List.take_succ_cons, List.take_zero, beq_self_eq_true, Bool.and_true]

theorem isFrameLine_numbered (i : Nat) (body : List Char) :
    isFrameLine (padSp 2 (dec i) ++ "  ".toList ++ body) = true := by
  have hall := natDigits_all i
  rw [show "  ".toList = [' ', ' '] from rfl, List.append_assoc]
  by_cases hi : i < 10
  · rw [show padSp 2 (dec i) = [' ', digitChar i] by simp [dec, natDigits_small i hi, padSp]]
    exact (numbered_digits true [digitChar i] body (by simp [(digitChar_dec i hi).1])).trans rfl
  · have hlen := natDigits_large i (by omega)
    rw [show padSp 2 (dec i) = natDigits i by
      simp only [padSp, dec, show 2 - (natDigits i).length = 0 by omega]; rfl]
    cases hds : natDigits i with
    | nil => simp [hds] at hlen
    | cons c rest =>
      rw [hds] at hall hlen
      have hne : c ≠ ' ' := by
        rintro rfl
        simp [show isDigit ' ' = false by decide] at hall
      show (if c = ' ' then _ else numbered false ((c :: rest) ++ ' ' :: ' ' :: body)) = true
      rw [if_neg hne, numbered_digits false _ body hall]
      simpa using hlen

theorem isFrameLine_two_spaces (r : List Char) : isFrameLine (' ' :: ' ' :: r) = false := by
  simp [isFrameLine, numbered, List.takeWhile, show isDigit ' ' = false by decide]

def StackLineOK (l : TLine) : Prop :=
  (∃ i body, l.kind = .frame i ∧ l.text = padSp 2 (dec i) ++ "  ".toList ++ body) ∨
  (l.kind = .plain ∧ isFrameLine l.text = false)

/-- the literal a line starts with is turned into its characters by `String.toList_ofList` before
    it is compared: unifying with `"…".toList` directly makes the unifier decode the string -/
theorem plc_indented {cs r : List Char} (h : cs = ' ' :: ' ' :: r) :
    (plc cs).kind = .plain ∧ isFrameLine (plc cs).text = false :=
  ⟨rfl, h ▸ isFrameLine_two_spaces r⟩

theorem regLoop_lines (c : RegCtx) (rs : List (String × Nat)) (out : List (List Char)) (cur : List Char)
    (hout : ∀ l ∈ out, isFrameLine l = false) (hcur : cur = [] ∨ ∃ r, cur = ' ' :: r) :
    ∀ l ∈ regLoop c rs out cur, isFrameLine l = false := by
  have flush : ∀ {cur : List Char}, (cur = [] ∨ ∃ r, cur = ' ' :: r) → isFrameLine (' ' :: cur) = false := by
    rintro _ (rfl | ⟨r, rfl⟩)
    · rfl
    · exact isFrameLine_two_spaces r
  fun_induction regLoop c rs out cur with
  | case1 out cur =>
    intro l hl
    rw [List.mem_reverse] at hl
    split at hl
    · exact hout l hl
    · exact (List.mem_cons.mp hl).elim (· ▸ flush hcur) (hout l)
  | case2 _ _ _ _ _ _ _ ih => exact ih (List.forall_mem_cons.mpr ⟨flush hcur, hout⟩) (Or.inr ⟨_, rfl⟩)
  | case3 _ _ _ _ _ _ _ ih =>
    refine ih hout (Or.inr ?_)
    rcases hcur with rfl | ⟨r, rfl⟩
    · exact ⟨_, rfl⟩
    · exact ⟨_, rfl⟩
  | case4 _ _ _ _ _ ih => exact ih hout hcur

theorem regLines_ok (c : RegCtx) : ∀ l ∈ regLines c, StackLineOK l := by
  intro l hl
  obtain ⟨cs, hcs, rfl⟩ := List.mem_map.mp hl
  exact Or.inr ⟨rfl, regLoop_lines c c.gpr [] [] (fun _ h => nomatch h) (Or.inl rfl) cs hcs⟩

theorem inlineLines_ok (f : FrameM) : ∀ (n : Nat) (is : List InlineM), ∀ l ∈ inlineLines f n is, StackLineOK l
  | _, [], _, hl => nomatch hl
  | n, i :: rest, l, hl => by
    simp only [inlineLines, List.mem_cons] at hl
    rcases hl with rfl | rfl | h
    · exact Or.inl ⟨n, _, rfl, by simp only [inlineLine, List.append_assoc]; rfl⟩
    · exact Or.inr (plc_indented (by rw [String.toList_ofList]))
    · exact inlineLines_ok f (n + 1) rest l h

theorem argLines_ok (pb : Nat) : ∀ (n : Nat) (as : List (String × Option Nat)), ∀ l ∈ argLines pb n as,
    l.kind = .plain ∧ isFrameLine l.text = false
  | _, [], _, hl => nomatch hl
  | n, (nm, v) :: rest, l, hl => by
    rcases List.mem_cons.mp hl with rfl | h
    · exact plc_indented (by rw [String.toList_ofList]; rfl)
    · exact argLines_ok pb (n + 1) rest l h

theorem argsLines_ok (x : FrameX) : ∀ l ∈ argsLines x, l.kind = .plain ∧ isFrameLine l.text = false := by
  intro l hl
  unfold argsLines at hl
  split at hl
  · exact nomatch hl
  · simp only [List.mem_cons, List.mem_append, List.not_mem_nil, or_false] at hl
    rcases hl with rfl | h | rfl
    · exact plc_indented (by rw [String.toList_ofList]; rfl)
    · exact argLines_ok _ 0 _ l h
    · exact ⟨rfl, rfl⟩

theorem framesLines_ok : ∀ (n : Nat) (ps : List (FrameM × FrameX)) (ls : List TLine),
    framesLines n ps = .ok ls → ∀ l ∈ ls, StackLineOK l
  | n, [], ls, h, l, hl => by
    cases h
    exact nomatch hl
  | n, (f, x) :: rest, ls, h, l, hl => by
    simp only [framesLines, obind_ok_iff, Outcome.ok.injEq] at h
    obtain ⟨body, _, more, hmore, rfl⟩ := h
    simp only [List.mem_append, List.mem_cons, List.not_mem_nil, or_false] at hl
    rcases hl with ((((h1 | rfl) | h1) | rfl) | h1) | h1
    · exact inlineLines_ok f n f.inlines l h1
    · exact Or.inl ⟨_, body, rfl, rfl⟩
    · exact regLines_ok f.ctx l h1
    · exact Or.inr (plc_indented (by rw [String.toList_ofList]; rfl))
    · exact Or.inr (argsLines_ok x l h1)
    · exact framesLines_ok (n + f.inlines.length + 1) rest more hmore l h1

theorem stackLines_ok (t : ThreadM) (x : ThreadX) (ls : List TLine) (h : stackLines t x = .ok ls) :
    ∀ l ∈ ls, StackLineOK l := by
  simp only [stackLines, obind_ok_iff, Outcome.ok.injEq] at h
  obtain ⟨fl, hfl, rfl⟩ := h
  intro l hl
  rcases List.mem_append.mp hl with h1 | h1
  · split at h1
    · rw [List.mem_singleton.mp h1]
      exact Or.inr ⟨rfl, by rw [pl, String.toList_ofList]; rfl⟩
    · exact nomatch h1
  · exact framesLines_ok 0 _ fl hfl l h1

def StackKinds (ls : List TLine) : Prop := ∀ l ∈ ls, l.kind = .plain ∨ ∃ i, l.kind = .frame i

def MarksAre (ls : List TLine) (hs : List (Nat × Bool)) (lo un : List Nat) : Prop :=
  ls.filterMap headerOf = hs ∧ ls.filterMap loadedOf = lo ∧ ls.filterMap unloadedOf = un

theorem MarksAre.append {a b : List TLine} {hs hs' : List (Nat × Bool)} {lo lo' un un' : List Nat}
    (ha : MarksAre a hs lo un) (hb : MarksAre b hs' lo' un') : MarksAre (a ++ b) (hs ++ hs') (lo ++ lo') (un ++ un') := by
  simp only [MarksAre, List.filterMap_append, ha.1, ha.2.1, ha.2.2, hb.1, hb.2.1, hb.2.2, and_self]

theorem StackKinds.marks {ls : List TLine} (h : StackKinds ls) : MarksAre ls [] [] [] := by
  simp only [MarksAre, List.filterMap_eq_nil_iff]
  refine ⟨?_, ?_, ?_⟩ <;> intro l hl <;> rcases h l hl with hk | ⟨i, hk⟩ <;>
    simp only [headerOf, loadedOf, unloadedOf, hk]

theorem AllPlain.marks {ls : List TLine} (h : AllPlain ls) : MarksAre ls [] [] [] :=
  StackKinds.marks fun l hl => Or.inl (h l hl)

theorem MarksAre.header_mem {ls : List TLine} {hs : List (Nat × Bool)} {lo un : List Nat} (h : MarksAre ls hs lo un)
    {l : TLine} (hl : l ∈ ls) {k : Nat} {m : Bool} (hk : l.kind = .header k m) : (k, m) ∈ hs :=
  h.1 ▸ List.mem_filterMap.mpr ⟨l, hl, by simp only [headerOf, hk]⟩

theorem plain_frames {ls : List TLine} (h : AllPlain ls) : ls.filterMap frameOf = [] :=
  List.filterMap_eq_nil_iff.mpr fun l hl => by simp only [frameOf, h l hl]

theorem inlineLines_frames (f : FrameM) : ∀ (n : Nat) (is : List InlineM),
    (inlineLines f n is).filterMap frameOf = List.range' n is.length
  | _, [] => rfl
  | n, _ :: rest => congrArg (n :: ·) (inlineLines_frames f (n + 1) rest)

theorem framesLines_frames : ∀ (n : Nat) (ps : List (FrameM × FrameX)) (ls : List TLine),
    framesLines n ps = .ok ls →
      ls.filterMap frameOf =
        List.range' n ((ps.map (·.1)).length + ((ps.map (·.1)).map (·.inlines.length)).sum)
  | n, [], ls, h => by
    cases h
    rfl
  | n, (f, x) :: rest, ls, h => by
    simp only [framesLines, obind_ok_iff, Outcome.ok.injEq] at h
    obtain ⟨body, _, more, hmore, rfl⟩ := h
    simp only [List.filterMap_append, inlineLines_frames, plain_frames (regLines_plain _),
      plain_frames fun l hl => (argsLines_ok _ l hl).1, framesLines_frames _ rest more hmore, List.filterMap_cons, frameOf, plc,
      List.map_cons, List.length_cons, List.sum_cons, List.nil_append, List.append_assoc, List.singleton_append]
    rw [← List.range'_succ, List.range'_append_1]
    congr 1
    omega

theorem stackLines_frames (t : ThreadM) (x : ThreadX) (ls : List TLine) (h : stackLines t x = .ok ls) :
    ls.filterMap frameOf = List.range (t.frames.length + (t.frames.map (·.inlines.length)).sum) ∧ StackKinds ls := by
  refine ⟨?_, fun l hl => (stackLines_ok t x ls h l hl).elim (fun ⟨i, _, hk, _⟩ => Or.inr ⟨i, hk⟩) fun hk => Or.inl hk.1⟩
  simp only [stackLines, obind_ok_iff, Outcome.ok.injEq] at h
  obtain ⟨fl, hfl, rfl⟩ := h
  have hp : AllPlain (if t.frames.isEmpty then [pl "<no frames>"] else []) := by
    split <;> exact .of_all rfl
  rw [List.filterMap_append, plain_frames hp, framesLines_frames 0 _ fl hfl, zipD_map_fst, List.nil_append,
    List.range_eq_range']

/-- is this thread printed by the loop over all threads? (not the requesting one, not the dump writer) -/
def otherSel (req : Option Nat) (p : (ThreadM × ThreadX) × Nat) : Bool :=
  !(decide (req = some p.2) || p.1.2.skipped)

theorem otherThreadsLines_marks (req : Option Nat) :
    ∀ (i : Nat) (ps : List (ThreadM × ThreadX)) (ls : List TLine), otherThreadsLines req i ps = .ok ls →
      MarksAre ls (((ps.zipIdx i).filter (otherSel req)).map fun p => (p.2, false)) [] [] ∧
      ∀ l ∈ ls, ∀ k m, l.kind = .header k m → ∃ p ∈ ps.zipIdx i, p.2 = k ∧ l.text = headerText k p.1.1 none
  | _, [], ls, h => by
    cases h
    exact ⟨⟨rfl, rfl, rfl⟩, fun _ hl => nomatch hl⟩
  | i, (t, x) :: rest, ls, h => by
    simp only [otherThreadsLines] at h
    rw [List.zipIdx_cons, List.filter_cons]
    split at h
    · rename_i hc
      have hs : otherSel req ((t, x), i) = false := by
        simpa only [otherSel, Bool.not_eq_false', Bool.or_eq_true, decide_eq_true_eq] using hc
      obtain ⟨ih1, ih2⟩ := otherThreadsLines_marks req (i + 1) rest ls h
      rw [hs]
      exact ⟨ih1, fun l hl k m hk => (ih2 l hl k m hk).imp fun p hp => ⟨List.mem_cons_of_mem _ hp.1, hp.2⟩⟩
    · rename_i hc
      simp only [obind_ok_iff, Outcome.ok.injEq] at h
      obtain ⟨sl, hsl, more, hmore, rfl⟩ := h
      have hs : otherSel req ((t, x), i) = true := by
        simpa only [otherSel, Bool.not_eq_true', Bool.or_eq_false_iff, decide_eq_false_iff_not, not_or,
          Bool.not_eq_true] using hc
      obtain ⟨ih1, ih2⟩ := otherThreadsLines_marks req (i + 1) rest more hmore
      have hk := (stackLines_frames t x sl hsl).2
      rw [hs]
      refine ⟨MarksAre.append (a := [_]) ⟨rfl, rfl, rfl⟩ (hk.marks.append ih1), fun l hl k m hkind => ?_⟩
      rcases List.mem_cons.mp hl with rfl | hl
      · cases hkind
        exact ⟨_, List.mem_cons_self, rfl, rfl⟩
      rcases List.mem_append.mp hl with hl | hl
      · exact nomatch hk.marks.header_mem hl hkind
      · exact (ih2 l hl k m hkind).imp fun p hp => ⟨List.mem_cons_of_mem _ hp.1, hp.2⟩

theorem moduleLines_marks (s : StateModel) : ∀ (is : List Nat) (ls : List TLine), moduleLines s is = .ok ls →
    MarksAre ls [] is []
  | [], ls, h => by cases h; exact ⟨rfl, rfl, rfl⟩
  | i :: rest, ls, h => by
    simp only [moduleLines] at h
    split at h
    · cases h
    · simp only [moduleLine, obind_ok_iff, Outcome.ok.injEq] at h
      obtain ⟨_, ⟨r, _, rfl⟩, more, hmore, rfl⟩ := h
      exact MarksAre.append (a := [_]) ⟨rfl, rfl, rfl⟩ (moduleLines_marks s rest more hmore)

theorem unloadedLines_marks (s : StateModel) : ∀ (is : List Nat) (ls : List TLine), unloadedLines s is = .ok ls →
    MarksAre ls [] [] is
  | [], ls, h => by cases h; exact ⟨rfl, rfl, rfl⟩
  | i :: rest, ls, h => by
    simp only [unloadedLines] at h
    split at h
    · cases h
    · simp only [unloadedLine, obind_ok_iff, Outcome.ok.injEq] at h
      obtain ⟨_, ⟨r, _, rfl⟩, more, hmore, rfl⟩ := h
      exact MarksAre.append (a := [_]) ⟨rfl, rfl, rfl⟩ (unloadedLines_marks s rest more hmore)

theorem requestingLines_some {s : StateModel} {x : TextExtra} {i : Nat} {ls : List TLine}
    (hi : s.requestingThread = some i) (h : requestingLines s x = .ok ls) :
    ∃ t sl, s.threads[i]? = some t ∧ stackLines t (x.threads[i]?.getD ThreadX.dflt) = .ok sl ∧
      ls = ⟨.header i true, headerText i t (some s.exc.isSome)⟩ :: (sl ++ [plc []]) := by
  simp only [requestingLines, hi] at h
  split at h
  · cases h
  · rename_i t ht
    simp only [obind_ok_iff, Outcome.ok.injEq] at h
    obtain ⟨sl, hsl, rfl⟩ := h
    exact ⟨t, sl, ht, hsl, rfl⟩

theorem requestingLines_marks {s : StateModel} {x : TextExtra} {ls : List TLine} (h : requestingLines s x = .ok ls) :
    MarksAre ls (match s.requestingThread with
                 | some i => [(i, true)]
                 | none => []) [] [] := by
  cases hi : s.requestingThread with
  | none =>
    simp only [requestingLines, hi] at h
    cases h
    exact ⟨rfl, rfl, rfl⟩
  | some i =>
    obtain ⟨t, sl, _, hsl, rfl⟩ := requestingLines_some hi h
    exact MarksAre.append (a := [_]) ⟨rfl, rfl, rfl⟩
      ((stackLines_frames _ _ sl hsl).2.marks.append (b := [plc []]) ⟨rfl, rfl, rfl⟩)

theorem printLines_brief_ok {s : StateModel} {x : TextExtra} {ls : List TLine} :
    printLines s x true = .ok ls ↔ briefLines s.sys.cpu.pw s x = .ok ls := by
  simp only [printLines, linesAfter, linesWith, setCtx, obind_ok_iff, if_true, Outcome.ok.injEq, exists_eq_right]

theorem printLines_brief_marks {s : StateModel} {x : TextExtra} {ls : List TLine} (h : printLines s x true = .ok ls) :
    MarksAre ls (match s.requestingThread with
                 | some i => [(i, true)]
                 | none => []) [] [] := by
  obtain ⟨pre, req, rfl, hpre, hreq⟩ := briefLines_shape _ s x ls (printLines_brief_ok.mp h)
  exact hpre.marks.append (requestingLines_marks hreq)

theorem printLines_full_ok {s : StateModel} {x : TextExtra} {ls : List TLine} (h : printLines s x false = .ok ls) :
    ∃ hd others tail, printLines s x true = .ok hd ∧
      otherThreadsLines s.requestingThread 0 (zipD ThreadX.dflt s.threads x.threads) = .ok others ∧
      MarksAre tail [] (modulesByAddr s.modules) (unloadedByAddr s.unloaded) ∧ ls = hd ++ (others ++ tail) := by
  simp only [printLines_brief_ok]
  simp only [printLines, linesAfter, linesWith, setCtx, restLines, obind_ok_iff, Bool.false_eq_true, if_false,
    Outcome.ok.injEq] at h
  obtain ⟨hd, hhd, _, ⟨others, ho, mods, hm, unl, hu, rfl⟩, rfl⟩ := h
  have lit (t : String) : MarksAre [plc [], pl t] [] [] [] := ⟨rfl, rfl, rfl⟩
  refine ⟨hd, others, _, hhd, ho, ?_, by simp only [List.append_assoc]; rfl⟩
  simpa only [List.append_nil, List.nil_append] using (lit "Loaded modules:").append
    ((moduleLines_marks _ _ _ hm).append ((lit "Unloaded modules:").append ((unloadedLines_marks _ _ _ hu).append
      ((streamLines_plain x).marks.append (softLines_plain s).marks))))

theorem printLines_full_marks {s : StateModel} {x : TextExtra} {ls : List TLine} (h : printLines s x false = .ok ls) :
    MarksAre ls
      ((match s.requestingThread with
        | some i => [(i, true)]
        | none => []) ++
       (((zipD ThreadX.dflt s.threads x.threads).zipIdx.filter (otherSel s.requestingThread)).map
         fun p => (p.2, false)))
      (modulesByAddr s.modules) (unloadedByAddr s.unloaded) := by
  obtain ⟨hd, others, tail, hb, ho, ht, rfl⟩ := printLines_full_ok h
  simpa only [List.append_nil, List.nil_append] using
    (printLines_brief_marks hb).append ((otherThreadsLines_marks _ _ _ _ ho).1.append ht)

theorem modulesByAddr_sorted (ms : List ModuleM) :
    (modulesByAddr ms).Pairwise fun i j =>
      ∃ mi mj, ms[i]? = some mi ∧ ms[j]? = some mj ∧ 0 < mi.size ∧ mi.base + mi.size ≤ mj.base := by
  refine (RangeMap.safeVec_idx_sorted (RangeMap.idx_mkRange_wf _ _ ms)).imp ?_
  rintro i j ⟨mi, mj, r, s, hi, hj, hr, hs, -, hlt⟩
  have wa := RangeMap.mkRange_wf hr
  have wb := RangeMap.mkRange_wf hs
  exact ⟨mi, mj, hi, hj, by omega, by omega⟩

theorem modulesByAddr_nodup (ms : List ModuleM) : (modulesByAddr ms).Nodup := by
  refine (modulesByAddr_sorted ms).imp ?_
  intro i j ⟨mi, mj, hi, hj, hs, hle⟩ hij
  subst hij
  rw [hi] at hj
  cases hj
  omega

theorem modulesByAddr_complete (ms : List ModuleM) (i : Nat) (m : ModuleM) (r : RangeMap.Rng)
    (hm : ms[i]? = some m) (hr : RangeMap.mkRange m.base m.size = some r)
    (hiso : ∀ j m' r', j ≠ i → ms[j]? = some m' → RangeMap.mkRange m'.base m'.size = some r' →
      r.intersects r' = false) :
    i ∈ modulesByAddr ms :=
  RangeMap.mem_safeVec_idx_of_isolated (RangeMap.idx_mkRange_wf _ _ ms) hm hr hiso

theorem unloadedByAddr_nodup (ms : List UnloadedM) : (unloadedByAddr ms).Nodup :=
  RangeMap.unloadedFrom_vals_nodup _ ms

theorem unloadedByAddr_sorted (ms : List UnloadedM) :
    (unloadedByAddr ms).Pairwise fun i j =>
      ∃ mi mj ri rj, ms[i]? = some mi ∧ ms[j]? = some mj ∧ RangeMap.mkRange mi.base mi.size = some ri ∧
        RangeMap.mkRange mj.base mj.size = some rj ∧ RangeMap.rle ri rj = true := by
  rw [unloadedByAddr, List.pairwise_map]
  refine List.Pairwise.imp_of_mem ?_ (RangeMap.unloaded_sorted _)
  intro a b ha hb hab
  obtain ⟨ma, hma, hra⟩ := RangeMap.mem_unloadedFrom.mp ha
  obtain ⟨mb, hmb, hrb⟩ := RangeMap.mem_unloadedFrom.mp hb
  exact ⟨ma, mb, a.1, b.1, hma, hmb, hra, hrb, hab⟩

/-- split at `\n` (`acc`: the current piece, reversed); a trailing piece without `\n` is kept -/
def splitLines : List Char → List Char → List (List Char)
  | [], acc => if acc.isEmpty then [] else [acc.reverse]
  | c :: r, acc => if c = '\n' then acc.reverse :: splitLines r [] else splitLines r (c :: acc)

theorem splitLines_line (t rest acc : List Char) (h : '\n' ∉ t) :
    splitLines (t ++ '\n' :: rest) acc = (acc.reverse ++ t) :: splitLines rest [] := by
  induction t generalizing acc with
  | nil => simp [splitLines]
  | cons c t ih =>
    simp only [List.mem_cons, not_or] at h
    have hc : c ≠ '\n' := fun e => h.1 e.symm
    simp only [List.cons_append, splitLines, if_neg hc, ih (c :: acc) h.2, List.reverse_cons, List.append_assoc,
      List.nil_append]

theorem splitLines_render (ls : List TLine) (h : ∀ l ∈ ls, '\n' ∉ l.text) :
    splitLines (renderLines ls) [] = ls.map (·.text) := by
  induction ls with
  | nil => rfl
  | cons l rest ih =>
    have h1 := h l List.mem_cons_self
    have h2 := ih (fun x hx => h x (List.mem_cons_of_mem _ hx))
    have e : renderLines (l :: rest) = l.text ++ '\n' :: renderLines rest := by
      simp [renderLines]
    rw [e, splitLines_line _ _ _ h1, h2]
    simp

end MdModel.Text
