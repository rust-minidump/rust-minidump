/-
  The Crashpad-info reader (`readCrashpadInfo` and its list / dictionary /
  annotation / module-link loops): no panic, every request at most `K * all.size` bytes, and the
  potential argument for the SUM of one module's requests: the copied string bytes are accounted
  against the budget `charge_string_budget` maintains (`Pot`), so however many entries alias however
  long a string, one module's annotations cost at most the budget plus the `Vec<String>`:
  `9 * len` bytes, and the whole stream, whose allocation COUNT is quadratic (links x entries), at most
  `11 * len + (len / 12) * (9 * len)`. One walk per reader gives both (`Charged`).
-/
import MdProofs.Lemmas.BytesStreams
namespace MdModel.Dump
open MdModel MdModel.Gen.Layouts

theorem readStringUtf8Unterminated_size {b s : Bytes} {off o : Nat} {e : Endian}
    (h : readStringUtf8Unterminated b off e = some (s, o)) : s.size ≤ b.size := by
  unfold readStringUtf8Unterminated at h
  split at h
  · cases h
  · split at h
    · cases h
    · split at h
      · cases h
      · simp only at h
        split at h
        · cases h
          simp [Array.size_extract]
          omega
        · cases h

theorem readStringUtf8_size {b s : Bytes} {off o : Nat} {e : Endian}
    (h : readStringUtf8 b off e = some (s, o)) : s.size ≤ b.size := by
  unfold readStringUtf8 at h
  split at h
  · cases h
  · rename_i s' o' hs
    split at h
    · cases h; exact readStringUtf8Unterminated_size hs
    · cases h

theorem le_Bnd {all : Bytes} {n : Nat} (h : n ≤ all.size) : n ≤ Bnd all := by
  unfold Bnd K; omega

/-- `Pot T win wout m`: the bytes `m` requests, plus the budget it hands on (`wout a` if it produced
    `a`, nothing otherwise), are at most the budget it was given plus `T` (the requests not charged
    to the budget). -/
def Pot {α : Type} (T win : Nat) (wout : α → Nat) (m : M α) : Prop :=
  totalBytes m.allocs + (match m.res with
    | .ok a => wout a
    | _ => 0) ≤ win + T

theorem Pot.total {α : Type} {T win : Nat} {w : α → Nat} {m : M α} (h : Pot T win w m) :
    totalBytes m.allocs ≤ win + T := by
  unfold Pot at h; omega

theorem chargeBudget_ok {budget len b : Nat} (h : chargeBudget budget len = .ok b) : budget = b + len := by
  unfold chargeBudget at h
  split at h
  · cases h
  · rename_i b' hb
    cases h
    have := checkedSub_some hb
    omega

/-! `Safe` alone, for the walks below, whose count of requests is not linear in the file. At the leaves it is the
judgement's; `bind` has a rule of its own, because `run_bind` wants one count for the continuation whatever it receives. -/

theorem safe_pure {α : Type} {B : Nat} (a : α) : Safe B (pure a : M α) :=
  (run_pure trivial : Run True B 0 _ (fun _ => True) True).safe trivial

theorem safe_fail {α : Type} {B : Nat} (e : Err) : Safe B (M.fail e : M α) :=
  (run_fail e trivial : Run True B 0 _ (fun _ => True) True).safe trivial

theorem safe_alloc {B n sz : Nat} {ex : Bool} (h : n * sz ≤ B) : Safe B (M.alloc n sz ex) :=
  (run_alloc fun _ => h : Run True B 1 _ _ True).safe trivial

theorem safe_bind {α β : Type} {B : Nat} {x : M α} {f : α → M β}
    (hx : Safe B x) (hf : ∀ a, x.res = .ok a → Safe B (f a)) : Safe B (x >>= f) := by
  rw [M.bind_def]
  unfold M.bind'
  cases hres : x.res with
  | ok a =>
    have h := hf a hres
    constructor
    · intro s; exact h.1 s
    · intro al hal
      simp only [List.mem_append] at hal
      cases hal with
      | inl h1 => exact hx.2 al h1
      | inr h2 => exact h.2 al h2
  | err e =>
    constructor
    · intro s h; cases h
    · intro al hal; exact hx.2 al hal
  | panic s =>
    exact absurd hres (hx.1 s)

def Charged {α : Type} (B T win : Nat) (w : α → Nat) (m : M α) : Prop := Safe B m ∧ Pot T win w m

theorem charged_pure {α : Type} {B T : Nat} (w : α → Nat) (a : α) : Charged B T (w a) w (pure a : M α) :=
  ⟨safe_pure a, by simp [Pot, M.pure_def, M.pure', totalBytes]⟩

theorem charged_fail {α : Type} {B T : Nat} (win : Nat) (w : α → Nat) (e : Err) : Charged B T win w (M.fail e : M α) :=
  ⟨safe_fail e, by simp [Pot, M.fail, totalBytes]⟩

theorem charged_copy {B : Nat} (left : Nat) {len : Nat} (h : len ≤ B) :
    Charged B 0 (left + len) (fun _ => left) (M.alloc len 1) :=
  ⟨safe_alloc (by omega), by simp [Pot, M.alloc, totalBytes, Alloc.bytes]; omega⟩

theorem charged_alloc {B : Nat} (win : Nat) {n sz : Nat} (ex : Bool) (h : n * sz ≤ B) :
    Charged B (n * sz) win (fun _ => win) (M.alloc n sz ex) :=
  ⟨safe_alloc h, by simp [Pot, M.alloc, totalBytes, Alloc.bytes]; omega⟩

theorem Charged.mono {α : Type} {B T T' win win' : Nat} {w : α → Nat} {m : M α} (h : Charged B T win w m)
    (h1 : T ≤ T') (h2 : win ≤ win') : Charged B T' win' w m :=
  ⟨h.1, by have := h.2; unfold Pot at *; omega⟩

theorem Charged.forget {α : Type} {B T win : Nat} {w : α → Nat} {m : M α} (h : Charged B T win w m) :
    Charged B (win + T) 0 (fun _ => 0) m := by
  refine ⟨h.1, ?_⟩
  have := h.2.total
  unfold Pot
  split
  · show totalBytes m.allocs + 0 ≤ 0 + (win + T)
    omega
  · omega

theorem charged_bind {α β : Type} {B T1 T2 win : Nat} {w1 : α → Nat} {w2 : β → Nat} {x : M α} {f : α → M β}
    (hx : Charged B T1 win w1 x) (hf : ∀ a, x.res = .ok a → Charged B T2 (w1 a) w2 (f a)) :
    Charged B (T1 + T2) win w2 (x >>= f) := by
  refine ⟨safe_bind hx.1 (fun a h => (hf a h).1), ?_⟩
  have hx := hx.2
  rw [M.bind_def]
  unfold Pot at *
  unfold M.bind'
  cases hres : x.res with
  | ok a =>
    have h2 := (hf a hres).2
    unfold Pot at h2
    rw [hres] at hx
    simp only [totalBytes_append] at *
    omega
  | err e => rw [hres] at hx; simp only at *; omega
  | panic s => rw [hres] at hx; simp only at *; omega

theorem charged_ite {α : Type} {B T win : Nat} {w : α → Nat} {c : Prop} [Decidable c] {x y : M α}
    (hx : c → Charged B T win w x) (hy : ¬c → Charged B T win w y) : Charged B T win w (if c then x else y) := by
  by_cases h : c
  · rw [if_pos h]; exact hx h
  · rw [if_neg h]; exact hy h

/-- A loop each of whose steps requests at most `c` bytes beyond what it charges to the budget
    (`c = 0`: the steps pay for themselves; `w = 0`: no budget, the requests are summed). -/
theorem charged_loop {σ : Type} {B : Nat} (n : Nat) (init : σ) (step : σ → Nat → M σ) (w : σ → Nat) (c : Nat)
    (h : ∀ s i, Charged B c (w s) w (step s i)) : Charged B (n * c) (w init) w (M.loop n init step) := by
  have go : ∀ (todo i : Nat) (s : σ), Charged B (todo * c) (w s) w (loopFrom step todo i s) := by
    intro todo
    induction todo with
    | zero => intro i s; exact charged_pure w s
    | succ t ih =>
      intro i s
      exact (charged_bind (h s i) (fun s' _ => ih (i + 1) s')).mono (by rw [Nat.succ_mul]; omega) (Nat.le_refl _)
  rw [loop_eq]
  exact go n 0 init

/-- the opening the four Crashpad list readers share -/
theorem crashpadHeader_charged {α : Type} {B T win : Nat} {w : α → Nat} {all : Bytes} {loc : Loc} {e : Endian} {z : α}
    {body : Bytes → Nat → M α} (hz : Charged B T win w (pure z : M α))
    (hbody : ∀ data count, Charged B T win w (body data count)) :
    Charged B T win w (match locationSlice all loc with
      | none => M.fail .StreamReadFailure
      | some data =>
        if data.size = 0 then pure z else
        match readU32 data 0 e with
        | none => M.fail .StreamReadFailure
        | some count => body data count) := by
  split
  · exact charged_fail _ _ _
  · split
    · exact hz
    · split
      · exact charged_fail _ _ _
      · exact hbody _ _

theorem stringListStep_charged (all data : Bytes) (e : Endian) (st : List Bytes × Nat) (i : Nat) :
    Charged (Bnd all) 0 st.2 Prod.snd (stringListStep all data e st i) := by
  unfold stringListStep
  split
  · exact charged_fail _ _ _
  · split
    · exact charged_fail _ _ _
    · rename_i s o hs
      have hsz := readStringUtf8_size hs
      split
      · exact charged_fail _ _ _
      · rename_i budget hb
        rw [chargeBudget_ok hb]
        exact charged_bind (charged_copy budget (le_Bnd hsz)) (T2 := 0) (fun _ _ => charged_pure Prod.snd _)

theorem readStringList_charged (ms : MemSizes) (hms : ms.Bounded) (all : Bytes) (e : Endian) (loc : Loc) (budget : Nat) :
    Charged (Bnd all) (8 * all.size) budget Prod.snd (readStringList ms all e loc budget) := by
  unfold readStringList
  refine crashpadHeader_charged (charged_pure Prod.snd _) (fun data count => ?_)
  split
  · exact charged_fail _ _ _
  · rename_i x hc
    have ⟨hc1, hc2⟩ := ensureCountInBound_ok hc
    -- the `Vec<String>`: 4 bytes of the file per element, at most 8 times that in memory
    have hcap := alloc_bound (count := count) (wire := 4) (len := all.size) (c := 8) (by omega) hms.string
    have hloop := charged_loop (B := Bnd all) count ([], budget) (stringListStep all data e) Prod.snd 0
      (stringListStep_charged all data e)
    have hrest := charged_bind hloop (T2 := 0) (f := fun st => pure (st.1.reverse, st.2))
      (fun st _ => charged_pure Prod.snd _)
    have hall := charged_bind (charged_alloc budget (n := count) (sz := ms.string) true (by unfold Bnd K; omega)) (fun _ _ => hrest)
    exact hall.mono (by omega) (by omega)

theorem dictStep_charged (all data : Bytes) (e : Endian) (st : List (Bytes × Bytes) × Nat) (i : Nat) :
    Charged (Bnd all) 0 st.2 Prod.snd (dictStep all data e st i) := by
  unfold dictStep
  split
  · exact charged_fail _ _ _
  · split
    · rename_i k _ v _ hk hv
      have h1 := readStringUtf8_size hk
      have h2 := readStringUtf8_size hv
      split
      · exact charged_fail _ _ _
      · rename_i budget hb
        rw [chargeBudget_ok hb]
        have hc : Charged (Bnd all) 0 (budget + v.size + k.size) (fun _ => budget + v.size) (M.alloc k.size 1) :=
          charged_copy _ (le_Bnd h1)
        refine (charged_bind hc (T2 := 0) (fun _ _ => ?_)).mono (by omega) (by omega)
        refine charged_bind (charged_copy budget (le_Bnd h2)) (T2 := 0) (fun _ _ => ?_)
        exact charged_pure Prod.snd _
    · exact charged_fail _ _ _

theorem readSimpleDict_charged (all : Bytes) (e : Endian) (loc : Loc) (budget : Nat) :
    Charged (Bnd all) 0 budget Prod.snd (readSimpleDict all e loc budget) :=
  crashpadHeader_charged (charged_pure Prod.snd _) fun _ _ =>
    charged_loop _ ([], budget) _ Prod.snd 0 (dictStep_charged all _ e)

theorem annotationStep_charged (all data : Bytes) (e : Endian) (st : List (Bytes × AnnotationValue) × Nat) (i : Nat) :
    Charged (Bnd all) 0 st.2 Prod.snd (annotationStep all data e st i) := by
  unfold annotationStep
  split
  · exact charged_fail _ _ _
  · split
    · exact charged_fail _ _ _
    · rename_i k _ hk
      have h1 := readStringUtf8_size hk
      split
      · exact charged_fail _ _ _
      · rename_i budget hb
        rw [chargeBudget_ok hb]
        dsimp only
        have hdone : ∀ v, Charged (Bnd all) 0 (budget + k.size) Prod.snd
            (M.alloc k.size 1 >>= fun _ => pure (dictInsert k v st.1, budget)) := fun v =>
          charged_bind (charged_copy budget (le_Bnd h1)) (T2 := 0) (fun _ _ => charged_pure Prod.snd _)
        refine charged_ite (fun _ => hdone _) fun _ => charged_ite (fun _ => ?_) fun _ =>
          charged_ite (fun _ => hdone _) fun _ => hdone _
        split
        · exact charged_fail _ _ _
        · rename_i v _ hv
          have h2 := readStringUtf8Unterminated_size hv
          split
          · exact charged_fail _ _ _
          · rename_i budget' hb'
            rw [chargeBudget_ok hb']
            have hc : Charged (Bnd all) 0 (budget' + v.size + k.size) (fun _ => budget' + k.size) (M.alloc v.size 1) :=
              (charged_copy (budget' + k.size) (le_Bnd h2)).mono (by omega) (by omega)
            refine charged_bind hc (T2 := 0) (fun _ _ => ?_)
            refine charged_bind (charged_copy budget' (le_Bnd h1)) (T2 := 0) (fun _ _ => ?_)
            exact charged_pure Prod.snd _

theorem readAnnotationObjects_charged (all : Bytes) (e : Endian) (loc : Loc) (budget : Nat) :
    Charged (Bnd all) 0 budget Prod.snd (readAnnotationObjects all e loc budget) :=
  crashpadHeader_charged (charged_pure Prod.snd _) fun _ _ =>
    charged_loop _ ([], budget) _ Prod.snd 0 (annotationStep_charged all _ e)

/-- One module's annotations: the copies are charged to a budget of `all.size` bytes, the
    `Vec<String>` costs at most `8 * all.size`. -/
theorem readModuleCrashpadInfo_charged (ms : MemSizes) (hms : ms.Bounded) (all : Bytes) (e : Endian) (index : Nat) (loc : Loc) :
    Charged (Bnd all) (8 * all.size) all.size (fun m => m.budgetLeft) (readModuleCrashpadInfo ms all e index loc) := by
  unfold readModuleCrashpadInfo
  split
  · exact charged_fail _ _ _
  · refine charged_bind (readStringList_charged ms hms all e _ all.size) (T2 := 0) (fun r1 _ => ?_)
    refine charged_bind (readSimpleDict_charged all e _ r1.2) (T2 := 0) (fun r2 _ => ?_)
    refine charged_bind (readAnnotationObjects_charged all e _ r2.2) (T2 := 0) (fun r3 _ => ?_)
    exact charged_pure (fun m : ModuleCrashpadInfo => m.budgetLeft) _

/-! the module links: no budget across modules, the requests are summed -/

theorem linkStep_charged (ms : MemSizes) (hms : ms.Bounded) (all data : Bytes) (e : Endian)
    (st : List ModuleCrashpadInfo) (i : Nat) :
    Charged (Bnd all) (9 * all.size) 0 (fun _ => 0) (linkStep ms all data e st i) := by
  unfold linkStep
  split
  · exact charged_fail _ _ _
  · exact (charged_bind (readModuleCrashpadInfo_charged ms hms all e _ _).forget (T2 := 0)
      (fun _ _ => charged_pure (fun _ => 0) _)).mono (by omega) (Nat.le_refl _)

theorem readCrashpadModuleLinks_charged (ms : MemSizes) (hms : ms.Bounded) (all : Bytes) (e : Endian) (loc : Loc) :
    Charged (Bnd all) (10 * all.size + (all.size / 12) * (9 * all.size)) 0 (fun _ => 0)
      (readCrashpadModuleLinks ms all e loc) := by
  unfold readCrashpadModuleLinks
  refine crashpadHeader_charged (charged_pure (fun _ => 0) _) (fun data count => ?_)
  split
  · exact charged_fail _ _ _
  · rename_i x hc
    have ⟨hc1, hc2⟩ := ensureCountInBound_ok hc
    rw [size_link] at hc1
    -- the vector: 12 bytes of the file per element, at most 10 times that in memory
    have hcap := alloc_bound (count := count) (wire := 12) (len := all.size) (c := 10) (by omega) hms.moduleCrashpad
    have hmul : count * (9 * all.size) ≤ (all.size / 12) * (9 * all.size) :=
      Nat.mul_le_mul_right _ (by omega)
    have hloop := charged_loop count [] (linkStep ms all data e) (fun _ => 0) (9 * all.size) (linkStep_charged ms hms all data e)
    have hrest := charged_bind hloop (T2 := 0) (f := fun st : List ModuleCrashpadInfo => pure st.reverse)
      (fun _ _ => charged_pure (fun _ => 0) _)
    exact (charged_bind (charged_alloc 0 (n := count) (sz := ms.moduleCrashpad) true (by unfold Bnd K; omega))
      (fun _ _ => hrest)).mono (by omega) (Nat.le_refl _)

theorem readCrashpadInfo_charged (ms : MemSizes) (hms : ms.Bounded) (b all : Bytes) (e : Endian) :
    Charged (Bnd all) (11 * all.size + (all.size / 12) * (9 * all.size)) 0 (fun _ => 0) (readCrashpadInfo ms b all e) := by
  unfold readCrashpadInfo
  split
  · exact charged_fail _ _ _
  · split
    · exact charged_fail _ _ _
    · refine (charged_bind (readSimpleDict_charged all e _ all.size).forget
        (T2 := 10 * all.size + (all.size / 12) * (9 * all.size)) (fun d _ => ?_)).mono (by omega) (Nat.le_refl _)
      exact charged_bind (readCrashpadModuleLinks_charged ms hms all e _) (T2 := 0) (fun _ _ => charged_pure (fun _ => 0) _)

theorem total_readModuleCrashpadInfo (ms : MemSizes) (hms : ms.Bounded) (all : Bytes) (e : Endian) (index : Nat) (loc : Loc) :
    totalBytes (readModuleCrashpadInfo ms all e index loc).allocs ≤ 9 * all.size := by
  have := (readModuleCrashpadInfo_charged ms hms all e index loc).2.total
  omega

theorem total_readCrashpadInfo (ms : MemSizes) (hms : ms.Bounded) (b all : Bytes) (e : Endian) :
    totalBytes (readCrashpadInfo ms b all e).allocs ≤ 11 * all.size + (all.size / 12) * (9 * all.size) := by
  have := (readCrashpadInfo_charged ms hms b all e).2.total
  omega

end MdModel.Dump
