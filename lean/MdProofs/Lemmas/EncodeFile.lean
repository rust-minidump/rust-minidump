/-
  The file level of C02's round trip: for ANY list of streams, `getRawStream` on
  `encodeStreams … ++ tail` returns the bytes of the last stream of the requested type. The reader's
  directory map keeps the LAST entry of a type (`mapGet_foldl`), and that entry cites the bytes of
  the last such stream wherever the stream area lies (`lastOf_dirEntries`).
-/
import MdProofs.Lemmas.Encode
import MdProofs.Lemmas.BytesLayout
namespace MdModel.Encode
open MdModel MdModel.Dump MdModel.Gen.Layouts

theorem mapGet_mapInsert {α : Type} (k k' : Nat) (v : α) (m : List (Nat × α)) :
    mapGet k (mapInsert k' v m) = if k = k' then some v else mapGet k m := by
  induction m with
  | nil => rfl
  | cons p rest ih =>
    obtain ⟨k'', v''⟩ := p
    simp only [mapInsert]
    split
    · rfl
    · split
      · next h => subst h; simp only [mapGet]; split <;> rfl
      · next h =>
        simp only [mapGet, ih]
        split
        · next hk => subst hk; rw [if_neg (Ne.symm h)]
        · rfl

def lastOf {α : Type} (ty : Nat) : List (Nat × α) → Option α
  | [] => none
  | (t, a) :: rest =>
    match lastOf ty rest with
    | some x => some x
    | none => if t = ty then some a else none

theorem lastOf_eq_lookup {α : Type} (ty : Nat) : ∀ ss : List (Nat × α), lastOf ty ss = ss.reverse.lookup ty
  | [] => rfl
  | (t, a) :: rest => by
    rw [lastOf, lastOf_eq_lookup ty rest, List.reverse_cons, List.lookup_append]
    cases rest.reverse.lookup ty with
    | some x => rfl
    | none =>
      by_cases h : t = ty
      · simp [List.lookup, h]
      · simp [List.lookup, h, beq_eq_false_iff_ne.mpr (Ne.symm h)]

theorem lastOf_append {α : Type} (ty : Nat) (xs ys : List (Nat × α)) :
    lastOf ty (xs ++ ys) = match lastOf ty ys with
      | some x => some x
      | none => lastOf ty xs := by
  rw [lastOf_eq_lookup, lastOf_eq_lookup, lastOf_eq_lookup, List.reverse_append, List.lookup_append]
  cases List.lookup ty ys.reverse <;> rfl

theorem mapGet_foldl {α : Type} (ty : Nat) (es : List (Nat × α)) (acc : List (Nat × α)) :
    mapGet ty (es.foldl (fun a p => mapInsert p.1 p.2 a) acc) =
      match lastOf ty es with
      | some x => some x
      | none => mapGet ty acc := by
  rw [List.get_foldl_set mapGet mapInsert mapGet_mapInsert, lastOf_eq_lookup]
  cases es.reverse.lookup ty <;> rfl

def dirEntries : Nat → Nat → List (Nat × List UInt8) → List (Nat × DirEntry)
  | _, _, [] => []
  | i, off, (ty, bs) :: rest => (ty, ⟨i, ⟨bs.length, off⟩⟩) :: dirEntries (i + 1) (off + bs.length) rest

def DirFits : Nat → List (Nat × List UInt8) → Prop
  | _, [] => True
  | off, (ty, bs) :: rest => ty < 2 ^ 32 ∧ bs.length < 2 ^ 32 ∧ off < 2 ^ 32 ∧ DirFits (off + bs.length) rest

@[simp] theorem encDirectory_length (e : Endian) (off : Nat) (ss : List (Nat × List UInt8)) :
    (encDirectory e off ss).length = 12 * ss.length := by
  induction ss generalizing off with
  | nil => rfl
  | cons p rest ih =>
    obtain ⟨ty, bs⟩ := p
    simp only [encDirectory, List.length_append, encFields_length, size_directory, ih, List.length_cons]
    omega

theorem readDirectory_enc {b : Bytes} {e : Endian} :
    ∀ (ss : List (Nat × List UInt8)) (i off soff : Nat) (acc : List (Nat × DirEntry)),
      DirFits soff ss → Has b.toList off (encDirectory e soff ss) →
      readDirectory b e ss.length i off acc =
        (.ok ((dirEntries i soff ss).foldl (fun a p => mapInsert p.1 p.2 a) acc), i + ss.length) := by
  intro ss
  induction ss with
  | nil => intro i off soff acc _ _; simp [readDirectory, dirEntries]
  | cons p rest ih =>
    intro i off soff acc hf h
    obtain ⟨ty, bs⟩ := p
    simp only [DirFits] at hf
    simp only [encDirectory] at h
    have hfit : Fits MINIDUMP_DIRECTORY [ty, bs.length, soff] := by
      simp only [MINIDUMP_DIRECTORY, Fits]
      refine ⟨?_, ?_, ?_, trivial⟩ <;> omega
    have h1 := readFields_has hfit h.left
    simp only [List.length_cons, readDirectory, h1]
    rw [ih (i + 1) (off + Layout.size MINIDUMP_DIRECTORY) (soff + bs.length) _ hf.2.2.2 (h.after (encFields_length ..))]
    simp only [dirEntries, List.foldl_cons, fld, List.getD_cons_zero, List.getD_cons_succ]
    congr 1
    omega

theorem lastOf_dirEntries {L : List UInt8} (ty : Nat) :
    ∀ (ss : List (Nat × List UInt8)) (i off : Nat), Has L off (streamsBytes ss) →
      match lastOf ty ss with
      | none => lastOf ty (dirEntries i off ss) = none
      | some bs => ∃ idx o, lastOf ty (dirEntries i off ss) = some ⟨idx, ⟨bs.length, o⟩⟩ ∧ Has L o bs := by
  intro ss
  induction ss with
  | nil => intro i off _; simp [lastOf, dirEntries]
  | cons p rest ih =>
    intro i off h
    obtain ⟨t, bs⟩ := p
    simp only [streamsBytes] at h
    have ih' := ih (i + 1) (off + bs.length) h.right
    simp only [lastOf, dirEntries]
    cases hl : lastOf ty rest with
    | some x =>
      rw [hl] at ih'
      obtain ⟨idx, o, h1, h2⟩ := ih'
      exact ⟨idx, o, by simp [h1], h2⟩
    | none =>
      rw [hl] at ih'
      simp only [ih']
      by_cases ht : t = ty
      · simp only [ht, if_true]
        exact ⟨i, off, rfl, h.left⟩
      · simp [ht]

/-- `Minidump::read`'s first step on an encoded header: the byte order is recovered from the
    signature, in either order -/
theorem pickHeader_enc {b : Bytes} (e : Endian) (n flags : Nat) (hn : n < 2 ^ 32) (hfl : flags < 2 ^ 64)
    (h : Has b.toList 0 (encHeader e n flags)) :
    pickHeader b = .ok (e, ⟨MINIDUMP_SIGNATURE, MINIDUMP_VERSION, n, 32, 0, HEADER_TIME, flags⟩) := by
  have hfit : Fits MINIDUMP_HEADER [MINIDUMP_SIGNATURE, MINIDUMP_VERSION, n, 32, 0, HEADER_TIME, flags] :=
    ⟨by decide, by decide, pow_256_4 ▸ hn, by decide, by decide, by decide, pow_256_8 ▸ hfl, trivial⟩
  have hrd := readFields_has hfit h
  cases e with
  | little =>
    unfold pickHeader
    simp only [hrd, Header.ofVals, fld, List.getD_cons_zero, List.getD_cons_succ, if_true]
  | big =>
    have hsz := h.size_le
    have h32 := size_header
    simp only [encHeader, encFields_length] at hsz
    -- read little-endian, the first field is the byte-swapped signature; the other six read as something
    have hsig : Has b.toList 0 (encNat .big 4 MINIDUMP_SIGNATURE ++
        encFields .big (MINIDUMP_HEADER.drop 1) [MINIDUMP_VERSION, n, 32, 0, HEADER_TIME, flags]) := h
    have hfirst : readScalar b 0 4 .little = some 1296321872 :=
      readScalar_eq_some.mpr ⟨by omega, by
        rw [show (b.extract 0 (0 + 4)).toList = encNat .big 4 MINIDUMP_SIGNATURE from hsig.left.extract]; decide⟩
    obtain ⟨vs, hvs⟩ := readFields_fits (MINIDUMP_HEADER.drop 1) b 4 .little
      (by rw [show Layout.size (MINIDUMP_HEADER.drop 1) = 28 by decide]; omega)
    have hle : readFields MINIDUMP_HEADER b 0 .little = some (1296321872 :: vs) :=
      readFields_cons_some (f := ("signature", 4)).mpr ⟨_, vs, hfirst, hvs, rfl⟩
    have h1 : ¬ ((1296321872 : Nat) = MINIDUMP_SIGNATURE) := by decide
    have h2 : swapBytes32 1296321872 = MINIDUMP_SIGNATURE := by decide
    unfold pickHeader
    simp only [hle, hrd, Header.ofVals, fld, List.getD_cons_zero, List.getD_cons_succ, h1, h2, if_false,
      ne_eq, not_true_eq_false]

@[simp] theorem encHeader_length (e : Endian) (n flags : Nat) : (encHeader e n flags).length = 32 := by
  simp only [encHeader, encFields_length, size_header]

def dirMap (ss : List (Nat × List UInt8)) : List (Nat × DirEntry) :=
  (dirEntries 0 (32 + 12 * ss.length) ss).foldl (fun a p => mapInsert p.1 p.2 a) []

def encHeaderVal (n flags : Nat) : Header := ⟨MINIDUMP_SIGNATURE, MINIDUMP_VERSION, n, 32, 0, HEADER_TIME, flags⟩

theorem encodeStreams_has {b : Bytes} {e : Endian} {flags : Nat} {ss : List (Nat × List UInt8)} {tail : List UInt8}
    (hb : b.toList = encodeStreams e flags ss ++ tail) :
    Has b.toList 0 (encHeader e ss.length flags) ∧ Has b.toList 32 (encDirectory e (32 + 12 * ss.length) ss) ∧
      Has b.toList (32 + 12 * ss.length) (streamsBytes ss) := by
  have hall : Has b.toList 0 (encHeader e ss.length flags ++ (encDirectory e (32 + 12 * ss.length) ss ++ streamsBytes ss)) :=
    ⟨[], tail, by simp [hb, encodeStreams], rfl⟩
  have hd := hall.after (encHeader_length e ss.length flags)
  exact ⟨hall.left, hd.left, by simpa [Nat.add_assoc] using hd.after (encDirectory_length e _ ss)⟩

theorem readDump_enc {b : Bytes} (e : Endian) (flags : Nat) (ss : List (Nat × List UInt8)) (tail : List UInt8)
    (hb : b.toList = encodeStreams e flags ss ++ tail)
    (hn : ss.length < 2 ^ 32) (hfl : flags < 2 ^ 64) (hdir : DirFits (32 + 12 * ss.length) ss) :
    readDump b = .ok ⟨e, encHeaderVal ss.length flags, dirMap ss, ss.length⟩ := by
  obtain ⟨hh, hd, _⟩ := encodeStreams_has hb
  have hhdr := pickHeader_enc e ss.length flags hn hfl hh
  have hrd := readDirectory_enc (b := b) (e := e) ss 0 32 (32 + 12 * ss.length) [] hdir (by simpa using hd)
  unfold readDump
  simp only [hhdr]
  have hver : ¬ (MINIDUMP_VERSION % 65536 ≠ MINIDUMP_VERSION) := by decide
  simp only [hver, if_false, hrd, Nat.zero_add]
  rfl

theorem getRawStream_enc {b : Bytes} (e : Endian) (flags : Nat) (ss : List (Nat × List UInt8)) (tail : List UInt8)
    (hb : b.toList = encodeStreams e flags ss ++ tail) (hsz : b.size < 2 ^ 32) (ty : Nat) (d : Dump)
    (hd : d.streams = dirMap ss) :
    getRawStream d b ty = match lastOf ty ss with
      | none => .error .StreamNotFound
      | some bs => .ok bs.toArray := by
  have hl := lastOf_dirEntries (L := b.toList) ty ss 0 (32 + 12 * ss.length) (encodeStreams_has hb).2.2
  unfold getRawStream
  rw [hd, dirMap, mapGet_foldl]
  cases hlast : lastOf ty ss with
  | none =>
    rw [hlast] at hl
    simp [hl, mapGet]
  | some bs =>
    rw [hlast] at hl
    obtain ⟨idx, o, h1, h2⟩ := hl
    obtain ⟨src, hs1, hs2⟩ := locationSlice_has h2 hsz
    simp only [h1, hs1]
    congr 1
    apply Array.ext'
    simpa using hs2

end MdModel.Encode
