/-
  `readMore` / `readWhole` (MdModel.DumpFull): the third group of
  readers put together. The only panic outcome of `readWhole` is the Linux-maps reader on hostile
  text; allocation bounds hold on every path (also the panicking one).
-/
import MdModel.DumpFull
import MdProofs.Lemmas.BytesMiscInfo
import MdProofs.Lemmas.BytesMaps
import MdProofs.Lemmas.BytesIds
import MdProofs.Lemmas.BytesRegs
namespace MdModel.Dump
open MdModel MdModel.Gen.Layouts MdModel.Gen.LayoutsX
open MdModel.Gen.LayoutsC02 (ST_MiscInfoStream ST_LinuxMaps)
open MdModel.Gen.MapsGuard (MAPS_GUARDED)

theorem guarded_run {α : Type} {H : Prop} {B N : Nat} {P : α → Prop} {E F : Prop} (caught : Bool) {x : M α}
    (h : RunF H B N x P E F) : RunF H B N (guarded caught x) (fun r => ∀ a, r = .ok a → P a) E (caught = false ∧ F) := by
  unfold guarded
  split
  · unfold M.catchUnwind
    cases hres : x.res with
    | ok a => exact ⟨h.cnt, fun r hr a' ha' => (by cases hr; cases ha'; exact h.ok a hres), fun _ he => (nomatch he),
        fun _ hs => (nomatch hs), h.big⟩
    | err e => exact ⟨h.cnt, fun _ hr => (nomatch hr), fun _ _ => h.err e hres, fun _ hs => (nomatch hs), h.big⟩
    | panic s => exact ⟨h.cnt, fun r hr a' ha' => (by cases hr; cases ha'), fun _ he => (nomatch he),
        fun _ hs => (nomatch hs), h.big⟩
  · rename_i hc
    exact (run_map h (Q := fun r => ∀ a, r = Except.ok a → P a) (fun a ha a' ha' => by cases ha'; exact ha)).imp id
      (fun _ hp => hp) id (fun hF => ⟨by simpa using hc, hF⟩)

theorem readMapsOutG_run {B : Nat} (g : Bool) (s : Bytes) (hB : 32 * s.size ≤ B) :
    RunF True B (4 * s.size + 6) (readMapsOutG g s)
      (fun mo => MapsWF mo.maps) True (g = false ∧ MapsHostile s.toList) := by
  unfold readMapsOutG
  exact run_bind (readLinuxMapsG_run g s hB) (C := 0) fun m hm =>
    run_bind0 ((mapsProbes_run m _).under fun _ => hm.1).calm fun _ _ => run_pure hm.1

theorem readMapsOutG_panic_iff (g : Bool) (s : Bytes) : IsPanic (readMapsOutG g s) ↔ g = false ∧ MapsHostile s.toList := by
  refine ⟨fun ⟨site, hs⟩ => (readMapsOutG_run g s (Nat.le_refl _)).panic site hs, fun h => ?_⟩
  unfold readMapsOutG
  rw [isPanic_bind]
  exact .inl ((readLinuxMapsG_panic_iff g s).mpr h)

structure ParsedOk2 (b : Bytes) (p : Parsed) : Prop where
  modules : ∀ ms, p.modules = .ok ms → (∀ m ∈ ms, ModuleOk b.size m) ∧ ms.length * 108 ≤ b.size
  memInfo : ∀ is, p.memInfo = .ok is → is.length * 48 ≤ b.size

theorem CoreOk.parsedOk2 {b : Bytes} {p : Parsed} (h : CoreOk b p.core) : ParsedOk2 b p := ⟨h.modules, h.memInfo⟩

theorem isPanic_getStream {α : Type} (d : Dump) (b : Bytes) (ty : Nat) (reader : Bytes → M α) :
    IsPanic (getStream d b ty reader) ↔ ∃ s, getRawStream d b ty = .ok s ∧ IsPanic (reader s) := by
  unfold getStream
  cases hraw : getRawStream d b ty with
  | error er =>
    simp only [reduceCtorEq, false_and, exists_false, iff_false]
    exact isPanic_pure _
  | ok s =>
    simp only [Except.ok.injEq, exists_eq_left']
    unfold M.catch' IsPanic
    cases (reader s).res <;> simp

/-- the file has a Linux-maps stream whose text makes procfs-core panic -/
def MapsStreamHostile (b : Bytes) (d : Dump) : Prop :=
  ∃ s, getRawStream d b ST_LinuxMaps = .ok s ∧ MapsHostile s.toList

def modulesRead (f : Full) : Nat :=
  match f.base.modules with
  | .ok ms => ms.length
  | .error _ => 0

theorem isPanic_guarded_false {α : Type} (x : M α) : IsPanic (guarded false x) ↔ IsPanic x := by
  unfold guarded
  simp only [Bool.false_eq_true, ↓reduceIte, isPanic_bind]
  exact or_iff_left fun ⟨_, _, hp⟩ => isPanic_pure _ hp

/-- the count: at most 4 requests for the misc info, `4 * len + 6` for the maps, one for the unified lookup table, four
    per module; the register accessors make none -/
theorem readMore_run (caught : Bool) (b : Bytes) (f : Full) (hp : ParsedOk2 b f.base) :
    RunF True (Bnd b) (4 * b.size + 11 + 4 * modulesRead f) (readMore caught b f) (fun _ => True) False
      (caught = false ∧ MAPS_GUARDED = false ∧ MapsStreamHostile b f.base.dump) := by
  have hmaps : RunF True (Bnd b) (4 * b.size + 6) (getStream f.base.dump b ST_LinuxMaps readMapsOut)
      (fun r => ∀ mo, r = .ok mo → MapsWF mo.maps) False
      (MAPS_GUARDED = false ∧ MapsStreamHostile b f.base.dump) :=
    getStream_run_at _ _ _ _ fun s hs =>
      have hsz := getRawStream_size hs
      ((readMapsOutG_run MAPS_GUARDED s (by unfold Bnd K; omega)).mono (by omega)).imp id (fun _ h => h) id
        fun h => ⟨h.1, s, hs, h.2⟩
  unfold readMore
  dsimp only
  refine RunF.mono (run_bind (A := 4) (RunF.calm (getStream_run _ _ _ _ fun s hs =>
      readMiscInfoX_run s _ (fun _ => by unfold Bnd K; omega))) fun misc _ =>
    run_bind (A := 4 * b.size + 6) (guarded_run caught hmaps) fun maps hm =>
    run_bind (A := 1) (P := fun _ => True) (by
      split
      · exact run_pure trivial
      · refine RunF.calm (run_map (unifiedOut_run _ _ fun _ => ⟨fun is his => ?_, fun m hm' => ?_⟩) (fun _ _ => trivial))
        · split at his
          · rename_i is' hmi
            cases his
            have := hp.memInfo _ hmi
            unfold Bnd K; omega
          · cases his
        · split at hm'
          · rename_i mo
            cases hm'
            exact hm _ rfl mo rfl
          · cases hm') fun _ _ =>
    run_bind (A := 4 * modulesRead f) (P := fun _ => True) (by
      unfold modulesRead
      cases hms : f.base.modules with
      | ok ms =>
        exact RunF.calm (run_map (modulesOut_run (n := b.size) _ _ ms fun _ => ⟨(hp.modules _ hms).1, by unfold Bnd K; omega⟩)
          (fun _ _ => trivial))
      | error _ => exact run_pure trivial) fun _ _ =>
    run_bind (RunF.calm (getStream_run _ _ _ _ fun s _ => readSoftErrors_run s)) fun _ _ =>
    run_bind0 (P := fun _ => True) (by
      split
      · exact RunF.calm (run_map (threadRegisters_run _ _ _ _) (fun _ _ => trivial))
      · exact run_pure trivial) fun _ _ =>
    run_bind0 (P := fun _ => True) (by
      split
      · exact RunF.calm (run_map (registersOf_run _ _ _ _) (fun _ _ => trivial))
      · exact run_pure trivial) fun _ _ => run_pure (N := 0) trivial) (by omega)

/-- the misc-info operation, which comes first, yields a value, so a panic of the maps operation is one of `readMore` -/
theorem readMore_panics_of_maps {b : Bytes} {f : Full} (h : IsPanic (getStream f.base.dump b ST_LinuxMaps readMapsOut)) :
    IsPanic (readMore false b f) := by
  have hmisc : Run True (Bnd b) 4 (getStream f.base.dump b ST_MiscInfoStream (fun s => readMiscInfoX s f.base.dump.endian))
      (fun r => ∀ a, r = .ok a → True) False :=
    getStream_run _ _ _ _ fun s hs => readMiscInfoX_run s _ (fun _ => by unfold Bnd K; omega)
  obtain ⟨misc, hres, _⟩ := hmisc.value trivial
  unfold readMore
  dsimp only
  rw [isPanic_bind]
  exact .inr ⟨misc, hres, by rw [isPanic_bind, isPanic_guarded_false]; exact .inl h⟩

theorem readMore_panic_iff (b : Bytes) (f : Full) (hp : ParsedOk2 b f.base) :
    IsPanic (readMore false b f) ↔ MAPS_GUARDED = false ∧ MapsStreamHostile b f.base.dump := by
  refine ⟨fun ⟨site, hs⟩ => ((readMore_run false b f hp).panic site hs).2, fun ⟨hg, s, hs, hh⟩ => ?_⟩
  exact readMore_panics_of_maps ((isPanic_getStream _ _ _ _).mpr ⟨s, hs, (readMapsOutG_panic_iff MAPS_GUARDED s).mpr ⟨hg, hh⟩⟩)

theorem allocsLe_of_safe {α : Type} {B : Nat} {m : M α} (h : Safe B m) : AllocsLe B m := h.2

theorem modulesRead_le {b : Bytes} {f : Full} (hp : ParsedOk2 b f.base) : 4 * modulesRead f ≤ b.size := by
  unfold modulesRead
  split
  · rename_i ms hms
    have := (hp.modules _ hms).2
    omega
  · omega

theorem readWholeWith_run (caught : Bool) (ms : MemSizes) (b : Bytes) :
    ∃ N, RunF (Sized ms b) (Bnd b) N (readWholeWith caught ms b) (fun _ => True) False
      (¬ Sized ms b ∨ (caught = false ∧ MAPS_GUARDED = false ∧ ∃ d, readDump b = .ok d ∧ MapsStreamHostile b d)) := by
  obtain ⟨N, hfull⟩ := readFull_run ms b
  unfold readWholeWith
  refine ⟨_, run_bind (hfull.imp id (fun _ h => h) id .inl) (C := 5 * b.size + 11) fun r hr => ?_⟩
  split
  · exact run_pure trivial
  · rename_i f
    have ⟨hc, hd⟩ := hr.1 f rfl
    have hp2 := hc.parsedOk2
    have hmore : RunF (Sized ms b) (Bnd b) (5 * b.size + 11) (readMore caught b f) (fun _ => True) False
        (¬ Sized ms b ∨ (caught = false ∧ MAPS_GUARDED = false ∧ ∃ d, readDump b = .ok d ∧ MapsStreamHostile b d)) :=
      ((readMore_run caught b f hp2).mono (by have := modulesRead_le hp2; omega)).imp (fun _ => trivial) (fun _ h => h) id
        (fun h => .inr ⟨h.1, h.2.1, f.base.dump, hd, h.2.2⟩)
    exact run_map hmore (fun _ _ => trivial)

/-- one way round the walk (`readWholeWith_run`) says so; the other way, every operation before the Linux-maps one
    yields a value -/
theorem readWholeWith_panic_iff (caught : Bool) (ms : MemSizes) (hms : ms.Bounded) (b : Bytes) (hsz : SliceLen b.size) :
    IsPanic (readWholeWith caught ms b) ↔
      caught = false ∧ MAPS_GUARDED = false ∧ ∃ d, readDump b = .ok d ∧ MapsStreamHostile b d := by
  refine ⟨fun ⟨site, hs⟩ => ?_, fun ⟨hc, hg, d, hd, hh⟩ => ?_⟩
  · obtain ⟨_, h⟩ := readWholeWith_run caught ms b
    exact (h.panic site hs).elim (fun hn => absurd ⟨hms, hsz⟩ hn) id
  · subst hc
    obtain ⟨_, hfull⟩ := readFull_run ms b
    obtain ⟨r, hr, hpost⟩ := hfull.value ⟨hms, hsz⟩
    unfold readWholeWith
    rw [isPanic_bind]
    refine .inr ⟨r, hr, ?_⟩
    cases r with
    | error er => rw [hpost.2 er rfl] at hd; cases hd
    | ok f =>
      have ⟨hcore, hd'⟩ := hpost.1 f rfl
      rw [hd] at hd'
      cases hd'
      simp only
      rw [isPanic_bind]
      exact .inl ((readMore_panic_iff b f hcore.parsedOk2).mpr ⟨hg, hh⟩)

theorem guarded_true_eq_false {α : Type} (x : M α) (h : ¬ IsPanic x) : guarded true x = guarded false x := by
  unfold guarded M.catchUnwind
  simp only [↓reduceIte, Bool.false_eq_true]
  rw [M.bind_def]
  unfold M.bind'
  cases hres : x.res with
  | ok a => simp [M.pure_def, M.pure']
  | err e => rfl
  | panic p => exact absurd ⟨p, hres⟩ h

theorem readMore_caught_eq (b : Bytes) (f : Full) (h : ¬ IsPanic (readMore false b f)) : readMore true b f = readMore false b f := by
  unfold readMore
  dsimp only
  rw [guarded_true_eq_false _ (fun hp => h (readMore_panics_of_maps hp))]

theorem readWholeWith_caught_eq (ms : MemSizes) (b : Bytes) (h : ¬ IsPanic (readWholeWith false ms b)) :
    readWholeWith true ms b = readWholeWith false ms b := by
  unfold readWholeWith at h ⊢
  rw [isPanic_bind] at h
  rw [M.bind_def, M.bind_def]
  unfold M.bind'
  cases hres : (readFull ms b).res with
  | panic p => rfl
  | err e => rfl
  | ok r =>
    cases r with
    | error er => rfl
    | ok f =>
      have hm : ¬ IsPanic (readMore false b f) := fun hp =>
        h (.inr ⟨.ok f, hres, by rw [isPanic_bind]; exact .inl hp⟩)
      simp only [readMore_caught_eq b f hm]

end MdModel.Dump
