/-
  `MinidumpLinuxMaps` on arbitrary bytes (MdModel.DumpMaps over C02's
  line parser in MdModel.Dump2): the reader reaches a panic outcome exactly on `MapsHostile` text,
  its outcome is the one of C02's `mapsLoop`, and every logged allocation is backed by the stream.
  A result's lookup table is the range map of its region vector (`MapsWF`), so whatever it hands out is a
  position of that vector (`TableInto`). A hostile text is a run of accepted lines followed by one
  `HostileLine` (`hostileFrom_iff_exists`). The guarded reader `readLinuxMapsG` scans the lines first and
  refuses every hostile text (`guard_sound`): it never panics, and has the values of the unguarded one.
-/
import MdModel.DumpMaps
import MdProofs.Lemmas.BytesFull
import MdProofs.Lemmas.RangeMapIdx
namespace MdModel.Dump
open MdModel

def IsPanic {α : Type} (m : M α) : Prop := ∃ s, m.res = .panic s

theorem isPanic_pure {α : Type} (a : α) : ¬ IsPanic (pure a : M α) := by intro ⟨s, h⟩; cases h
theorem isPanic_fail {α : Type} (e : Err) : ¬ IsPanic (M.fail e : M α) := by intro ⟨s, h⟩; cases h
theorem isPanic_panic {α : Type} (site : String) : IsPanic (M.panic site : M α) := ⟨site, rfl⟩

theorem isPanic_ite {α : Type} {c : Prop} [Decidable c] {a b : M α} :
    IsPanic (if c then a else b) ↔ (c ∧ IsPanic a) ∨ (¬ c ∧ IsPanic b) := by
  by_cases h : c <;> simp [h]

theorem isPanic_bind {α β : Type} (x : M α) (f : α → M β) :
    IsPanic (x >>= f) ↔ IsPanic x ∨ ∃ a, x.res = .ok a ∧ IsPanic (f a) := by
  unfold IsPanic
  rw [res_bind]
  cases x.res <;> simp

theorem res_alloc_bind {β : Type} (n sz : Nat) (ex : Bool) (f : Unit → M β) : (M.alloc n sz ex >>= f).res = (f ()).res := rfl

theorem startsWithB_eq {s p : List UInt8} (h : startsWithB s p = true) : ∃ t, s = p ++ t := by
  unfold startsWithB at h
  exact ⟨s.drop p.length, (List.prefix_iff_eq_append.mp (List.isPrefixOf_iff_prefix.mp h)).symm⟩

theorem ne_of_startsWithB {x n p : List UInt8} (hx : startsWithB x p = true) (hn : startsWithB n p = false) :
    ¬ (x == n) = true := by
  intro h
  rw [eq_of_beq h, hn] at hx
  cases hx

theorem mapPathOf_panic_iff (raw : List UInt8) : IsPanic (mapPathOf raw) ↔ HostilePath (trimBytes raw) = true := by
  unfold mapPathOf HostilePath HostileStackPath HostileSysvPath
  generalize trimBytes raw = x
  -- the chain of tests as a formula: a branch that is `pure` or `fail` contributes nothing
  simp only [isPanic_ite, isPanic_pure, isPanic_panic, and_false, and_true, or_false, false_or,
    Bool.or_eq_true, Bool.and_eq_true, decide_eq_true_eq]
  constructor
  · rintro ⟨-, -, -, -, -, -, -, ⟨hst, hl | ⟨-, hp⟩⟩ | ⟨-, -, hsv, hs | ⟨-, hc | ⟨-, hp⟩⟩⟩⟩
    · exact .inl ⟨hst, hl⟩
    · split at hp
      · exact absurd hp (isPanic_fail _)
      · split at hp
        · exact absurd hp (isPanic_fail _)
        · exact absurd hp (isPanic_pure _)
    · exact .inr ⟨hsv, .inl hs⟩
    · exact .inr ⟨hsv, .inr hc⟩
    · split at hp
      · exact absurd hp (isPanic_fail _)
      · exact absurd hp (isPanic_pure _)
  · -- none of the fixed names begins with `[stack:` or `/SYSV`, and `/SYSV…` is neither `[stack:…` nor `[…]`
    rintro (⟨hst, hl⟩ | ⟨hsv, h⟩)
    · exact ⟨ne_of_startsWithB hst rfl, ne_of_startsWithB hst rfl, ne_of_startsWithB hst rfl, ne_of_startsWithB hst rfl,
        ne_of_startsWithB hst rfl, ne_of_startsWithB hst rfl, ne_of_startsWithB hst rfl, .inl ⟨hst, .inl hl⟩⟩
    · refine ⟨ne_of_startsWithB hsv rfl, ne_of_startsWithB hsv rfl, ne_of_startsWithB hsv rfl, ne_of_startsWithB hsv rfl,
        ne_of_startsWithB hsv rfl, ne_of_startsWithB hsv rfl, ne_of_startsWithB hsv rfl, .inr ?_⟩
      obtain ⟨t, rfl⟩ := startsWithB_eq hsv
      have hst : startsWithB (S_SYSV ++ t) S_STACK_COLON = false := rfl
      have hbr : ((S_SYSV ++ t).head? == some 91) = false := rfl
      refine ⟨by rw [hst]; exact Bool.false_ne_true, by rw [hbr]; exact fun h => Bool.false_ne_true h.1, hsv, ?_⟩
      by_cases hs : (S_SYSV ++ t).length < 13
      · exact .inl hs
      · exact .inr ⟨hs, .inl (h.resolve_left hs)⟩

theorem smapsAttribute_panic_iff (line : List UInt8) : IsPanic (smapsAttribute line) ↔ HostileAttrLine line = true := by
  unfold smapsAttribute HostileAttrLine
  rw [isPanic_ite]
  rcases asciiWords line with _ | ⟨k, _ | ⟨v, _ | ⟨r, rs⟩⟩⟩
  · simp [isPanic_pure]
  · simp [isPanic_pure]
  · cases hp : parseUnsigned 10 U64MAX v <;> simp [hp, isPanic_pure, isPanic_fail]
  · cases hp : parseUnsigned 10 U64MAX v <;> simp [hp, isPanic_pure, isPanic_fail, isPanic_ite, isPanic_panic]

theorem mapEntryOfLine_eq (line : List UInt8) :
    mapEntryOfLine line =
      match mapEntryCols line with
      | none => M.fail .StreamReadFailure
      | some (h, path) => mapPathOf path >>= fun p => pure { h with path := p } := by
  unfold mapEntryOfLine mapEntryCols
  generalize splitNByte 32 6 line = cols
  rcases cols with _ | ⟨address, _ | ⟨perms, _ | ⟨offset, _ | ⟨dev, _ | ⟨inode, _ | ⟨path, _ | ⟨g, r⟩⟩⟩⟩⟩⟩⟩ <;> try rfl
  simp only
  cases splitPair 45 address with
  | none => rfl
  | some ab =>
    obtain ⟨a, b⟩ := ab
    simp only
    cases parseUnsigned 16 U64MAX a with
    | none => rfl
    | some lo =>
      cases parseUnsigned 16 U64MAX b with
      | none => rfl
      | some hi =>
        simp only
        cases parseUnsigned 16 U64MAX offset with
        | none => rfl
        | some off =>
          simp only
          cases splitPair 58 dev with
          | none => rfl
          | some dd =>
            obtain ⟨dm, dn⟩ := dd
            simp only
            cases parseI32Hex dm with
            | none => rfl
            | some maj =>
              cases parseI32Hex dn with
              | none => rfl
              | some min =>
                simp only
                cases parseUnsigned 10 U64MAX inode with
                | none => rfl
                | some ino => rfl

theorem digitsVal_le (radix maxv : Nat) : ∀ (s : List UInt8) (acc v : Nat), acc ≤ maxv →
    digitsVal radix maxv acc s = some v → v ≤ maxv := by
  intro s
  induction s with
  | nil => intro acc v ha h; simp only [digitsVal] at h; cases h; exact ha
  | cons c cs ih =>
    intro acc v ha h
    simp only [digitsVal] at h
    split at h
    · cases h
    · split at h
      · cases h
      · exact ih _ _ (by omega) h

theorem parseUnsigned_le {radix maxv : Nat} {s : List UInt8} {v : Nat} (h : parseUnsigned radix maxv s = some v) : v ≤ maxv := by
  have key : ∀ ds : List UInt8, (if ds.isEmpty = true then none else digitsVal radix maxv 0 ds) = some v → v ≤ maxv := by
    intro ds hd
    by_cases he : ds.isEmpty = true
    · rw [if_pos he] at hd; cases hd
    · rw [if_neg he] at hd; exact digitsVal_le _ _ _ _ _ (Nat.zero_le _) hd
  exact key _ h

theorem splitNByte_length_le (c : UInt8) : ∀ (n : Nat) (s : List UInt8), (splitNByte c n s).length ≤ s.length + 1 := by
  intro n s
  induction s generalizing n with
  | nil =>
    match n with
    | 0 | 1 | _ + 2 => simp [splitNByte]
  | cons x xs ih =>
    match n with
    | 0 | 1 => simp [splitNByte]
    | n + 2 =>
      simp only [splitNByte]
      split
      · have := ih (n + 1); simp only [List.length_cons]; omega
      · have := ih (n + 2)
        split
        · simp
        · rename_i p ps hp; rw [hp] at this; simp only [List.length_cons] at this ⊢; omega

theorem mapEntryCols_some {line : List UInt8} {h : MapEntry} {path : List UInt8} (hc : mapEntryCols line = some (h, path)) :
    (splitNByte 32 6 line)[5]? = some path ∧ 5 ≤ line.length ∧ h.hi ≤ U64MAX := by
  unfold mapEntryCols at hc
  have hlen := splitNByte_length_le 32 6 line
  generalize splitNByte 32 6 line = cols at hc hlen
  rcases cols with _ | ⟨address, _ | ⟨perms, _ | ⟨offset, _ | ⟨dev, _ | ⟨inode, _ | ⟨path', _ | ⟨g, r⟩⟩⟩⟩⟩⟩⟩ <;> try cases hc
  simp only [List.length_cons, List.length_nil] at hlen
  simp only at hc
  split at hc
  · cases hc
  · split at hc
    · rename_i lo hi hlo hhi
      split at hc
      · cases hc
      · split at hc
        · cases hc
        · split at hc
          · split at hc
            · cases hc
            · cases hc; exact ⟨rfl, by omega, parseUnsigned_le hhi⟩
          · cases hc
    · cases hc

def linesWeight (ls : List (List UInt8)) : Nat := (ls.map List.length).sum + ls.length

theorem linesWeight_nil : linesWeight [] = 0 := rfl
theorem linesWeight_cons (l : List UInt8) (ls : List (List UInt8)) : linesWeight (l :: ls) = l.length + 1 + linesWeight ls := by
  simp [linesWeight]; omega
theorem linesWeight_append (xs ys : List (List UInt8)) : linesWeight (xs ++ ys) = linesWeight xs + linesWeight ys := by
  simp [linesWeight]; omega

theorem splitOnByte_ne_nil (c : UInt8) : ∀ s : List UInt8, splitOnByte c s ≠ [] := by
  intro s
  induction s with
  | nil => simp [splitOnByte]
  | cons x xs ih =>
    simp only [splitOnByte]
    split
    · simp
    · split <;> simp

theorem splitOnByte_weight (c : UInt8) : ∀ s : List UInt8, linesWeight (splitOnByte c s) = s.length + 1 := by
  intro s
  induction s with
  | nil => simp [splitOnByte, linesWeight]
  | cons x xs ih =>
    simp only [splitOnByte]
    split
    · rw [linesWeight_cons, ih]; simp; omega
    · split
      · rename_i h; exact absurd h (splitOnByte_ne_nil c xs)
      · rename_i p ps hp
        rw [hp, linesWeight_cons] at ih
        rw [linesWeight_cons]
        simp only [List.length_cons]
        omega

theorem linesWeight_map_le (f : List UInt8 → List UInt8) (hf : ∀ l, (f l).length ≤ l.length) :
    ∀ ls : List (List UInt8), linesWeight (ls.map f) ≤ linesWeight ls := by
  intro ls
  induction ls with
  | nil => simp [linesWeight]
  | cons l ls ih =>
    rw [List.map_cons, linesWeight_cons, linesWeight_cons]
    have := hf l
    omega

theorem textLines_weight (s : List UInt8) : linesWeight (textLines s) ≤ s.length + 1 := by
  unfold textLines
  have hw := splitOnByte_weight 10 s
  have hne := splitOnByte_ne_nil 10 s
  generalize splitOnByte 10 s = pieces at hw hne
  have hsplit : pieces = pieces.dropLast ++ [pieces.getLast hne] := (List.dropLast_concat_getLast hne).symm
  have hlast : pieces.getLast? = some (pieces.getLast hne) := List.getLast?_eq_some_getLast hne
  have hstrip : ∀ l : List UInt8, (if (l.getLast? == some 13) = true then l.dropLast else l).length ≤ l.length := by
    intro l; split
    · simp
    · exact Nat.le_refl _
  have hterm := linesWeight_map_le (fun l : List UInt8 => if (l.getLast? == some 13) = true then l.dropLast else l) hstrip pieces.dropLast
  -- the pieces weigh `s.length + 1` together (`hw`); stripping a CR only shrinks the terminated ones (`hterm`), and
  -- the last one is kept as it is or, when empty, dropped
  rw [hsplit, linesWeight_append, linesWeight_cons, linesWeight_nil] at hw
  simp only [hlast]
  split
  · omega
  · rename_i l hl heq
    cases heq
    rw [linesWeight_append, linesWeight_cons, linesWeight_nil]
    omega
  · rename_i h; cases h

theorem mem_linesWeight {l : List UInt8} {ls : List (List UInt8)} (h : l ∈ ls) : l.length + 1 ≤ linesWeight ls := by
  induction ls with
  | nil => cases h
  | cons x xs ih =>
    rw [linesWeight_cons]
    cases List.mem_cons.mp h with
    | inl heq => subst heq; omega
    | inr hmem => have := ih hmem; omega

theorem textLines_bytes (b : Bytes) :
    linesWeight (textLines b.toList) ≤ b.size + 1 ∧ (textLines b.toList).length ≤ b.size + 1 ∧
      ∀ l ∈ textLines b.toList, l.length ≤ b.size := by
  have hw := textLines_weight b.toList
  simp only [Array.length_toList] at hw
  refine ⟨hw, ?_, fun l hl => ?_⟩
  · unfold linesWeight at hw
    omega
  · have := mem_linesWeight hl
    omega

/-- what the loop makes of one line in state `cur`: the new state and the entries to push, an error, or a panic -/
def lineRes (cur : Bool) (line : List UInt8) : Res (Bool × List MapEntry) :=
  if !utf8Valid line then .err .StreamReadFailure
  else if startsUpper line then
    if !cur then .err .StreamReadFailure
    else
      match (smapsAttribute line).res with
      | .ok _ => .ok (cur, [])
      | .err e => .err e
      | .panic s => .panic s
  else
    match (mapEntryOfLine line).res with
    | .ok en => .ok (true, [en])
    | .err e => .err e
    | .panic s => .panic s

/-- Everything the loop-level theorems need of ONE line, by outcome: the model's three other views of the step
    (`HostileLine`: it panics; `lineAccepted`: it goes on; `guardLineBad`: the guard's relaxation of `HostileLine`,
    which looks at the sixth column whatever the first five hold) and what an accepted line pushes. -/
theorem lineRes_spec (cur : Bool) (l : List UInt8) :
    match lineRes cur l with
    | .panic _ => HostileLine cur l = true ∧ lineAccepted cur l = none ∧ utf8Valid l = true ∧ guardLineBad l = true
    | .err _ => HostileLine cur l = false ∧ lineAccepted cur l = none
    | .ok (c, es) => HostileLine cur l = false ∧ lineAccepted cur l = some c ∧ utf8Valid l = true ∧ guardLineBad l = false ∧
        es.length * 6 ≤ l.length + 1 ∧ ∀ x ∈ es, x.hi ≤ U64MAX := by
  unfold lineRes HostileLine lineAccepted guardLineBad
  cases hu : utf8Valid l with
  | false => simp
  | true =>
    simp only [Bool.not_true, Bool.false_eq_true, ↓reduceIte, Bool.true_and]
    by_cases hup : startsUpper l = true
    · simp only [hup, ↓reduceIte]
      cases cur with
      | false => simp
      | true =>
        -- an attribute line: all three views ask whether `smapsAttribute` panics
        have hp := smapsAttribute_panic_iff l
        unfold IsPanic at hp
        cases hr : (smapsAttribute l).res <;> simpa [hr] using hp
    · simp only [hup, Bool.false_eq_true, ↓reduceIte]
      rw [mapEntryOfLine_eq]
      cases hc : mapEntryCols l with
      | none => simp [M.fail]
      | some hp =>
        -- an entry line whose five columns parse: the sixth column is the path, and only `mapPathOf` can panic
        obtain ⟨h, path⟩ := hp
        have ⟨h5, hlen, hhi⟩ := mapEntryCols_some hc
        have hp := mapPathOf_panic_iff path
        unfold IsPanic at hp
        simp only [h5]
        rw [res_bind]
        cases hr : (mapPathOf path).res with
        | ok p =>
          have hf : HostilePath (trimBytes path) = false := by simpa [hr] using hp
          simp only [M.pure_def, M.pure']
          exact ⟨hf, trivial, trivial, hf, by simp only [List.length_cons, List.length_nil]; omega, fun x hx => by
            cases List.mem_singleton.mp hx; exact hhi⟩
        | err _ => simpa [hr] using hp
        | panic _ => simpa [hr] using hp

theorem mapsLoopX_cons_res (line : List UInt8) (rest : List (List UInt8)) (cur : Bool) (acc : List MapEntry) :
    (mapsLoopX (line :: rest) cur acc).res =
      match lineRes cur line with
      | .ok (c, es) => (mapsLoopX rest c (es ++ acc)).res
      | .err e => .err e
      | .panic s => .panic s := by
  rw [mapsLoopX, res_alloc_bind]
  unfold lineRes
  split
  · rfl
  · split
    · split
      · rfl
      · rw [res_alloc_bind, res_alloc_bind, res_bind]
        cases (smapsAttribute line).res <;> rfl
    · rw [res_bind]
      cases (mapEntryOfLine line).res <;> rfl

/-- the outcome of the logged loop is the outcome of C02's `mapsLoop` (the allocation log is the only
    difference): C02's round-trip theorems speak about the same reader -/
theorem mapsLoopX_res : ∀ (ls : List (List UInt8)) (cur : Bool) (acc : List MapEntry),
    (mapsLoopX ls cur acc).res = (mapsLoop ls cur acc).res := by
  intro ls
  induction ls with
  | nil => intro cur acc; rfl
  | cons line rest ih =>
    intro cur acc
    rw [mapsLoopX, mapsLoop, res_alloc_bind]
    unfold startsUpper
    -- the same tests, the same line parser, and an outcome does not see the log
    split
    · rfl
    · split
      · split
        · rfl
        · rw [res_alloc_bind, res_alloc_bind, res_bind, res_bind]
          simp only [ih]
      · rw [res_bind, res_bind]
        simp only [ih]

/-- The loop stops at the first line that is not accepted, so every fact about its outcome is the line's fact there:
    a panic is `hostileFrom`, and the guard refuses such a text; a value means no hostile line, a text the guard
    admits, and entries backed by the lines: 6 bytes each (five blanks and a terminator). -/
theorem mapsLoopX_spec : ∀ (ls : List (List UInt8)) (cur : Bool) (acc : List MapEntry),
    match (mapsLoopX ls cur acc).res with
    | .panic _ => hostileFrom ls cur = true ∧ mapsGuardOk ls = false
    | .err _ => hostileFrom ls cur = false
    | .ok es => hostileFrom ls cur = false ∧ mapsGuardOk ls = true ∧
        es.length * 6 ≤ acc.length * 6 + linesWeight ls ∧ ((∀ x ∈ acc, x.hi ≤ U64MAX) → ∀ x ∈ es, x.hi ≤ U64MAX) := by
  intro ls
  induction ls with
  | nil =>
    intro cur acc
    simp only [mapsLoopX, hostileFrom, mapsGuardOk, M.pure_def, M.pure']
    exact ⟨trivial, trivial, by simp [linesWeight], fun ha x hx => ha x (List.mem_reverse.mp hx)⟩
  | cons l rest ih =>
    intro cur acc
    have hl := lineRes_spec cur l
    rw [mapsLoopX_cons_res]
    unfold hostileFrom mapsGuardOk
    cases hr : lineRes cur l with
    | panic s =>
      rw [hr] at hl
      obtain ⟨hH, _, hu, hb⟩ := hl
      simp [hH, hu, hb]
    | err e =>
      rw [hr] at hl
      simp [hl.1, hl.2]
    | ok r =>
      obtain ⟨c, new⟩ := r
      rw [hr] at hl
      obtain ⟨hH, ha, hu, hb, hcount, hhi⟩ := hl
      have := ih c (new ++ acc)
      simp only [hH, ha, hu, hb, Bool.false_eq_true, ↓reduceIte, Bool.not_true]
      cases hrest : (mapsLoopX rest c (new ++ acc)).res with
      | panic s => rw [hrest] at this; exact this
      | err e => rw [hrest] at this; exact this
      | ok es =>
        rw [hrest] at this
        obtain ⟨h1, h2, h3, h4⟩ := this
        rw [linesWeight_cons]
        refine ⟨h1, h2, by simp only [List.length_append] at h3; omega, fun hacc => h4 fun x hx => ?_⟩
        exact (List.mem_append.mp hx).elim (hhi x) (hacc x)

theorem guard_sound (ls : List (List UInt8)) (cur : Bool) (h : hostileFrom ls cur = true) : mapsGuardOk ls = false := by
  have hs := mapsLoopX_spec ls cur []
  split at hs
  · exact hs.2
  · rw [hs] at h; cases h
  · rw [hs.1] at h; cases h

theorem allocs_optMatch_nil {α β : Type} (o : Option β) {x : M α} {f : β → M α} (hx : x.allocs = [])
    (hf : ∀ b, (f b).allocs = []) :
    (match o with
     | none => x
     | some b => f b).allocs = [] := by
  cases o with
  | none => exact hx
  | some b => exact hf b

/-! the line parsers log nothing (they may fail and panic: `E` and `F` are `True`) -/

theorem smapsAttribute_run {H : Prop} {B : Nat} (line : List UInt8) : RunF H B 0 (smapsAttribute line) (fun _ => True) True True := by
  unfold smapsAttribute
  refine run_ite (fun _ => run_pure trivial) fun _ => ?_
  split
  · split
    · exact run_fail _ trivial
    · exact run_ite (fun _ => run_panic _ trivial) (fun _ => run_pure trivial)
  · exact run_pure trivial

theorem mapPathOf_run {H : Prop} {B : Nat} (raw : List UInt8) : RunF H B 0 (mapPathOf raw) (fun _ => True) True True := by
  unfold mapPathOf
  dsimp only
  have hp {a : MapPath} : RunF H B 0 (pure a) (fun _ => True) True True := run_pure trivial
  refine run_ite (fun _ => hp) fun _ => run_ite (fun _ => hp) fun _ => run_ite (fun _ => hp) fun _ => run_ite (fun _ => hp) fun _ =>
    run_ite (fun _ => hp) fun _ => run_ite (fun _ => hp) fun _ => run_ite (fun _ => hp) fun _ =>
    run_ite (fun _ => run_ite (fun _ => run_panic _ trivial) fun _ => ?_) fun _ => run_ite (fun _ => hp) fun _ =>
    run_ite (fun _ => run_ite (fun _ => run_panic _ trivial) fun _ => run_ite (fun _ => run_panic _ trivial) fun _ => ?_) fun _ => hp
  · split
    · exact run_fail _ trivial
    · split
      · exact run_fail _ trivial
      · exact hp
  · split
    · exact run_fail _ trivial
    · exact hp

theorem mapEntryOfLine_run {H : Prop} {B : Nat} (line : List UInt8) :
    RunF H B 0 (mapEntryOfLine line) (fun _ => 5 ≤ line.length) True True := by
  rw [mapEntryOfLine_eq]
  split
  · exact run_fail _ trivial
  · rename_i hc
    exact run_bind0 (mapPathOf_run _) fun _ _ => run_pure (mapEntryCols_some hc).2.1

/-- The loop's log: per line its `String`, per attribute line a key and a hash-map slot — all backed by the lines
    themselves; three allocations a line at most. Its outcome is `mapsLoopX_spec`'s. -/
theorem mapsLoopX_run {B : Nat} (ls : List (List UInt8)) (cur : Bool) (acc : List MapEntry)
    (hl : ∀ l ∈ ls, 2 * l.length ≤ B) (hc : cur = true → SMAPS_SLOT ≤ B) (h5 : ∀ l ∈ ls, 5 ≤ l.length → SMAPS_SLOT ≤ B) :
    RunF True B (3 * ls.length) (mapsLoopX ls cur acc)
      (fun es => hostileFrom ls cur = false ∧ mapsGuardOk ls = true ∧
        es.length * 6 ≤ acc.length * 6 + linesWeight ls ∧ ((∀ x ∈ acc, x.hi ≤ U64MAX) → ∀ x ∈ es, x.hi ≤ U64MAX))
      True (hostileFrom ls cur = true ∧ mapsGuardOk ls = false) := by
  have hlog : RunF True B (3 * ls.length) (mapsLoopX ls cur acc) (fun _ => True) True True := by
    induction ls generalizing cur acc with
    | nil => exact run_pure trivial
    | cons line rest ih =>
      have hline := hl line List.mem_cons_self
      have hl' : ∀ l ∈ rest, 2 * l.length ≤ B := fun l h => hl l (List.mem_cons_of_mem _ h)
      have h5' : ∀ l ∈ rest, 5 ≤ l.length → SMAPS_SLOT ≤ B := fun l h => h5 l (List.mem_cons_of_mem _ h)
      unfold mapsLoopX
      refine (run_bind (run_alloc (fun _ => by omega)) (C := 2 + 3 * rest.length) (fun _ _ => ?_)).mono
        (by simp only [List.length_cons]; omega)
      refine run_ite (fun _ => run_fail _ trivial) fun _ => run_ite (fun _ => ?_) fun _ => ?_
      · refine run_ite (fun _ => run_fail _ trivial) fun hcur => ?_
        have hcur' : cur = true := by simpa using hcur
        exact (run_bind (run_alloc (fun _ => by omega)) fun _ _ =>
          run_bind (run_alloc (fun _ => by have := hc hcur'; omega)) fun _ _ =>
          run_bind0 (smapsAttribute_run line) fun _ _ => ih cur acc hl' hc h5').mono (by omega)
      · refine (run_bind0 (mapEntryOfLine_run line) (N := 3 * rest.length) (fun en h5line => ?_)).mono (by omega)
        exact ih true (en :: acc) hl' (fun _ => h5 line List.mem_cons_self h5line) h5'
  have hs := mapsLoopX_spec ls cur acc
  exact ⟨hlog.cnt, fun es h => by rw [h] at hs; exact hs, fun _ _ => trivial, fun s h => by rw [h] at hs; exact hs, hlog.big⟩

theorem mapsInput_wf (es : List MapEntry) (h : ∀ x ∈ es, x.hi ≤ U64MAX) :
    RangeMap.InputWF (es.zipIdx.map fun (x, i) => (RangeMap.mkRangeMap x.lo x.hi, i)) :=
  RangeMap.idx_wf (rng := fun x : MapEntry => RangeMap.mkRangeMap x.lo x.hi) fun x hx _ hr =>
    RangeMap.mkRangeMap_wf (h x hx) hr

def MapsWF (m : LinuxMapsX) : Prop :=
  m.table = RangeMap.safeVec (m.entries.zipIdx.map fun (x, i) => (RangeMap.mkRangeMap x.lo x.hi, i))

/-- every value the lookup table can hand out is a position of its `n`-element region vector -/
def TableInto (table : List RangeMap.Entry) (n : Nat) : Prop :=
  (∀ a i, RangeMap.get table a = some i → i < n) ∧ ∀ en ∈ table, en.2 < n

theorem table_into {xs : List (Option RangeMap.Rng × RangeMap.Val)} {n : Nat} (hval : ∀ r i, (some r, i) ∈ xs → i < n) :
    TableInto (RangeMap.safeVec xs) n :=
  ⟨fun a i h => let ⟨r, hr, _⟩ := RangeMap.get_sound _ a i h; hval r i hr,
   fun en hen => let ⟨r, hr, _⟩ := RangeMap.mem_safeVec_src hen; hval r en.2 hr⟩

theorem MapsWF.into {m : LinuxMapsX} (h : MapsWF m) : TableInto m.table m.entries.length := by
  rw [show m.table = _ from h]
  exact table_into fun _ _ hr => RangeMap.idx_val_lt (rng := fun x : MapEntry => RangeMap.mkRangeMap x.lo x.hi) hr

theorem mapsFromRegions_run {H : Prop} {B : Nat} {E F : Prop} (es : List MapEntry) (h : ∀ x ∈ es, x.hi ≤ U64MAX)
    (hB : H → es.length * 32 ≤ B) : RunF H B 1 (mapsFromRegions es) (fun t => MapsWF ⟨es, t⟩) E F := by
  unfold mapsFromRegions
  rw [RangeMap.safe_ok _ (mapsInput_wf es h)]
  exact run_bind (run_alloc hB) (C := 0) fun _ _ => run_pure rfl

theorem mapsInfoAt_run {B : Nat} {E : Prop} (m : LinuxMapsX) (a : Nat) :
    Run (MapsWF m) B 0 (mapsInfoAt m a) (fun _ => True) E := by
  unfold mapsInfoAt
  split
  · exact run_pure trivial
  · rename_i i hi
    split
    · exact run_pure trivial
    · rename_i hnone
      refine run_panic _ fun hm => ?_
      rw [List.getElem?_eq_getElem (hm.into.1 a i hi)] at hnone
      cases hnone

theorem mapsProbes_run {B : Nat} {E : Prop} (m : LinuxMapsX) (as : List Nat) :
    Run (MapsWF m) B 0 (mapsProbes m as) (fun _ => True) E :=
  run_mapM (mapsProbes m) (h := fun a r => (a, r)) rfl (fun _ _ => rfl) as fun a _ => mapsInfoAt_run m a

/-- the reader's outcome is the loop's, with the lookup table added to a result: `from_regions` cannot
    fail on entries that were read -/
theorem readLinuxMapsX_res (b : Bytes) :
    (readLinuxMapsX b).res =
      match (mapsLoopX (textLines b.toList) false []).res with
      | .ok es => .ok ⟨es, RangeMap.safeVec (es.zipIdx.map fun (x, i) => (RangeMap.mkRangeMap x.lo x.hi, i))⟩
      | .err e => .err e
      | .panic s => .panic s := by
  unfold readLinuxMapsX
  rw [res_bind]
  cases hres : (mapsLoopX (textLines b.toList) false []).res with
  | ok es =>
    have hs := mapsLoopX_spec (textLines b.toList) false []
    rw [hres] at hs
    have hhi := hs.2.2.2 (fun x hx => by cases hx)
    show (M.alloc es.length MAPINFO_SZ false >>= fun _ => mapsFromRegions es >>= fun t => (pure ⟨es, t⟩ : M LinuxMapsX)).res = _
    obtain ⟨t, ht, hwf⟩ := RunF.value (mapsFromRegions_run es hhi fun _ => Nat.le_refl _) trivial
    rw [res_alloc_bind, res_bind_ok ht]
    exact congrArg (fun t => Res.ok (LinuxMapsX.mk es t)) hwf
  | err e => rfl
  | panic p => rfl

theorem readLinuxMapsX_panic_iff (b : Bytes) : IsPanic (readLinuxMapsX b) ↔ MapsHostile b.toList := by
  have hs := mapsLoopX_spec (textLines b.toList) false []
  unfold MapsHostile IsPanic
  rw [readLinuxMapsX_res]
  cases hr : (mapsLoopX (textLines b.toList) false []).res <;> rw [hr] at hs <;> simp [hs]

/-- Each request is backed by the stream on every path, the panicking one included: a line's `String`, the entry
    vector (an entry needs five blanks and a line terminator), the lookup table. -/
theorem readLinuxMapsX_run {B : Nat} (b : Bytes) (hB : 32 * b.size ≤ B) :
    RunF True B (3 * b.size + 5) (readLinuxMapsX b)
      (fun m => MapsWF m ∧ m.entries.length * 6 ≤ b.size + 1 ∧
        mapsGuardOk (textLines b.toList) = true)
      True (MapsHostile b.toList ∧ mapsGuardOk (textLines b.toList) = false) := by
  have ⟨hw, hl, hline⟩ := textLines_bytes b
  have hloop := mapsLoopX_run (B := B) (textLines b.toList) false []
    (fun l hl => by have := hline l hl; omega) (fun h => by cases h)
    (fun l hl h5 => by have := hline l hl; unfold SMAPS_SLOT; omega)
  unfold readLinuxMapsX
  refine (run_bind hloop (C := 1 + (1 + 0)) fun es ⟨_, hg, hcount, hhi⟩ => ?_).mono (by omega)
  simp only [List.length_nil, Nat.zero_mul, Nat.zero_add] at hcount
  have hhi := hhi (fun x hx => by cases hx)
  refine run_bind (run_alloc (fun _ => by unfold MAPINFO_SZ; omega)) fun _ _ => ?_
  exact run_bind (mapsFromRegions_run es hhi (fun _ => by omega)) fun t ht =>
    run_pure ⟨ht, by simp only; omega, hg⟩

/-- the parser state after a run of accepted lines (`none`: some line is not accepted) -/
def acceptedRun : List (List UInt8) → Bool → Option Bool
  | [], cur => some cur
  | l :: rest, cur =>
    match lineAccepted cur l with
    | some cur' => acceptedRun rest cur'
    | none => none

theorem hostile_not_accepted (cur : Bool) (l : List UInt8) (h : HostileLine cur l = true) : lineAccepted cur l = none := by
  have hl := lineRes_spec cur l
  split at hl
  · exact hl.2.1
  · exact hl.2
  · rw [hl.1] at h; cases h

theorem hostileFrom_of_run {l : List UInt8} {post : List (List UInt8)} : ∀ (pre : List (List UInt8)) (cur cur' : Bool),
    acceptedRun pre cur = some cur' → HostileLine cur' l = true → hostileFrom (pre ++ l :: post) cur = true := by
  intro pre
  induction pre with
  | nil =>
    intro cur cur' hrun hl
    cases hrun
    simp only [List.nil_append, hostileFrom, hl, ↓reduceIte]
  | cons x xs ih =>
    intro cur cur' hrun hl
    unfold acceptedRun at hrun
    cases hacc : lineAccepted cur x with
    | none => rw [hacc] at hrun; cases hrun
    | some c =>
      rw [hacc] at hrun
      -- an accepted line is not hostile, so the scan goes on behind it
      have hx : HostileLine cur x = false := Bool.eq_false_iff.mpr fun hh => by
        rw [hostile_not_accepted cur x hh] at hacc
        cases hacc
      simp only [List.cons_append, hostileFrom, hx, hacc, Bool.false_eq_true, ↓reduceIte]
      exact ih c cur' hrun hl

theorem hostileFrom_iff_exists (ls : List (List UInt8)) (cur : Bool) :
    hostileFrom ls cur = true ↔
      ∃ pre l post cur', ls = pre ++ l :: post ∧ acceptedRun pre cur = some cur' ∧ HostileLine cur' l = true := by
  refine ⟨?_, fun ⟨pre, l, post, cur', heq, hrun, hl⟩ => heq ▸ hostileFrom_of_run pre cur cur' hrun hl⟩
  induction ls generalizing cur with
  | nil => intro h; cases h
  | cons x rest ih =>
    intro h
    unfold hostileFrom at h
    by_cases hh : HostileLine cur x = true
    · exact ⟨[], x, rest, cur, rfl, rfl, hh⟩
    · rw [if_neg hh] at h
      cases hacc : lineAccepted cur x with
      | none => rw [hacc] at h; cases h
      | some c =>
        rw [hacc] at h
        obtain ⟨pre, l, post, cur', heq, hrun, hl⟩ := ih c h
        exact ⟨x :: pre, l, post, cur', by rw [heq]; rfl, by simp only [acceptedRun, hacc]; exact hrun, hl⟩

theorem mapsGuard_run {H : Prop} {B : Nat} {E F : Prop} (ls : List (List UInt8)) (hH : H → ∀ l ∈ ls, 2 * l.length ≤ B) :
    RunF H B ls.length (mapsGuard ls) (· = mapsGuardOk ls) E F := by
  induction ls with
  | nil => exact run_pure rfl
  | cons l rest ih =>
    unfold mapsGuard mapsGuardOk
    refine (run_bind (run_alloc (fun h => by have := hH h l List.mem_cons_self; omega)) (C := rest.length) (fun _ _ => ?_)).mono
      (by simp only [List.length_cons]; omega)
    split
    · exact run_pure rfl
    · split
      · exact run_pure rfl
      · exact ih (fun h x hx => hH h x (List.mem_cons_of_mem _ hx))

theorem mapsGuard_res (ls : List (List UInt8)) : (mapsGuard ls).res = .ok (mapsGuardOk ls) := by
  have h := mapsGuard_run (H := False) (B := 0) (E := False) (F := False) ls False.elim
  cases hr : (mapsGuard ls).res with
  | ok a => rw [h.ok a hr]
  | err e => exact (h.err e hr).elim
  | panic s => exact (h.panic s hr).elim

theorem readLinuxMapsG_res (g : Bool) (b : Bytes) :
    (readLinuxMapsG g b).res =
      if g && !mapsGuardOk (textLines b.toList) then .err .StreamReadFailure else (readLinuxMapsX b).res := by
  unfold readLinuxMapsG
  cases g with
  | false => rfl
  | true =>
    rw [if_pos rfl, res_bind_ok (mapsGuard_res _)]
    cases mapsGuardOk (textLines b.toList) <;> rfl

theorem readLinuxMapsG_run {B : Nat} (g : Bool) (b : Bytes) (hB : 32 * b.size ≤ B) :
    RunF True B (4 * b.size + 6) (readLinuxMapsG g b)
      (fun m => MapsWF m ∧ m.entries.length * 6 ≤ b.size + 1 ∧
        mapsGuardOk (textLines b.toList) = true)
      True (g = false ∧ MapsHostile b.toList) := by
  have hx := readLinuxMapsX_run b hB
  unfold readLinuxMapsG
  cases g with
  | false => exact (hx.imp id (fun _ h => h) id (fun h => ⟨rfl, h.1⟩)).mono (by omega)
  | true =>
    have ⟨_, hl, hline⟩ := textLines_bytes b
    rw [if_pos rfl]
    refine (run_bind (mapsGuard_run _ (fun _ l hl => by have := hline l hl; omega)) (C := 3 * b.size + 5)
      (fun ok hok => ?_)).mono (by omega)
    -- behind the guard a panic would be the unguarded reader's, on a text the guard has let through
    exact run_ite (fun h => hx.imp id (fun _ h => h) id (fun hF => by rw [hok, hF.2] at h; cases h))
      (fun _ => run_fail _ trivial)

theorem readLinuxMapsG_panic_iff (guarded : Bool) (b : Bytes) :
    IsPanic (readLinuxMapsG guarded b) ↔ guarded = false ∧ MapsHostile b.toList :=
  ⟨fun ⟨s, hs⟩ => (readLinuxMapsG_run guarded b (Nat.le_refl _)).panic s hs, fun ⟨hg, h⟩ => by
    subst hg; exact (readLinuxMapsX_panic_iff b).mpr h⟩

theorem readLinuxMapsG_true_ok_iff (b : Bytes) (m : LinuxMapsX) :
    (readLinuxMapsG true b).res = .ok m ↔ (readLinuxMapsX b).res = .ok m := by
  rw [readLinuxMapsG_res]
  cases hg : mapsGuardOk (textLines b.toList) with
  | true => exact Iff.rfl
  | false => exact ⟨fun h => (nomatch h), fun h => by rw [((readLinuxMapsX_run b (Nat.le_refl _)).ok m h).2.2] at hg; cases hg⟩

end MdModel.Dump
