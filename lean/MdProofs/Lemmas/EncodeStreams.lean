/-
  C02: what the per-stream round trips share, and the first of them. The two list readers are done
  once for any layout: `read_stream_list` (with and without the 4 bytes of padding) and
  `read_ex_stream_list`; the UTF-16 string reads back for any Unicode scalar values. Of the
  streams: the memory-info list, the thread list and the two memory lists, with the out-of-band data
  (contexts, stacks, memory) placed at the offsets the records cite.
-/
import MdProofs.Lemmas.Encode
import MdProofs.Lemmas.BytesLayout
namespace MdModel.Encode
open MdModel MdModel.Dump MdModel.Gen.Layouts

theorem readStreamList_enc {l : Layout} {memSz n : Nat} {s : Bytes} {e : Endian} {pad : Bool} {recs : List (List Nat)}
    (hs : s.toList = listHeader e pad n ++ encRecords e l recs) (hn : recs.length = n)
    (hf : ∀ r ∈ recs, Fits l r) (hl : 0 < Layout.size l) (hsz : s.size < 2 ^ 32) :
    (readStreamList l memSz s e).res = .ok recs := by
  subst hn
  have hhdr : (listHeader e pad recs.length).length = listHeaderSize pad := by
    cases pad <;> simp [listHeader, listHeaderSize]
  have hlen : s.size = listHeaderSize pad + recs.length * Layout.size l := by
    have := congrArg List.length hs
    simpa [hhdr] using this
  have h4 : listHeaderSize pad = 4 + (if pad then 4 else 0) := by cases pad <;> rfl
  -- the count fits a u32 because the records it counts lie inside the stream
  have hcnt := Nat.le_mul_of_pos_right recs.length hl
  have hread : readU32 s 0 e = some recs.length :=
    readScalar_has (Has.prefix0 (by rw [hs, listHeader, List.append_assoc])) (by omega)
  have hent : readEntries l s e (listHeaderSize pad) recs.length = some recs :=
    readEntries_has hf ⟨_, [], by rw [hs, List.append_nil], hhdr⟩
  -- after the count and the records nothing is left, or the 4 bytes of padding: either way the records start after the header
  have hoff : ((if s.size - (recs.length * Layout.size l + 4) = 0 then pure 4
      else if s.size - (recs.length * Layout.size l + 4) = 4 then usizeAdd "read_stream_list: *offset += 4" 4 4
      else M.fail .StreamSizeMismatch : M Nat)).res = .ok (listHeaderSize pad) := by
    cases pad
    · rw [if_pos (by simp at h4; omega)]
      rfl
    · rw [if_neg (by simp at h4; omega), if_pos (by simp at h4; omega)]
      rfl
  unfold readStreamList
  simp only [hread, ensureCountInBound_in (show recs.length * Layout.size l + 4 ≤ s.size by omega) hsz]
  rw [res_bind_ok (res_usizeSub (by omega)), res_bind_ok hoff, res_bind_ok (res_alloc _ _ _)]
  simp [hent, M.ofOption]

theorem readExStreamList_enc {l : Layout} {memSz n : Nat} {s : Bytes} {e : Endian} {recs : List (List Nat)}
    (hs : s.toList = exListHeader e (Layout.size l) n ++ encRecords e l recs) (hn : recs.length = n)
    (hf : ∀ r ∈ recs, Fits l r) (hl : 0 < Layout.size l) (hl32 : Layout.size l < 2 ^ 32) (hsz : s.size < 2 ^ 32) :
    (readExStreamList l memSz s e).res = .ok recs := by
  subst hn
  have hlen : s.size = 12 + recs.length * Layout.size l := by
    have := congrArg List.length hs
    simp [exListHeader] at this
    omega
  have hcnt := Nat.le_mul_of_pos_right recs.length hl
  have hh : Has s.toList 0 (encNat e 4 12 ++ (encNat e 4 (Layout.size l) ++ (encNat e 4 recs.length ++ encRecords e l recs))) :=
    Has.prefix0 (rest := []) (by simp only [hs, exListHeader, List.append_assoc, List.append_nil])
  obtain ⟨h0, hh⟩ := hh.scalar (by decide)
  obtain ⟨h4, hh⟩ := hh.scalar (by rw [pow_256_4]; exact hl32)
  obtain ⟨h8, hh⟩ := hh.scalar (by omega)
  have hent := readEntries_has hf hh
  unfold readExStreamList
  simp only [show readU32 s 0 e = _ from h0, show readU32 s 4 e = _ from h4, show readU32 s 8 e = _ from h8, ne_eq,
    not_true_eq_false, if_false, ensureCountInBound_in (show recs.length * Layout.size l + 12 ≤ s.size by omega) hsz, checkedSub,
    show (12 : Nat) ≤ 12 by decide, if_true]
  rw [res_bind_ok (res_usizeAdd (by decide)), res_bind_ok (res_alloc _ _ _)]
  simp [hent, M.ofOption]

def MemInfoFits (i : MMemInfo) : Prop :=
  i.base < 2 ^ 64 ∧ i.allocBase < 2 ^ 64 ∧ i.allocProt < 2 ^ 32 ∧ i.size < 2 ^ 64 ∧ i.state < 2 ^ 32 ∧ i.prot < 2 ^ 32 ∧
  i.ty < 2 ^ 32

theorem memInfoRec_fits {i : MMemInfo} (h : MemInfoFits i) : Fits MINIDUMP_MEMORY_INFO (memInfoRec i) := by
  obtain ⟨h1, h2, h3, h4, h5, h6, h7⟩ := h
  simp only [MINIDUMP_MEMORY_INFO, memInfoRec, Fits, pow_256_4, pow_256_8]
  refine ⟨h1, h2, h3, by decide, h4, h5, h6, h7, by decide, trivial⟩

theorem readMemoryInfoList_enc (ms : MemSizes) {s : Bytes} {e : Endian} {is : List MMemInfo}
    (hs : s.toList = encMemInfoList e is) (hf : ∀ i ∈ is, MemInfoFits i) (hsz : s.size < 2 ^ 32) :
    ∃ r, (readMemoryInfoList ms s e).res = .ok r ∧ r.map mmemInfoOf = is := by
  have hrd := readExStreamList_enc (memSz := ms.rawMemInfo) hs (List.length_map _)
    (by intro r hr; obtain ⟨i, hi, rfl⟩ := List.mem_map.mp hr; exact memInfoRec_fits (hf i hi))
    (by decide) (by decide) hsz
  refine ⟨_, by unfold readMemoryInfoList; rw [res_bind_ok hrd, res_bind_ok (res_alloc _ _ _)]; rfl, ?_⟩
  simp only [List.map_map]
  exact (List.map_congr_left fun i _ => rfl).trans (List.map_id is)

theorem sliceList_has {b : Bytes} {off : Nat} {c : List UInt8} (h : Has b.toList off c) :
    sliceList b off (off + c.length) = c := h.extract

def ThreadFits (t : MThread) : Prop :=
  t.id < 2 ^ 32 ∧ t.suspend < 2 ^ 32 ∧ t.prioClass < 2 ^ 32 ∧ t.prio < 2 ^ 32 ∧ t.teb < 2 ^ 64 ∧ t.stackBase < 2 ^ 64

theorem oobThreads_length (ts : List MThread) : (oobThreads ts).length = oobThreadsSize ts := by
  induction ts with
  | nil => rfl
  | cons t ts ih => simp [oobThreads, oobThreadsSize, ih]; omega

theorem threadRecs_length (off : Nat) (ts : List MThread) : (threadRecs off ts).length = ts.length := by
  induction ts generalizing off <;> simp [threadRecs, *]

theorem threadRecs_fits {all : List UInt8} (hall : all.length < 2 ^ 32) :
    ∀ (ts : List MThread) (off : Nat), (∀ t ∈ ts, ThreadFits t) → Has all off (oobThreads ts) →
      ∀ r ∈ threadRecs off ts, Fits MINIDUMP_THREAD r
  | [], _, _, _, _, hr => by cases hr
  | t :: ts, off, hf, h, r, hr => by
    rw [threadRecs, List.mem_cons] at hr
    rcases hr with rfl | hr
    · have hle := h.left.length_le
      simp only [List.length_append] at hle
      obtain ⟨h1, h2, h3, h4, h5, h6⟩ := hf t (by simp)
      simp only [MINIDUMP_THREAD, Fits, pow_256_4, pow_256_8]
      refine ⟨h1, h2, h3, h4, h5, h6, ?_, ?_, ?_, ?_, trivial⟩ <;> omega
    · exact threadRecs_fits hall ts _ (fun t' ht' => hf t' (by simp [ht']))
        (Nat.add_assoc .. ▸ h.after List.length_append) r hr

theorem thread_decode {all : Bytes} (hall : all.size < 2 ^ 32) (t : MThread) (off : Nat) (hoff : 0 < off)
    (h : Has all.toList off (t.ctx ++ t.stack)) :
    rthreadOf all (Thread.ofVals all.size [t.id, t.suspend, t.prioClass, t.prio, t.teb, t.stackBase,
      t.stack.length, off + t.ctx.length, t.ctx.length, off]) = reportThread t := by
  simp only [rthreadOf, Thread.ofVals, fld, List.getD_cons_zero, List.getD_cons_succ, reportThread,
    locationRange_has h.left hall, Option.map_some, sliceList_has h.left]
  by_cases h0 : t.stack.length = 0
  · simp [readMemoryDesc, h0]
  · have hne : ¬ (off + t.ctx.length = 0 ∨ False) := fun hh => hh.elim (by omega) id
    simp only [readMemoryDesc, locationRange_has h.right hall, h0, hne, if_false, Option.map_some, sliceList_has h.right]

theorem threadRecs_decode {all : Bytes} (hall : all.size < 2 ^ 32) :
    ∀ (ts : List MThread) (off : Nat), 0 < off → Has all.toList off (oobThreads ts) →
      ((threadRecs off ts).map (Thread.ofVals all.size)).map (rthreadOf all) = ts.map reportThread
  | [], _, _, _ => rfl
  | t :: ts, off, hoff, h => by
    simp only [threadRecs, List.map_cons, thread_decode hall t off hoff h.left,
      threadRecs_decode hall ts _ (by omega) (Nat.add_assoc .. ▸ h.after List.length_append)]

theorem readThreadList_enc (ms : MemSizes) {s all : Bytes} {e : Endian} {pad : Bool} {off : Nat} {ts : List MThread}
    (hs : s.toList = encThreadList e pad off ts) (hf : ∀ t ∈ ts, ThreadFits t) (hoff : 0 < off)
    (hoob : Has all.toList off (oobThreads ts)) (hall : all.size < 2 ^ 32) (hsz : s.size < 2 ^ 32) :
    ∃ r, (readThreadList ms s all e).res = .ok r ∧ r.map (rthreadOf all) = ts.map reportThread := by
  have hrd := readStreamList_enc (memSz := ms.rawThread) hs (threadRecs_length off ts)
    (threadRecs_fits (by simpa using hall) ts off hf hoob) (by decide) hsz
  refine ⟨_, ?_, threadRecs_decode hall ts off hoff hoob⟩
  unfold readThreadList
  rw [res_bind_ok hrd, res_bind_ok (res_alloc _ _ _), res_bind_ok (res_alloc _ _ _)]
  rfl

def RegionFits (r : MRegion) : Prop := r.base < 2 ^ 64 ∧ r.base + r.bytes.length ≤ 2 ^ 64

theorem oobMemory_length (rs : List MRegion) : (oobMemory rs).length = oobMemorySize rs := by
  induction rs <;> simp [oobMemory, oobMemorySize, *]

theorem memRecs_length (off : Nat) (rs : List MRegion) : (memRecs off rs).length = rs.length := by
  induction rs generalizing off <;> simp [memRecs, *]

theorem memRecs_fits {all : List UInt8} (hall : all.length < 2 ^ 32) :
    ∀ (rs : List MRegion) (off : Nat), (∀ r ∈ rs, RegionFits r) → Has all off (oobMemory rs) →
      ∀ v ∈ memRecs off rs, Fits MINIDUMP_MEMORY_DESCRIPTOR v
  | [], _, _, _, _, hv => by cases hv
  | r :: rs, off, hf, h, v, hv => by
    rw [memRecs, List.mem_cons] at hv
    rcases hv with rfl | hv
    · have hle := h.left.length_le
      simp only [MINIDUMP_MEMORY_DESCRIPTOR, Fits, pow_256_4, pow_256_8]
      exact ⟨(hf r (by simp)).1, by omega, by omega, trivial⟩
    · exact memRecs_fits hall rs _ (fun r' hr' => hf r' (by simp [hr'])) h.right v hv

/-- the per-descriptor step of `MinidumpMemoryList::read` -/
def pickRegion (allLen : Nat) (v : List Nat) : Option Region :=
  match readMemoryDesc allLen (fld v 0) ⟨fld v 1, fld v 2⟩ with
  | .ok r => some r
  | .error _ => none

theorem regionOf_has {all : Bytes} {off : Nat} (r : MRegion) (h : Has all.toList off r.bytes) :
    regionOf all ⟨r.base, r.bytes.length, off⟩ = r := by
  cases r
  simp only [regionOf, MRegion.mk.injEq, true_and]
  exact sliceList_has h

theorem memRecs_decode {all : Bytes} (hall : all.size < 2 ^ 32) :
    ∀ (rs : List MRegion) (off : Nat), 0 < off → Has all.toList off (oobMemory rs) →
      ((memRecs off rs).filterMap (pickRegion all.size)).map (regionOf all) = rs.filter fun r => r.bytes.length ≠ 0
  | [], _, _, _ => rfl
  | r :: rs, off, hoff, h => by
    have ih := memRecs_decode hall rs (off + r.bytes.length) (by omega) h.right
    simp only [memRecs, List.filterMap_cons, pickRegion, fld, List.getD_cons_zero, List.getD_cons_succ, List.filter_cons]
    by_cases h0 : r.bytes.length = 0
    · rw [h0] at ih
      simpa [readMemoryDesc, h0] using ih
    · have hoff0 : ¬ (off = 0) := by omega
      simp [readMemoryDesc, locationRange_has h.left hall, h0, hoff0, ih, regionOf_has r h.left]

theorem readMemoryList_enc (ms : MemSizes) {s all : Bytes} {e : Endian} {pad : Bool} {off : Nat} {rs : List MRegion}
    (hs : s.toList = encMemoryList e pad off rs) (hf : ∀ r ∈ rs, RegionFits r) (hoff : 0 < off)
    (hoob : Has all.toList off (oobMemory rs)) (hall : all.size < 2 ^ 32) (hsz : s.size < 2 ^ 32) :
    ∃ r, (readMemoryList ms s all e).res = .ok r ∧ r.map (regionOf all) = rs.filter fun r => r.bytes.length ≠ 0 := by
  have hrd := readStreamList_enc (memSz := ms.rawMemDesc) hs (memRecs_length off rs)
    (memRecs_fits (by simpa using hall) rs off hf hoob) (by decide) hsz
  refine ⟨(memRecs off rs).filterMap (pickRegion all.size), ?_, memRecs_decode hall rs off hoff hoob⟩
  unfold readMemoryList
  rw [res_bind_ok hrd, res_bind_ok (res_alloc _ _ _)]
  rfl

theorem mem64Recs_fits {all : List UInt8} (hall : all.length < 2 ^ 32) :
    ∀ (rs : List MRegion) (off : Nat), (∀ r ∈ rs, RegionFits r) → Has all off (oobMemory rs) →
      ∀ v ∈ mem64Recs rs, Fits MINIDUMP_MEMORY_DESCRIPTOR64 v
  | [], _, _, _, _, hv => by cases hv
  | r :: rs, off, hf, h, v, hv => by
    rw [mem64Recs, List.map_cons, List.mem_cons] at hv
    rcases hv with rfl | hv
    · have hle := h.left.length_le
      simp only [MINIDUMP_MEMORY_DESCRIPTOR64, Fits, pow_256_8]
      exact ⟨(hf r (by simp)).1, by omega, trivial⟩
    · exact mem64Recs_fits hall rs _ (fun r' hr' => hf r' (by simp [hr'])) h.right v hv

theorem mem64Regions_enc {all : Bytes} (hall : all.size < 2 ^ 32) :
    ∀ (rs : List MRegion) (off : Nat), Has all.toList off (oobMemory rs) →
      ∃ regs, mem64Regions all.size off (mem64Recs rs) = .ok regs ∧ regs.map (regionOf all) = rs
  | [], _, _ => ⟨[], rfl, rfl⟩
  | r :: rs, off, h => by
    have hU := U32_le_U64
    have hle := h.size_le
    simp only [oobMemory, List.length_append] at hle
    obtain ⟨regs, h1, h2⟩ := mem64Regions_enc hall rs (off + r.bytes.length) h.right
    refine ⟨⟨r.base, r.bytes.length, off⟩ :: regs, ?_, by rw [List.map_cons, h2, regionOf_has r h.left]⟩
    simp only [mem64Recs, List.map_cons, mem64Regions, fld, List.getD_cons_zero, List.getD_cons_succ, checkedAdd]
    rw [if_pos (by omega)]
    simp only
    rw [if_pos (by omega)]
    simp only [mem64Recs] at h1
    rw [h1]

theorem readMemory64List_enc (ms : MemSizes) {s all : Bytes} {e : Endian} {off : Nat} {rs : List MRegion}
    (hs : s.toList = encMemory64List e off rs) (hf : ∀ r ∈ rs, RegionFits r)
    (hoob : Has all.toList off (oobMemory rs)) (hall : all.size < 2 ^ 32) (hsz : s.size < 2 ^ 32) :
    ∃ r, (readMemory64List ms s all e).res = .ok r ∧ r.map (regionOf all) = rs := by
  have hrl : (mem64Recs rs).length = rs.length := List.length_map _
  have h16 := size_memdesc64
  have hlen := congrArg List.length hs
  simp only [Array.length_toList, encMemory64List, List.length_append, encRecords_length, encNat_length, hrl, h16] at hlen
  have hoffle := hoob.size_le
  have hh : Has s.toList 0 (encNat e 8 rs.length ++ (encNat e 8 off ++ encRecords e MINIDUMP_MEMORY_DESCRIPTOR64 (mem64Recs rs))) :=
    Has.prefix0 (rest := []) (by simp [hs, encMemory64List])
  obtain ⟨h0, hh⟩ := hh.scalar (by omega)
  obtain ⟨h8, hh⟩ := hh.scalar (by omega)
  have hent := readEntries_has (mem64Recs_fits (by simpa using hall) rs off hf hoob) hh
  rw [hrl] at hent
  obtain ⟨regs, hr1, hr2⟩ := mem64Regions_enc hall rs off hoob
  refine ⟨regs, ?_, hr2⟩
  unfold readMemory64List
  simp only [show readU64 s 0 e = _ from h0, show readU64 s 8 e = _ from h8, h16,
    ensureCountInBound_in (show rs.length * 16 + 16 ≤ s.size by omega) hsz]
  rw [if_neg (by omega), res_bind_ok (res_alloc _ _ _)]
  simp only [hent, M.ofOption]
  rw [res_bind_ok (res_pure _), res_bind_ok (res_alloc _ _ _)]
  simp [hr1, M.ofExcept]

/-- a Unicode scalar value: what a Rust `char` can hold ("arbitrary well-formed UTF-16") -/
def ValidScalar (c : Nat) : Prop := c < 0xD800 ∨ (0xE000 ≤ c ∧ c < 0x110000)

def ValidName (cs : List Nat) : Prop := ∀ c ∈ cs, ValidScalar c

theorem leBytes_two (u : Nat) : leBytes 2 u = [UInt8.ofNat (u % 256), UInt8.ofNat (u / 256 % 256)] := by
  simp [leBytes]

theorem utf16Units_encUnits (e : Endian) (us : List Nat) (h : ∀ u ∈ us, u < 65536) :
    utf16Units e (encUnits e us) = us := by
  induction us with
  | nil => simp [encUnits, utf16Units]
  | cons u us ih =>
    have hu : u < 65536 := h u (by simp)
    have ih' := ih (fun x hx => h x (by simp [hx]))
    simp only [encUnits, List.flatMap_cons] at ih' ⊢
    cases e with
    | little =>
      simp only [encNat, leBytes_two, List.cons_append, List.nil_append, utf16Units, ih', UInt8.toNat_ofNat']
      congr 1
      omega
    | big =>
      simp only [encNat, leBytes_two, List.reverse_cons, List.reverse_nil, List.nil_append, List.cons_append,
        utf16Units, ih', UInt8.toNat_ofNat']
      congr 1
      omega

theorem utf16Decode_cons_bmp (u : Nat) (rest : List Nat) (h1 : isHighSurrogate u = false) (h2 : isLowSurrogate u = false) :
    utf16Decode (u :: rest) = (utf16Decode rest).map (u :: ·) := by
  cases rest with
  | nil => simp [utf16Decode, h1, h2]
  | cons l r =>
    rw [utf16Decode]
    simp only [h1, h2, Bool.false_eq_true, if_false]
    cases utf16Decode (l :: r) <;> rfl

theorem utf16Decode_pair (u l : Nat) (rest : List Nat) (h1 : isHighSurrogate u = true) (h2 : isLowSurrogate l = true) :
    utf16Decode (u :: l :: rest) = (utf16Decode rest).map ((0x10000 + (u - 0xD800) * 1024 + (l - 0xDC00)) :: ·) := by
  rw [utf16Decode]
  simp only [h1, h2, if_true]
  cases utf16Decode rest <;> rfl

theorem utf16Decode_units (cs : List Nat) (h : ∀ c ∈ cs, ValidScalar c) :
    utf16Decode (cs.flatMap utf16UnitsOf) = some cs := by
  induction cs with
  | nil => simp [utf16Decode]
  | cons c cs ih =>
    have hc := h c (by simp)
    unfold ValidScalar at hc
    have ih' := ih (fun x hx => h x (by simp [hx]))
    simp only [List.flatMap_cons]
    by_cases hb : c < 0x10000
    · have h1 : isHighSurrogate c = false := by
        simp only [isHighSurrogate, Bool.and_eq_false_imp, decide_eq_true_eq, decide_eq_false_iff_not]
        omega
      have h2 : isLowSurrogate c = false := by
        simp only [isLowSurrogate, Bool.and_eq_false_imp, decide_eq_true_eq, decide_eq_false_iff_not]
        omega
      simp only [utf16UnitsOf, hb, if_true, List.cons_append, List.nil_append]
      rw [utf16Decode_cons_bmp c _ h1 h2, ih']
      rfl
    · have h1 : isHighSurrogate (0xD800 + (c - 0x10000) / 1024) = true := by
        simp only [isHighSurrogate, Bool.and_eq_true, decide_eq_true_eq]
        omega
      have h2 : isLowSurrogate (0xDC00 + (c - 0x10000) % 1024) = true := by
        simp only [isLowSurrogate, Bool.and_eq_true, decide_eq_true_eq]
        omega
      simp only [utf16UnitsOf, hb, if_false, List.cons_append, List.nil_append]
      rw [utf16Decode_pair _ _ _ h1 h2, ih',
        show 0x10000 + (0xD800 + (c - 0x10000) / 1024 - 0xD800) * 1024 + (0xDC00 + (c - 0x10000) % 1024 - 0xDC00) = c by omega]
      rfl

theorem utf16UnitsOf_lt (c : Nat) (h : ValidScalar c) : ∀ u ∈ utf16UnitsOf c, u < 65536 := by
  intro u hu
  unfold utf16UnitsOf at hu
  unfold ValidScalar at h
  split at hu
  · simp at hu; omega
  · simp at hu; omega

theorem encUnits_length (e : Endian) (us : List Nat) : (encUnits e us).length = 2 * us.length := by
  induction us with
  | nil => rfl
  | cons u us ih => simp only [encUnits, List.flatMap_cons, List.length_append, encNat_length, List.length_cons] at ih ⊢; omega

theorem encString_length (e : Endian) (cs : List Nat) : (encString e cs).length = stringSize cs := by
  simp [encString, stringSize, encUnits_length]

theorem readStringUtf16_units {b : Bytes} {off : Nat} {e : Endian} {us : List Nat} (hlt : ∀ u ∈ us, u < 65536)
    (h : Has b.toList off (encNat e 4 (2 * us.length) ++ encUnits e us)) (hb : b.size < 2 ^ 32) :
    (readStringUtf16 b off e).res = .ok ((utf16Decode us).map (·, off + 4 + 2 * us.length)) := by
  have hU := U32_le_U64
  have hle := h.size_le
  rw [List.length_append, encNat_length, encUnits_length] at hle
  obtain ⟨hsz, hunits⟩ := h.scalar (by omega)
  unfold readStringUtf16
  simp only [show readU32 b off e = _ from hsz, show ¬ (2 * us.length % 2 ≠ 0) by omega, if_false]
  rw [res_bind_ok (res_usizeAdd (by unfold USIZE_MAX; omega)), if_neg (by omega),
    res_bind_ok (res_sliceRange ⟨by omega, by omega⟩), res_bind_ok (res_alloc _ _ _),
    show (b.extract (off + 4) (off + 4 + 2 * us.length)).toList = encUnits e us from encUnits_length e us ▸ hunits.extract,
    utf16Units_encUnits e _ hlt]
  cases utf16Decode us <;> rfl

theorem readStringUtf16_enc {b : Bytes} {off : Nat} {e : Endian} {cs : List Nat} (hv : ∀ c ∈ cs, ValidScalar c)
    (h : Has b.toList off (encString e cs)) (hb : b.size < 2 ^ 32) :
    (readStringUtf16 b off e).res = .ok (some (cs, off + stringSize cs)) := by
  have hlt : ∀ u ∈ cs.flatMap utf16UnitsOf, u < 65536 := fun u hu => by
    obtain ⟨c, hc, hu'⟩ := List.mem_flatMap.mp hu
    exact utf16UnitsOf_lt c (hv c hc) u hu'
  rw [readStringUtf16_units hlt h hb, utf16Decode_units cs hv, stringSize, Nat.add_assoc]
  rfl

end MdModel.Encode
