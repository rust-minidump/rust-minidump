/-
  About `MdModel.DumpCtx`: which buffers `MinidumpContext::read` accepts, and the context accessors, the system
  info, the memory table and the per-thread view under `Run`. That an accessor's field exists is shown from its
  position in the generated CONTEXT_* layout, not by searching for its name.
-/
import MdModel.DumpCtx
import MdProofs.Lemmas.BytesStreams
import MdProofs.Lemmas.RangeMapIdx
namespace MdModel.Dump
open MdModel MdModel.Gen.Layouts MdModel.Gen.LayoutsX

/-- the `SIZE_*` constants emitted by the translator are the sums of the flattened layouts -/
theorem size_ctx (k : CtxKind) : Layout.size k.layout = k.wireSize := by
  cases k <;> decide +kernel

theorem size_sysinfo : Layout.size MINIDUMP_SYSTEM_INFO = 56 := by decide +kernel
theorem size_x86cpu : Layout.size X86CpuInfo = 24 := by decide +kernel
theorem size_armcpu : Layout.size ARMCpuInfo = 8 := by decide +kernel

theorem sysinfo_layout_used :
    fieldIdx MINIDUMP_SYSTEM_INFO "processor_architecture" = some 0 ∧
    fieldIdx MINIDUMP_SYSTEM_INFO "processor_level" = some 1 ∧
    fieldIdx MINIDUMP_SYSTEM_INFO "processor_revision" = some 2 ∧
    fieldIdx MINIDUMP_SYSTEM_INFO "platform_id" = some 8 ∧
    fieldIdx MINIDUMP_SYSTEM_INFO "csd_version_rva" = some 9 ∧
    fieldIdx MINIDUMP_SYSTEM_INFO "cpu.data[0]" = some 12 ∧
    fieldIdx MINIDUMP_SYSTEM_INFO "cpu.data[23]" = some 35 ∧
    MINIDUMP_SYSTEM_INFO.length = 36 ∧
    X86CpuInfo = [("vendor_id[0]", 4), ("vendor_id[1]", 4), ("vendor_id[2]", 4), ("version_information", 4),
      ("feature_information", 4), ("amd_extended_cpu_features", 4)] ∧
    ARMCpuInfo = [("cpuid", 4), ("elf_hwcaps", 4)] := by decide +kernel

/-- the wire sizes of the nine context records, as documented (minidump_format.h / WinNT.h) -/
theorem ctx_sizes_as_documented :
    CtxKind.x86.wireSize = 716 ∧ CtxKind.amd64.wireSize = 1232 ∧ CtxKind.arm.wireSize = 368 ∧
    CtxKind.arm64.wireSize = 912 ∧ CtxKind.arm64Old.wireSize = 796 ∧ CtxKind.mips.wireSize = 600 ∧
    CtxKind.ppc.wireSize = 1004 ∧ CtxKind.ppc64.wireSize = 1160 ∧ CtxKind.sparc.wireSize = 584 := by decide

theorem fieldIdx_lt {l : Layout} {name : String} {i : Nat} (h : fieldIdx l name = some i) : i < l.length := by
  unfold fieldIdx at h
  have := List.findIdx?_eq_some_iff_getElem.mp h
  exact this.1

theorem getField?_isSome {l : Layout} {vs : List Nat} {name : String} (hlen : vs.length = l.length)
    (hp : (fieldIdx l name).isSome = true) : ∃ v, getField? l vs name = some v := by
  unfold getField?
  cases hi : fieldIdx l name with
  | none => rw [hi] at hp; cases hp
  | some i =>
    have := fieldIdx_lt hi
    exact ⟨vs[i]'(by omega), by simp [List.getElem?_eq_getElem (by omega : i < vs.length)]⟩

section
variable {H : Prop} {B : Nat}

theorem fieldAtName_run {l : Layout} {vs : List Nat} {name : String} (hlen : vs.length = l.length)
    (hp : (fieldIdx l name).isSome = true) : Run H B 0 (fieldAtName l vs name) (fun _ => True) False := by
  obtain ⟨v, hv⟩ := getField?_isSome hlen hp
  unfold fieldAtName
  rw [hv]
  exact run_pure trivial

theorem arrayAt_run {l : Layout} {vs : List Nat} {arr : String} {i : Nat} (hlen : vs.length = l.length)
    (hp : (fieldIdx l (arr ++ "[" ++ toString i ++ "]")).isSome = true) :
    Run H B 0 (arrayAt l vs arr i) (fun _ => True) False := by
  obtain ⟨v, hv⟩ := getField?_isSome hlen hp
  unfold arrayAt
  rw [hv]
  exact run_pure trivial

/-- A field is found by name as soon as it stands at some position: a witness instead of a search
    (the search compares strings, which the kernel does by UTF-8 encoding both sides). -/
theorem fieldIdx_isSome_of_mem {l : Layout} {name : String} (h : name ∈ l.map (·.1)) :
    (fieldIdx l name).isSome = true := by
  obtain ⟨f, hf, rfl⟩ := List.mem_map.mp h
  unfold fieldIdx
  rw [List.findIdx?_isSome, List.any_eq_true]
  exact ⟨f, hf, beq_self_eq_true _⟩

theorem fieldIdx_isSome_of_get {l : Layout} {name : String} (i : Nat) (h : l[i]?.map (·.1) = some name) :
    (fieldIdx l name).isSome = true := by
  obtain ⟨f, hf, rfl⟩ := Option.map_eq_some_iff.mp h
  exact fieldIdx_isSome_of_mem (List.mem_map.mpr ⟨f, List.mem_of_getElem? hf, rfl⟩)

/-- the scalars of an array field `arr: [T; n]` are generated as `arr[0]`, ..., `arr[n-1]`, from position `p` on -/
theorem arrayField_isSome {l : Layout} {arr : String} (p n : Nat)
    (h : ((l.drop p).take n).map (·.1) = (List.range n).map fun i => arr ++ "[" ++ toString i ++ "]")
    {i : Nat} (hi : i < n) : (fieldIdx l (arr ++ "[" ++ toString i ++ "]")).isSome = true := by
  have hm : arr ++ "[" ++ toString i ++ "]" ∈ ((l.drop p).take n).map (·.1) := by
    rw [h]; exact List.mem_map.mpr ⟨i, List.mem_range.mpr hi, rfl⟩
  obtain ⟨f, hf, hfe⟩ := List.mem_map.mp hm
  exact fieldIdx_isSome_of_mem (List.mem_map.mpr ⟨f, List.mem_of_mem_drop (List.mem_of_mem_take hf), hfe⟩)

theorem ctxKindOfArch_some {a : Nat} {k : CtxKind} (h : ctxKindOfArch a = some k) :
    a = 0 ∨ a = 10 ∨ a = 9 ∨ a = 3 ∨ a = 32770 ∨ a = 32769 ∨ a = 5 ∨ a = 12 ∨ a = 32771 ∨ a = 1 := by
  -- otherwise every test of the chain fails and the result is `none`
  refine Decidable.by_contra fun hn => ?_
  simp only [not_or] at hn
  obtain ⟨h0, h10, h9, h3, h32770, h32769, h5, h12, h32771, h1⟩ := hn
  unfold ctxKindOfArch at h
  rw [if_neg (fun h => h.elim h0 h10)] at h
  iterate 8 rw [if_neg (by assumption)] at h
  cases h

theorem contextRead_ok {bytes : Bytes} {e : Endian} {arch : Nat} {c : Context}
    (h : contextRead bytes e arch = .ok c) :
    ctxKindOfArch arch = some c.kind ∧ c.kind.wireSize ≤ bytes.size ∧
    readFields c.kind.layout bytes 0 e = some c.vals ∧ c.vals.length = c.kind.layout.length ∧
    getField? c.kind.layout c.vals "context_flags" = some c.flags ∧
    contextFlagsCpu c.flags = c.kind.cpuFlag := by
  unfold contextRead at h
  split at h
  · cases h
  · rename_i k hk
    split at h
    · cases h
    · rename_i vs hvs
      split at h
      · cases h
      · rename_i flags hfl
        split at h
        · rename_i hflag
          cases h
          have hle := readFields_some (by cases k <;> decide) hvs
          rw [size_ctx, Nat.zero_add] at hle
          exact ⟨hk, hle, hvs, readFields_length hvs, hfl, hflag⟩
        · cases h

theorem contextRead_short {bytes : Bytes} {e : Endian} {arch : Nat} {k : CtxKind}
    (hk : ctxKindOfArch arch = some k) (h : bytes.size < k.wireSize) :
    contextRead bytes e arch = .error .readFailure := by
  unfold contextRead
  have hne : k.layout ≠ [] := by cases k <;> decide
  simp only [hk, readFields_short (b := bytes) (off := 0) (e := e) hne (by rw [size_ctx]; omega)]

theorem contextRead_fits {bytes : Bytes} {e : Endian} {arch : Nat} {k : CtxKind}
    (hk : ctxKindOfArch arch = some k) (h : k.wireSize ≤ bytes.size) :
    ∃ vs flags, readFields k.layout bytes 0 e = some vs ∧ getField? k.layout vs "context_flags" = some flags ∧
      contextRead bytes e arch =
        if contextFlagsCpu flags = k.cpuFlag then .ok ⟨k, vs, flags⟩ else .error .readFailure := by
  obtain ⟨vs, hvs⟩ := readFields_fits k.layout bytes 0 e (by rw [size_ctx]; omega)
  have hp : (fieldIdx k.layout "context_flags").isSome = true := by cases k <;> decide +kernel
  obtain ⟨flags, hfl⟩ := getField?_isSome (readFields_length hvs) hp
  refine ⟨vs, flags, hvs, hfl, ?_⟩
  unfold contextRead
  simp only [hk, hvs, hfl]

theorem contextRead_unknown {bytes : Bytes} {e : Endian} {arch : Nat} (hk : ctxKindOfArch arch = none) :
    contextRead bytes e arch = .error .unknownCpu := by
  unfold contextRead
  simp only [hk]

theorem ctx_ip_run (c : Context) (hlen : c.vals.length = c.kind.layout.length) : Run H B 0 c.ip (fun _ => True) False := by
  obtain ⟨k, vs, fl⟩ := c
  cases k <;> simp only [Context.ip, CtxKind.layout]
  case x86 => exact fieldAtName_run hlen (fieldIdx_isSome_of_get 106 rfl)
  case amd64 => exact fieldAtName_run hlen (fieldIdx_isSome_of_get 37 rfl)
  case ppc => exact fieldAtName_run hlen (fieldIdx_isSome_of_get 1 rfl)
  case ppc64 => exact fieldAtName_run hlen (fieldIdx_isSome_of_get 1 rfl)
  case sparc => exact fieldAtName_run hlen (fieldIdx_isSome_of_get 35 rfl)
  case arm => exact arrayAt_run hlen (fieldIdx_isSome_of_get 16 (by decide +kernel))
  case arm64 => exact fieldAtName_run hlen (fieldIdx_isSome_of_get 34 rfl)
  case arm64Old => exact fieldAtName_run hlen (fieldIdx_isSome_of_get 33 rfl)
  case mips => exact fieldAtName_run hlen (fieldIdx_isSome_of_get 44 rfl)

theorem ctx_sp_run (c : Context) (hlen : c.vals.length = c.kind.layout.length) : Run H B 0 c.sp (fun _ => True) False := by
  obtain ⟨k, vs, fl⟩ := c
  cases k <;> simp only [Context.sp, CtxKind.layout]
  case x86 => exact fieldAtName_run hlen (fieldIdx_isSome_of_get 109 rfl)
  case amd64 => exact fieldAtName_run hlen (fieldIdx_isSome_of_get 25 rfl)
  case ppc => exact arrayAt_run hlen (fieldIdx_isSome_of_get 4 (by decide +kernel))
  case ppc64 => exact arrayAt_run hlen (fieldIdx_isSome_of_get 4 (by decide +kernel))
  case sparc => exact arrayAt_run hlen (fieldIdx_isSome_of_get 16 (by decide +kernel))
  case arm => exact arrayAt_run hlen (fieldIdx_isSome_of_get 14 (by decide +kernel))
  case arm64 => exact fieldAtName_run hlen (fieldIdx_isSome_of_get 33 rfl)
  case arm64Old => exact fieldAtName_run hlen (fieldIdx_isSome_of_get 32 rfl)
  case mips => exact arrayAt_run hlen (fieldIdx_isSome_of_get 31 (by decide +kernel))

theorem readRegs_run (l : Layout) (vs : List Nat) (arr : String) (hlen : vs.length = l.length) (is : List Nat)
    (h : ∀ i ∈ is, (fieldIdx l (arr ++ "[" ++ toString i ++ "]")).isSome = true) :
    Run H B 0 (readRegs l vs arr is) (fun _ => True) False :=
  run_mapM (readRegs l vs arr) (h := fun _ v => v) rfl (fun _ _ => rfl) is fun i hi => arrayAt_run hlen (h i hi)

theorem ctxPrintIndices_in_bounds (k : CtxKind) :
    ∀ i ∈ ctxPrintIndices k, (fieldIdx k.layout ("iregs" ++ "[" ++ toString i ++ "]")).isSome = true := by
  intro i hi
  cases k
  case arm64 =>
    exact arrayField_isSome 2 31 (by decide +kernel) ((by decide : ∀ i ∈ ctxPrintIndices .arm64, i < 31) i hi)
  case arm64Old =>
    exact arrayField_isSome 1 31 (by decide +kernel) ((by decide : ∀ i ∈ ctxPrintIndices .arm64Old, i < 31) i hi)
  case mips =>
    exact arrayField_isSome 2 32 (by decide +kernel) ((by decide : ∀ i ∈ ctxPrintIndices .mips, i < 32) i hi)
  all_goals cases hi

theorem ctxPrintReads_run (c : Context) (hlen : c.vals.length = c.kind.layout.length) :
    Run H B 0 (ctxPrintReads c) (fun _ => True) False :=
  readRegs_run _ _ _ hlen _ (ctxPrintIndices_in_bounds c.kind)

theorem contextOf_run (all : Bytes) (e : Endian) (arch : Nat) (range : Option (Nat × Nat)) :
    Run H B 0 (contextOf all e arch range) (fun _ => True) False := by
  unfold contextOf
  split
  · exact run_pure trivial
  · split
    · exact run_pure trivial
    · rename_i c hc
      have hlen := (contextRead_ok hc).2.2.2.1
      refine run_bind0 (ctx_ip_run c hlen) (fun _ _ => ?_)
      refine run_bind0 (ctx_sp_run c hlen) (fun _ _ => ?_)
      exact run_bind0 (ctxPrintReads_run c hlen) (fun _ _ => run_pure trivial)

/-- the printer's stack dump: `off` is `i` chunks after `i` rounds, so `offset += chunk_size` stays below the
    slice length -/
theorem printStackWords_run (cpu : CpuKind) (stackLen : Nat) (h : H → stackLen < 9223372036854775808) :
    Run H B 0 (printStackWords cpu stackLen) (fun _ => True) False := by
  unfold printStackWords
  have hchunk : cpu.ptrBytes.getD 8 = 4 ∨ cpu.ptrBytes.getD 8 = 8 := by cases cpu <;> simp [CpuKind.ptrBytes]
  have hwant : cpu.ptrBytes.getD 8 = (if cpu.ptrBytes = some 4 then 4 else 8) := by
    cases cpu <;> simp [CpuKind.ptrBytes]
  dsimp only
  rw [if_neg (by omega)]
  refine ((run_loop _ _ _ (fun off i => off = i * cpu.ptrBytes.getD 8) 0 (by simp) ?_).mono
    (Nat.le_of_eq (Nat.mul_zero _))).post (fun _ _ => trivial)
  intro off i hi hoff
  rw [if_neg (by rw [← hwant]; simp)]
  refine (run_usizeAdd _ (fun hH => ?_)).post (fun s' hs' => by rw [hs', hoff, Nat.succ_mul])
  have := h hH
  unfold USIZE_MAX U64MAX
  subst hoff
  cases hchunk with
  | inl h4 => rw [h4] at hi ⊢; omega
  | inr h8 => rw [h8] at hi ⊢; omega

theorem printContents_run (len : Nat) (h : H → len < 9223372036854775808) :
    Run H B 0 (printContents len) (fun _ => True) False := by
  unfold printContents
  refine ((run_loop _ _ _ (fun off i => off = i * 16) 0 (by simp) ?_).mono
    (Nat.le_of_eq (Nat.mul_zero _))).post (fun _ _ => trivial)
  intro off i hi hoff
  refine (run_usizeAdd _ (fun hH => ?_)).post (fun s' hs' => by omega)
  have := h hH
  unfold USIZE_MAX U64MAX; omega

theorem cpuInfoX86_run (cpu : CpuKind) (e : Endian) (d : Bytes) (l r : Nat) :
    Run H B 0 (cpuInfoX86 cpu e d l r) (fun _ => True) True := by
  unfold cpuInfoX86
  refine run_bind0 (P := fun _ => True) ?_ (fun _ _ => run_pure trivial)
  split
  · exact run_bind0 (run_ofOption _ _) (fun _ _ => run_pure trivial)
  · exact run_pure trivial

theorem cpuInfoArm_run (e : Endian) (d : Bytes) (l : Nat) : Run H B 0 (cpuInfoArm e d l) (fun _ => True) True := by
  unfold cpuInfoArm
  exact run_bind0 (run_ofOption _ _) (fun _ _ => run_pure trivial)

/-- the CSD string lies inside the file: what `getSystemInfo` sizes its copy by -/
theorem readSystemInfoX_run (s all : Bytes) (e : Endian) (hH : H → SliceLen all.size ∧ 2 * all.size ≤ B) :
    Run H B 1 (readSystemInfoX s all e) (fun si => si.csdBytes ≤ all.size) True := by
  unfold readSystemInfoX
  split
  · exact run_fail _ trivial
  · refine run_bind (readStringUtf16_run _ _ _ hH) (C := 0) (fun csd hcsd => ?_)
    refine run_bind0 (P := fun _ => True) ?_ (fun _ _ => run_pure ?_)
    · split
      · exact run_map (cpuInfoX86_run _ _ _ _ _) (fun _ _ => trivial)
      · exact run_map (cpuInfoX86_run _ _ _ _ _) (fun _ _ => trivial)
      · exact run_map (cpuInfoArm_run _ _ _) (fun _ _ => trivial)
      · exact run_pure trivial
    · cases csd with
      | none => exact Nat.zero_le _
      | some p =>
        have := hcsd p.1 p.2 rfl
        dsimp only
        omega

theorem getSystemInfo_run (d : Dump) (b : Bytes) (hH : H → SliceLen b.size ∧ 2 * b.size ≤ B) :
    Run H B 2 (getSystemInfo d b) (fun _ => True) False := by
  unfold getSystemInfo
  have hg := getStream_run (E := False) d b ST_SystemInfoStream _ (fun s _ => readSystemInfoX_run s b d.endian hH)
  refine run_bind hg (C := 1) (fun eager heager => ?_)
  split
  · rename_i si
    refine run_map (run_alloc (fun h => ?_)) (fun _ _ => trivial)
    have := heager si rfl
    have := (hH h).2
    omega
  · exact hg.post (fun _ _ => trivial)

theorem memTable_run (rs : List Region) (h : H → rs.length * 32 ≤ B) :
    Run H B 2 (memTable rs) (fun _ => True) False := by
  unfold memTable
  refine run_bind (run_alloc h) (C := 1) (fun _ _ => ?_)
  refine run_bind (run_alloc h) (C := 0) (fun _ _ => ?_)
  have hwf : RangeMap.InputWF (rs.zipIdx.map fun (r, i) => (RangeMap.mkRange r.base r.size, i)) :=
    RangeMap.idx_mkRange_wf Region.base Region.size rs
  rw [RangeMap.safe_ok _ hwf]
  exact run_pure trivial

theorem threadX_run (all : Bytes) (e : Endian) (sys : Option SysInfo) (mv : MemView) (t : Thread)
    (hsz : H → SliceLen all.size) : Run H B 0 (threadX all e sys mv t) (fun _ => True) False := by
  unfold threadX
  refine run_bind0 (P := fun _ => True) ?_ (fun _ _ => ?_)
  · split
    · exact run_pure trivial
    · exact contextOf_run _ _ _ _
  · refine run_bind0 (printStackWords_run _ _ (fun hH => ?_)) (fun _ _ => run_pure trivial)
    have := hsz hH
    unfold SliceLen at this
    split
    · simp only [Array.size_extract]; omega
    · omega

theorem threadsX_run (all : Bytes) (e : Endian) (sys : Option SysInfo) (mv : MemView) (ts : List Thread)
    (hsz : H → SliceLen all.size) : Run H B 0 (threadsX all e sys mv ts) (fun _ => True) False :=
  run_mapM (threadsX all e sys mv) (h := fun _ x => x) rfl (fun _ _ => rfl) ts fun t _ => threadX_run all e sys mv t hsz

end

end MdModel.Dump
