/-
  C04, `walk_with_stack_cfi` (`walkCfi`) evaluated on the two rule shapes of the generated records:
  the leaf rule `.cfa: sp 0 + .ra: lr` (`walkCfi_leaf`) and
      `.cfa: $sp N + .ra: .cfa -W + ^  ($r: .cfa LIT + ^)*`
  for a symbolic frame size and a symbolic list of saved-register groups (`walkCfi_canonS`, closed form
  `canonOut`), for any callee context and any caller half; before them the facts about the register
  tables and the stack memory that the evaluation needs. `parse_cfi_exprs` on the groups needs their
  names pairwise distinct; the loop over the remaining rules applies them in name order (`mergeSort`,
  moved under the `map` by `List.map_mergeSort`); `assocGet_foldl_byName` reads a register of the result.
  `groupsOf` recognises a list of groups (`groupsOf_spec`): by it the link predicates of the chains whose
  records save registers read the groups off a record (`savedAt`, WalkCfiChainRegsLoop; the model's
  `cfiGroups`, WalkMixedCfi).

  C06's theorems (`eval_postfix` …, MdProofs/C06.lean) are about the stand-alone evaluator model
  `MdModel.Cfi` (byte strings, `UInt64`); the walker model `MdModel.Walk.evalCfi` works on
  classified tokens over `Nat`. On the three- and four-token canonical expressions the latter
  simply computes (`simp [evalCfi]`), so nothing about the postfix language is re-proved here.
-/
import MdProofs.Lemmas.WalkRegs
namespace MdModel.Walk
open MdModel

theorem leAt_lt (m : Mem) (off w : Nat) : m.leAt off w < 256 ^ w := m.leAt_lt off w

theorem read_le_regMax {a : Arch} {m : Mem} {addr v : Nat} (h : m.read addr a.ptr = some v) :
    v ≤ a.regMax :=
  Nat.le_of_lt_succ (Nat.lt_of_lt_of_eq (Mem.read_lt h) (regMax_succ a).symm)

theorem fpName_calleeSaved (a : Arch) : a.calleeSaved.contains a.fpName = true ∧ a.fpName ≠ a.spName := by
  cases a <;> decide +kernel

theorem raw_fpName (a : Arch) (c : Ctx) : c.raw a a.fpName = assocGet c.rest a.fpName :=
  raw_rest c (fpName_canon a) (fpName_ne_ip a) (fpName_ne_sp a)

theorem raw_calleeSaved {a : Arch} {r : String} (c : Ctx) (h : a.calleeSaved.contains r = true)
    (hsp : r ≠ a.spName) : c.raw a r = assocGet c.rest r :=
  raw_rest c (canon_calleeSaved h).1 (canon_calleeSaved h).2 hsp

theorem self_mem_aliases (a : Arch) (r : String) : r ∈ a.aliases r := by
  unfold Arch.aliases
  repeat' split
  all_goals simp [*]

theorem CfiIn.deref_eq (x : CfiIn) (addr : Nat) : x.deref addr = x.mem.read addr x.arch.ptr := by
  unfold CfiIn.deref
  rw [show (if x.arch.regMax = U32MAX then 4 else 8) = x.arch.ptr by cases x.arch <;> decide]

@[simp] theorem CfiReg.ra_beq_cfa : (CfiReg.ra == CfiReg.cfa) = false := by decide
@[simp] theorem CfiReg.cfa_beq_ra : (CfiReg.cfa == CfiReg.ra) = false := by decide
@[simp] theorem CfiReg.other_beq_cfa (n : String) : (CfiReg.other n == CfiReg.cfa) = false := by simp
@[simp] theorem CfiReg.other_beq_ra (n : String) : (CfiReg.other n == CfiReg.ra) = false := by simp
@[simp] theorem CfiReg.cfa_beq_other (n : String) : (CfiReg.cfa == CfiReg.other n) = false := by simp
@[simp] theorem CfiReg.ra_beq_other (n : String) : (CfiReg.ra == CfiReg.other n) = false := by simp

theorem spName_of_leafOk {a : Arch} (h : a.leafOk = true) : a.spName = "sp" := by
  cases a <;> simp [Arch.leafOk] at h <;> rfl

def lrName (a : Arch) : String := if a.isMips then "ra" else "lr"

/-- `.cfa: sp 0 + .ra: lr` (the leaf rule of a first frame; ARM, ARM64, MIPS) -/
theorem walkCfi_leaf (x : CfiIn) (o : CfiOut) (init : String) (sp lr : Nat)
    (hleaf : x.arch.leafOk = true) (htok : tokenize init = leafToks x.arch)
    (hsp : x.reg x.arch.spName = some sp) (hmax : sp ≤ x.arch.regMax)
    (hlr : x.reg (lrName x.arch) = some lr) (hlmax : lr ≤ x.arch.regMax) :
    walkCfi x o init [] =
      some { ctx := { o.ctx with sp := sp, ip := lr },
             valid := setInsert (setInsert o.valid x.arch.spName) x.arch.ipName } := by
  have hW := regMax_lt x.arch
  have hcfa : (sp + 0) % W64 = sp := by unfold W64; omega
  have hnot : ¬ (sp > x.arch.regMax ∨ lr > x.arch.regMax) := by omega
  rw [spName_of_leafOk hleaf] at hsp
  simp only [walkCfi, List.foldl_cons, List.foldl_nil, Option.bind_some, htok, leafToks,
    parseRules, ruleSet, List.isEmpty_cons, List.reverse_cons,
    List.reverse_nil, List.nil_append, List.cons_append, reduceCtorEq, List.lookup_cons,
    beq_self_eq_true, CfiReg.ra_beq_cfa, Bool.false_eq_true, if_false]
  cases hm : x.arch.isMips <;> simp only [lrName, hm, if_true, if_false, Bool.false_eq_true] at hlr ⊢ <;>
    simp only [evalCfi, hsp, hcfa, hlr, if_neg hnot] <;> simp [otherRules]

/-- `$r: .cfa LIT + ^` (`LIT` = the `u64` bit pattern of the literal, e.g. `2^64 - 16` for `-16`) -/
def groupToks (g : String × Nat) : List RTok :=
  [.label (.other g.1), .tok .cfa, .tok (.lit g.2), .tok .add, .tok .deref]

/-- the model's `canonicalToks` (MdModel/Walk/Layout.lean) with the stack-pointer token and the groups left
    open: `canonicalToks a b s` is `canonToksS a (spTok a) b` of no group (`s = false`) or of the frame
    pointer's, `(a.fpName, 2 ^ 64 - 2 * a.ptr)` -/
def canonToksS (a : Arch) (sp : ETok) (bytes : Nat) (saved : List (String × Nat)) : List RTok :=
  [.label .cfa, .tok sp, .tok (.lit bytes), .tok .add,
   .label .ra, .tok .cfa, .tok (.lit (2 ^ 64 - a.ptr)), .tok .add, .tok .deref] ++ saved.flatMap groupToks

def groupsOf : List RTok → Option (List (String × Nat))
  | [] => some []
  | .label (.other r) :: .tok .cfa :: .tok (.lit v) :: .tok .add :: .tok .deref :: rest =>
    (groupsOf rest).map fun l => (r, v) :: l
  | _ => none

theorem groupsOf_spec : ∀ (toks : List RTok) (saved : List (String × Nat)),
    groupsOf toks = some saved → toks = saved.flatMap groupToks := by
  intro toks
  induction toks using groupsOf.induct with
  | case1 => intro saved h; simp only [groupsOf, Option.some.injEq] at h; subst h; rfl
  | case2 r v rest ih =>
    intro saved h
    simp only [groupsOf, Option.map_eq_some_iff] at h
    obtain ⟨l, hl, rfl⟩ := h
    simp only [List.flatMap_cons, groupToks, List.cons_append, List.nil_append]
    rw [← ih l hl]
  | case3 toks h1 h2 =>
    intro saved h
    unfold groupsOf at h
    split at h
    · exact absurd rfl h1
    · exact absurd rfl (h2 _ _ _)
    · cases h

def slotE (v : Nat) : List ETok := [.cfa, .lit v, .add, .deref]

theorem ruleSet_append_of_not_mem (out : List (CfiReg × List ETok)) (r : CfiReg) (e : List ETok)
    (h : r ∉ out.map (·.1)) : ruleSet out r e = out ++ [(r, e)] := by
  induction out with
  | nil => rfl
  | cons p out ih =>
    obtain ⟨r', e'⟩ := p
    simp only [List.map_cons, List.mem_cons, not_or] at h
    simp only [ruleSet, if_neg (Ne.symm h.1), ih h.2, List.cons_append]

theorem parseRules_groups : ∀ (saved : List (String × Nat)) (r : CfiReg) (t : ETok) (ex : List ETok)
    (out : List (CfiReg × List ETok)), r ∉ out.map (·.1) →
    (saved.map (·.1)).Nodup → (∀ g ∈ saved, CfiReg.other g.1 ∉ out.map (·.1) ∧ CfiReg.other g.1 ≠ r) →
    parseRules (saved.flatMap groupToks) (some r) (t :: ex) out =
      some (out ++ (r, (t :: ex).reverse) :: saved.map fun g => (CfiReg.other g.1, slotE g.2)) := by
  intro saved
  induction saved with
  | nil =>
    intro r t ex out hr _ _
    simp only [List.flatMap_nil, parseRules, List.isEmpty_cons, Bool.false_eq_true, if_false, List.map_nil]
    rw [ruleSet_append_of_not_mem _ _ _ hr]
  | cons g saved ih =>
    intro r t ex out hr hnd hfresh
    simp only [List.map_cons, List.nodup_cons] at hnd
    have hg := hfresh g List.mem_cons_self
    simp only [List.flatMap_cons, groupToks, List.cons_append, List.nil_append, parseRules, List.isEmpty_cons,
      Bool.false_eq_true, if_false]
    rw [ruleSet_append_of_not_mem _ _ _ hr]
    have hr' : CfiReg.other g.1 ∉ (out ++ [(r, (t :: ex).reverse)]).map (·.1) := by
      simp only [List.map_append, List.map_cons, List.map_nil, List.mem_append, List.mem_singleton, not_or]
      exact ⟨hg.1, hg.2⟩
    rw [ih (CfiReg.other g.1) .deref [.add, .lit g.2, .cfa] _ hr' hnd.2 ?_]
    · simp [slotE]
    · intro g' hg'
      have := hfresh g' (List.mem_cons_of_mem _ hg')
      refine ⟨?_, ?_⟩
      · simp only [List.map_append, List.map_cons, List.map_nil, List.mem_append, List.mem_singleton, not_or]
        exact ⟨this.1, this.2⟩
      · intro heq
        injection heq with heq
        exact hnd.1 (heq ▸ List.mem_map_of_mem (f := (·.1)) hg')

/-- one round of the loop at the end of `walk_with_stack_cfi` -/
def applyRule (x : CfiIn) (cfa : Nat) (o : CfiOut) (p : String × List ETok) : CfiOut :=
  match evalCfi x (some cfa) p.2 [] with
  | some v =>
    (match o.setReg x.arch p.1 v with
     | some o' => o'
     | none => o.clearReg x.arch p.1)
  | none => o.clearReg x.arch p.1

/-- the word a group's slot holds (0 when unreadable — excluded by the precondition) -/
def slotWord (a : Arch) (mem : Mem) (cfa v : Nat) : Nat := (mem.read ((cfa + v) % W64) a.ptr).getD 0

theorem applyRule_group (x : CfiIn) (cfa : Nat) (o : CfiOut) (g : String × Nat)
    (hc : x.arch.canon g.1 = some g.1) (hip : g.1 ≠ x.arch.ipName) (hsp : g.1 ≠ x.arch.spName)
    (hr : (x.mem.read ((cfa + g.2) % W64) x.arch.ptr).isSome = true) :
    applyRule x cfa o (g.1, slotE g.2) =
      { ctx := { o.ctx with rest := assocSet o.ctx.rest g.1 (slotWord x.arch x.mem cfa g.2) },
        valid := setInsert o.valid g.1 } := by
  obtain ⟨w, hw⟩ := Option.isSome_iff_exists.mp hr
  have hle := read_le_regMax hw
  simp only [applyRule, slotE, evalCfi, CfiIn.deref_eq, hw, CfiOut.setReg, hc, if_neg (Nat.not_lt.mpr hle),
    Ctx.set, if_neg hip, if_neg hsp, slotWord, Option.getD_some]

theorem foldl_saved (x : CfiIn) (cfa : Nat) (L : List (String × Nat)) :
    ∀ (o : CfiOut),
      (∀ g ∈ L, x.arch.canon g.1 = some g.1 ∧ g.1 ≠ x.arch.ipName ∧ g.1 ≠ x.arch.spName ∧
        (x.mem.read ((cfa + g.2) % W64) x.arch.ptr).isSome = true) →
      (L.map fun g => (g.1, slotE g.2)).foldl (applyRule x cfa) o =
        { ctx := { o.ctx with rest := L.foldl (fun rest g => assocSet rest g.1 (slotWord x.arch x.mem cfa g.2)) o.ctx.rest },
          valid := L.foldl (fun v g => setInsert v g.1) o.valid } := by
  induction L with
  | nil => intro o _; rfl
  | cons g L ih =>
    intro o h
    obtain ⟨hc, hip, hsp, hr⟩ := h g List.mem_cons_self
    simp only [List.map_cons, List.foldl_cons]
    rw [applyRule_group x cfa o g hc hip hsp hr, ih]
    exact fun g' hg' => h g' (List.mem_cons_of_mem _ hg')

theorem mergeSort_groups (L : List (String × Nat)) :
    (L.map fun g => (g.1, slotE g.2)).mergeSort (fun p q => strLe p.1 q.1) =
      (L.mergeSort fun p q => strLe p.1 q.1).map fun g => (g.1, slotE g.2) := by
  symm
  exact List.map_mergeSort (fun _ _ _ _ => rfl)

theorem otherRules_groups (cfaE raE : List ETok) (saved : List (String × Nat)) :
    otherRules ([(CfiReg.cfa, cfaE)] ++ (CfiReg.ra, raE) :: saved.map fun g => (CfiReg.other g.1, slotE g.2)) =
      saved.map fun g => (g.1, slotE g.2) := by
  simp only [otherRules, List.singleton_append, List.filterMap_cons, List.filterMap_map]
  induction saved with
  | nil => rfl
  | cons g saved ih => simp only [List.filterMap_cons, Function.comp_apply, List.map_cons, ih]

/-- the groups in the order `walk_with_stack_cfi` applies them: sorted by name, byte-wise -/
def byName (saved : List (String × Nat)) : List (String × Nat) := saved.mergeSort fun p q => strLe p.1 q.1

theorem evalCfi_regTok (x : CfiIn) (cfa : Option Nat) {t : ETok} {n : String}
    (h : t = .dollar n ∨ t = .bare n) (rest : List ETok) (st : List Nat) :
    evalCfi x cfa (t :: rest) st =
      match x.reg n with
      | some v => evalCfi x cfa rest (v :: st)
      | none => none := by
  rcases h with rfl | rfl <;> rfl

theorem spTok_cases (a : Arch) : spTok a = .dollar a.spName ∨ spTok a = .bare a.spName := by
  unfold spTok
  split
  · exact Or.inl rfl
  · exact Or.inr rfl

/-- caller registers and validity after `.cfa: $sp N + .ra: .cfa -W + ^ ($r: .cfa LIT + ^)*`
    with CFA `cfa`, return-address word `ret`: sp, ip and every saved register are set -/
def canonOut (a : Arch) (mem : Mem) (o : CfiOut) (cfa ret : Nat) (saved : List (String × Nat)) : CfiOut :=
  { ctx := { o.ctx with sp := cfa, ip := ret,
                        rest := (byName saved).foldl (fun rest g => assocSet rest g.1 (slotWord a mem cfa g.2)) o.ctx.rest },
    valid := (byName saved).foldl (fun v g => setInsert v g.1) (setInsert (setInsert o.valid a.spName) a.ipName) }

theorem walkCfi_canonS (x : CfiIn) (o : CfiOut) (init : String) (sptok : ETok) (bytes sp ret : Nat)
    (saved : List (String × Nat))
    (hspt : sptok = .dollar x.arch.spName ∨ sptok = .bare x.arch.spName)
    (htok : tokenize init = canonToksS x.arch sptok bytes saved)
    (hsp : x.reg x.arch.spName = some sp) (hmax : sp + bytes ≤ x.arch.regMax)
    (hp : x.arch.ptr ≤ sp + bytes)
    (hra : x.mem.read (sp + bytes - x.arch.ptr) x.arch.ptr = some ret)
    (hnd : (saved.map (·.1)).Nodup)
    (hsv : ∀ g ∈ saved, x.arch.canon g.1 = some g.1 ∧ g.1 ≠ x.arch.ipName ∧ g.1 ≠ x.arch.spName ∧
      (x.mem.read ((sp + bytes + g.2) % W64) x.arch.ptr).isSome = true) :
    walkCfi x o init [] = some (canonOut x.arch x.mem o (sp + bytes) ret saved) := by
  have h8 := ptr_le_eight x.arch
  have h0 := ptr_pos x.arch
  have hW := regMax_lt x.arch
  have hret := read_le_regMax hra
  have hcfa : (sp + bytes) % W64 = sp + bytes := by unfold W64; omega
  have hsub : (sp + bytes + (2 ^ 64 - x.arch.ptr)) % W64 = sp + bytes - x.arch.ptr := by unfold W64; omega
  have hnot : ¬ (sp + bytes > x.arch.regMax ∨ ret > x.arch.regMax) := by omega
  have hparse := parseRules_groups saved .ra .deref [.add, .lit (2 ^ 64 - x.arch.ptr), .cfa]
    [(.cfa, [sptok, .lit bytes, .add])] (by simp) hnd (by intro g _; simp)
  simp only [walkCfi, List.foldl_cons, List.foldl_nil, Option.bind_some, htok, canonToksS, List.cons_append, List.nil_append,
    parseRules, ruleSet, List.isEmpty_cons, List.reverse_cons, List.reverse_nil, hparse, Bool.false_eq_true, if_false]
  simp only [List.lookup_cons, beq_self_eq_true, CfiReg.ra_beq_cfa]
  simp only [evalCfi_regTok x _ hspt, hsp]
  simp only [evalCfi, hcfa, hsub, CfiIn.deref_eq, hra, if_neg hnot]
  have hor := otherRules_groups [sptok, .lit bytes, .add] [.cfa, .lit (2 ^ 64 - x.arch.ptr), .add, .deref] saved
  simp only [List.cons_append, List.nil_append] at hor
  rw [hor, mergeSort_groups]
  show some (List.foldl (applyRule x (sp + bytes)) _ _) = _
  rw [foldl_saved]
  · rfl
  · exact fun g hg => hsv g (List.mem_mergeSort.mp hg)

theorem lookup_some_mem {l : List (String × Nat)} {r : String} {v : Nat} (h : l.lookup r = some v) :
    (r, v) ∈ l :=
  List.mem_of_lookup_eq_some h

theorem lookup_none_not_mem {l : List (String × Nat)} {r : String} (h : l.lookup r = none) :
    r ∉ l.map (·.1) :=
  List.lookup_eq_none_iff_not_mem_keys.mp h

theorem assocGet_foldl_byName (F : Nat → Nat) {S : List (String × Nat)} (hnd : (S.map (·.1)).Nodup) (r : String)
    (rest : List (String × Nat)) :
    assocGet ((byName S).foldl (fun rest g => assocSet rest g.1 (F g.2)) rest) r =
      match S.lookup r with
      | some lit => F lit
      | none => assocGet rest r := by
  have hperm : ((byName S).map (·.1)).Perm (S.map (·.1)) := (List.mergeSort_perm S _).map _
  cases hlk : S.lookup r with
  | some lit =>
    exact assocGet_foldl_mem F _ r lit _ (hperm.nodup_iff.mpr hnd) (List.mem_mergeSort.mpr (lookup_some_mem hlk))
  | none =>
    exact assocGet_foldl_not_mem F _ r _ fun hin => lookup_none_not_mem hlk (hperm.mem_iff.mp hin)

end MdModel.Walk
