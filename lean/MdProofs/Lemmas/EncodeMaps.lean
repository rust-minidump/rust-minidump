/-
  C02: the Linux maps text stream reads back: lines, the six space-separated fields, fixed-width
  hexadecimal / decimal numbers through `from_str_radix`, permission characters, and every spelling
  of the path column.
-/
import MdProofs.Lemmas.Encode
namespace MdModel.Encode
open MdModel MdModel.Dump MdModel.Gen.Layouts MdModel.Gen.LayoutsC02

/-- a byte `fixedDigits` can produce -/
abbrev IsDigitByte (c : UInt8) : Prop := (48 ≤ c ∧ c ≤ 57) ∨ (97 ≤ c ∧ c ≤ 102)

theorem digitByte_isDigit : ∀ d, d < 16 → IsDigitByte (digitByte d) := by decide

theorem digitVal_digitByte {b : Nat} (hb : b = 10 ∨ b = 16) : ∀ d, d < b → digitVal b (digitByte d) = some d := by
  rcases hb with rfl | rfl <;> decide

theorem fixedDigits_length (b : Nat) : ∀ (w n : Nat), (fixedDigits b w n).length = w := by
  intro w
  induction w with
  | zero => intro n; rfl
  | succ w ih => intro n; simp [fixedDigits, ih]

theorem fixedDigits_getLast? (b w n : Nat) : (fixedDigits b (w + 1) n).getLast? = some (digitByte (n % b)) := by
  rw [fixedDigits, List.getLast?_concat]

theorem fixedDigits_isDigit {b : Nat} (hb : 0 < b ∧ b ≤ 16) : ∀ (w n : Nat), ∀ c ∈ fixedDigits b w n, IsDigitByte c := by
  intro w
  induction w with
  | zero => intro n c hc; simp [fixedDigits] at hc
  | succ w ih =>
    intro n c hc
    simp only [fixedDigits, List.mem_append, List.mem_singleton] at hc
    cases hc with
    | inl h => exact ih _ c h
    | inr h =>
      subst h
      exact digitByte_isDigit _ (by have := Nat.mod_lt n hb.1; omega)

theorem digitsVal_append (radix maxv : Nat) : ∀ (xs ys : List UInt8) (acc : Nat),
    digitsVal radix maxv acc (xs ++ ys) = (digitsVal radix maxv acc xs).bind fun a => digitsVal radix maxv a ys := by
  intro xs
  induction xs with
  | nil => intro ys acc; rfl
  | cons x xs ih =>
    intro ys acc
    simp only [List.cons_append, digitsVal]
    cases digitVal radix x with
    | none => rfl
    | some d =>
      simp only
      split
      · rfl
      · exact ih ys _

theorem digitsVal_fixed {b maxv : Nat} (hb : b = 10 ∨ b = 16) : ∀ (w n : Nat), n < b ^ w → n ≤ maxv →
    digitsVal b maxv 0 (fixedDigits b w n) = some n := by
  intro w
  induction w with
  | zero => intro n h _; simp at h; subst h; rfl
  | succ w ih =>
    intro n h hm
    have hbpos : 0 < b := by rcases hb with rfl | rfl <;> decide
    have hdiv : n / b < b ^ w := by
      rw [Nat.pow_succ] at h
      exact Nat.div_lt_of_lt_mul (by rw [Nat.mul_comm]; exact h)
    have hle : n / b ≤ maxv := Nat.le_trans (Nat.div_le_self n b) hm
    have hmod := Nat.mod_lt n hbpos
    simp only [fixedDigits, digitsVal_append, ih _ hdiv hle, Option.bind, digitsVal, digitVal_digitByte hb _ hmod]
    have : n / b * b + n % b = n := by rw [Nat.mul_comm]; exact Nat.div_add_mod n b
    rw [this, if_neg (by omega)]

theorem fixedDigits_cons {b : Nat} (hb : 0 < b ∧ b ≤ 16) (w n : Nat) :
    ∃ c cs, fixedDigits b (w + 1) n = c :: cs ∧ IsDigitByte c := by
  have hlen := fixedDigits_length b (w + 1) n
  have hdig := fixedDigits_isDigit hb (w + 1) n
  cases hl : fixedDigits b (w + 1) n with
  | nil => rw [hl] at hlen; cases hlen
  | cons c cs => exact ⟨c, cs, rfl, hdig c (hl ▸ List.mem_cons_self)⟩

theorem parseUnsigned_fixed {b maxv : Nat} (hb : b = 10 ∨ b = 16) (w n : Nat) (hw : 0 < w) (h : n < b ^ w) (hm : n ≤ maxv) :
    parseUnsigned b maxv (fixedDigits b w n) = some n := by
  have hval := digitsVal_fixed (maxv := maxv) hb w n h hm
  obtain ⟨w, rfl⟩ : ∃ w', w = w' + 1 := ⟨w - 1, by omega⟩
  obtain ⟨c, cs, hl, hc⟩ := fixedDigits_cons (b := b) (by rcases hb with rfl | rfl <;> decide) w n
  rw [hl] at hval ⊢
  have hne : c ≠ 43 := fun h43 => by subst h43; revert hc; decide
  unfold parseUnsigned
  split
  · rename_i rest heq
    exact absurd (List.cons.inj heq).1 hne
  · simp [hval]

theorem parseI32Hex_fixed (n : Nat) (h : n < 2 ^ 31) : parseI32Hex (fixedDigits 16 8 n) = some n := by
  have hp := parseUnsigned_fixed (b := 16) (maxv := 2147483647) (.inr rfl) 8 n (by decide)
    (by have : (16 : Nat) ^ 8 = 2 ^ 32 := by decide
        omega) (by omega)
  obtain ⟨c, cs, hl, hc⟩ := fixedDigits_cons (b := 16) (by decide) 7 n
  rw [hl] at hp ⊢
  have hne : c ≠ 45 := fun h45 => by subst h45; revert hc; decide
  unfold parseI32Hex
  split
  · rename_i rest heq
    exact absurd (List.cons.inj heq).1 hne
  · exact hp

theorem parsePerms_enc : ∀ p, p < 32 → parsePerms (encPerms p) = p := by decide

theorem head_bne_of_not_mem {c x : UInt8} {xs : List UInt8} (h : c ∉ x :: xs) : (x == c) = false := by
  simpa using fun hh : x = c => h (hh ▸ List.mem_cons_self)

theorem splitOnByte_none (c : UInt8) : ∀ (a : List UInt8), c ∉ a → splitOnByte c a = [a]
  | [], _ => rfl
  | x :: xs, h => by
    simp [splitOnByte, head_bne_of_not_mem h, splitOnByte_none c xs (fun hh => h (List.mem_cons_of_mem _ hh))]

theorem splitOnByte_sep (c : UInt8) : ∀ (a rest : List UInt8), c ∉ a →
    splitOnByte c (a ++ c :: rest) = a :: splitOnByte c rest
  | [], _, _ => by simp [splitOnByte]
  | x :: xs, rest, h => by
    simp [splitOnByte, head_bne_of_not_mem h, splitOnByte_sep c xs rest (fun hh => h (List.mem_cons_of_mem _ hh))]

theorem splitOnByte_fields (c : UInt8) : ∀ (fs : List (List UInt8)) (last : List UInt8), (∀ f ∈ fs, c ∉ f) → c ∉ last →
    splitOnByte c (fs.flatMap (· ++ [c]) ++ last) = fs ++ [last]
  | [], last, _, hl => splitOnByte_none c last hl
  | f :: fs, last, h, hl => by
    rw [List.flatMap_cons, List.append_assoc, List.append_assoc, List.singleton_append,
      splitOnByte_sep c f _ (h f (by simp)), splitOnByte_fields c fs last (fun g hg => h g (by simp [hg])) hl]
    rfl

theorem splitNByte_sep (c : UInt8) (n : Nat) : ∀ (a rest : List UInt8), c ∉ a →
    splitNByte c (n + 2) (a ++ c :: rest) = a :: splitNByte c (n + 1) rest
  | [], _, _ => by simp [splitNByte]
  | x :: xs, rest, h => by
    simp [splitNByte, head_bne_of_not_mem h, splitNByte_sep c n xs rest (fun hh => h (List.mem_cons_of_mem _ hh))]

theorem splitNByte_fields (c : UInt8) : ∀ (fs : List (List UInt8)) (last : List UInt8) (n : Nat), n = fs.length + 1 →
    (∀ f ∈ fs, c ∉ f) → splitNByte c n (fs.flatMap (· ++ [c]) ++ last) = fs ++ [last]
  | [], _, _, rfl, _ => by simp [splitNByte]
  | f :: fs, last, _, rfl, h => by
    rw [List.flatMap_cons, List.append_assoc, List.append_assoc, List.singleton_append, List.length_cons,
      splitNByte_sep c _ f _ (h f (by simp)), splitNByte_fields c fs last _ rfl (fun g hg => h g (by simp [hg]))]
    rfl

theorem splitPair_enc (sep : UInt8) (a b : List UInt8) (ha : sep ∉ a) (hb : sep ∉ b) :
    splitPair sep (a ++ sep :: b) = some (a, b) := by
  unfold splitPair
  rw [splitOnByte_sep sep a b ha, splitOnByte_none sep b hb]

theorem digit_not {c x : UInt8} (hc : IsDigitByte c) (hx : ¬ IsDigitByte x) : c ≠ x := by
  intro h; subst h; exact hx hc

theorem not_mem_fixedDigits {b : Nat} (hb : 0 < b ∧ b ≤ 16) (w n : Nat) (x : UInt8) (hx : ¬ IsDigitByte x) :
    x ∉ fixedDigits b w n := fun h => hx (fixedDigits_isDigit hb w n x h)

theorem textLines_joinLines (ls : List (List UInt8)) (h10 : ∀ l ∈ ls, (10 : UInt8) ∉ l)
    (h13 : ∀ l ∈ ls, l.getLast? ≠ some 13) : textLines (ls.flatMap (· ++ [10])) = ls := by
  unfold textLines
  rw [← List.append_nil (ls.flatMap _), splitOnByte_fields 10 ls [] h10 List.not_mem_nil]
  simp only [List.dropLast_concat, List.getLast?_append, List.getLast?_singleton, Option.some_or]
  refine (List.map_congr_left fun l hl => ?_).trans (List.map_id ls)
  simp [h13 l hl]

theorem encLinuxMaps_eq (xs : List MapEntry) : encLinuxMaps xs = (xs.map mapLineBody).flatMap (· ++ [10]) := by
  induction xs with
  | nil => rfl
  | cons x xs ih => simp [encLinuxMaps, ih]

theorem utf8Valid_cons_ascii (a : UInt8) (h : a < 0x80) (rest : List UInt8) : utf8Valid (a :: rest) = utf8Valid rest := by
  match rest with
  | [] => simp [utf8Valid, h]
  | [b] => simp [utf8Valid, h]
  | [b, c] => simp [utf8Valid, h]
  | b :: c :: d :: r => simp [utf8Valid, h]

theorem utf8Valid_ascii_append : ∀ (pre rest : List UInt8), (∀ c ∈ pre, c < 0x80) →
    utf8Valid (pre ++ rest) = utf8Valid rest := by
  intro pre
  induction pre with
  | nil => intro rest _; rfl
  | cons a pre ih =>
    intro rest h
    rw [List.cons_append, utf8Valid_cons_ascii a (h a (by simp)), ih rest (fun c hc => h c (by simp [hc]))]

abbrev Printable (c : UInt8) : Prop := 0x21 ≤ c ∧ c ≤ 0x7E

theorem digit_printable {c : UInt8} (h : IsDigitByte c) : Printable c := by
  unfold IsDigitByte at h
  unfold Printable
  simp only [UInt8.le_iff_toNat_le, UInt8.toNat_ofNat] at *
  omega

/-- a printable byte is no ASCII white space, and no third byte of a `White_Space` character in U+2000..U+202F -/
theorem printable_not_ws (c : UInt8) (h : Printable c) : ¬ (9 ≤ c ∧ c ≤ 13 ∨ (c == 32) = true) ∧
    ¬ (128 ≤ c ∧ c ≤ 138 ∨ (c == 168) = true ∨ (c == 169) = true ∨ (c == 175) = true) := by
  obtain ⟨h1, h2⟩ := h
  rw [UInt8.le_iff_toNat_le] at h1 h2
  simp only [UInt8.le_iff_toNat_le, beq_iff_eq, ← UInt8.toNat_inj]
  simp only [UInt8.toNat_ofNat] at *
  omega

theorem wsHead_printable (c : UInt8) (rest : List UInt8) (h : Printable c) : wsHead (c :: rest) = 0 := by
  unfold wsHead
  split <;> first
    | (exfalso; revert h; decide)
    | (rename_i heq; simp only [List.cons.injEq] at heq; obtain ⟨rfl, _⟩ := heq; exfalso; revert h; decide)
    | skip
  · rename_i heq
    simp only [List.cons.injEq] at heq
    obtain ⟨rfl, _⟩ := heq
    rw [if_neg (printable_not_ws _ h).1]
  · rfl

theorem wsLast_printable (c : UInt8) (rest : List UInt8) (h : Printable c) : wsLast (c :: rest) = 0 := by
  unfold wsLast
  split <;> first
    | (exfalso; revert h; decide)
    | (rename_i heq; simp only [List.cons.injEq] at heq; obtain ⟨rfl, _⟩ := heq; exfalso; revert h; decide)
    | skip
  · rename_i heq
    simp only [List.cons.injEq] at heq
    obtain ⟨rfl, _⟩ := heq
    rw [if_neg (printable_not_ws _ h).2, if_neg (printable_not_ws _ h).1]
  · rename_i heq
    simp only [List.cons.injEq] at heq
    obtain ⟨rfl, _⟩ := heq
    rw [if_neg (printable_not_ws _ h).1]
  · rfl

/-- text that `str::trim` leaves alone: empty, or printable ASCII at both ends -/
def TrimStable (s : List UInt8) : Prop :=
  s = [] ∨ ((∃ c, s.head? = some c ∧ Printable c) ∧ ∃ c, s.getLast? = some c ∧ Printable c)

theorem trimStartGo_stable (fuel : Nat) (s : List UInt8) (h : TrimStable s) : trimStartGo fuel s = s := by
  cases fuel with
  | zero => rfl
  | succ f =>
    rcases h with rfl | ⟨⟨c, hc, hp⟩, _⟩
    · rfl
    · cases s with
      | nil => simp at hc
      | cons x xs =>
        cases hc
        simp [trimStartGo, wsHead_printable c xs hp]

theorem trimEndGo_stable (fuel : Nat) (s : List UInt8) (h : TrimStable s) : trimEndGo fuel s.reverse = s.reverse := by
  cases fuel with
  | zero => rfl
  | succ f =>
    rcases h with rfl | ⟨_, ⟨c, hc, hp⟩⟩
    · rfl
    · cases hr : s.reverse with
      | nil => rfl
      | cons x xs =>
        rw [List.getLast?_eq_head?_reverse, hr] at hc
        cases hc
        simp [trimEndGo, wsLast_printable c xs hp]

theorem trimBytes_stable (s : List UInt8) (h : TrimStable s) : trimBytes s = s := by
  unfold trimBytes
  simp only [trimStartGo_stable _ s h, trimEndGo_stable _ s h, List.reverse_reverse]

def SPECIAL_NAMES : List (List UInt8) := [S_HEAP, S_STACK, S_VDSO, S_VVAR, S_VSYSCALL, S_ROLLUP]

/-- a path column the text format can carry unambiguously: a file path must not look like one of
    the bracketed pseudo-paths or a `/SYSV` key and must not begin or end with white space (the
    parser trims); a bracketed name must not be one of the fixed ones -/
def PathFits : MapPath → Prop
  | .path p => p ≠ [] ∧ TrimStable p ∧ p ∉ SPECIAL_NAMES ∧ startsWithB p S_STACK_COLON = false ∧
      ¬ (p.head? = some 91 ∧ p.getLast? = some 93) ∧ startsWithB p S_SYSV = false
  | .tstack tid => tid < 2 ^ 32
  | .vsys k => k < 2 ^ 32
  | .other s => ([91] ++ s ++ [93]) ∉ SPECIAL_NAMES ∧ startsWithB ([91] ++ s ++ [93]) S_STACK_COLON = false
  | _ => True

theorem getLast?_cons_snoc (a b : UInt8) (s : List UInt8) : (a :: (s ++ [b])).getLast? = some b := by
  rw [← List.cons_append, List.getLast?_concat]

theorem dropLast_cons_snoc (a b : UInt8) (s : List UInt8) : (a :: (s ++ [b])).dropLast = a :: s := by
  rw [← List.cons_append, List.dropLast_concat]

theorem trimStable_brackets (mid : List UInt8) : TrimStable ([91] ++ mid ++ [93]) := by
  refine .inr ⟨⟨91, by simp, by decide⟩, ⟨93, by simp [getLast?_cons_snoc], by decide⟩⟩

theorem encMapPath_trimStable (p : MapPath) (h : PathFits p) : TrimStable (encMapPath p) := by
  cases p with
  | path q => exact h.2.1
  | tstack tid => exact trimStable_brackets ([115, 116, 97, 99, 107, 58] ++ fixedDigits 10 10 tid)
  | other s => exact trimStable_brackets s
  | vsys k =>
    exact .inr ⟨⟨47, rfl, by decide⟩, ⟨_, by rw [encMapPath, List.getLast?_append, fixedDigits_getLast?]; rfl,
      digit_printable (digitByte_isDigit _ (Nat.mod_lt _ (by decide)))⟩⟩
  | anonymous => exact .inl rfl
  | heap | stack | vdso | vvar | vsyscall | rollup => exact .inr ⟨⟨91, rfl, by decide⟩, ⟨93, rfl, by decide⟩⟩

theorem mapPathOf_path (p : List UInt8) (h : PathFits (.path p)) : (mapPathOf p).res = .ok (.path p) := by
  obtain ⟨h0, ht, hs, hc, hb, hv⟩ := h
  simp only [SPECIAL_NAMES, List.mem_cons, List.not_mem_nil, or_false, not_or] at hs
  obtain ⟨n1, n2, n3, n4, n5, n6⟩ := hs
  unfold mapPathOf
  simp only [trimBytes_stable p ht]
  simp [h0, n1, n2, n3, n4, n5, n6, hc, hb, hv]

theorem mapPathOf_other (s : List UInt8) (h : PathFits (.other s)) :
    (mapPathOf ([91] ++ s ++ [93])).res = .ok (.other s) := by
  obtain ⟨hs, hc⟩ := h
  simp only [SPECIAL_NAMES, List.mem_cons, List.not_mem_nil, or_false, not_or] at hs
  obtain ⟨n1, n2, n3, n4, n5, n6⟩ := hs
  unfold mapPathOf
  simp only [trimBytes_stable _ (trimStable_brackets s)]
  simp only [List.cons_append, List.nil_append] at n1 n2 n3 n4 n5 n6 hc ⊢
  simp [n1, n2, n3, n4, n5, n6, hc, getLast?_cons_snoc]

theorem mapPathOf_tstack (tid : Nat) (h : tid < 2 ^ 32) :
    (mapPathOf (S_STACK_COLON ++ fixedDigits 10 10 tid ++ [93])).res = .ok (.tstack tid) := by
  have hp := parseUnsigned_fixed (b := 10) (maxv := 4294967295) (.inl rfl) 10 tid (by decide)
    (by have : (10 : Nat) ^ 10 = 10000000000 := by decide
        omega) (by omega)
  have h58 : (58 : UInt8) ∉ fixedDigits 10 10 tid := not_mem_fixedDigits (by decide) _ _ _ (by decide)
  have hst : TrimStable (S_STACK_COLON ++ fixedDigits 10 10 tid ++ [93]) := encMapPath_trimStable (.tstack tid) h
  -- nothing below looks inside the digits
  generalize fixedDigits 10 10 tid = ds at hp h58 hst
  have hsplit : splitOnByte 58 ([115, 116, 97, 99, 107] ++ 58 :: ds) = [[115, 116, 97, 99, 107], ds] := by
    rw [splitOnByte_sep 58 _ _ (by decide), splitOnByte_none 58 _ h58]
  unfold mapPathOf
  simp only [trimBytes_stable _ hst]
  simp [S_STACK_COLON, S_HEAP, S_STACK, S_VDSO, S_VVAR, S_VSYSCALL, S_ROLLUP, startsWithB] at hsplit ⊢
  simp [getLast?_cons_snoc, dropLast_cons_snoc, hsplit, hp]

theorem mapPathOf_vsys (k : Nat) (h : k < 2 ^ 32) :
    (mapPathOf (S_SYSV ++ fixedDigits 16 8 k)).res = .ok (.vsys k) := by
  have hp := parseUnsigned_fixed (b := 16) (maxv := 4294967295) (.inr rfl) 8 k (by decide)
    (by have : (16 : Nat) ^ 8 = 2 ^ 32 := by decide
        omega) (by omega)
  have hlen := fixedDigits_length 16 8 k
  have hst : TrimStable (S_SYSV ++ fixedDigits 16 8 k) := encMapPath_trimStable (.vsys k) h
  generalize fixedDigits 16 8 k = ds at hp hlen hst
  have h13 : (S_SYSV ++ ds).length = 13 := by rw [List.length_append, hlen]; rfl
  have hget : (S_SYSV ++ ds)[13]? = none := List.getElem?_eq_none (Nat.le_of_eq h13)
  have hmid : ((S_SYSV ++ ds).drop 5).take 8 = ds := List.take_of_length_le (Nat.le_of_eq hlen)
  unfold mapPathOf
  simp only [trimBytes_stable _ hst]
  simp [S_SYSV, S_STACK_COLON, S_HEAP, S_STACK, S_VDSO, S_VVAR, S_VSYSCALL, S_ROLLUP, startsWithB] at h13 hget hmid ⊢
  simp [h13, hmid, hp]

theorem mapPathOf_enc (p : MapPath) (h : PathFits p) : (mapPathOf (encMapPath p)).res = .ok p := by
  cases p with
  | path q => exact mapPathOf_path q h
  | tstack tid => exact mapPathOf_tstack tid h
  | vsys k => exact mapPathOf_vsys k h
  | other s => exact mapPathOf_other s h
  | heap | stack | vdso | vvar | vsyscall | rollup | anonymous => rfl

theorem pathText_last (p : MapPath) (h : PathFits p) : ∀ c, (encMapPath p).getLast? = some c → Printable c := by
  intro c hc
  rcases encMapPath_trimStable p h with h0 | ⟨_, c', hc', hp⟩
  · rw [h0] at hc; cases hc
  · rw [hc'] at hc; cases hc; exact hp

def MapEntryFits (x : MapEntry) : Prop :=
  x.lo < 2 ^ 64 ∧ x.hi < 2 ^ 64 ∧ x.perms < 32 ∧ x.offset < 2 ^ 64 ∧ x.devMajor < 2 ^ 31 ∧ x.devMinor < 2 ^ 31 ∧
  x.inode < 2 ^ 64 ∧ PathFits x.path ∧ utf8Valid (encMapPath x.path) = true ∧ (10 : UInt8) ∉ encMapPath x.path

def mapCols (x : MapEntry) : List (List UInt8) :=
  [fixedDigits 16 16 x.lo ++ 45 :: fixedDigits 16 16 x.hi, encPerms x.perms, fixedDigits 16 16 x.offset,
   fixedDigits 16 8 x.devMajor ++ 58 :: fixedDigits 16 8 x.devMinor, fixedDigits 10 20 x.inode]

theorem mapLineBody_eq (x : MapEntry) : mapLineBody x = (mapCols x).flatMap (· ++ [32]) ++ encMapPath x.path := by
  simp [mapLineBody, mapCols]

theorem encPerms_printable : ∀ p, p < 32 → ∀ c ∈ encPerms p, Printable c := by decide

theorem mapCols_printable (x : MapEntry) (hp : x.perms < 32) : ∀ f ∈ mapCols x, ∀ c ∈ f, Printable c := by
  have hd : ∀ {b : Nat}, 0 < b ∧ b ≤ 16 → ∀ w n, ∀ c ∈ fixedDigits b w n, Printable c :=
    fun hb w n c h => digit_printable (fixedDigits_isDigit hb w n c h)
  simp only [mapCols, List.forall_mem_cons, List.forall_mem_append, List.not_mem_nil, false_imp_iff, implies_true, and_true]
  exact ⟨⟨hd (by decide) _ _, by decide, hd (by decide) _ _⟩, encPerms_printable _ hp, hd (by decide) _ _,
    ⟨hd (by decide) _ _, by decide, hd (by decide) _ _⟩, hd (by decide) _ _⟩

theorem mapHead_bytes (x : MapEntry) (hp : x.perms < 32) :
    ∀ c ∈ (mapCols x).flatMap (· ++ [32]), 0x20 ≤ c ∧ c ≤ 0x7E := by
  intro c hc
  obtain ⟨f, hf, hc⟩ := List.mem_flatMap.mp hc
  rcases List.mem_append.mp hc with h | h
  · have := mapCols_printable x hp f hf c h
    exact ⟨UInt8.le_trans (by decide) this.1, this.2⟩
  · cases List.mem_singleton.mp h; decide

theorem mapEntryOfLine_enc (x : MapEntry) (h : MapEntryFits x) : (mapEntryOfLine (mapLineBody x)).res = .ok x := by
  obtain ⟨h1, h2, h3, h4, h5, h6, h7, hpath, _, _⟩ := h
  have nd16 : ∀ w n (c : UInt8), ¬ IsDigitByte c → c ∉ fixedDigits 16 w n := fun w n c hc =>
    not_mem_fixedDigits (by decide) w n c hc
  have p64 : (16 : Nat) ^ 16 = 2 ^ 64 := by decide
  have hU : U64MAX = 2 ^ 64 - 1 := by decide
  have hx64 : ∀ n, n < 2 ^ 64 → parseUnsigned 16 U64MAX (fixedDigits 16 16 n) = some n := fun n hn =>
    parseUnsigned_fixed (.inr rfl) 16 n (by decide) (by omega) (by omega)
  have hino := parseUnsigned_fixed (b := 10) (maxv := U64MAX) (.inl rfl) 20 x.inode (by decide)
    (by have : (10 : Nat) ^ 20 = 100000000000000000000 := by decide
        omega) (by omega)
  have haddr := splitPair_enc 45 (fixedDigits 16 16 x.lo) (fixedDigits 16 16 x.hi) (nd16 _ _ 45 (by decide)) (nd16 _ _ 45 (by decide))
  have hdev := splitPair_enc 58 (fixedDigits 16 8 x.devMajor) (fixedDigits 16 8 x.devMinor) (nd16 _ _ 58 (by decide))
    (nd16 _ _ 58 (by decide))
  unfold mapEntryOfLine
  rw [mapLineBody_eq, splitNByte_fields 32 _ _ 6 rfl fun f hf h32 => absurd (mapCols_printable x h3 f hf 32 h32).1 (by decide)]
  simp only [mapCols, List.cons_append, List.nil_append, haddr, hx64 _ h1, hx64 _ h2, hx64 _ h4, hdev,
    parseI32Hex_fixed x.devMajor h5, parseI32Hex_fixed x.devMinor h6, hino]
  rw [res_bind_ok (mapPathOf_enc x.path hpath)]
  simp only [parsePerms_enc _ h3]
  rfl

theorem mapLineBody_valid (x : MapEntry) (h : MapEntryFits x) : utf8Valid (mapLineBody x) = true := by
  rw [mapLineBody_eq, utf8Valid_ascii_append _ _ fun c hc => UInt8.lt_of_le_of_lt (mapHead_bytes x h.2.2.1 c hc).2 (by decide)]
  exact h.2.2.2.2.2.2.2.2.1

theorem mapLineBody_no_nl (x : MapEntry) (h : MapEntryFits x) : (10 : UInt8) ∉ mapLineBody x := by
  rw [mapLineBody_eq]
  intro hm
  rcases List.mem_append.mp hm with hm | hm
  · exact absurd (mapHead_bytes x h.2.2.1 10 hm).1 (by decide)
  · exact h.2.2.2.2.2.2.2.2.2 hm

theorem mapLineBody_last (x : MapEntry) (h : MapEntryFits x) : (mapLineBody x).getLast? ≠ some 13 := by
  rw [mapLineBody_eq, List.getLast?_append]
  cases hl : (encMapPath x.path).getLast? with
  | none =>
    rw [Option.none_or]
    exact fun h13 => absurd (mapHead_bytes x h.2.2.1 13 (List.mem_of_getLast? h13)).1 (by decide)
  | some v =>
    rw [Option.some_or]
    intro h13
    cases h13
    have := pathText_last x.path h.2.2.2.2.2.2.2.1 13 hl
    revert this
    decide

theorem mapsLoop_enc : ∀ (xs : List MapEntry) (cur : Bool) (acc : List MapEntry), (∀ x ∈ xs, MapEntryFits x) →
    (mapsLoop (xs.map mapLineBody) cur acc).res = .ok (acc.reverse ++ xs) := by
  intro xs
  induction xs with
  | nil => intro cur acc _; simp [mapsLoop]
  | cons x xs ih =>
    intro cur acc h
    have hx := h x (by simp)
    obtain ⟨c, cs, hl, hc2⟩ := fixedDigits_cons (b := 16) (by decide) 15 x.lo
    have hc1 : (mapLineBody x).head? = some c := by simp [mapLineBody, hl]
    have hup : ((mapLineBody x).head?.map fun c => decide (65 ≤ c ∧ c ≤ 90)) ≠ some true := by
      rw [hc1]
      simp only [Option.map_some, ne_eq, Option.some.injEq, decide_eq_true_eq]
      unfold IsDigitByte at hc2
      simp only [UInt8.le_iff_toNat_le, UInt8.toNat_ofNat] at *
      omega
    simp only [List.map_cons, mapsLoop, mapLineBody_valid x hx, Bool.not_true, Bool.false_eq_true, if_false]
    rw [if_neg (by simpa using hup)]
    rw [res_bind_ok (mapEntryOfLine_enc x hx), ih true (x :: acc) (fun y hy => h y (by simp [hy]))]
    simp

theorem readLinuxMaps_enc {s : Bytes} {xs : List MapEntry} (hs : s.toList = encLinuxMaps xs) (h : ∀ x ∈ xs, MapEntryFits x) :
    (readLinuxMaps s).res = .ok xs := by
  unfold readLinuxMaps
  rw [hs, encLinuxMaps_eq, textLines_joinLines]
  · simpa using mapsLoop_enc xs false [] h
  · intro l hl
    obtain ⟨x, hx, rfl⟩ := List.mem_map.mp hl
    exact mapLineBody_no_nl x (h x hx)
  · intro l hl
    obtain ⟨x, hx, rfl⟩ := List.mem_map.mp hl
    exact mapLineBody_last x (h x hx)

end MdModel.Encode
