/-
  For C03, about `MdModel.OpAnalysis` (op_analysis.rs over an abstract instruction): which
  instructions reach a panic (equations for `Outcome.isOk`: none inside `Shape`), the effective
  address, that `Shape` is exact where every register is valid (an invalid register is the only way
  the address derivation fails), the register set, where the accesses of the list come from, the
  opcode tables.
-/
import MdModel.OpAnalysis
import MdProofs.Lemmas.Process
namespace MdModel.OpAnalysis
open MdModel MdModel.Process

def IsPanic {α : Type} (o : Outcome α) : Prop := ∃ s, o = .panic s

theorem isPanic_iff_isOk {α : Type} {o : Outcome α} : IsPanic o ↔ Outcome.isOk o = false := by
  cases o with
  | ok v => exact ⟨fun ⟨_, h⟩ => (nomatch h), fun h => (nomatch h)⟩
  | panic s => exact ⟨fun _ => rfl, fun _ => ⟨s, rfl⟩⟩

theorem accessTypeOf_isOk (ad : AD) (idx : Nat) : Outcome.isOk (accessTypeOf ad idx) = memIdxAllowed ad idx := by
  cases ad <;> rcases idx with _ | _ | n <;> rfl

theorem explicitDerivable_isOk (ad : AD) (rf : Reg → Option Nat) (ms : Option Nat) (idx : Nat) (op : Operand) :
    Outcome.isOk (explicitDerivable ad rf ms idx op) = (!op.isMemory || memIdxAllowed ad idx) := by
  rw [← accessTypeOf_isOk]
  unfold explicitDerivable
  cases op.isMemory with
  | false => rfl
  | true =>
    cases accessTypeOf ad idx with
    | panic s => rfl
    | ok t =>
      cases t with
      | none => rfl
      | some ty =>
        cases addrOf rf op with
        | regInvalid => rfl
        | ok a => cases a <;> rfl

theorem explicitUnderivable_isOk (rf : Reg → Option Nat) (ms : Option Nat) (op : Operand) :
    Outcome.isOk (explicitUnderivable rf ms op) = true := by
  fun_cases explicitUnderivable rf ms op <;> rfl

theorem operandLoop_isOk (f : Nat → Operand → Outcome (Res (List MemAccess))) (ops : List Operand) (idx : Nat)
    (hlen : idx + ops.length ≤ 4) (hf : ∀ k op, ops[k]? = some op → Outcome.isOk (f (idx + k) op) = true) :
    Outcome.isOk (operandLoop f idx ops) = true := by
  fun_induction operandLoop f idx ops
  -- the three branches that panic: a fifth operand, `f` at the head, the rest of the loop
  case case2 =>
    rw [List.length_cons] at hlen
    omega
  case case3 idx op _ _ s hs =>
    rw [← hs]
    exact hf 0 op rfl
  case case5 idx op rest _ _ _ s hr ih =>
    rw [List.length_cons] at hlen
    rw [← hr]
    exact ih (by omega) fun k o hk => by
      rw [Nat.add_assoc, Nat.add_comm 1 k]
      exact hf (k + 1) o hk
  all_goals rfl

theorem memOperandsAllowed_at (ad : AD) (ops : List Operand) (idx : Nat) (h : memOperandsAllowed ad idx ops = true) :
    ∀ k op, ops[k]? = some op → (!op.isMemory || memIdxAllowed ad (idx + k)) = true := by
  fun_induction memOperandsAllowed ad idx ops <;> intro k op hk
  case case1 => cases hk
  case case2 ih =>
    rw [Bool.and_eq_true] at h
    cases k with
    | zero => cases hk; exact h.1
    | succ k =>
      rw [Nat.add_comm k 1, ← Nat.add_assoc]
      exact ih h.2 k op hk

theorem getRegisters_isOk (ops : List Operand) (idx : Nat) (acc : List Reg) (h : idx ≤ 4) :
    Outcome.isOk (getRegisters idx ops acc) = decide (idx + ops.length ≤ 4) := by
  fun_induction getRegisters idx ops acc
  case case1 => exact (decide_eq_true h).symm
  case case2 h4 =>
    rw [List.length_cons]
    exact (decide_eq_false (by omega)).symm
  case case3 ih | case4 ih =>
    rw [List.length_cons, ← Nat.add_assoc, Nat.add_right_comm]
    exact ih (by omega)

theorem shape_unpack (i : Instr) (h : Shape i = true) :
    i.operands.length ≤ 4 ∧ (ipClass i.opc != .callLike || decide (i.operands.length = 1)) = true ∧
    (∀ ms ad, i.memSize = some ms → derivable i.opc = some ad → memOperandsAllowed ad 0 i.operands = true) := by
  simp only [Shape, Bool.and_eq_true, decide_eq_true_eq] at h
  exact ⟨h.1.1, h.1.2, fun ms ad hms had => by rw [hms, had] at h; exact h.2⟩

theorem memAccesses_isOk (i : Instr) (rf : Reg → Option Nat) (h : Shape i = true) : Outcome.isOk (memAccesses i rf) = true := by
  obtain ⟨h1, _, h3⟩ := shape_unpack i h
  fun_cases memAccesses i rf
  -- the two branches that hand on the outcome of the operand loop
  case case2 ms hms ad had s hl =>
    rw [← hl]
    exact operandLoop_isOk _ i.operands 0 (by omega) fun k op hk =>
      (explicitDerivable_isOk ad rf ms (0 + k) op).trans (memOperandsAllowed_at ad i.operands 0 (h3 ms ad hms had) k op hk)
  case case5 ms _ _ =>
    exact operandLoop_isOk _ i.operands 0 (by omega) fun k op _ => explicitUnderivable_isOk rf ms op
  all_goals rfl

theorem ipUpdate_isOk (i : Instr) (env : Env) :
    Outcome.isOk (ipUpdate i env) = (ipClass i.opc != .callLike || decide (i.operands.length = 1)) := by
  unfold ipUpdate
  cases ipClass i.opc with
  | callLike =>
    match i.operands with
    | [] | [_] | _ :: _ :: _ => rfl
  | retLike =>
    cases env.rf "rsp" with
    | none => rfl
    | some rsp =>
      cases env.readStack with
      | none => rfl
      | some rd => simp only; cases rd rsp <;> rfl
  | jcc => rfl
  | other => rfl

theorem analyze_isOk (i : Instr) (env : Env) :
    Outcome.isOk (analyze i env) =
      (Outcome.isOk (memAccesses i env.rf) && Outcome.isOk (ipUpdate i env) && Outcome.isOk (getRegisters 0 i.operands [])) := by
  unfold analyze
  cases memAccesses i env.rf <;> cases ipUpdate i env <;> cases getRegisters 0 i.operands [] <;> rfl

theorem analyze_isOk_of_shape (i : Instr) (env : Env) (h : Shape i = true) : Outcome.isOk (analyze i env) = true := by
  obtain ⟨h1, h2, _⟩ := shape_unpack i h
  rw [analyze_isOk, memAccesses_isOk i env.rf h, ipUpdate_isOk, h2, getRegisters_isOk _ _ _ (Nat.zero_le _),
    Nat.zero_add, decide_eq_true h1]
  rfl

def regVal (rf : Reg → Option Nat) : Option Reg → Option Nat
  | none => some 0
  | some r => rf r

theorem wadd_wadd_wmul (b x s d : Nat) : wadd (wadd b (wmul x s)) d = (b + x * s + d) % TWO64 := by
  simp only [wadd, wmul, TWO64]
  generalize x * s = p
  omega

/-- closed form: the intermediate wrap-arounds do not show, an absent register counts as 0 -/
theorem addrOfInfo_eq (rf : Reg → Option Nat) (i : OpInfo) :
    addrOfInfo rf i =
      match regVal rf i.base, regVal rf i.index with
      | some B, some I =>
        .ok { address := (B + I * i.scale.getD 1 + i64AsU64 (i.disp.getD 0)) % TWO64, null := i.base.isSome && B == 0 }
      | _, _ => .regInvalid := by
  unfold addrOfInfo
  cases i.base with
  | none =>
    cases i.index with
    | none => simp only [regVal, wadd, Nat.zero_mul, Nat.add_zero]; rfl
    | some r =>
      simp only [regVal]
      cases rf r with
      | none => rfl
      | some ix => simp only [wadd_wadd_wmul]; rfl
  | some rb =>
    simp only [regVal]
    cases rf rb with
    | none => rfl
    | some b =>
      cases i.index with
      | none => simp only [wadd, Nat.zero_mul, Nat.add_zero]; rfl
      | some r =>
        simp only
        cases rf r with
        | none => rfl
        | some ix => simp only [wadd_wadd_wmul]; rfl

theorem addrOfInfo_spec (rf : Reg → Option Nat) (i : OpInfo) (a : AddrInfo) (h : addrOfInfo rf i = .ok a) :
    ∃ B I : Nat, regVal rf i.base = some B ∧ regVal rf i.index = some I ∧
      (a.address : Int) = ((B : Int) + (I : Int) * ((i.scale.getD 1 : Nat) : Int) + i.disp.getD 0) % 18446744073709551616 ∧
      a.null = (i.base.isSome && B == 0) := by
  rw [addrOfInfo_eq] at h
  split at h
  case h_2 => cases h
  case h_1 B I hB hI =>
    cases h
    refine ⟨B, I, hB, hI, ?_, rfl⟩
    simp only [i64AsU64, TWO64, Int.natCast_emod, Int.natCast_add, Int.natCast_mul]
    generalize (I : Int) * ((i.scale.getD 1 : Nat) : Int) = p
    generalize i.disp.getD 0 = d
    omega

theorem addrOfInfo_invalid (rf : Reg → Option Nat) (i : OpInfo) :
    addrOfInfo rf i = .regInvalid ↔ regVal rf i.base = none ∨ regVal rf i.index = none := by
  rw [addrOfInfo_eq]
  cases regVal rf i.base <;> cases regVal rf i.index <;> simp

-- the register file at which C03 states the exactness of `Shape` (`analyze_valid_isOk` is about any without an invalid register)
def allValid : Reg → Option Nat := fun _ => some 1

theorem addrOf_valid {rf : Reg → Option Nat} (hrf : ∀ r, rf r ≠ none) (op : Operand) : addrOf rf op ≠ .regInvalid := by
  fun_cases addrOf rf op
  case case2 i _ h =>
    have hv : ∀ o, regVal rf o ≠ none := fun o => by cases o with | none => nofun | some r => exact hrf r
    rcases (addrOfInfo_invalid rf i).mp h with h | h <;> exact absurd h (hv _)
  all_goals nofun

/-- so the `?` on an invalid register never ends the loop before a later panic arm -/
theorem explicitDerivable_valid {rf : Reg → Option Nat} (hrf : ∀ r, rf r ≠ none) (ad : AD) (ms : Option Nat) (idx : Nat)
    (op : Operand) : explicitDerivable ad rf ms idx op ≠ .ok .regInvalid := by
  fun_cases explicitDerivable ad rf ms idx op
  case case4 h => exact absurd h (addrOf_valid hrf op)
  all_goals nofun

theorem operandLoop_panic {rf : Reg → Option Nat} (hrf : ∀ r, rf r ≠ none) (ad : AD) (ms : Option Nat) (ops : List Operand)
    (idx : Nat) (h : memOperandsAllowed ad idx ops = false) :
    Outcome.isOk (operandLoop (explicitDerivable ad rf ms) idx ops) = false := by
  fun_induction operandLoop (explicitDerivable ad rf ms) idx ops
  case case1 => cases h
  case case4 hf => exact absurd hf (explicitDerivable_valid hrf ad ms _ _)
  -- the head operand passed, so the offending one is in the rest, which did not panic
  case case6 hf hr ih | case7 hf _ hr ih =>
    rw [memOperandsAllowed, ← explicitDerivable_isOk ad rf ms, hf] at h
    have := ih h
    rw [hr] at this
    cases this
  all_goals rfl

theorem memAccesses_panic {rf : Reg → Option Nat} (hrf : ∀ r, rf r ≠ none) (i : Instr) (ms : Option Nat) (ad : AD)
    (hms : i.memSize = some ms) (had : derivable i.opc = some ad) (h : memOperandsAllowed ad 0 i.operands = false) :
    Outcome.isOk (memAccesses i rf) = false := by
  have hr := operandLoop_panic hrf ad ms i.operands 0 h
  unfold memAccesses
  rw [hms, had]
  simp only
  cases hl : operandLoop (explicitDerivable ad rf ms) 0 i.operands with
  | panic s => rfl
  | ok r => rw [hl] at hr; cases hr

theorem analyze_valid_isOk (i : Instr) (env : Env) (hrf : ∀ r, env.rf r ≠ none) :
    Outcome.isOk (analyze i env) = Shape i := by
  cases hs : Shape i with
  | true => exact analyze_isOk_of_shape i _ hs
  | false =>
    rw [analyze_isOk, ipUpdate_isOk, getRegisters_isOk _ _ _ (Nat.zero_le _), Nat.zero_add]
    unfold Shape at hs
    -- the three conjuncts of `Shape` are the three parts of `analyze`, in another order
    cases h4 : decide (i.operands.length ≤ 4) with
    | false => rw [Bool.and_false]
    | true =>
      cases hip : (ipClass i.opc != .callLike || decide (i.operands.length = 1)) with
      | false => rw [Bool.and_false, Bool.false_and]
      | true =>
        rw [h4, hip] at hs
        rw [Bool.and_true, Bool.and_true]
        split at hs
        case h_1 ms ad hms had => exact memAccesses_panic hrf i ms ad hms had hs
        case h_2 => cases hs

/-- stated with the inserted register last, so that the register set reads off in operand order -/
theorem mem_insertReg (r x : Reg) (l : List Reg) : x ∈ insertReg r l ↔ x ∈ l ∨ x = r := by
  fun_induction insertReg r l
  case case1 => simp
  case case2 => exact List.mem_cons.trans or_comm
  case case3 => exact (or_iff_left_of_imp fun h => h ▸ List.mem_cons_self).symm
  case case4 ih =>
    simp only [List.mem_cons, ih]
    exact or_assoc.symm

theorem mem_regsOfInfo (i : OpInfo) (acc : List Reg) (x : Reg) :
    x ∈ regsOfInfo i acc ↔ x ∈ acc ∨ i.base = some x ∨ i.index = some x := by
  unfold regsOfInfo
  cases i.base <;> cases i.index <;>
    simp only [mem_insertReg, Option.some.injEq, eq_comm (a := x), reduceCtorEq, false_or, or_false, or_assoc]

theorem mem_getRegisters (ops : List Operand) (idx : Nat) (acc l : List Reg) (h : getRegisters idx ops acc = .ok l)
    (x : Reg) :
    x ∈ l ↔ x ∈ acc ∨ ∃ op ∈ ops, ∃ inf, opInfo op = some inf ∧ (inf.base = some x ∨ inf.index = some x) := by
  fun_induction getRegisters idx ops acc
  case case1 => cases h; simp
  case case2 => cases h
  case case3 inf hop ih =>
    rw [ih h, mem_regsOfInfo]
    simp only [List.mem_cons, exists_eq_or_imp, hop, Option.some.injEq, exists_eq_left', or_assoc]
  case case4 hop ih =>
    rw [ih h]
    simp only [List.mem_cons, exists_eq_or_imp, hop, reduceCtorEq, false_and, exists_false, false_or]

theorem operandLoop_mem (f : Nat → Operand → Outcome (Res (List MemAccess))) (ops : List Operand) (idx : Nat) :
    ∀ l : List MemAccess, operandLoop f idx ops = .ok (.ok l) →
      ∀ m ∈ l, ∃ k op l', ops[k]? = some op ∧ f (idx + k) op = .ok (.ok l') ∧ m ∈ l' := by
  -- only the branches that return a list survive `cases h`
  fun_induction operandLoop f idx ops <;> intro l h m hm <;> cases h
  case case1 => cases hm
  case case7 idx op rest _ l1 hf l2 hr ih =>
    rcases List.mem_append.mp hm with h1 | h2
    · exact ⟨0, op, l1, rfl, hf, h1⟩
    · obtain ⟨k, o, l', hk, hfk, hml⟩ := ih l2 hr m h2
      exact ⟨k + 1, o, l', hk, by rwa [Nat.add_comm k 1, ← Nat.add_assoc], hml⟩

theorem addrOf_some (rf : Reg → Option Nat) (op : Operand) (a : AddrInfo) (h : addrOf rf op = .ok (some a)) :
    ∃ inf, opInfo op = some inf ∧ addrOfInfo rf inf = .ok a := by
  revert h
  fun_cases addrOf rf op <;> intro h <;> cases h
  exact ⟨_, by assumption, by assumption⟩

theorem explicitDerivable_mem (ad : AD) (rf : Reg → Option Nat) (ms : Option Nat) (idx : Nat) (op : Operand)
    (l : List MemAccess) (h : explicitDerivable ad rf ms idx op = .ok (.ok l)) (m : MemAccess) (hm : m ∈ l) :
    op.isMemory = true ∧ accessTypeOf ad idx = .ok (some m.ty) ∧ m.size = ms ∧
      ∃ inf, opInfo op = some inf ∧ addrOfInfo rf inf = .ok m.info := by
  revert l
  fun_cases explicitDerivable ad rf ms idx op <;> intro l h hm <;> cases h <;> cases hm
  case case6.refl.head hmem ty hty a ha => exact ⟨by simpa using hmem, hty, rfl, addrOf_some rf op a ha⟩
  case case6.refl.tail h => cases h

theorem explicitUnderivable_mem (rf : Reg → Option Nat) (ms : Option Nat) (op : Operand)
    (l : List MemAccess) (h : explicitUnderivable rf ms op = .ok (.ok l)) (m : MemAccess) (hm : m ∈ l) :
    op.isMemory = true ∧ m.ty = .underivable ∧ m.size = ms ∧
      ∃ inf, opInfo op = some inf ∧ addrOfInfo rf inf = .ok m.info := by
  revert l
  fun_cases explicitUnderivable rf ms op <;> intro l h hm <;> cases h <;> cases hm
  case case4.refl.head hmem a ha => exact ⟨by simpa using hmem, rfl, rfl, addrOf_some rf op a ha⟩
  case case4.refl.tail h => cases h

/-- A decidable property of all opcodes as ONE kernel evaluation: opcode by opcode, every `String`
    literal compared with would be encoded again for each opcode. -/
theorem Opc.forall_iff (P : Opc → Prop) : (∀ o, P o) ↔ ∀ n < 83, P (Opc.ofNat n) := by
  refine ⟨fun h n _ => h _, fun h o => ?_⟩
  rw [← Opc.ofNat_ctorIdx o]
  exact h _ (by cases o <;> decide)

/-- the only place where the chain of name comparisons in `opcOfName` is evaluated -/
theorem opcOfName_name : ∀ o : Opc, opcOfName o.name = o := (Opc.forall_iff _).mpr (by decide +kernel)

theorem Opc.name_inj (a b : Opc) (h : a.name = b.name) : a = b := by
  rw [← opcOfName_name a, h, opcOfName_name]

theorem opcOfName_ne_other {l : List Opc} (hl : l.contains .other = false) {n : String} (hn : n ∈ l.map Opc.name) :
    opcOfName n ≠ .other := by
  obtain ⟨o, ho, rfl⟩ := List.mem_map.mp hn
  rw [opcOfName_name]
  rintro rfl
  rw [List.contains_iff_mem.mpr ho] at hl
  cases hl

/-! Each generated table is the list of names of a list of opcodes. -/

theorem derivable_names_eq :
    Tables.derivable_names = [Opc.ADD, .CALL, .CMP, .DEC, .INC, .JMP, .JMPF, .JO, .JNO, .JB, .JNB, .JZ, .JNZ, .JA, .JNA,
      .JS, .JNS, .JP, .JNP, .JL, .JGE, .JG, .JLE, .LEA, .MOV, .MOVAPS, .MOVUPS, .POP, .PUSH, .RETF, .RETURN, .SUB,
      .UCOMISS].map Opc.name := rfl

theorem privileged_names_eq :
    Tables.privileged_names = [Opc.CLI, .CLTS, .HLT, .IN, .INS, .INT, .INTO, .INVD, .INVEPT, .INVLPG, .INVVPID, .IRET,
      .IRETD, .IRETQ, .LGDT, .LIDT, .LLDT, .LMSW, .LTR, .MONITOR, .MOV, .MWAIT, .OUT, .OUTS, .RDMSR, .RDPMC, .RDTSC,
      .RDTSCP, .RETF, .STI, .SWAPGS, .SYSEXIT, .SYSRET, .VMCALL, .VMCLEAR, .VMLAUNCH, .VMPTRLD, .VMPTRST, .VMREAD,
      .VMRESUME, .VMWRITE, .VMXOFF, .VMXON, .WBINVD, .WRMSR, .XSETBV].map Opc.name := rfl

theorem division_names_eq : Tables.division_names = [Opc.DIV, .IDIV].map Opc.name := rfl

theorem calllike_names_eq : Tables.calllike_names = [Opc.CALL, .CALLF, .JMP, .JMPF, .JMPE].map Opc.name := rfl

theorem retlike_names_eq : Tables.retlike_names = [Opc.RETURN, .RETF, .IRET, .IRETD, .IRETQ].map Opc.name := rfl

theorem jcc_names_eq :
    Tables.jcc_names = [Opc.JO, .JNO, .JB, .JNB, .JZ, .JNZ, .JA, .JNA, .JS, .JNS, .JP, .JNP, .JL, .JGE, .JG, .JLE].map
      Opc.name := rfl

end MdModel.OpAnalysis
