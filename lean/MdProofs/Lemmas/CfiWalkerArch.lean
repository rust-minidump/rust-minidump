/-
  The stack-walk model (`MdModel.Walk`, C03/C04/C05) and the real `CfiStackWalker` model
  (`MdModel.CfiWalker`) describe the same walker.

  `MdModel.Walk.Common` carries HAND-WRITTEN per-architecture register tables (`Arch.registers`,
  `canon`, `aliases`, `calleeSaved`, sp/ip names); `MdModel.CfiWalker` uses the tables
  machine-translated from context.rs (C18) and from the unwinder files. `arch_tables_pass` decides, by
  kernel evaluation over all seven architectures, that they agree; `cwOf` builds the real walker
  of a walker-model callee frame and `cwOf_sim` proves its C06 record is related to that frame by
  the bridge's `WalkerSim` — so every bridge theorem of `MdProofs.C06Walk` applies with the real
  walker's record in the place of `walkerOf`.
-/
import MdProofs.Lemmas.CfiWalkerSim
namespace MdModel.CfiWalker
open MdModel MdModel.Gen.Regs MdModel.Regs MdModel.CfiBridge

def kindOf : Walk.Arch → Kind
  | .x86 => .x86 | .amd64 => .amd64 | .arm => .arm | .arm64 => .arm64 | .arm64old => .arm64old
  | .mips32 => .mips32 | .mips64 => .mips64

/-- **TABLE FACT**, one pass per table: the hand-written tables of `MdModel.Walk.Common` ARE the
    translated ones — `REGISTERS`, the sp/ip names, `CALLEE_SAVED_REGS`, the alias arms of
    `memoize_register`, the lists `register_is_valid` consults (a list-shaped rule, never SPARC's),
    the register width -/
theorem arch_tables_pass (a : Walk.Arch) :
    a.registers = registers (kindOf a).cpu.tbl ∧
    a.spName = (kindOf a).cpu.spName ∧ a.ipName = (kindOf a).cpu.ipName ∧
    a.calleeSaved = Gen.CfiWalkerConsts.calleeSaved (kindOf a).file ∧
    memoArms (kindOf a).cpu.tbl = some (aliasTable a) ∧
    isCanonRule (kindOf a).cpu.tbl = false ∧
    (∀ s ∈ registers (kindOf a).cpu.tbl, a.aliases s = validNames (kindOf a).cpu.tbl s) ∧
    (kindOf a).cpu.bits / 8 = ptrOf a := by
  cases a <;> decide +kernel

theorem arch_registers (a : Walk.Arch) : a.registers = registers (kindOf a).cpu.tbl :=
  (arch_tables_pass a).1

theorem arch_spName (a : Walk.Arch) : a.spName = (kindOf a).cpu.spName :=
  (arch_tables_pass a).2.1

theorem arch_ipName (a : Walk.Arch) : a.ipName = (kindOf a).cpu.ipName :=
  (arch_tables_pass a).2.2.1

theorem arch_calleeSaved (a : Walk.Arch) : a.calleeSaved = Gen.CfiWalkerConsts.calleeSaved (kindOf a).file :=
  (arch_tables_pass a).2.2.2.1

theorem arch_memoArms (a : Walk.Arch) : memoArms (kindOf a).cpu.tbl = some (aliasTable a) :=
  (arch_tables_pass a).2.2.2.2.1

theorem arch_ptr (a : Walk.Arch) : (kindOf a).cpu.bits / 8 = ptrOf a :=
  (arch_tables_pass a).2.2.2.2.2.2.2

/-- **`memoize_register` of the walker model is the real one, on EVERY string**: both are the lookup
    in the same alias arms in front of the default over the same `REGISTERS` -/
theorem arch_canon (a : Walk.Arch) (n : String) : a.canon n = (kindOf a).cpu.canon n := by
  rw [canon_eq, arch_registers]
  exact (memoName_of_arms (arch_memoArms a) n).symm

theorem arch_aliases (a : Walk.Arch) {s n : String} (hs : s ∈ registers (kindOf a).cpu.tbl)
    (hn : n ∈ knownNames (kindOf a).cpu.tbl) :
    (a.aliases s).contains n = sameReg (kindOf a).cpu.tbl s n := by
  obtain ⟨_, _, _, _, _, hr, hal, _⟩ := arch_tables_pass a
  rw [hal s hs]
  exact validNames_contains (known_of_registers hs) hn hr

/-- the same agreement with every table name swept against every other -/
theorem arch_tables (a : Walk.Arch) :
    (a.registers == registers (kindOf a).rawCtx
      && a.spName == spName (kindOf a).rawCtx && a.ipName == ipName (kindOf a).rawCtx
      && a.calleeSaved == Gen.CfiWalkerConsts.calleeSaved (kindOf a).file
      && (knownNames (kindOf a).rawCtx).all (fun n => a.canon n == memoName (kindOf a).rawCtx n)
      && (aliasTable a).all (fun p => (knownNames (kindOf a).rawCtx).contains p.1)
      && (registers (kindOf a).rawCtx).all (fun s => (knownNames (kindOf a).rawCtx).all fun n =>
            (a.aliases s).contains n == sameReg (kindOf a).rawCtx s n)
      && (kindOf a).cpu.bits / 8 == ptrOf a) = true := by
  simp only [Bool.and_eq_true, beq_iff_eq]
  refine ⟨⟨⟨⟨⟨⟨⟨arch_registers a, arch_spName a⟩, arch_ipName a⟩, arch_calleeSaved a⟩, ?_⟩, ?_⟩, ?_⟩, arch_ptr a⟩
  · exact List.all_eq_true.mpr fun n _ => beq_iff_eq.mpr (arch_canon a n)
  · refine List.all_eq_true.mpr fun p hp => List.contains_iff_mem.mpr (known_of_memoKey ?_)
    rw [show memoKeys (kindOf a).rawCtx = (aliasTable a).map (·.1) from memoKeys_of_arms (arch_memoArms a)]
    exact List.mem_map_of_mem hp
  · exact List.all_eq_true.mpr fun s hs => List.all_eq_true.mpr fun n hn => beq_iff_eq.mpr (arch_aliases a hs hn)

/-- every cell holds the raw value of the register it belongs to (0 for cells no register names) -/
def stateOf (a : Walk.Arch) (c : Walk.Ctx) : Regs.State := fun cell =>
  match (registers (kindOf a).cpu.tbl).find? (fun r => getCell (kindOf a).cpu.tbl r == some cell) with
  | some r => rawC a c r
  | none => 0

theorem rawOf_stateOf (a : Walk.Arch) (c : Walk.Ctx) {s : String} (hs : s ∈ registers (kindOf a).cpu.tbl) :
    rawOf (kindOf a).cpu.tbl (stateOf a c) s = rawC a c s := by
  obtain ⟨cell, _, f⟩ := known_facts (known_of_registers hs)
  unfold rawOf
  rw [f.getCell]
  simp only [stateOf]
  cases hfind : (registers (kindOf a).cpu.tbl).find? (fun r => getCell (kindOf a).cpu.tbl r == some cell) with
  | none =>
    exfalso
    have := List.find?_eq_none.mp hfind s hs
    simp [f.getCell] at this
  | some r =>
    have hr := List.mem_of_find?_eq_some hfind
    have hp := List.find?_some hfind
    have hcell : getCell (kindOf a).cpu.tbl r = getCell (kindOf a).cpu.tbl s := by
      rw [f.getCell]; simpa using hp
    have : r = s := (cell_inj (p := (kindOf a).cpu) (canon_register hs) hr).mp hcell
    rw [this]

def validityOf (c : Walk.Ctx) : Validity :=
  match c.valid with
  | none => .all
  | some l => .some l

/-- **the real walker of a walker-model callee frame** (`x`: architecture, callee context, stack
    memory; `o`: the caller state it starts with) -/
def cwOf (x : Walk.CfiIn) (o : Walk.CfiOut) (instr modBase : Nat) : CfiStackWalker :=
  { cpu := (kindOf x.arch).cpu
    instruction := instr
    hasGrandCallee := false
    grandCalleeParameterSize := 0
    calleeCtx := stateOf x.arch x.callee
    calleeValidity := validityOf x.callee
    callerCtx := stateOf x.arch o.ctx
    callerValidity := o.valid
    moduleBase := modBase
    stack := { base := x.mem.base, bytes := x.mem.bytes.toList, bigEndian := x.mem.be } }

theorem validWf_known {a : Walk.Arch} {c : Walk.Ctx} (hvalid : ValidWf a c) {which : List String}
    (hv : c.valid = some which) : ∀ n ∈ which, n ∈ knownNames (kindOf a).cpu.tbl := by
  intro n hn
  unfold ValidWf at hvalid
  rw [hv] at hvalid
  have := hvalid n hn
  rw [arch_canon] at this
  cases hc : (kindOf a).cpu.canon n with
  | none => rw [hc] at this; cases this
  | some r => exact canon_known hc

theorem cwOf_validityWf (x : Walk.CfiIn) (o : Walk.CfiOut) (instr modBase : Nat)
    (hvalid : ValidWf x.arch x.callee) :
    validityWf (cwOf x o instr modBase).cpu.tbl (cwOf x o instr modBase).calleeValidity = true := by
  unfold cwOf validityOf
  simp only
  cases hv : x.callee.valid with
  | none => rfl
  | some which =>
    simp only [validityWf, List.all_eq_true, List.contains_eq_mem, decide_eq_true_eq]
    exact validWf_known hvalid hv

theorem reg_canonical (x : Walk.CfiIn) (o : Walk.CfiOut) (instr modBase : Nat)
    (hvalid : ValidWf x.arch x.callee) {s : String} (hs : s ∈ registers (kindOf x.arch).cpu.tbl) :
    x.reg s = calleeView (cwOf x o instr modBase) s := by
  have hcs : (kindOf x.arch).cpu.canon s = some s := canon_register hs
  have hcs' : x.arch.canon s = some s := by rw [arch_canon]; exact hcs
  unfold Walk.CfiIn.reg Walk.Ctx.get calleeView
  have hcpu : (cwOf x o instr modBase).cpu = (kindOf x.arch).cpu := rfl
  rw [hcpu, hcs]
  simp only
  have hcov : x.callee.has x.arch s = covers (kindOf x.arch).cpu.tbl (cwOf x o instr modBase).calleeValidity s := by
    unfold Walk.Ctx.has covers cwOf validityOf
    simp only
    cases hv : x.callee.valid with
    | none => simp [hcs']
    | some which =>
      simp only
      rw [any_contains_comm]
      exact List.any_congr_mem fun n hn => arch_aliases x.arch hs (validWf_known hvalid hv n hn)
  rw [hcov]
  have hval : (if x.arch = .mips32 then x.callee.raw x.arch s % 2 ^ 32 else x.callee.raw x.arch s) =
      (kindOf x.arch).cpu.read (cwOf x o instr modBase).calleeCtx s := by
    have : x.callee.raw x.arch s = rawC x.arch x.callee s := by
      unfold Walk.Ctx.raw rawC
      rw [hcs']
    rw [this]
    have hraw := rawOf_stateOf x.arch x.callee hs
    unfold Cpu.read
    cases ha : x.arch <;>
      simp_all [cwOf, kindOf, Kind.cpu, Cpu.tbl, Gen.CfiWalkerConsts.mips32Bits]
  rw [hval]

theorem cwOf_sim (x : Walk.CfiIn) (o : Walk.CfiOut) (instr modBase : Nat) (fwd : List (Cfi.Name × UInt64))
    (hvalid : ValidWf x.arch x.callee) (h64 : ∀ n v, x.reg n = some v → v < 2 ^ 64) :
    WalkerSim x (toWalker (cwOf x o instr modBase) fwd) := by
  -- the record has `walkerOf`'s callee registers, memory and width, and resolves every text as it does
  have hs := walkerOf_sim x instr fwd hvalid h64
  have hmemo : ∀ n : String, (toWalker (cwOf x o instr modBase) fwd).memo (utf8 n) = (x.arch.canon n).map utf8 :=
    fun n => by rw [memo_toWalker, arch_canon]; rfl
  have hptr : (toWalker (cwOf x o instr modBase) fwd).ptr = ptrOf x.arch := arch_ptr x.arch
  have hcallee : (toWalker (cwOf x o instr modBase) fwd).callee = (walkerOf x instr fwd).callee := by
    show (registers (kindOf x.arch).cpu.tbl).filterMap _ = x.arch.registers.filterMap _
    rw [arch_registers]
    exact List.filterMap_congr_mem fun r hr => by rw [reg_canonical x o instr modBase hvalid hr]
  refine ⟨⟨fun n => (hs.env.reg n).trans (congrArg _ ?_), fun a => (hs.env.deref a).trans (congrArg _ ?_)⟩, hmemo,
    fun v => Eq.trans ?_ (hs.fits v)⟩
  · show (walkerOf x instr fwd).getCallee (utf8 n) = (toWalker (cwOf x o instr modBase) fwd).getCallee (utf8 n)
    unfold Cfi.Walker.getCallee
    rw [hmemo, hs.memo, hcallee]
  · show (walkerOf x instr fwd).readMem a = (toWalker (cwOf x o instr modBase) fwd).readMem a
    unfold Cfi.Walker.readMem
    rw [hptr]; rfl
  · unfold Cfi.Walker.fits
    rw [hptr]; rfl

theorem callerView_cwOf (x : Walk.CfiIn) (o : Walk.CfiOut) (instr modBase : Nat) {s : String}
    (hs : s ∈ registers (kindOf x.arch).cpu.tbl) :
    callerView (cwOf x o instr modBase) s = viewW x.arch o s := by
  unfold callerView viewW
  have : rawOf (cwOf x o instr modBase).cpu.tbl (cwOf x o instr modBase).callerCtx s = rawC x.arch o.ctx s :=
    rawOf_stateOf x.arch o.ctx hs
  rw [this]
  rfl

end MdModel.CfiWalker
