/-
  C12: module keys (`module_key`, the table's name `keyIx` of a key) and the slot
  numbering of the request-level model (the three kinds of slots never collide; each is injective in
  its arguments; `slotSup` decodes them).
-/
import MdModel.OnceReq
namespace MdModel.Once
open MdModel


theorem keyIx_of_lt {mods : List ModId} {m : Nat} (h : m < mods.length) :
    keyIx mods m = mods.findIdx fun y => decide (moduleKey y = moduleKey mods[m]) := by
  simp [keyIx, List.getElem?_eq_getElem h]

theorem keyIx_lt {mods : List ModId} {m : Nat} (h : m < mods.length) :
    keyIx mods m < mods.length := by
  rw [keyIx_of_lt h]
  apply List.findIdx_lt_length_of_exists
  exact ⟨mods[m], List.getElem_mem h, by simp⟩

theorem keyIx_key {mods : List ModId} {m : Nat} (h : m < mods.length) :
    moduleKey (mods[keyIx mods m]'(keyIx_lt h)) = moduleKey mods[m] := by
  have hlt := keyIx_lt h
  have := List.findIdx_getElem (p := fun y => decide (moduleKey y = moduleKey mods[m])) (xs := mods)
    (w := by rw [← keyIx_of_lt h]; exact hlt)
  simp only [decide_eq_true_eq] at this
  simp only [keyIx_of_lt h]
  exact this

theorem keyIx_le {mods : List ModId} {m : Nat} (h : m < mods.length) : keyIx mods m ≤ m := by
  rw [keyIx_of_lt h]
  apply Nat.le_of_not_lt
  intro hlt
  have := List.not_of_lt_findIdx hlt
  simp at this

theorem keyIx_eq_iff {mods : List ModId} {i j : Nat} (hi : i < mods.length) (hj : j < mods.length) :
    keyIx mods i = keyIx mods j ↔ moduleKey mods[i] = moduleKey mods[j] := by
  constructor
  · intro h
    have h1 := keyIx_key hi
    have h2 := keyIx_key hj
    rw [← h1, ← h2]
    congr 1
    simp only [h]
  · intro h
    rw [keyIx_of_lt hi, keyIx_of_lt hj, h]

theorem keyIx_idem {mods : List ModId} {m : Nat} (h : m < mods.length) :
    keyIx mods (keyIx mods m) = keyIx mods m := by
  have hlt := keyIx_lt h
  rw [keyIx_of_lt hlt, keyIx_key h, ← keyIx_of_lt h]


theorem pair_div {M a b : Nat} (hb : b < M) : (a * M + b) / M = a := by
  have hM : 0 < M := by omega
  rw [Nat.add_comm, Nat.add_mul_div_right _ _ hM, Nat.div_eq_of_lt hb]; omega

theorem pair_inj {M a b a' b' : Nat} (hb : b < M) (hb' : b' < M) (h : a * M + b = a' * M + b') :
    a = a' ∧ b = b' := by
  have h1 := pair_div (a := a) hb
  have h2 := Nat.mul_add_mod_of_lt (a := a) hb
  rw [h] at h1 h2
  rw [pair_div hb'] at h1
  rw [Nat.mul_add_mod_of_lt hb'] at h2
  exact ⟨h1.symm, h2.symm⟩

theorem symSlot_mod (rc : RCfg) (p k : Nat) : symSlot rc p k % 4 = 0 := by
  unfold symSlot; omega
theorem fileSlot_mod (rc : RCfg) (p k fk : Nat) : fileSlot rc p k fk % 4 = 1 := by
  unfold fileSlot; omega
theorem privSlot_mod (rc : RCfg) (t j p : Nat) : privSlot rc t j p % 4 = 2 := by
  unfold privSlot; omega

theorem symSlot_div (rc : RCfg) (p k : Nat) : symSlot rc p k / 4 = p * rc.M + k := by
  unfold symSlot; omega
theorem fileSlot_div (rc : RCfg) (p k fk : Nat) : fileSlot rc p k fk / 4 = (p * rc.M + k) * 3 + fk := by
  unfold fileSlot; omega
theorem privSlot_div (rc : RCfg) (t j p : Nat) : privSlot rc t j p / 4 = (j * rc.T + t) * rc.P + p := by
  unfold privSlot; omega

theorem sym_ne_file (rc : RCfg) (p k p' k' fk : Nat) : symSlot rc p k ≠ fileSlot rc p' k' fk := by
  intro h; have := symSlot_mod rc p k; rw [h, fileSlot_mod] at this; omega
theorem sym_ne_priv (rc : RCfg) (p k t j p' : Nat) : symSlot rc p k ≠ privSlot rc t j p' := by
  intro h; have := symSlot_mod rc p k; rw [h, privSlot_mod] at this; omega
theorem file_ne_priv (rc : RCfg) (p k fk t j p' : Nat) : fileSlot rc p k fk ≠ privSlot rc t j p' := by
  intro h; have := fileSlot_mod rc p k fk; rw [h, privSlot_mod] at this; omega

theorem symSlot_inj {rc : RCfg} {p k p' k' : Nat} (hk : k < rc.M) (hk' : k' < rc.M)
    (h : symSlot rc p k = symSlot rc p' k') : p = p' ∧ k = k' := by
  have h' : p * rc.M + k = p' * rc.M + k' := by
    rw [← symSlot_div, h, symSlot_div]
  exact pair_inj hk hk' h'

theorem fileSlot_inj {rc : RCfg} {p k fk p' k' fk' : Nat} (hk : k < rc.M) (hk' : k' < rc.M)
    (hf : fk < 3) (hf' : fk' < 3) (h : fileSlot rc p k fk = fileSlot rc p' k' fk') :
    p = p' ∧ k = k' ∧ fk = fk' := by
  have h' : (p * rc.M + k) * 3 + fk = (p' * rc.M + k') * 3 + fk' := by
    rw [← fileSlot_div, h, fileSlot_div]
  have h3 := pair_inj hf hf' h'
  have h4 := pair_inj hk hk' h3.1
  exact ⟨h4.1, h4.2, h3.2⟩

theorem privSlot_inj {rc : RCfg} {t j p t' j' p' : Nat} (ht : t < rc.T) (ht' : t' < rc.T)
    (hp : p < rc.P) (hp' : p' < rc.P) (h : privSlot rc t j p = privSlot rc t' j' p') :
    t = t' ∧ j = j' ∧ p = p' := by
  have h' : (j * rc.T + t) * rc.P + p = (j' * rc.T + t') * rc.P + p' := by
    rw [← privSlot_div, h, privSlot_div]
  have h3 := pair_inj hp hp' h'
  have h4 := pair_inj ht ht' h3.1
  exact ⟨h4.2, h4.1, h3.2⟩

theorem slotSup_sym (rc : RCfg) {p k : Nat} (hk : k < rc.M) :
    slotSup rc (symSlot rc p k) = (rc.prov p).sym k := by
  simp only [slotSup, symSlot_mod, symSlot_div, pair_div hk, Nat.mul_add_mod_of_lt hk]

theorem slotSup_file (rc : RCfg) {p k fk : Nat} (hk : k < rc.M) (hf : fk < 3) :
    slotSup rc (fileSlot rc p k fk) = (rc.prov p).file k fk := by
  simp only [slotSup, fileSlot_mod, fileSlot_div, pair_div hf, Nat.mul_add_mod_of_lt hf, pair_div hk, Nat.mul_add_mod_of_lt hk]

theorem slotSup_priv (rc : RCfg) {t j p : Nat} (ht : t < rc.T) (hp : p < rc.P) {fk m : Nat}
    (hq : (rc.prog t)[j]? = some ⟨.file fk, m⟩) :
    slotSup rc (privSlot rc t j p) = (rc.prov p).file (rc.key m) fk := by
  simp only [slotSup, privSlot_mod, privSlot_div, pair_div hp, Nat.mul_add_mod_of_lt hp, pair_div ht, Nat.mul_add_mod_of_lt ht,
    hq]

theorem isSym_symSlot (rc : RCfg) {p p' k : Nat} (hk : k < rc.M) :
    isSym rc p' (symSlot rc p k) = decide (p = p') := by
  simp only [isSym, symSlot_mod, symSlot_div, pair_div hk]
  by_cases h : p = p' <;> simp [h]

theorem isSym_fileSlot (rc : RCfg) (p' p k fk : Nat) : isSym rc p' (fileSlot rc p k fk) = false := by
  simp [isSym, fileSlot_mod]

theorem isSym_privSlot (rc : RCfg) (p' t j p : Nat) : isSym rc p' (privSlot rc t j p) = false := by
  simp [isSym, privSlot_mod]

end MdModel.Once
