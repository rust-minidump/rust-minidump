/-
  C04, chains whose technique changes from frame to frame: x86 with STACK WIN records present — the
  STACK CFI step (`step_x86_cfi`), the dispatcher on `e.tech` along `PreW`'s own `linkMixed`
  (`step_x86_mixed`), and the chain of any depth as an instance of `walkLoop_chain_rel` (`walk_x86_chain4`).

  In `mkEnvW` an x86 frame reaches STACK CFI through `SymbolFile::walk_frame`: no frame-data and no
  FPO record at the lookup address ⇒ `walk_with_stack_cfi` on the walker as STACK WIN left it
  (`cfiWalkW`, caller registers converted through C07's `Caller`).
-/
import MdProofs.Lemmas.WalkMixedView
namespace MdModel.Walk
open MdModel MdModel.Win

/-- `walk_frame` on an address without STACK WIN record, with a STACK CFI record without delta
    lines: the record's rules, on the walker as the (empty) STACK WIN step left it -/
theorem cfiWalkW_of_record {w : World} {wins : List (List Win.Rec)} {mem : Mem} {f : Frame} {g : Option Frame}
    {rec : CfiRec} (h1 : (winAt w wins f.instruction).1.isNone = true)
    (h2 : (winAt w wins f.instruction).2.isNone = true)
    (hrec : cfiRecordAt w f.instruction = some rec) (hadds : rec.adds = []) :
    cfiWalkW w (modTable w.mods) (cfiTables w) (wins.map winTables) mem f g =
      (walkCfi { arch := .x86, callee := f.ctx, mem := mem }
        { ctx := { ctxOfCaller (callerOfCtx f.ctx) with valid := f.ctx.valid }, valid := (callerOfCtx f.ctx).valid }
        rec.init []).map fun o => { o.ctx with valid := some o.valid } := by
  obtain ⟨_, he⟩ := cfiWalkW_eq w wins mem f g
  simp only [he, Option.isNone_iff_eq_none.mp h1, Option.isNone_iff_eq_none.mp h2, winResult, hrec, Option.bind_some,
    hadds, List.mergeSort_nil, List.takeWhile_nil, List.map_nil]

theorem calleeSaved_x86Regs {r : String} (h : Arch.x86.calleeSaved.contains r = true) : r ∈ x86Regs := by
  have : r ∈ Arch.x86.calleeSaved := by simpa using h
  simp only [Arch.calleeSaved, List.mem_cons, List.not_mem_nil, or_false] at this
  rcases this with rfl | rfl | rfl | rfl <;> decide

theorem ctxOfCaller_callerOfCtx_raw {c : Ctx} (hwf : ∀ r ∈ x86Regs, c.raw .x86 r ≤ U32MAX) {r : String}
    (hr : r ∈ x86Regs) (v : Option (List String)) :
    ({ ctxOfCaller (callerOfCtx c) with valid := v } : Ctx).raw .x86 r = c.raw .x86 r := by
  have : ({ ctxOfCaller (callerOfCtx c) with valid := v } : Ctx).raw .x86 r = (ctxOfCaller (callerOfCtx c)).raw .x86 r := rfl
  rw [this, ctxOfCaller_raw _ hr, callerOfCtx_vals c hr, Option.getD_some, u32_toNat_ofNat (hwf r hr)]

theorem step_x86_cfi {os : Os} {w : World} {wins : List (List Win.Rec)} {mem : Mem} {f : Frame}
    {g : Option Frame} {st : MState} {e : Exp}
    (hv : WinView f g st) (h1 : (winAt w wins st.instr).1.isNone = true)
    (h2 : (winAt w wins st.instr).2.isNone = true)
    (hl : linkCfiM w .x86 (mkEnvW .x86 os w wins mem).mask mem st e = true)
    (hret : 4096 ≤ e.ret) (hretm : e.ret ≤ U32MAX) (hspm : e.sp ≤ U32MAX) (hsp : st.sp < e.sp) :
    ∃ f', step (mkEnvW .x86 os w wins mem) mem f g = some f' ∧ FrameIs .cfi e f' := by
  obtain ⟨rec, ret0, saved, hrec, hadds, hwalk, hret0, hnd, hsv, hfpc, hregsc⟩ :=
    walkCfi_of_link hl (c := f.ctx) hv.rview.get_sp hspm (by intro _ h; cases h)
      { ctx := { ctxOfCaller (callerOfCtx f.ctx) with valid := f.ctx.valid }, valid := (callerOfCtx f.ctx).valid }
  have hcw := cfiWalkW_of_record (mem := mem) (g := g) (wins := wins) (f := f)
    (by rw [hv.instr]; exact h1) (by rw [hv.instr]; exact h2) (by rw [hv.instr]; exact hrec) hadds
  rw [hwalk, Option.map_some] at hcw
  -- on callee-saved names `register_is_valid` is the literal test
  have hlit : ∀ r, Arch.x86.calleeSaved.contains r = true → f.ctx.has .x86 r = f.ctx.hasLit r :=
    fun r hr => has_x86 f.ctx (calleeSaved_x86Regs hr)
  have hV0 : ∀ n, n ∈ (callerOfCtx f.ctx).valid ↔
      Arch.x86.calleeSaved.contains n = true ∧ f.ctx.has .x86 n = true := fun n => by
    rw [callerOfCtx_valid]
    exact ⟨fun h => ⟨List.contains_iff_mem.mpr h.1, by rw [hlit n (List.contains_iff_mem.mpr h.1)]; exact h.2⟩,
      fun h => ⟨List.contains_iff_mem.mp h.1, by rw [← hlit n h.1]; exact h.2⟩⟩
  have hfr := cfiRes_frameIsA (a := .x86) (c := f.ctx) (st := st)
    (o0 := { ctx := { ctxOfCaller (callerOfCtx f.ctx) with valid := f.ctx.valid }, valid := (callerOfCtx f.ctx).valid })
    hV0
    (fun r hr _ => ctxOfCaller_callerOfCtx_raw hv.wf (calleeSaved_x86Regs hr) _) rfl
    (CfiRes.of_plain _ _ (by decide) (by decide))
    hv.rview.fp (fun _ h => (hv.fp_some h).2.2)
    (fun r v hr h => by
      obtain ⟨q1, q2⟩ := hv.regs r v h
      exact ⟨by rw [hlit r hr]; exact q1, q2, q2 ▸ hv.wf r (calleeSaved_x86Regs hr)⟩)
    hspm hretm hret0 hnd hsv hfpc hregsc
  generalize ho : canonOut Arch.x86 mem
    { ctx := { ctxOfCaller (callerOfCtx f.ctx) with valid := f.ctx.valid }, valid := (callerOfCtx f.ctx).valid }
    e.sp ret0 saved = o at hcw hfr
  have hcfi : (mkEnvW .x86 os w wins mem).cfi f g = some { o.ctx with valid := some o.valid } := by
    rw [mkEnvW_cfi_x86, if_pos hv.vsp]; exact hcw
  have hx : ∀ r ∈ x86Regs, ({ o.ctx with valid := some o.valid } : Ctx).has .x86 r =
      ({ o.ctx with valid := some o.valid } : Ctx).hasLit r := fun r hr => has_x86 _ hr
  refine ⟨_, step_cfi_accept hcfi (by rw [hfr.ip]; exact hret)
    (Or.inl (by rw [hv.sp, show _ = e.sp from hfr.sp]; exact hsp)), ?_⟩
  refine ⟨hfr.ip, hfr.sp, rfl, hfr.instr, ?_, ?_, ?_, ?_, ?_, ?_⟩
  · rw [← hx _ (by decide)]; exact hfr.vip
  · rw [← hx _ (by decide)]; exact hfr.vsp
  · rw [← hx _ (by decide)]; exact hfr.fp
  · intro p hp
    obtain ⟨q1, q2, _⟩ := hfr.regs p hp
    have hm := calleeSaved_x86Regs (hregsc p hp).1
    exact ⟨hm, by rw [← hx _ hm]; exact q1, q2⟩
  · -- 32-bit values: ip, sp, slot words, and what the 32-bit caller half held
    intro r hr
    show o.ctx.raw .x86 r ≤ U32MAX
    by_cases he1 : r = "eip"
    · subst he1
      show o.ctx.ip ≤ U32MAX
      rw [show o.ctx.ip = e.ret from hfr.ip]; exact hretm
    · by_cases he2 : r = "esp"
      · subst he2
        show o.ctx.sp ≤ U32MAX
        rw [show o.ctx.sp = e.sp from hfr.sp]; exact hspm
      · rw [← ho, canonOut_raw hnd (canon_x86 hr) he1 he2]
        cases saved.lookup r with
        | some lit => exact slotWord_le .x86 mem e.sp lit
        | none => exact ctxOfCaller_wf _ r hr
  · rw [← ho]; rfl

theorem x86Trust_eq_techTrust {e : Exp} (h : techOK e = true) : x86Trust e = techTrust e := by
  simp only [techOK, Bool.or_eq_true, beq_iff_eq] at h
  unfold x86Trust techTrust
  rcases h with (h | h) | h <;> simp [h]

theorem step_x86_mixed {os : Os} {w : World} {wins : List (List Win.Rec)} {mem : Mem}
    (f : Frame) (g : Option Frame) (st : MState) (e : Exp)
    (hv : WinView f g st)
    (hl : linkMixed w wins (mkEnvW .x86 os w wins mem) .x86 os mem st e = true) :
    ∃ f', step (mkEnvW .x86 os w wins mem) mem (symbolise (mkEnvW .x86 os w wins mem) f) g = some f' ∧
      WinView f' (some (symbolise (mkEnvW .x86 os w wins mem) f)) (nextState (mkEnvW .x86 os w wins mem) .x86 st e) ∧
      FrameIs (techTrust e) e f' := by
  have hvs := hv.symbolise (env := mkEnvW .x86 os w wins mem)
  suffices h : ∃ f', step (mkEnvW .x86 os w wins mem) mem (symbolise (mkEnvW .x86 os w wins mem) f) g = some f' ∧
      FrameIs (techTrust e) e f' by
    obtain ⟨f', h1, h2⟩ := h
    exact ⟨f', h1, hv.next (mkEnvW_symb_none os w wins mem) h2 (techTrust_ne_context e), h2⟩
  obtain ⟨hret, hspm, hretm, hsp, hc⟩ := linkMixed_cases hl
  -- x86 has no leaf rule: the stack pointer grows
  have hsp : st.sp < e.sp := hsp.resolve_right fun h => Bool.noConfusion h.2.1
  rcases hc with ⟨ht, _, hl⟩ | ⟨ht, h1, h2, hl⟩ | ⟨ht, hn, _, hregs, f0, hfp, hl⟩ | ⟨ht, hn, hdead, hl⟩
  · rw [techTrust_win ht]
    cases hq : winAt w wins st.instr with
    | mk fd fpo =>
      cases fd with
      | some si => exact step_win_fd hvs hq hl hret hretm hsp
      | none =>
        cases fpo with
        | some si => exact step_win_fpo hvs hq hl hret hretm hspm hsp
        | none => unfold linkWinM at hl; simp [hq] at hl
  · rw [techTrust_cfi ht]; exact step_x86_cfi (os := os) hvs h1 h2 hl hret hretm hspm hsp
  · rw [techTrust_fp ht]; exact step_mixed_fp hvs hn hfp hl hregs hretm hspm
  · rw [techTrust_scan ht]; exact step_mixed_scan hvs hn hdead hl hret hretm

theorem walk_x86_chain4 (os : Os) (w : World) (wins : List (List Win.Rec)) (mem : Mem) (ctx : Ctx) (chain : List Exp)
    (hpre : PreW w wins (mkEnvW .x86 os w wins mem) .x86 os mem ctx chain = true) :
    ∃ frames, walk (mkEnvW .x86 os w wins mem) (some mem) ctx =
        symbolise (mkEnvW .x86 os w wins mem) (Frame.ofCtx ctx .context) :: frames ∧
      All2 (fun fr e => ∃ f', fr = symbolise (mkEnvW .x86 os w wins mem) f' ∧ FrameIs (techTrust e) e f')
        frames chain := by
  obtain ⟨hm, hip, hsp, h64, hfit, _, hp⟩ := PreW_spec hpre
  rw [walk_of_range ctx hm]
  exact walkLoop_chain_rel WinView _ _ (fun st => st.sp) _ (fun e f' => FrameIs (techTrust e) e f')
    (fun _ _ _ h => h.sp) step_x86_mixed step_x86_end chain _ _ none _ (winView_context ctx hip hsp h64 hfit)
    (preMixedFrom_eq_preChain w wins (mkEnvW .x86 os w wins mem) .x86 os mem chain _ ▸ hp) (need_context_le mem ctx)

end MdModel.Walk
