/-
  For C14: the unloaded-module offsets of a frame (`offsetsAt_spec`; the lookup through the membership
  form of C08.5b, `RangeMap.mem_unloadedAt_map`), and that the `unwrap` inside the two range tables of
  `index` cannot fire (C08's `safe_ok`).
-/
import MdModel.Index
import MdProofs.Lemmas.RangeMapIdx
namespace MdModel.Index
open MdModel MdModel.RangeMap

def covers (m : Mod) (a : Nat) : Bool :=
  match mkRange m.base m.size with
  | some r => r.contains a
  | none => false

theorem covers_eq (m : Mod) (a : Nat) : covers m a = RangeMap.covers (fun m : Mod => mkRange m.base m.size) a m := by
  show _ = (mkRange m.base m.size).any _
  unfold covers
  cases mkRange m.base m.size <;> rfl

theorem covers_iff (m : Mod) (a : Nat) :
    covers m a = true ↔ m.size ≠ 0 ∧ m.base + m.size ≤ U64MAX ∧ m.base ≤ a ∧ a < m.base + m.size := by
  rw [covers_eq, covers_mkRange Mod.base Mod.size, Nat.pos_iff_ne_zero]

theorem mapM_option_all {α β : Type} (g : α → Option β) (g' : α → β) (l : List α)
    (h : ∀ i ∈ l, g i = some (g' i)) : l.mapM g = some (l.map g') :=
  List.mapM_option_eq_some.mpr (by rw [List.map_map]; exact List.map_congr_left h)

theorem mem_unloadedAt (ums : List Mod) (a i : Nat) :
    i ∈ unloadedAt (unloadedFrom (ums.map fun m => mkRange m.base m.size)) a ↔
      ∃ m, ums[i]? = some m ∧ covers m a = true := by
  simp only [covers_eq]
  exact mem_unloadedAt_map

theorem offsetsAt_spec (ums : List Mod) (a : Nat) :
    ∃ l, offsetsAt ums a = some l ∧
      ∀ name off, (name, off) ∈ l ↔ ∃ m ∈ ums, covers m a = true ∧ name = m.name ∧ off = a - m.base := by
  let g' : Nat → String × Nat := fun i =>
    match ums[i]? with
    | some m => (m.name, a - m.base)
    | none => ("", 0)
  refine ⟨(unloadedAt (unloadedFrom (ums.map fun m => mkRange m.base m.size)) a).map g', ?_, ?_⟩
  · unfold offsetsAt
    apply mapM_option_all
    intro i hi
    obtain ⟨m, hm, hc⟩ := (mem_unloadedAt ums a i).mp hi
    have hle : m.base ≤ a := ((covers_iff m a).mp hc).2.2.1
    simp only [g', hm, if_pos hle]
  · intro name off
    simp only [List.mem_map]
    constructor
    · rintro ⟨i, hi, hg⟩
      obtain ⟨m, hm, hc⟩ := (mem_unloadedAt ums a i).mp hi
      simp only [g', hm, Prod.mk.injEq] at hg
      exact ⟨m, List.mem_iff_getElem?.mpr ⟨i, hm⟩, hc, hg.1.symm, hg.2.symm⟩
    · rintro ⟨m, hmem, hc, rfl, rfl⟩
      obtain ⟨i, hm⟩ := List.mem_iff_getElem?.mp hmem
      exact ⟨i, (mem_unloadedAt ums a i).mpr ⟨m, hm, hc⟩, by simp only [g', hm]⟩

theorem attachFrame_some (ums : List Mod) (f : Walk.Frame) : ∃ x, attachFrame ums f = some x := by
  unfold attachFrame
  split
  · exact ⟨_, rfl⟩
  · obtain ⟨l, hl, -⟩ := offsetsAt_spec ums f.instruction
    rw [hl]
    exact ⟨_, rfl⟩

theorem attachFrame_spec (ums : List Mod) (f : Walk.Frame) (x : IFrame) (h : attachFrame ums f = some x) :
    x.f = f ∧
    (∀ i, f.module = some i → x.unloaded = []) ∧
    (f.module = none → ∀ name off, (name, off) ∈ x.unloaded ↔
        ∃ m ∈ ums, covers m f.instruction = true ∧ name = m.name ∧ off = f.instruction - m.base) := by
  unfold attachFrame at h
  split at h
  · rename_i i hi
    cases h
    exact ⟨rfl, (fun _ _ => rfl), fun hn => by rw [hn] at hi; cases hi⟩
  · rename_i hn
    obtain ⟨l, hl, hspec⟩ := offsetsAt_spec ums f.instruction
    rw [hl] at h
    cases h
    exact ⟨rfl, (fun i hi => by rw [hi] at hn; cases hn), fun _ => hspec⟩

/-- the `unwrap` inside `into_rangemap_safe` cannot fire on well-formed input (C08's `safe_ok`) -/
theorem tableOk_of_wf {xs : List (Option Rng × Nat)} (h : InputWF xs) : tableOk xs = true := by
  unfold tableOk
  rw [safe_ok _ h]

theorem tableOk_modEntries (ms : List Mod) : tableOk (modEntries ms) = true :=
  tableOk_of_wf (idx_mkRange_wf Mod.base Mod.size ms)

theorem tableOk_memEntries (rs : List Walk.Mem) : tableOk (memEntries rs) = true :=
  tableOk_of_wf (idx_mkRange_wf Walk.Mem.base Walk.Mem.size rs)

end MdModel.Index
