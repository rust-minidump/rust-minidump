/-
  `parse_more` handles its window line by line: `parseMore st w = pmSpec Lsym st w`, where `Lsym`
  is one round of the loop on ONE complete line.
-/
import MdModel.SymParse
import MdProofs.Lemmas.SymLocal
import MdProofs.Lemmas.SymLines
namespace MdModel.Sym
open MdModel MdModel.Stream

/-- what one complete line does to the parser state -/
def Lsym (st : PState) (line : Bytes) : LR PState :=
  match stepLine st line with
  | .ok _ st' => .ok st'
  | .err k n => .err k n
  | .panic e => .panic e

def stepOf (o : LR PState) (rest : Bytes) : StepRes :=
  match o with
  | .ok st => .ok rest st
  | .err k n => .err k n
  | .panic e => .panic e

/-- "the answer depends on the line only and the line is consumed exactly" for `StepRes` -/
def UnifStep (f : Bytes → StepRes) (l : Bytes) : Prop :=
  ∃ o, ∀ s, f (l ++ Sym.NL :: s) = stepOf o s

theorem topLevel_unif (st : PState) (l : Bytes) (hl : Sym.NL ∉ l) : UnifStep (topLevel st) l := by
  rcases Final.myEol l hl with ⟨v, h⟩ | h | h
  · exact ⟨.ok _, fun s => by simp only [topLevel, h s]; rfl⟩
  all_goals
    rcases Final.line l hl with ⟨v, h2⟩ | h2 | h2
    · cases ha : applyLine st v with
      | error e =>
        obtain ⟨k, n⟩ := e
        exact ⟨.err k n, fun s => by simp only [topLevel, h s, h2 s, ha]; rfl⟩
      | ok o =>
        cases o with
        | panic e => exact ⟨.panic e, fun s => by simp only [topLevel, h s, h2 s, ha]; rfl⟩
        | ok st' => exact ⟨.ok _, fun s => by simp only [topLevel, h s, h2 s, ha]; rfl⟩
    all_goals exact ⟨.err _ _, fun s => by simp only [topLevel, h s, h2 s]; rfl⟩

theorem Final.funcSubline : Final funcSubline :=
  .prefixIf _ (by decide) (.map _ .inlineOriginLine fun (_, _) => ⟨_, fun _ => rfl⟩) <|
  .prefixIf _ (by decide) (.map _ .inlineLine fun _ => ⟨_, fun _ => rfl⟩)
    (.map _ .funcLineData fun _ => ⟨_, fun _ => rfl⟩)

theorem stepLine_unif (st : PState) (l : Bytes) (hl : Sym.NL ∉ l) : UnifStep (stepLine st) l := by
  -- the fallback of an open item: finish it and hand the same input to the top level
  obtain ⟨o, ho⟩ : UnifStep (fun i => match finishCur st with
      | .panic e => StepRes.panic e
      | .ok st' => topLevel st' i) l := by
    cases finishCur st with
    | panic e => exact ⟨.panic e, fun _ => rfl⟩
    | ok st' => exact topLevel_unif st' l hl
  cases hc : st.cur with
  | none => simpa only [UnifStep, stepLine, hc] using topLevel_unif st l hl
  | func f ls inl =>
    rcases Final.funcSubline l hl with ⟨v, h⟩ | h | h
    · cases v <;> exact ⟨.ok _, fun s => by simp only [stepLine, hc, h s]; rfl⟩
    all_goals exact ⟨o, fun s => by simp only [stepLine, hc, h s]; exact ho s⟩
  | cfi c =>
    rcases Final.stackCfi l hl with ⟨v, h⟩ | h | h
    · exact ⟨.ok _, fun s => by simp only [stepLine, hc, h s]; rfl⟩
    all_goals exact ⟨o, fun s => by simp only [stepLine, hc, h s]; exact ho s⟩

theorem stepLine_line (st : PState) (line : Bytes) (h : IsLine line) (s : Bytes) :
    stepLine st (line ++ s) =
      match Lsym st line with
      | .ok st' => .ok s st'
      | .err k n => .err k n
      | .panic e => .panic e := by
  obtain ⟨l, hl, rfl⟩ := h
  obtain ⟨o, ho⟩ := stepLine_unif st l hl
  have e : ∀ s, l ++ [Stream.NL] ++ s = l ++ Sym.NL :: s := fun s => by simp [Sym.NL, Stream.NL]
  rw [Lsym, e s, ho s, ← List.append_nil (l ++ [Stream.NL]), e [], ho []]
  cases o <;> rfl

theorem linesLoop_succ (fuel : Nat) (st : PState) {w : Bytes} (hw : w ≠ []) :
    linesLoop (fuel + 1) st w =
      match stepLine st w with
      | .ok rest st' => linesLoop fuel st' rest
      | r => r := by
  cases w with
  | nil => exact absurd rfl hw
  | cons b bs => rfl

theorem linesLoop_lines (ls : List Bytes) (hls : ∀ l ∈ ls, IsLine l) :
    ∀ (fuel : Nat) (st : PState), ls.flatten.length ≤ fuel →
      linesLoop fuel st ls.flatten =
        match foldL Lsym st ls with
        | .ok st' => .ok [] st'
        | .err k n => .err k n
        | .panic e => .panic e := by
  induction ls with
  | nil => intro fuel st _; cases fuel <;> rfl
  | cons line rest ih =>
    intro fuel st hf
    have hline := hls line List.mem_cons_self
    have hpos := List.length_pos_iff.mpr hline.ne_nil
    simp only [List.flatten_cons, List.length_append] at hf ⊢
    obtain ⟨f, rfl⟩ : ∃ f, fuel = f + 1 := ⟨fuel - 1, by omega⟩
    rw [linesLoop_succ f st (List.append_ne_nil_of_left_ne_nil hline.ne_nil _), stepLine_line st line hline, foldL]
    cases Lsym st line with
    | ok st' => exact ih (fun l hl => hls l (List.mem_cons_of_mem _ hl)) f st' (by omega)
    | err k n => rfl
    | panic e => rfl

theorem lastNL_go_noNL (w : Bytes) (i : Nat) (acc : Option Nat) (h : Sym.NL ∉ w) :
    lastNL.go w i acc = acc := by
  induction w generalizing i with
  | nil => rfl
  | cons b rest ih =>
    rw [lastNL.go, if_neg fun (e : b = Sym.NL) => h (e ▸ List.mem_cons_self),
      ih _ fun e => h (List.mem_cons_of_mem _ e)]

/-- `rposition` finds the last newline, whatever comes before it -/
theorem lastNL_go_line (a t : Bytes) (ht : Sym.NL ∉ t) (i : Nat) (acc : Option Nat) :
    lastNL.go (a ++ [Sym.NL] ++ t) i acc = some (i + a.length) := by
  induction a generalizing i acc with
  | nil => rw [List.nil_append, List.singleton_append, lastNL.go, if_pos rfl, lastNL_go_noNL _ _ _ ht]; rfl
  | cons b rest ih =>
    simp only [List.cons_append, lastNL.go, ih, List.length_cons]
    exact congrArg some (by omega)

theorem parseMore_eq (st : PState) (w : Bytes) : parseMore st w = pmSpec Lsym st w := by
  unfold parseMore pmSpec
  have hflat := linesOf_flatten w
  have hr : Sym.NL ∉ (linesOf w).2 := linesOf_rest_noNL w
  have hls := linesOf_isLine w
  generalize linesOf w = p at *
  obtain ⟨ls, r⟩ := p
  subst hflat
  rcases List.eq_nil_or_concat ls with rfl | ⟨ls', x, rfl⟩
  · rw [lastNL, List.flatten_nil, List.nil_append, lastNL_go_noNL _ _ _ hr]; rfl
  · -- the window is `a ++ "\n" ++ r` where `a ++ "\n"` are the complete lines
    obtain ⟨c, hc, rfl⟩ := hls x (by simp)
    obtain ⟨a, ha⟩ : ∃ a, (ls'.concat (c ++ [Stream.NL])).flatten = a ++ [Sym.NL] :=
      ⟨ls'.flatten ++ c, by simp [Sym.NL, Stream.NL]⟩
    generalize ls'.concat (c ++ [Stream.NL]) = ls at *
    simp only [ha, lastNL, lastNL_go_line a r hr, Nat.zero_add]
    rw [List.take_left' (by simp), ← ha, linesLoop_lines ls hls _ st (Nat.le_refl _)]
    cases foldL Lsym st ls <;> rfl

end MdModel.Sym
