/-
  Over-long lines are dropped: reference semantics `specRestM` (a line longer than the capacity
  limit only advances the line counter) and the proof that the buffer machine computes it for EVERY
  chunk schedule when every other line is shorter than half the limit.
-/
import MdProofs.Lemmas.SymChunk
import MdModel.Gen.SymConsts
namespace MdModel.Stream
open MdModel

/-- fold of the per-line step; a line longer than `maxCap` (terminator included) is not parsed,
    it only bumps the line counter -/
def foldLM {σ} (L : σ → Bytes → LR σ) (bump : σ → σ) (maxCap : Nat) : σ → List Bytes → LR σ
  | st, [] => .ok st
  | st, l :: ls =>
    if l.length > maxCap then foldLM L bump maxCap (bump st) ls
    else match L st l with
      | .ok st' => foldLM L bump maxCap st' ls
      | .err k n => .err k n
      | .panic e => .panic e

theorem foldLM_append {σ} (L : σ → Bytes → LR σ) (bump : σ → σ) (maxCap : Nat) (st : σ) (a b : List Bytes) :
    foldLM L bump maxCap st (a ++ b) =
      match foldLM L bump maxCap st a with
      | .ok st' => foldLM L bump maxCap st' b
      | .err k n => .err k n
      | .panic e => .panic e := by
  induction a generalizing st with
  | nil => simp [foldLM]
  | cons l ls ih =>
    simp only [List.cons_append, foldLM]
    split
    · exact ih _
    · cases L st l with
      | ok st' => exact ih st'
      | err k n => rfl
      | panic e => rfl

theorem foldLM_eq_foldL {σ} (L : σ → Bytes → LR σ) (bump : σ → σ) (maxCap : Nat) (ls : List Bytes)
    (h : ∀ l ∈ ls, l.length ≤ maxCap) : ∀ st, foldLM L bump maxCap st ls = foldL L st ls := by
  induction ls with
  | nil => intro st; rfl
  | cons l rest ih =>
    intro st
    have hl := h l (by simp)
    have hr : ∀ x ∈ rest, x.length ≤ maxCap := fun x hx => h x (by simp [hx])
    simp only [foldLM, foldL, if_neg (by omega : ¬ l.length > maxCap)]
    cases L st l with
    | ok st' => exact ih hr st'
    | err k n => rfl
    | panic e => rfl

/-- reference semantics of the rest of a parse, over-long lines dropped; an unterminated rest of
    `maxCap` bytes or more is dropped too (and the parse succeeds) -/
def specRestM {σ} (L : σ → Bytes → LR σ) (bump : σ → σ) (lines : σ → Nat) (maxCap : Nat)
    (st : σ) (ne : Bool) (rest : Bytes) : Out σ :=
  match foldLM L bump maxCap st (linesOf rest).1 with
  | .err k n => .err k n
  | .panic e => .panic e
  | .ok st' =>
    if (linesOf rest).2.length ≥ maxCap then .ok st'
    else if !ne && (linesOf rest).1.isEmpty then .err errEmpty 0
    else if (linesOf rest).2.isEmpty then .ok st'
    else .err errEof (lines st')

def specOutM {σ} (L : σ → Bytes → LR σ) (bump : σ → σ) (lines : σ → Nat) (maxCap : Nat)
    (st : σ) (input : Bytes) : Out σ :=
  specRestM L bump lines maxCap st false input

/-- what recovery mode computes -/
def specR {σ} (L : σ → Bytes → LR σ) (bump : σ → σ) (lines : σ → Nat) (maxCap : Nat)
    (st : σ) (rest : Bytes) : Out σ :=
  match firstNL rest with
  | none => .ok st
  | some i => specRestM L bump lines maxCap (bump st) true (rest.drop (i + 1))

/-- every line is short (content < `half`) or over-long (> `maxCap` with its terminator); the
    unterminated rest likewise -/
def Mixed (half maxCap : Nat) (rest : Bytes) : Prop :=
  (∀ l ∈ (linesOf rest).1, l.length ≤ half ∨ l.length > maxCap) ∧
  ((linesOf rest).2.length < half ∨ (linesOf rest).2.length ≥ maxCap)

theorem specRestM_lines {σ} (L : σ → Bytes → LR σ) (bump : σ → σ) (lines : σ → Nat) (maxCap : Nat)
    (st : σ) (ne : Bool) (ls : List Bytes) (hls : ∀ l ∈ ls, IsLine l) (w : Bytes) :
    specRestM L bump lines maxCap st ne (ls.flatten ++ w) =
      match foldLM L bump maxCap st ls with
      | .ok st' => specRestM L bump lines maxCap st' (ne || !ls.isEmpty) w
      | .err k n => .err k n
      | .panic e => .panic e := by
  unfold specRestM
  rw [linesOf_append_lines ls hls w]
  simp only []
  rw [foldLM_append]
  cases foldLM L bump maxCap st ls with
  | err k n => rfl
  | panic e => rfl
  | ok st' =>
    simp only []
    cases foldLM L bump maxCap st' (linesOf w).1 with
    | err k n => rfl
    | panic e => rfl
    | ok st2 =>
      simp only []
      cases ne <;> cases hl : ls.isEmpty <;> simp_all

theorem specRestM_noNL {σ} (L : σ → Bytes → LR σ) (bump : σ → σ) (lines : σ → Nat) (maxCap : Nat)
    (st : σ) (ne : Bool) (w : Bytes) (h : NL ∉ w) :
    specRestM L bump lines maxCap st ne w =
      if w.length ≥ maxCap then .ok st else specRest L lines st ne w := by
  unfold specRestM specRest
  rw [linesOf_noNL w h]
  rfl

theorem Mixed.lines_append {half maxCap : Nat} (ls : List Bytes) (hls : ∀ l ∈ ls, IsLine l) (w : Bytes) :
    Mixed half maxCap (ls.flatten ++ w) ↔
      (∀ l ∈ ls, l.length ≤ half ∨ l.length > maxCap) ∧ Mixed half maxCap w := by
  unfold Mixed
  rw [linesOf_append_lines ls hls w]
  simp only [List.forall_mem_append, and_assoc]

theorem Mixed.noNL {half maxCap : Nat} {w : Bytes} (h : NL ∉ w) :
    Mixed half maxCap w ↔ (w.length < half ∨ w.length ≥ maxCap) := by
  unfold Mixed
  rw [linesOf_noNL w h]
  simp

theorem Mixed.drop_lines {half maxCap : Nat} (ls : List Bytes) (hls : ∀ l ∈ ls, IsLine l) (w : Bytes)
    (h : Mixed half maxCap (ls.flatten ++ w)) : Mixed half maxCap w :=
  ((Mixed.lines_append ls hls w).mp h).2


theorem linesOf_prefix (d w : Bytes) (hd : NL ∉ d) :
    linesOf (d ++ w) =
      (match (linesOf w).1 with
        | [] => ([], d ++ (linesOf w).2)
        | l :: ls => ((d ++ l) :: ls, (linesOf w).2)) := by
  unfold linesOf
  rw [linesAux_scan d w [] hd, linesAux_cur]
  simp only [List.append_nil, List.reverse_reverse]
  cases (linesAux w []).1 <;> rfl

theorem firstNL_prefix (d w : Bytes) (hd : NL ∉ d) :
    firstNL (d ++ w) = (firstNL w).map (· + d.length) := by
  induction d with
  | nil => cases h : firstNL w <;> simp [h]
  | cons b rest ih =>
    have hb : b ≠ NL := fun e => hd (by simp [e])
    have hr : NL ∉ rest := fun e => hd (by simp [e])
    simp only [List.cons_append, firstNL, hb, if_false, ih hr, List.length_cons]
    cases firstNL w <;> simp; omega

theorem firstNL_none {w : Bytes} (h : NL ∉ w) : firstNL w = none := by
  have := firstNL_prefix w [] h
  rwa [List.append_nil] at this

theorem firstNL_mem {w : Bytes} (h : firstNL w = none) : NL ∉ w := fun hm => by
  obtain ⟨a, b, rfl, ha⟩ := List.eq_append_cons_of_mem hm
  rw [firstNL_prefix a _ ha] at h
  simp [firstNL] at h

theorem firstNL_line {w : Bytes} {i : Nat} (h : firstNL w = some i) :
    (∀ l ∈ [w.take i ++ [NL]], IsLine l) ∧ w = [w.take i ++ [NL]].flatten ++ w.drop (i + 1) := by
  obtain ⟨h1, h2⟩ := firstNL_some_split h
  refine ⟨fun l hl => by rw [List.mem_singleton.mp hl]; exact ⟨_, h1, rfl⟩, ?_⟩
  conv => lhs; rw [h2]
  simp

theorem firstNL_append_left {a : Bytes} {i : Nat} (b : Bytes) (h : firstNL a = some i) :
    firstNL (a ++ b) = some i := by
  obtain ⟨h1, h2⟩ := firstNL_some_split h
  have hlen : (a.take i).length = i := by
    have := firstNL_lt h; simp; omega
  rw [h2, List.append_assoc, firstNL_prefix _ _ h1]
  simp [firstNL, hlen]

theorem specR_prefix {σ} (L : σ → Bytes → LR σ) (bump : σ → σ) (lines : σ → Nat) (maxCap : Nat)
    (st : σ) (d w : Bytes) (hd : NL ∉ d) :
    specR L bump lines maxCap st (d ++ w) = specR L bump lines maxCap st w := by
  unfold specR
  rw [firstNL_prefix d w hd]
  cases firstNL w with
  | none => rfl
  | some i =>
    simp only [Option.map_some]
    congr 1
    rw [show i + d.length + 1 = d.length + (i + 1) by omega, ← List.drop_drop, List.drop_left]

theorem specRestM_long_first {σ} (L : σ → Bytes → LR σ) (bump : σ → σ) (lines : σ → Nat)
    (half maxCap : Nat) (st : σ) (ne : Bool) (d w : Bytes) (hd : NL ∉ d)
    (hlen : half ≤ d.length) (hmix : Mixed half maxCap (d ++ w)) :
    specRestM L bump lines maxCap st ne (d ++ w) = specR L bump lines maxCap st (d ++ w) := by
  unfold specR
  cases hf : firstNL (d ++ w) with
  | none =>
    -- no newline at all: the whole rest is an over-long unterminated tail
    have h2 := (Mixed.noNL (firstNL_mem hf)).mp hmix
    rw [specRestM_noNL _ _ _ _ _ _ _ (firstNL_mem hf), if_pos (by rw [List.length_append] at h2 ⊢; omega)]
  | some j =>
    -- the first line contains `d`, so it is over-long and only bumps the line counter
    obtain ⟨hline, hsplit⟩ := firstNL_line hf
    have hj : d.length ≤ j := by
      rw [firstNL_prefix d w hd] at hf
      cases hw : firstNL w with
      | none => rw [hw] at hf; cases hf
      | some i => rw [hw] at hf; cases hf; exact Nat.le_add_left _ _
    have hlong : ((d ++ w).take j ++ [NL]).length > maxCap := by
      have hlt := firstNL_lt hf
      rw [hsplit, Mixed.lines_append _ hline] at hmix
      rcases hmix.1 _ (List.mem_singleton_self _) with h | h
      · rw [List.length_append, List.length_take] at h
        simp only [List.length_cons, List.length_nil] at h
        omega
      · exact h
    dsimp only
    conv => lhs; rw [hsplit]
    rw [specRestM_lines L bump lines maxCap st ne _ hline]
    simp only [foldLM, if_pos hlong]
    simp

theorem linesOf_length_le (w : Bytes) : ∀ l ∈ (linesOf w).1, l.length ≤ w.length := by
  intro l hl
  have h1 := (List.sublist_flatten_of_mem hl).length_le
  have h2 := congrArg List.length (linesOf_flatten w)
  rw [List.length_append] at h2
  omega

theorem specRestM_window {σ} (L : σ → Bytes → LR σ) (bump : σ → σ) (lines : σ → Nat) (maxCap : Nat)
    (st : σ) (ne : Bool) (w u : Bytes) (hfit : w.length ≤ maxCap) :
    specRestM L bump lines maxCap st ne (w ++ u) =
      match foldL L st (linesOf w).1 with
      | .ok st' => specRestM L bump lines maxCap st' (ne || !(linesOf w).1.isEmpty) ((linesOf w).2 ++ u)
      | .err k n => .err k n
      | .panic e => .panic e := by
  have hw : w ++ u = (linesOf w).1.flatten ++ ((linesOf w).2 ++ u) := by
    rw [← List.append_assoc, linesOf_flatten]
  rw [hw, specRestM_lines L bump lines maxCap st ne _ (linesOf_isLine w),
    foldLM_eq_foldL L bump maxCap _ (fun l hl => Nat.le_trans (linesOf_length_le w l hl) hfit)]

/-- normal operation (not recovering) -/
structure JM {σ} (maxCap : Nat) (input : Bytes) (s : St σ) : Prop extends Normal maxCap input s where
  mixed : Mixed (maxCap / 2) maxCap (s.buf.data ++ s.unread)

/-- recovery mode -/
structure RM {σ} (maxCap : Nat) (input : Bytes) (s : St σ) : Prop where
  inv : Inv maxCap input s
  isRec : s.inRecovery = true
  notJust : s.justFinished = false
  notTried : s.triedToGrow = false
  capMax : s.buf.cap = maxCap
  mixedAfter : ∀ i, firstNL (s.buf.data ++ s.unread) = some i →
    Mixed (maxCap / 2) maxCap ((s.buf.data ++ s.unread).drop (i + 1))

theorem Mixed.after_firstNL {half maxCap : Nat} {w : Bytes} {i : Nat} (h : Mixed half maxCap w)
    (hi : firstNL w = some i) : Mixed half maxCap (w.drop (i + 1)) := by
  obtain ⟨hline, hsplit⟩ := firstNL_line hi
  rw [hsplit] at h
  exact h.drop_lines _ hline _

/-- `o` is the answer the loop is heading for at the loop head `s` -/
def Heading {σ} (maxCap : Nat) (input : Bytes) (ops : Ops σ) (L : σ → Bytes → LR σ) (s : St σ) (o : Out σ) :
    Prop :=
  (JM maxCap input s ∧
    specRestM L ops.bumpLine ops.lines maxCap s.ps (!(cbBytes s).isEmpty) (s.buf.data ++ s.unread) = o) ∨
  (RM maxCap input s ∧ specR L ops.bumpLine ops.lines maxCap s.ps (s.buf.data ++ s.unread) = o)

theorem parse_step {σ} (maxCap : Nat) (input : Bytes) (ops : Ops σ) (L : σ → Bytes → LR σ)
    (hspec : PmSpec ops L) (m : St σ) {res} (hp : ParseTo ops m res)
    (hm : Mid maxCap input m) (hnr : m.inRecovery = false) (hwne : m.buf.data ≠ [])
    (htg : m.triedToGrow = false) (hchain : ∃ k, m.buf.cap * 2 ^ k = maxCap)
    (hmix : Mixed (maxCap / 2) maxCap (m.buf.data ++ m.unread)) :
    (∃ sf, res = .inr (specRestM L ops.bumpLine ops.lines maxCap m.ps
        (!(cbBytes m).isEmpty) (m.buf.data ++ m.unread), sf)) ∨
    (∃ s', res = .inl s' ∧ Heading maxCap input ops L s'
      (specRestM L ops.bumpLine ops.lines maxCap m.ps (!(cbBytes m).isEmpty) (m.buf.data ++ m.unread))) := by
  rcases parse_normal maxCap input ops L hspec (specRestM L ops.bumpLine ops.lines maxCap)
      (specRestM_window L ops.bumpLine ops.lines maxCap) m hp hm hnr hwne htg hchain with
    h | ⟨s', hS, hN, href, _, _, hd, hu⟩
  · exact Or.inl h
  · refine Or.inr ⟨s', hS, Or.inl ⟨⟨hN, ?_⟩, href⟩⟩
    rw [hd, hu]
    rw [← linesOf_flatten m.buf.data, List.append_assoc] at hmix
    exact hmix.drop_lines _ (linesOf_isLine m.buf.data) _

theorem step_JM {σ} (maxCap : Nat) (input : Bytes) (ops : Ops σ) (L : σ → Bytes → LR σ)
    (hspec : PmSpec ops L) (hmax : maxCap < U64MAX) (s : St σ) (hJ : JM maxCap input s) :
    (∃ sf, step maxCap ops s = .inr (specRestM L ops.bumpLine ops.lines maxCap s.ps
        (!(cbBytes s).isEmpty) (s.buf.data ++ s.unread), sf)) ∨
    (∃ s', step maxCap ops s = .inl s' ∧ Heading maxCap input ops L s'
      (specRestM L ops.bumpLine ops.lines maxCap s.ps (!(cbBytes s).isEmpty) (s.buf.data ++ s.unread))) := by
  have hmix := hJ.mixed
  rcases step_normal maxCap input ops L (by omega) s hJ.toNormal with
    ⟨hun, hlt, sf, h⟩ | ⟨s', hS, hN, hps, hcb, hd, hu⟩ | ⟨hcap, hlen, hrec⟩ |
    ⟨m, hS, hm, hnr, hne, htg, hcap, hps, hcb, hrest⟩
  · left
    refine ⟨sf, ?_⟩
    rw [h, hun, List.append_nil]
    rw [specRestM_noNL _ _ _ _ _ _ _ hJ.noNL, if_neg (Nat.not_le_of_gt hlt)]
  · right
    exact ⟨s', hS, Or.inl ⟨⟨hN, by rw [hd, hu]; exact hmix⟩, by rw [hps, hcb, hd, hu]⟩⟩
  · -- recovery starts, and the line in the window is over-long
    right
    have hpos := hJ.inv.buf.capPos
    obtain ⟨s', hS, hrec⟩ := hrec
    obtain ⟨hinv', hir, hjf, htg, hcap', hps, hd, hu⟩ := hrec (by unfold satDouble; omega)
    refine ⟨s', hS, Or.inr ⟨⟨hinv', hir, hjf, htg, hcap', fun i hi => ?_⟩, ?_⟩⟩
    · rw [hd, hu] at hi ⊢
      exact hmix.after_firstNL hi
    · rw [hps, hd, hu]
      exact (specRestM_long_first L ops.bumpLine ops.lines (maxCap / 2) maxCap
        s.ps _ s.buf.data s.unread hJ.noNL hlen hmix).symm
  · have hps' := parse_step maxCap input ops L hspec m hS hm hnr hne htg (hcap ▸ hJ.chain) (hrest ▸ hmix)
    rw [← hrest, ← hps, ← hcb]
    exact hps'

theorem step_RM {σ} (maxCap : Nat) (input : Bytes) (ops : Ops σ) (L : σ → Bytes → LR σ)
    (hspec : PmSpec ops L) (s : St σ) (hR : RM maxCap input s) :
    (∃ sf, step maxCap ops s = .inr (specR L ops.bumpLine ops.lines maxCap s.ps (s.buf.data ++ s.unread), sf)) ∨
    (∃ s', step maxCap ops s = .inl s' ∧ Heading maxCap input ops L s'
      (specR L ops.bumpLine ops.lines maxCap s.ps (s.buf.data ++ s.unread))) := by
  obtain ⟨hinv, hrec, hnj, hnt, hcap', hmixA⟩ := hR
  have sp1 := (step_spec maxCap input ops s hinv).1
  have hrt := recover_to ops s
  rw [step_eq_tail] at sp1 ⊢
  generalize recover ops s = s1 at sp1 hrt ⊢
  cases hrt with
  | idle h => rw [hrec] at h; cases h
  | @found idx s1 _ hf t g_ps g_ir g_jf =>
    -- the newline is in the window: recovery ends here
    have hm1 := t.mid hinv.toMid
    have hlt := firstNL_lt hf
    have hfull : firstNL (s.buf.data ++ s.unread) = some idx := firstNL_append_left _ hf
    have hdrop : (s.buf.data ++ s.unread).drop (idx + 1) = s1.buf.data ++ s1.unread := by
      rw [t.data, t.unread, List.drop_append_of_le_length (by omega)]
    have hspecR : specR L ops.bumpLine ops.lines maxCap s.ps (s.buf.data ++ s.unread) =
        specRestM L ops.bumpLine ops.lines maxCap s1.ps true (s1.buf.data ++ s1.unread) := by
      unfold specR
      rw [hfull]
      simp only []
      rw [hdrop, g_ps]
    have hmix1 : Mixed (maxCap / 2) maxCap (s1.buf.data ++ s1.unread) := hdrop ▸ hmixA idx hfull
    have hcb1 : (cbBytes s1).isEmpty = false := by
      rw [t.bytes]
      apply List.isEmpty_eq_false_iff.mpr
      intro h
      have hl : (s.buf.data.take (idx + 1)).length = idx + 1 := by rw [List.length_take]; omega
      rw [(List.append_eq_nil_iff.mp h).2] at hl; cases hl
    rw [hspecR]
    have ht := tail_to maxCap ops s1
    generalize tail maxCap ops s1 = res at ht ⊢
    cases ht with
    | @parse m chunk _ f hc hp =>
      -- the parser runs on what follows the dropped line
      have hps' := parse_step maxCap input ops L hspec m hp (f.mid hm1) (f.inRec.trans g_ir) (f.parsed hc).1
        ((f.parsed hc).2 (Or.inl (t.tried.trans hnt))) ⟨0, by rw [f.cap, t.cap, hcap']; simp⟩ (f.rest ▸ hmix1)
      rw [cbBytes_eq f.cb, hcb1, f.ps, f.rest] at hps'
      exact hps'
    | @ok m f hI =>
      -- nothing is left in the window: end of input right after the dropped line
      left
      have hde : s1.buf.data = [] := f.data0 ▸ hI (f.just.trans g_jf)
      have hun : s1.unread = [] := f.at_end hm1.buf hde
      refine ⟨m, ?_⟩
      rw [hde, hun, f.ps]
      simp [specRestM, linesOf, linesAux, foldLM]
    | _ f hI hfc =>
      rw [f.fully, t.fully.mpr (f.data0 ▸ hI (f.just.trans g_jf))] at hfc; cases hfc
  | @lost s1 _ hf t g_ps g_ir g_jf g_fc g_d =>
    -- still inside the over-long line: everything in the window is discarded
    have hm1 := t.mid hinv.toMid
    have hnoNL : NL ∉ s.buf.data := firstNL_mem hf
    have hspecR : specR L ops.bumpLine ops.lines maxCap s.ps (s.buf.data ++ s.unread) =
        specR L ops.bumpLine ops.lines maxCap s.ps s.unread := specR_prefix _ _ _ _ _ _ _ hnoNL
    rw [hspecR]
    have ht := tail_to maxCap ops s1
    generalize tail maxCap ops s1 = res at sp1 ht ⊢
    cases ht with
    | @parse m chunk _ f hc hp =>
      right
      have hir := f.inRec.trans g_ir
      have hrest : m.buf.data ++ m.unread = s.unread := by rw [f.rest, g_d, List.nil_append, t.unread]
      cases hp with
      | took hr | failed hr => cases hr.symm.trans hir
      | skip =>
        refine ⟨m, rfl, Or.inr ⟨⟨sp1 _ rfl, hir, f.just.trans (g_jf.trans hnj),
          (f.parsed hc).2 (Or.inl (t.tried.trans hnt)),
          (f.cap.trans (t.cap.trans hcap')), fun i hi => ?_⟩, by rw [hrest, f.ps, g_ps]⟩⟩
        rw [hrest] at hi ⊢
        have h2 : firstNL (s.buf.data ++ s.unread) = some (i + s.buf.data.length) := by
          rw [firstNL_prefix _ _ hnoNL, hi]; rfl
        have := hmixA _ h2
        rwa [show i + s.buf.data.length + 1 = s.buf.data.length + (i + 1) by omega, ← List.drop_drop,
          List.drop_left] at this
    | @ok m f =>
      left
      have hun : s.unread = [] := t.unread ▸ f.at_end hm1.buf g_d
      refine ⟨m, ?_⟩
      rw [hun, f.ps, g_ps]
      rfl
    | _ f _ hfc => rw [f.fully, g_fc] at hfc; cases hfc

theorem run_M {σ} (maxCap : Nat) (input : Bytes) (ops : Ops σ) (L : σ → Bytes → LR σ)
    (hspec : PmSpec ops L) (hmax : maxCap < U64MAX) (fuel : Nat) (s : St σ) (o : Out σ)
    (h : Heading maxCap input ops L s o) (hm : measure s < fuel) :
    ∃ sf, run maxCap ops fuel s = some (o, sf) :=
  run_total (P := Heading maxCap input ops L) (fun s o hs => by
    rcases hs with ⟨hJ, rfl⟩ | ⟨hR, rfl⟩
    · exact step_JM maxCap input ops L hspec hmax s hJ
    · exact step_RM maxCap input ops L hspec s hR) fuel s o h hm

theorem init_JM {σ} (maxCap initCap : Nat) (input : Bytes) (st0 : σ) (sched : List Nat)
    (h0 : 0 < initCap) (hchain : ∃ k, initCap * 2 ^ k = maxCap)
    (hmix : Mixed (maxCap / 2) maxCap input) :
    JM maxCap input (init initCap st0 input sched) :=
  ⟨init_normal maxCap initCap input st0 sched h0 hchain, by simpa [init, Buf.withCapacity] using hmix⟩

theorem machine_eq_specM {σ} (maxCap initCap : Nat) (input : Bytes) (ops : Ops σ) (L : σ → Bytes → LR σ)
    (st0 : σ) (sched : List Nat)
    (hspec : PmSpec ops L) (hmax : maxCap < U64MAX) (h0 : 0 < initCap)
    (hchain : ∃ k, initCap * 2 ^ k = maxCap) (hmix : Mixed (maxCap / 2) maxCap input) :
    ∃ sf, run maxCap ops (fuelFor input) (init initCap st0 input sched) =
      some (specOutM L ops.bumpLine ops.lines maxCap st0 input, sf) :=
  run_M maxCap input ops L hspec hmax (fuelFor input) _ _
    (Or.inl ⟨init_JM maxCap initCap input st0 sched h0 hchain hmix, rfl⟩) (measure_init initCap st0 input sched)

end MdModel.Stream

namespace MdModel.Sym
open MdModel MdModel.Gen.SymConsts

/-! What the machine theorems ask of the two buffer capacities of `SymbolFile::parse`. -/

theorem consts_ok : 0 < INITIAL_BUFFER_CAPACITY ∧ INITIAL_BUFFER_CAPACITY ≤ MAX_BUFFER_CAPACITY := by
  decide

theorem consts_drop : (∃ k, INITIAL_BUFFER_CAPACITY * 2 ^ k = MAX_BUFFER_CAPACITY) ∧
    MAX_BUFFER_CAPACITY < U64MAX ∧ 0 < INITIAL_BUFFER_CAPACITY :=
  ⟨⟨4, by decide⟩, by decide, by decide⟩

end MdModel.Sym
