/-
  Bridge C06 ↔ walker model, part 4: `parse_cfi_exprs` and the rule map.

  The walker model keeps the rules as an association list updated in place (`ruleSet`), the C06
  model as a list with the newest entry in front (`RuleMap.insert`). Both are the same finite map:
  `MapRel` (same entries up to order, one entry per register). The parse loops preserve it, so
  the two models collect the same rules from the same lines; lookups, the remaining (`Other`)
  rules and their name order follow.
-/
import MdProofs.Lemmas.CfiBridgeEval
import MdProofs.Lemmas.CfiWalk
import MdProofs.Lemmas.Assoc
namespace MdModel.CfiBridge
open MdModel

/-- common form of both rule maps: C06 registers, C06 token meanings -/
abbrev AMap := List (Cfi.CfiReg × List Cfi.Tok)

def absW (rs : List (Walk.CfiReg × List Walk.ETok)) : AMap := rs.map fun p => (regOf p.1, p.2.map tokOf)
def absC (m : Cfi.RuleMap) : AMap := m.map fun p => (p.1, p.2.map Cfi.classify)

structure MapRel (rs : List (Walk.CfiReg × List Walk.ETok)) (m : Cfi.RuleMap) : Prop where
  perm : (absC m).Perm (absW rs)
  nodup : (rs.map (·.1)).Nodup
  wf : ∀ p ∈ rs, ∀ t ∈ p.2, ETokWf t

theorem MapRel.nil : MapRel [] [] := ⟨List.Perm.refl _, List.nodup_nil, fun _ h => nomatch h⟩

theorem ruleSet_keys (rs : List (Walk.CfiReg × List Walk.ETok)) (r : Walk.CfiReg) (e : List Walk.ETok) :
    (Walk.ruleSet rs r e).map (·.1) = if r ∈ rs.map (·.1) then rs.map (·.1) else rs.map (·.1) ++ [r] := by
  induction rs with
  | nil => simp [Walk.ruleSet]
  | cons p t ih =>
    obtain ⟨r', e'⟩ := p
    by_cases h : r' = r
    · subst h; simp [Walk.ruleSet]
    · have h' : ¬ r = r' := fun e => h e.symm
      simp only [Walk.ruleSet, h, if_false, List.map_cons, ih, List.mem_cons, h', false_or]
      split <;> simp

theorem ruleSet_perm (rs : List (Walk.CfiReg × List Walk.ETok)) (r : Walk.CfiReg) (e : List Walk.ETok)
    (h : (rs.map (·.1)).Nodup) :
    (Walk.ruleSet rs r e).Perm ((r, e) :: rs.filter (fun p => p.1 ≠ r)) := by
  induction rs with
  | nil => simp [Walk.ruleSet]
  | cons p t ih =>
    obtain ⟨r', e'⟩ := p
    simp only [List.map_cons, List.nodup_cons] at h
    by_cases hr : r' = r
    · subst hr
      have : t.filter (fun p => p.1 ≠ r') = t := by
        rw [List.filter_eq_self]
        intro q hq
        simp only [ne_eq, decide_eq_true_eq]
        intro hq'
        exact h.1 (List.mem_map.mpr ⟨q, hq, hq'⟩)
      simp only [Walk.ruleSet, if_true]
      rw [List.filter_cons_of_neg (by simp), this]
    · simp only [Walk.ruleSet, hr, if_false]
      rw [List.filter_cons_of_pos (by simp [hr])]
      exact (List.Perm.cons _ (ih h.2)).trans (List.Perm.swap _ _ _)

theorem ruleSet_nodup (rs : List (Walk.CfiReg × List Walk.ETok)) (r : Walk.CfiReg) (e : List Walk.ETok)
    (h : (rs.map (·.1)).Nodup) : ((Walk.ruleSet rs r e).map (·.1)).Nodup := by
  rw [((ruleSet_perm rs r e h).map (·.1)).nodup_iff, List.map_cons, List.nodup_cons]
  refine ⟨fun hm => ?_, h.sublist (List.filter_sublist.map _)⟩
  obtain ⟨p, hp, hpr⟩ := List.mem_map.mp hm
  exact of_decide_eq_true (List.mem_filter.mp hp).2 hpr

theorem ruleSet_mem (rs : List (Walk.CfiReg × List Walk.ETok)) (r : Walk.CfiReg) (e : List Walk.ETok)
    (h : (rs.map (·.1)).Nodup) (p : Walk.CfiReg × List Walk.ETok) (hp : p ∈ Walk.ruleSet rs r e) :
    p = (r, e) ∨ p ∈ rs := by
  rcases List.mem_cons.mp ((ruleSet_perm rs r e h).mem_iff.mp hp) with h | h
  · exact .inl h
  · exact .inr (List.mem_filter.mp h).1

theorem absW_filter (rs : List (Walk.CfiReg × List Walk.ETok)) (r : Walk.CfiReg) :
    absW (rs.filter (fun p => p.1 ≠ r)) = (absW rs).filter (fun p => p.1 ≠ regOf r) := by
  unfold absW
  rw [List.filter_map]
  congr 1
  apply List.filter_congr
  intro p _
  have : regOf p.1 = regOf r ↔ p.1 = r := ⟨regOf_inj, congrArg regOf⟩
  simp [this]

theorem absC_insert (m : Cfi.RuleMap) (k : Cfi.CfiReg) (e : Cfi.Expr) :
    absC (m.insert k e) = (k, e.map Cfi.classify) :: (absC m).filter (fun p => p.1 ≠ k) := by
  simp only [Cfi.RuleMap.insert, absC, List.map_cons, List.filter_map]
  rfl

/-- one `HashMap::insert` on both sides -/
theorem MapRel.insert {rs m} (h : MapRel rs m) (r : Walk.CfiReg) (ew : List Walk.ETok) (ec : Cfi.Expr)
    (he : ec.map Cfi.classify = ew.map tokOf) (hwf : ∀ t ∈ ew, ETokWf t) :
    MapRel (Walk.ruleSet rs r ew) (m.insert (regOf r) ec) := by
  refine ⟨?_, ruleSet_nodup rs r ew h.nodup, ?_⟩
  · rw [absC_insert, he]
    have h1 : (absW (Walk.ruleSet rs r ew)).Perm (absW ((r, ew) :: rs.filter (fun p => p.1 ≠ r))) :=
      (ruleSet_perm rs r ew h.nodup).map _
    have h2 : absW ((r, ew) :: rs.filter (fun p => p.1 ≠ r)) =
        (regOf r, ew.map tokOf) :: (absW rs).filter (fun p => p.1 ≠ regOf r) := by
      rw [← absW_filter]; rfl
    rw [h2] at h1
    exact (List.Perm.cons _ (h.perm.filter _)).trans h1.symm
  · intro p hp
    rcases ruleSet_mem rs r ew h.nodup p hp with rfl | hp
    · exact hwf
    · exact h.wf p hp

def OptRel : Option (List (Walk.CfiReg × List Walk.ETok)) → Option Cfi.RuleMap → Prop
  | some rs, some m => MapRel rs m
  | none, none => True
  | _, _ => False

theorem OptRel.cases {a : Option (List (Walk.CfiReg × List Walk.ETok))} {b : Option Cfi.RuleMap}
    (h : OptRel a b) : (a = none ∧ b = none) ∨ ∃ rs m, a = some rs ∧ b = some m ∧ MapRel rs m :=
  match a, b, h with
  | none, none, _ => .inl ⟨rfl, rfl⟩
  | some _, some _, h => .inr ⟨_, _, rfl, rfl, h⟩
  | none, some _, h => h.elim
  | some _, none, h => h.elim

theorem parseLoop_bridge (toks : List (List Char)) (cur : Option Walk.CfiReg) (ew : List Walk.ETok)
    (ec : Cfi.Expr) (rs m) (hrel : MapRel rs m) (he : ec.map Cfi.classify = ew.reverse.map tokOf)
    (hwf : ∀ t ∈ ew, ETokWf t) :
    OptRel (Walk.parseRules (toks.map Walk.classifyRL) cur ew rs)
           (Cfi.parseLoop (toks.map enc) (cur.map regOf) ec m) := by
  induction toks generalizing cur ew ec rs m with
  | nil =>
    have hemp : ec.isEmpty = ew.isEmpty := by
      rw [← List.isEmpty_map (f := Cfi.classify), he, List.isEmpty_map, List.isEmpty_reverse]
    simp only [List.map_nil, Walk.parseRules, Cfi.parseLoop, hemp]
    by_cases h : ew.isEmpty = true
    · simp [h, OptRel]
    · simp only [h, Bool.false_eq_true, if_false]
      cases cur with
      | none => trivial
      | some r => exact hrel.insert r ew.reverse ec he (fun t ht => hwf t (List.mem_reverse.mp ht))
  | cons tok rest ih =>
    have hemp : ec.isEmpty = ew.isEmpty := by
      rw [← List.isEmpty_map (f := Cfi.classify), he, List.isEmpty_map, List.isEmpty_reverse]
    have hc := classifyRL_enc tok
    simp only [List.map_cons]
    cases hk : Walk.classifyRL tok with
    | label r =>
      rw [hk] at hc
      obtain ⟨name, hs, hl⟩ := hc
      simp only [Walk.parseRules, Cfi.parseLoop, hs, hl]
      cases cur with
      | none => exact ih (some r) [] [] rs m hrel rfl (fun _ h => nomatch h)
      | some r0 =>
        simp only [Option.map_some, hemp]
        by_cases h : ew.isEmpty = true
        · simp [h, OptRel]
        · simp only [h, Bool.false_eq_true, if_false]
          exact ih (some r) [] [] _ _
            (hrel.insert r0 ew.reverse ec he (fun t ht => hwf t (List.mem_reverse.mp ht))) rfl
            (fun _ h => nomatch h)
    | tok t =>
      rw [hk] at hc
      obtain ⟨hs, hcl⟩ := hc
      simp only [Walk.parseRules, Cfi.parseLoop, hs]
      cases cur with
      | none => trivial
      | some r0 =>
        refine ih (some r0) (t :: ew) (ec ++ [enc tok]) rs m hrel ?_ ?_
        · simp [he, hcl]
        · exact List.forall_mem_cons.mpr ⟨classifyRL_tok hk ▸ classifyL_wf tok, hwf⟩

theorem parseLine_bridge (line : String) (rs m) (h : MapRel rs m) :
    OptRel (Walk.parseRules (Walk.tokenize line) none [] rs) (Cfi.parseCfiExprs (utf8 line) m) := by
  unfold Walk.tokenize Cfi.parseCfiExprs utf8
  rw [splitWs_enc]
  exact parseLoop_bridge (Walk.splitWsL line.toList) none [] [] rs m h rfl (fun _ h => nomatch h)

theorem foldl_bind_none {α β} (f : β → α → Option β) (l : List α) :
    l.foldl (fun acc a => acc.bind fun b => f b a) none = none :=
  l.foldlRecOn _ (motive := (· = none)) rfl fun _ h _ _ => by rw [h, Option.bind_none]

theorem parseAll_bridge (lines : List String) (rs m) (h : MapRel rs m) :
    OptRel (lines.foldl (fun acc line => acc.bind fun out => Walk.parseRules (Walk.tokenize line) none [] out) (some rs))
           (Cfi.parseAll (lines.map utf8) m) := by
  induction lines generalizing rs m with
  | nil => exact h
  | cons l ls ih =>
    simp only [List.foldl_cons, Option.bind_some, List.map_cons, Cfi.parseAll]
    rcases (parseLine_bridge l rs m h).cases with ⟨hw, hc⟩ | ⟨rs', m', hw, hc, h'⟩
    · rw [hw, hc, foldl_bind_none]; trivial
    · rw [hw, hc]; exact ih rs' m' h'

theorem absW_keys_nodup (rs : List (Walk.CfiReg × List Walk.ETok)) (h : (rs.map (·.1)).Nodup) :
    ((absW rs).map (·.1)).Nodup := by
  have : (absW rs).map (·.1) = (rs.map (·.1)).map regOf := by simp [absW, List.map_map]
  rw [this, List.Nodup, List.pairwise_map]
  exact h.imp (fun hne e => hne (regOf_inj e))

theorem MapRel.lookup {rs m} (h : MapRel rs m) (k : Walk.CfiReg) :
    (m.get (regOf k)).map (·.map Cfi.classify) = (rs.lookup k).map (·.map tokOf) := by
  rw [Cfi.RuleMap.get_eq_lookup, ← List.lookup_map_snd, ← List.lookup_map_of_injective regOf fun _ _ => regOf_inj]
  exact h.perm.lookup_eq ((h.perm.map _).nodup_iff.mpr (absW_keys_nodup rs h.nodup)) _

def aothers (l : AMap) : List (Cfi.Name × List Cfi.Tok) :=
  l.filterMap fun p => match p.1 with
    | .other n => some (n, p.2)
    | _ => none

/-- a C06 rule in the form the two models' rules are compared in: name bytes, classified tokens -/
def fC (p : Cfi.Name × Cfi.Expr) : Cfi.Name × List Cfi.Tok := (p.1, p.2.map Cfi.classify)
/-- a walker-model rule in that form: the name's UTF-8 bytes, each token as the C06 token it stands for -/
def fW (p : String × List Walk.ETok) : Cfi.Name × List Cfi.Tok := (utf8 p.1, p.2.map tokOf)

theorem aothers_absC (m : Cfi.RuleMap) : aothers (absC m) = (Cfi.others m).map fC := by
  induction m with
  | nil => rfl
  | cons p t ih =>
    obtain ⟨k, e⟩ := p
    cases k <;> simp_all [aothers, absC, Cfi.others, fC]

theorem aothers_absW (rs : List (Walk.CfiReg × List Walk.ETok)) :
    aothers (absW rs) = (Walk.otherRules rs).map fW := by
  unfold aothers absW Walk.otherRules
  rw [List.filterMap_map, List.map_filterMap]
  congr 1
  funext ⟨k, e⟩
  cases k <;> rfl

theorem aothers_keys_nodup (l : AMap) (h : (l.map (·.1)).Nodup) : ((aothers l).map (·.1)).Nodup := by
  rw [List.Nodup, List.pairwise_map] at h ⊢
  refine h.filterMap _ fun p q hne a ha b hb e => hne ?_
  obtain ⟨k, _⟩ := p
  obtain ⟨k', _⟩ := q
  cases k <;> cases k' <;> simp_all
  subst ha hb; exact hne e

/-- **the processing order**: the remaining rules sorted by name are the same list in both models
    (insertion sort by `str::cmp` on bytes vs merge sort by `String` order) -/
theorem others_sorted_eq {rs m} (h : MapRel rs m) :
    (Cfi.sortOthers (Cfi.others m)).map fC =
      ((Walk.otherRules rs).mergeSort fun p q => Walk.strLe p.1 q.1).map fW := by
  let le := fun a b : Cfi.Name × List Cfi.Tok => Cfi.bytesLe a.1 b.1
  have htot : ∀ a b, le a b = true ∨ le b a = true := fun a b => Cfi.bytesLe_total a.1 b.1
  have htr : ∀ a b c, le a b = true → le b c = true → le a c = true := fun a b c => Cfi.bytesLe_trans a.1 b.1 c.1
  -- both sides are the insertion sort by name of one map's remaining rules
  rw [List.map_mergeSort (s := le) fun a _ b _ => strLe_enc a.1 b.1,
    ← Cfi.sortBy_eq_mergeSort htr fun a b => Bool.or_eq_true .. ▸ htot a b, Cfi.sortOthers,
    ← Cfi.sortBy_map (fun a b => Cfi.bytesLe a.1 b.1) le fC (fun _ _ => rfl), ← aothers_absC, ← aothers_absW]
  refine Cfi.sortBy_congr_perm le htot htr (h.perm.filterMap _) fun a ha b hb h1 h2 => ?_
  exact List.eq_of_mem_of_fst_eq (aothers_keys_nodup _ (h.perm.map _ |>.nodup_iff.mpr (absW_keys_nodup rs h.nodup)))
    ha hb (Cfi.bytesLe_antisymm _ _ h1 h2)

end MdModel.CfiBridge
