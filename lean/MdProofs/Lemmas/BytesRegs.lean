/-
  The registers of a context read from bytes (MdModel.DumpRegs): a field
  read by name is the word at the field's offset, and the register accessors are total. That every
  cell C18's tables name is a scalar of the generated layout is `cell_in_layout` (MdProofs.Lemmas.CtxTables).
-/
import MdModel.DumpRegs
import MdProofs.C18
import MdProofs.Lemmas.CtxTables
import MdProofs.Lemmas.BytesFull
namespace MdModel.Dump
open MdModel MdModel.Gen.Layouts MdModel.Gen.LayoutsX

theorem readFields_layoutOffset : ∀ (l : Layout) (b : Bytes) (off0 : Nat) (e : Endian) (vs : List Nat),
    readFields l b off0 e = some vs → ∀ (name : String) (off w : Nat), layoutOffset l name = some (off, w) →
      getField? l vs name = some (decodeNat e (b.extract (off0 + off) (off0 + off + w)).toList) ∧
      off0 + off + w ≤ b.size := by
  intro l
  induction l with
  | nil => intro b off0 e vs _ name off w h; cases h
  | cons f rest ih =>
    intro b off0 e vs hvs name off w hoff
    obtain ⟨v, vs', hv, hvs', rfl⟩ := readFields_cons_some.mp hvs
    obtain ⟨n, w0⟩ := f
    obtain ⟨hfit, hval⟩ := readScalar_eq_some.mp hv
    unfold layoutOffset at hoff
    unfold getField? fieldIdx
    rw [List.findIdx?_cons]
    by_cases hn : (n == name) = true
    · rw [if_pos hn] at hoff
      cases hoff
      simp only [hn, ↓reduceIte, List.getElem?_cons_zero, Nat.add_zero]
      exact ⟨congrArg some hval.symm, hfit⟩
    · rw [if_neg hn] at hoff
      split at hoff
      · rename_i off' w' hrest
        cases hoff
        have ⟨h1, h2⟩ := ih b (off0 + w0) e vs' hvs' name off' w hrest
        unfold getField? fieldIdx at h1
        rw [if_neg hn, ← Nat.add_assoc]
        refine ⟨?_, h2⟩
        cases hi : List.findIdx? (fun f => f.1 == name) rest with
        | none => rw [hi] at h1; cases h1
        | some i => rw [hi] at h1; exact h1
      · cases hoff

section
variable {H : Prop} {B : Nat} {E : Prop}

theorem outcomeToM_run {α : Type} {N : Nat} {o : Outcome α} (h : H → ∃ a, o = .ok a) :
    Run H B N (outcomeToM o) (fun _ => True) E := by
  cases o with
  | ok a => exact run_pure trivial
  | panic s => exact run_panic s fun hH => nomatch h hH

theorem getRegs_run (ctx : Gen.Regs.Ctx) (st : Regs.State) (ns : List String)
    (h : H → ∀ n ∈ ns, n ∈ Regs.knownNames ctx) : Run H B 0 (getRegs ctx st ns) (fun _ => True) E :=
  run_mapM (getRegs ctx st) (h := fun _ v => v) rfl (fun _ _ => rfl) ns fun n hn =>
    outcomeToM_run fun hH => by
      obtain ⟨_, cell, _, hg⟩ := Regs.validity_all ctx st n (h hH n hn)
      exact ⟨_, hg⟩

theorem fmtRegs_run (ctx : Gen.Regs.Ctx) (st : Regs.State) (ns : List String)
    (h : H → ∀ n ∈ ns, n ∈ Regs.knownNames ctx) : Run H B 0 (fmtRegs ctx st ns) (fun _ => True) E :=
  run_mapM (fmtRegs ctx st) (h := fun _ v => v) rfl (fun _ _ => rfl) ns fun n hn =>
    outcomeToM_run fun hH => by
      obtain ⟨cell, _, hg⟩ := Regs.getAlways_known st (h hH n hn)
      exact ⟨"0x" ++ Regs.hexPad (st cell) (Regs.registerSize ctx * 2), by simp only [Regs.formatRegister, hg]⟩

theorem endsOf_mem {α : Type} (l : List α) : ∀ x ∈ endsOf l, x ∈ l := by
  intro x hx
  unfold endsOf at hx
  split at hx
  · rename_i a b ha hb
    simp only [List.mem_cons, List.mem_nil_iff, or_false] at hx
    cases hx with
    | inl h => subst h; exact List.mem_of_mem_head? ha
    | inr h => subst h; exact List.mem_of_getLast? hb
  · cases hx

theorem gpr_known (ctx : Gen.Regs.Ctx) : ∀ n ∈ Gen.Regs.registers (Gen.Regs.gprOf ctx), n ∈ Regs.knownNames ctx := by
  intro n hn
  rw [Regs.gpr_registers] at hn
  exact Regs.known_of_registers hn

theorem ctxRegisters_run (c : Context) :
    Run H B 0 (ctxRegisters c) (fun _ => True) E := by
  unfold ctxRegisters
  dsimp only
  obtain ⟨vs, hvs, _, _⟩ := (Regs.enumerations_valid (regsCtxOf c.kind) (regState c) [] (fun s hs => by cases hs)).2
  refine run_bind0 (outcomeToM_run fun _ => ⟨vs, hvs⟩) fun _ _ => ?_
  refine run_bind0 (getRegs_run _ _ _ fun _ => gpr_known _) fun _ _ => ?_
  exact run_bind0 (fmtRegs_run _ _ _ fun _ n hn => gpr_known _ n (endsOf_mem _ n hn)) fun _ _ => run_pure trivial

theorem registersOf_run (all : Bytes) (e : Endian) (arch : Nat)
    (range : Option (Nat × Nat)) : Run H B 0 (registersOf all e arch range) (fun _ => True) E := by
  unfold registersOf
  split
  · exact run_pure trivial
  · split
    · exact run_pure trivial
    · exact run_bind0 (ctxRegisters_run _) fun _ _ => run_pure trivial

theorem threadRegisters_run (all : Bytes) (e : Endian) (arch : Nat) (ts : List Thread) :
    Run H B 0 (threadRegisters all e arch ts) (fun _ => True) E :=
  run_mapM (threadRegisters all e arch) (h := fun _ r => r) rfl (fun _ _ => rfl) ts fun t _ =>
    registersOf_run all e arch t.context

end

end MdModel.Dump
