/-
  C02: the Crashpad info stream reads back: the raw record, the simple-annotations dictionary, and
  per module the string list, the dictionary and the annotation objects — with the per-module budget
  of copied string bytes never exhausted by an encoded file.
-/
import MdProofs.Lemmas.Encode
import MdProofs.Lemmas.BytesLayout
namespace MdModel.Encode
open MdModel MdModel.Dump MdModel.Gen.Layouts MdModel.Gen.LayoutsC02

theorem readStringUtf8Unterminated_enc {b : Bytes} {off : Nat} {e : Endian} {s : List UInt8}
    (h : Has b.toList off (encUtf8U e s)) (hv : utf8Valid s = true) (hb : b.size < 2 ^ 32) :
    readStringUtf8Unterminated b off e = some (s.toArray, off + 4 + s.length) := by
  have hle := h.size_le
  simp only [encUtf8U, List.length_append, encNat_length] at hle
  obtain ⟨hlen, hbody⟩ := Has.scalar h (by omega)
  unfold readStringUtf8Unterminated
  simp only [show readU32 b off e = _ from hlen]
  rw [if_neg (by omega), if_neg (by omega), show b.extract (off + 4) (off + 4 + s.length) = s.toArray from
    Array.ext' (by simpa using hbody.extract)]
  simp [hv]

theorem readStringUtf8_enc {b : Bytes} {off : Nat} {e : Endian} {s : List UInt8}
    (h : Has b.toList off (encUtf8 e s)) (hv : utf8Valid s = true) (hb : b.size < 2 ^ 32) :
    readStringUtf8 b off e = some (s.toArray, off + utf8Size s) := by
  unfold encUtf8 at h
  have h1 := readStringUtf8Unterminated_enc (e := e) h.left hv hb
  have hnul : Has b.toList (off + 4 + s.length) (encNat e 1 0) := by
    rw [show encNat e 1 0 = [0] from encNat_one e 0, Nat.add_assoc]
    exact h.after (by rw [List.length_append, encNat_length])
  have h0 : readScalar b (off + 4 + s.length) 1 e = some 0 := readScalar_has hnul (by decide)
  unfold readStringUtf8
  simp only [h1, h0, utf8Size]
  congr 2
  omega

theorem encUtf8_length (e : Endian) (s : List UInt8) : (encUtf8 e s).length = utf8Size s := by
  simp [encUtf8, utf8Size]; omega

theorem encUtf8U_length (e : Endian) (s : List UInt8) : (encUtf8U e s).length = utf8USize s := by
  simp [encUtf8U, utf8USize]

theorem loopGo_zero {σ : Type} (step : σ → Nat → M σ) (i : Nat) (s : σ) (rev : List Alloc) :
    (M.loopGo step 0 i s rev).res = .ok s := rfl

theorem res_chargeBudget {budget len : Nat} (h : len ≤ budget) : chargeBudget budget len = .ok (budget - len) := by
  unfold chargeBudget checkedSub
  rw [if_pos h]

theorem table_step {data : Bytes} {e : Endian} {l : Layout} {rs i : Nat} {r : List Nat} {recs : List (List Nat)}
    (hs : Layout.size l = rs) (h : Has data.toList (4 + rs * i) (encRecords e l (r :: recs))) (hf : Fits l r) :
    readFields l data (4 + rs * i) e = some r ∧ Has data.toList (4 + rs * (i + 1)) (encRecords e l recs) := by
  rw [encRecords_cons] at h
  exact ⟨readFields_has hf h.left, Nat.mul_succ rs i ▸ Nat.add_assoc .. ▸ h.after ((encFields_length ..).trans hs)⟩

def dictBytes : List (List UInt8 × List UInt8) → Nat
  | [] => 0
  | (k, v) :: r => k.length + v.length + dictBytes r

def DictValid (d : List (List UInt8 × List UInt8)) : Prop := ∀ kv ∈ d, utf8Valid kv.1 = true ∧ utf8Valid kv.2 = true

theorem dictStrings_length (e : Endian) (d : List (List UInt8 × List UInt8)) :
    (dictStrings e d).length = dictStringsSize d := by
  induction d with
  | nil => rfl
  | cons kv r ih => obtain ⟨k, v⟩ := kv; simp [dictStrings, dictStringsSize, encUtf8_length, ih]; omega

theorem dictRecs_length (d : List (List UInt8 × List UInt8)) (soff : Nat) : (dictRecs soff d).length = d.length := by
  induction d generalizing soff <;> simp [dictRecs, *]

theorem dictBytes_le (d : List (List UInt8 × List UInt8)) : dictBytes d ≤ dictStringsSize d := by
  induction d with
  | nil => exact Nat.le_refl _
  | cons kv r ih => obtain ⟨k, v⟩ := kv; simp only [dictBytes, dictStringsSize, utf8Size]; omega

theorem dictLoop_enc {all data : Bytes} {e : Endian} (hall : all.size < 2 ^ 32) :
    ∀ (d : List (List UInt8 × List UInt8)) (i soff budget : Nat) (acc : List (Bytes × Bytes)),
      Has data.toList (4 + 8 * i) (encRecords e MINIDUMP_SIMPLE_STRING_DICTIONARY_ENTRY (dictRecs soff d)) →
      Has all.toList soff (dictStrings e d) → DictValid d → dictBytes d ≤ budget →
      (loopFrom (dictStep all data e) d.length i (acc, budget)).res =
        .ok (d.foldl (fun a kv => dictInsert kv.1.toArray kv.2.toArray a) acc, budget - dictBytes d)
  | [], _, _, _, _, _, _, _, _ => by simp [loopFrom, dictBytes]
  | (k, v) :: r, i, soff, budget, acc, hrec, hstr, hval, hbud => by
    simp only [dictBytes] at hbud
    have hle := hstr.size_le
    simp only [dictStrings, List.length_append, encUtf8_length, dictStrings_length, utf8Size] at hle
    obtain ⟨hvk, hvv⟩ := hval (k, v) (by simp)
    obtain ⟨hrd, hrec'⟩ := table_step (recs := dictRecs (soff + utf8Size k + utf8Size v) r) size_dictEntry hrec
      (show Fits _ [soff, soff + utf8Size k] from ⟨by omega, by rw [utf8Size]; omega, trivial⟩)
    have hk := readStringUtf8_enc (e := e) hstr.left.left hvk hall
    have hv' := readStringUtf8_enc (e := e) (hstr.left.after (encUtf8_length e k)) hvv hall
    have hstep : (dictStep all data e (acc, budget) i).res =
        .ok (dictInsert k.toArray v.toArray acc, budget - (k.length + v.length)) := by
      unfold dictStep
      simp only [hrd, fld, List.getD_cons_zero, List.getD_cons_succ, hk, hv', List.size_toArray,
        res_chargeBudget (show k.length + v.length ≤ budget by omega)]
      rw [res_bind_ok (res_alloc _ _ _), res_bind_ok (res_alloc _ _ _)]
      rfl
    rw [List.length_cons, loopFrom, res_bind_ok hstep, dictLoop_enc hall r (i + 1) (soff + utf8Size k + utf8Size v) _ _ hrec'
      (Nat.add_assoc soff (utf8Size k) (utf8Size v) ▸ hstr.after (by rw [List.length_append, encUtf8_length, encUtf8_length]))
      (fun kv hkv => hval kv (by simp [hkv])) (by omega)]
    simp only [List.foldl_cons, dictBytes]
    congr 2
    omega

theorem block_parts {all : Bytes} {off n recSize : Nat} {e : Endian} {recs strs : List UInt8}
    (h : Has all.toList off (encNat e 4 n ++ recs ++ strs)) (hr : recs.length = n * recSize) (hpos : 0 < recSize)
    (hall : all.size < 2 ^ 32) :
    ∃ data, locationSlice all ⟨4 + recSize * n, off⟩ = some data ∧ data.size ≠ 0 ∧ readU32 data 0 e = some n ∧
      Has data.toList 4 recs ∧ Has all.toList (off + 4 + recSize * n) strs ∧ n * recSize + 0 ≤ all.size := by
  have hle := h.left.size_le
  rw [List.length_append, encNat_length, hr] at hle
  have hcnt := Nat.le_mul_of_pos_right n hpos
  obtain ⟨data, hd1, hd2⟩ := locationSlice_has h.left hall
  rw [List.length_append, encNat_length, hr, Nat.mul_comm] at hd1
  have hsize : data.size = 4 + recs.length := by
    have := congrArg List.length hd2
    simpa using this
  refine ⟨data, hd1, by omega, readScalar_has (Has.prefix0 hd2) (by omega),
    ⟨encNat e 4 n, [], by rw [hd2, List.append_nil], encNat_length e 4 n⟩, ?_, by omega⟩
  rw [Nat.mul_comm, Nat.add_assoc]
  exact h.after (by rw [List.length_append, encNat_length, hr])

theorem readSimpleDict_enc {all : Bytes} {e : Endian} {off budget : Nat} {d : List (List UInt8 × List UInt8)}
    (h : Has all.toList off (dictBlock e off d)) (hval : DictValid d) (hbud : dictBytes d ≤ budget) (hall : all.size < 2 ^ 32) :
    (readSimpleDict all e ⟨4 + 8 * d.length, off⟩ budget).res = .ok (dictOf d, budget - dictBytes d) := by
  obtain ⟨data, hd, hsize, hcount, hrecs, hstr, _⟩ := block_parts (recSize := 8) h
    (by rw [encRecords_length, dictRecs_length, size_dictEntry]) (by decide) hall
  unfold readSimpleDict
  simp only [hd, hsize, if_false, hcount, loop_eq]
  exact dictLoop_enc hall d 0 _ budget [] hrecs hstr hval hbud

def listBytes : List (List UInt8) → Nat
  | [] => 0
  | s :: r => s.length + listBytes r

theorem listStrings_length (e : Endian) (ss : List (List UInt8)) : (listStrings e ss).length = listStringsSize ss := by
  induction ss <;> simp [listStrings, listStringsSize, encUtf8_length, *]

theorem listRecs_length (ss : List (List UInt8)) (soff : Nat) : (listRecs soff ss).length = ss.length := by
  induction ss generalizing soff <;> simp [listRecs, *]

theorem listBytes_le (ss : List (List UInt8)) : listBytes ss ≤ listStringsSize ss := by
  induction ss with
  | nil => exact Nat.le_refl _
  | cons s r ih => simp only [listBytes, listStringsSize, utf8Size]; omega

theorem size_rva : Layout.size RVA_LAYOUT = 4 := by decide

theorem listLoop_enc {all data : Bytes} {e : Endian} (hall : all.size < 2 ^ 32) :
    ∀ (ss : List (List UInt8)) (i soff budget : Nat) (acc : List Bytes),
      Has data.toList (4 + 4 * i) (encRecords e RVA_LAYOUT (listRecs soff ss)) →
      Has all.toList soff (listStrings e ss) → (∀ s ∈ ss, utf8Valid s = true) → listBytes ss ≤ budget →
      (loopFrom (stringListStep all data e) ss.length i (acc, budget)).res =
        .ok ((ss.map (·.toArray)).reverse ++ acc, budget - listBytes ss)
  | [], _, _, _, _, _, _, _, _ => by simp [loopFrom, listBytes]
  | s :: r, i, soff, budget, acc, hrec, hstr, hval, hbud => by
    simp only [listBytes] at hbud
    have hle := hstr.size_le
    simp only [listStrings, List.length_append, encUtf8_length, listStrings_length, utf8Size] at hle
    obtain ⟨hrd, hrec'⟩ := table_step (recs := listRecs (soff + utf8Size s) r) size_rva hrec
      (show Fits _ [soff] from ⟨by omega, trivial⟩)
    have hs := readStringUtf8_enc (e := e) hstr.left (hval s (by simp)) hall
    have hstep : (stringListStep all data e (acc, budget) i).res = .ok (s.toArray :: acc, budget - s.length) := by
      unfold stringListStep
      simp only [show readU32 data (4 + 4 * i) e = _ from readFields_head hrd, hs, List.size_toArray,
        res_chargeBudget (show s.length ≤ budget by omega)]
      rw [res_bind_ok (res_alloc _ _ _)]
      rfl
    rw [List.length_cons, loopFrom, res_bind_ok hstep, listLoop_enc hall r (i + 1) (soff + utf8Size s) _ _ hrec'
      (hstr.after (encUtf8_length e s)) (fun x hx => hval x (by simp [hx])) (by omega)]
    simp only [List.map_cons, List.reverse_cons, List.append_assoc, List.singleton_append, listBytes]
    congr 2
    omega

theorem readStringList_enc (ms : MemSizes) {all : Bytes} {e : Endian} {off budget : Nat} {ss : List (List UInt8)}
    (h : Has all.toList off (listBlock e off ss)) (hval : ∀ s ∈ ss, utf8Valid s = true) (hbud : listBytes ss ≤ budget)
    (hall : all.size < 2 ^ 32) :
    (readStringList ms all e ⟨4 + 4 * ss.length, off⟩ budget).res = .ok (ss.map (·.toArray), budget - listBytes ss) := by
  obtain ⟨data, hd, hsize, hcount, hrecs, hstr, hin⟩ := block_parts (recSize := 4) h
    (by rw [encRecords_length, listRecs_length, size_rva]) (by decide) hall
  unfold readStringList
  simp only [hd, hsize, if_false, hcount, ensureCountInBound_in hin hall, loop_eq]
  rw [res_bind_ok (res_alloc _ _ _), res_bind_ok (listLoop_enc hall ss 0 _ budget [] hrecs hstr hval hbud)]
  simp

def annBytesOf : MAnnotation → Nat
  | .invalid n => n.length
  | .string n v => n.length + v.length
  | .other n _ _ => n.length

def annBytes : List MAnnotation → Nat
  | [] => 0
  | a :: r => annBytesOf a + annBytes r

/-- an annotation object the wire format can carry: UTF-8 name (and value); a type that is neither
    of the two the reader interprets, below 2^16, with a 32-bit value word -/
def AnnFits : MAnnotation → Prop
  | .invalid n => utf8Valid n = true
  | .string n v => utf8Valid n = true ∧ utf8Valid v = true
  | .other n ty v => utf8Valid n = true ∧ ty ≠ ANNOTATION_TYPE_INVALID ∧ ty ≠ ANNOTATION_TYPE_STRING ∧ ty < 2 ^ 16 ∧ v < 2 ^ 32

theorem annStringsOf_length (e : Endian) (a : MAnnotation) : (annStringsOf e a).length = annStringsSizeOf a := by
  cases a <;> simp [annStringsOf, annStringsSizeOf, encUtf8_length, encUtf8U_length, MAnnotation.name]

theorem annStrings_length (e : Endian) (as : List MAnnotation) : (annStrings e as).length = annStringsSize as := by
  induction as <;> simp [annStrings, annStringsSize, annStringsOf_length, *]

theorem annRecs_length (as : List MAnnotation) (soff : Nat) : (annRecs soff as).length = as.length := by
  induction as generalizing soff <;> simp [annRecs, *]

theorem annBytes_le (as : List MAnnotation) : annBytes as ≤ annStringsSize as := by
  induction as with
  | nil => exact Nat.le_refl _
  | cons a r ih =>
    cases a <;> simp only [annBytes, annBytesOf, annStringsSize, annStringsSizeOf, utf8Size, utf8USize, MAnnotation.name] <;> omega

theorem annRec_fits {a : MAnnotation} {soff : Nat} (hf : AnnFits a) (h : soff + annStringsSizeOf a < 2 ^ 32) :
    Fits MINIDUMP_ANNOTATION (annRec soff a) := by
  cases a with
  | invalid n => exact ⟨by omega, by decide, by decide, by decide, trivial⟩
  | string n v =>
    simp only [annStringsSizeOf, utf8USize, MAnnotation.name] at h
    exact ⟨by omega, by decide, by decide, by omega, trivial⟩
  | other n ty v => exact ⟨by omega, pow_256_2 ▸ hf.2.2.2.1, by decide, pow_256_4 ▸ hf.2.2.2.2, trivial⟩

theorem annStep_enc {all data : Bytes} {e : Endian} (hall : all.size < 2 ^ 32) (a : MAnnotation) (i soff budget : Nat)
    (acc : List (Bytes × AnnotationValue))
    (hrd : readFields MINIDUMP_ANNOTATION data (4 + 12 * i) e = some (annRec soff a))
    (hstr : Has all.toList soff (annStringsOf e a)) (hf : AnnFits a) (hbud : annBytesOf a ≤ budget) :
    (annotationStep all data e (acc, budget) i).res =
      .ok (dictInsert a.name.toArray (annValueOf a) acc, budget - annBytesOf a) := by
  unfold annStringsOf at hstr
  unfold annotationStep
  cases a <;> simp only [annBytesOf] at hbud
  case invalid n =>
    have hk := readStringUtf8_enc (e := e) hstr.left hf hall
    simp only [hrd, annRec, fld, List.getD_cons_zero, List.getD_cons_succ, MAnnotation.name] at hk ⊢
    simp only [hk, List.size_toArray, res_chargeBudget hbud, if_true]
    rw [res_bind_ok (res_alloc _ _ _)]
    rfl
  case string n v =>
    have hk := readStringUtf8_enc (e := e) hstr.left hf.1 hall
    have hv := readStringUtf8Unterminated_enc (e := e) (hstr.after (encUtf8_length e n)) hf.2 hall
    have hne : ¬ (ANNOTATION_TYPE_STRING = ANNOTATION_TYPE_INVALID) := by decide
    simp only [hrd, annRec, fld, List.getD_cons_zero, List.getD_cons_succ, MAnnotation.name] at hk ⊢
    simp only [hk, List.size_toArray, res_chargeBudget (show n.length ≤ budget by omega), hne, if_false, if_true, hv,
      res_chargeBudget (show v.length ≤ budget - n.length by omega)]
    rw [res_bind_ok (res_alloc _ _ _), res_bind_ok (res_alloc _ _ _)]
    simp only [annValueOf, res_pure, annBytesOf]
    congr 2
    omega
  case other n ty v =>
    obtain ⟨hvn, h0, h1, _, _⟩ := hf
    have hk := readStringUtf8_enc (e := e) hstr.left hvn hall
    simp only [hrd, annRec, fld, List.getD_cons_zero, List.getD_cons_succ, MAnnotation.name] at hk ⊢
    simp only [hk, List.size_toArray, res_chargeBudget hbud, h0, h1, if_false]
    simp only [annValueOf]
    split <;> exact res_bind_ok (res_alloc _ _ _)

theorem annLoop_enc {all data : Bytes} {e : Endian} (hall : all.size < 2 ^ 32) :
    ∀ (as : List MAnnotation) (i soff budget : Nat) (acc : List (Bytes × AnnotationValue)),
      Has data.toList (4 + 12 * i) (encRecords e MINIDUMP_ANNOTATION (annRecs soff as)) →
      Has all.toList soff (annStrings e as) → (∀ a ∈ as, AnnFits a) → annBytes as ≤ budget →
      (loopFrom (annotationStep all data e) as.length i (acc, budget)).res =
        .ok (as.foldl (fun d a => dictInsert a.name.toArray (annValueOf a) d) acc, budget - annBytes as)
  | [], _, _, _, _, _, _, _, _ => by simp [loopFrom, annBytes]
  | a :: r, i, soff, budget, acc, hrec, hstr, hval, hbud => by
    simp only [annBytes] at hbud
    have hle := hstr.left.size_le
    rw [annStringsOf_length] at hle
    obtain ⟨hrd, hrec'⟩ := table_step (recs := annRecs (soff + annStringsSizeOf a) r) size_annotation hrec
      (annRec_fits (hval a (by simp)) (by omega))
    have hstep := annStep_enc hall a i soff budget acc hrd hstr.left (hval a (by simp)) (by omega)
    rw [List.length_cons, loopFrom, res_bind_ok hstep, annLoop_enc hall r (i + 1) (soff + annStringsSizeOf a) _ _ hrec'
      (hstr.after (annStringsOf_length e a)) (fun x hx => hval x (by simp [hx])) (by omega)]
    simp only [List.foldl_cons, annBytes]
    congr 2
    omega

theorem readAnnotationObjects_enc {all : Bytes} {e : Endian} {off budget : Nat} {as : List MAnnotation}
    (h : Has all.toList off (annBlock e off as)) (hval : ∀ a ∈ as, AnnFits a) (hbud : annBytes as ≤ budget)
    (hall : all.size < 2 ^ 32) :
    (readAnnotationObjects all e ⟨4 + 12 * as.length, off⟩ budget).res = .ok (annDictOf as, budget - annBytes as) := by
  obtain ⟨data, hd, hsize, hcount, hrecs, hstr, _⟩ := block_parts (recSize := 12) h
    (by rw [encRecords_length, annRecs_length, size_annotation]) (by decide) hall
  unfold readAnnotationObjects
  simp only [hd, hsize, if_false, hcount, loop_eq]
  exact annLoop_enc hall as 0 _ budget [] hrecs hstr hval hbud

theorem listBlock_length (e : Endian) (off : Nat) (ss : List (List UInt8)) : (listBlock e off ss).length = listBlockSize ss := by
  simp [listBlock, listBlockSize, listRecs_length, size_rva, listStrings_length, Nat.mul_comm]; omega

theorem dictBlock_length (e : Endian) (off : Nat) (d : List (List UInt8 × List UInt8)) :
    (dictBlock e off d).length = dictBlockSize d := by
  simp [dictBlock, dictBlockSize, dictRecs_length, size_dictEntry, dictStrings_length, Nat.mul_comm]; omega

theorem annBlock_length (e : Endian) (off : Nat) (as : List MAnnotation) : (annBlock e off as).length = annBlockSize as := by
  simp [annBlock, annBlockSize, annRecs_length, size_annotation, annStrings_length, Nat.mul_comm]; omega

theorem modBlock_length (e : Endian) (off : Nat) (x : MModuleCrashpad) : (modBlock e off x).length = modBlockSize x := by
  simp [modBlock, modBlockSize, size_modinfo, listBlock_length, dictBlock_length, annBlock_length, Nat.add_assoc]

def ModuleCrashpadFits (x : MModuleCrashpad) : Prop :=
  x.index < 2 ^ 32 ∧ x.version < 2 ^ 32 ∧ (∀ s ∈ x.listAnnotations, utf8Valid s = true) ∧ DictValid x.simpleAnnotations ∧
  ∀ a ∈ x.annotationObjects, AnnFits a

theorem map_toArray_toList (ss : List (List UInt8)) : (ss.map (·.toArray)).map (·.toList) = ss := by
  induction ss with
  | nil => rfl
  | cons s r ih => simp [ih]

/-- the three reads share one budget of `all.len()` bytes, which the strings of a block that lies
    inside the file cannot exceed -/
theorem readModuleCrashpadInfo_enc (ms : MemSizes) {all : Bytes} {e : Endian} {off : Nat} {x : MModuleCrashpad} (sz idx : Nat)
    (h : Has all.toList off (modBlock e off x)) (hf : ModuleCrashpadFits x) (hall : all.size < 2 ^ 32) :
    ∃ r, (readModuleCrashpadInfo ms all e idx ⟨sz, off⟩).res = .ok r ∧
      rmoduleCrashpadOf r = { reportModuleCrashpad x with index := idx } := by
  obtain ⟨_, hver, hl, hd, ha⟩ := hf
  have hle := h.size_le
  rw [modBlock_length] at hle
  unfold modBlockSize listBlockSize dictBlockSize annBlockSize at hle
  have b1 := listBytes_le x.listAnnotations
  have b2 := dictBytes_le x.simpleAnnotations
  have b3 := annBytes_le x.annotationObjects
  simp only [modBlock, List.append_assoc] at h
  have hlist := h.after ((encFields_length ..).trans size_modinfo)
  have hdict := hlist.after (listBlock_length ..)
  have hann := hdict.after (dictBlock_length ..)
  have hfit : Fits MINIDUMP_MODULE_CRASHPAD_INFO (modRec off x) := by
    simp only [MINIDUMP_MODULE_CRASHPAD_INFO, modRec, Fits, pow_256_4]
    unfold listBlockSize dictBlockSize
    refine ⟨hver, ?_, ?_, ?_, ?_, ?_, ?_, trivial⟩ <;> omega
  have hrd := readFields_has hfit h.left
  have r1 := readStringList_enc ms (budget := all.size) hlist.left hl (by omega) hall
  have r2 := readSimpleDict_enc (budget := all.size - listBytes x.listAnnotations) hdict.left hd (by omega) hall
  have r3 := readAnnotationObjects_enc
    (budget := all.size - listBytes x.listAnnotations - dictBytes x.simpleAnnotations) hann ha (by omega) hall
  refine ⟨_, by
    unfold readModuleCrashpadInfo
    simp only [hrd, modRec, fld, List.getD_cons_zero, List.getD_cons_succ]
    rw [res_bind_ok r1]
    simp only
    rw [res_bind_ok r2]
    simp only
    rw [res_bind_ok r3]
    rfl, ?_⟩
  simp only [rmoduleCrashpadOf, reportModuleCrashpad, map_toArray_toList]

theorem modBlocks_length (e : Endian) (xs : List MModuleCrashpad) (off : Nat) : (modBlocks e off xs).length = modBlocksSize xs := by
  induction xs generalizing off <;> simp [modBlocks, modBlocksSize, modBlock_length, *]

theorem linkRecs_length (xs : List MModuleCrashpad) (off : Nat) : (linkRecs off xs).length = xs.length := by
  induction xs generalizing off <;> simp [linkRecs, *]

theorem linkLoop_enc (ms : MemSizes) {all data : Bytes} {e : Endian} (hall : all.size < 2 ^ 32) :
    ∀ (xs : List MModuleCrashpad) (i moff : Nat) (acc : List ModuleCrashpadInfo),
      Has data.toList (4 + 12 * i) (encRecords e MINIDUMP_MODULE_CRASHPAD_INFO_LINK (linkRecs moff xs)) →
      Has all.toList moff (modBlocks e moff xs) → (∀ x ∈ xs, ModuleCrashpadFits x) →
      ∃ r : List ModuleCrashpadInfo, (loopFrom (linkStep ms all data e) xs.length i acc).res = .ok (r.reverse ++ acc) ∧
        r.map rmoduleCrashpadOf = xs.map reportModuleCrashpad
  | [], _, _, _, _, _, _ => ⟨[], by simp [loopFrom], rfl⟩
  | x :: r, i, moff, acc, hrec, hblk, hf => by
    have hle := hblk.size_le
    simp only [modBlocks, List.length_append, modBlock_length, modBlocks_length] at hle
    have hx := hf x (by simp)
    obtain ⟨hrd, hrec'⟩ := table_step (recs := linkRecs (moff + modBlockSize x) r) size_link hrec
      (show Fits _ [x.index, 28, moff] from ⟨pow_256_4 ▸ hx.1, by decide, by omega, trivial⟩)
    obtain ⟨info, hi1, hi2⟩ := readModuleCrashpadInfo_enc ms 28 x.index hblk.left hx hall
    have hstep : (linkStep ms all data e acc i).res = .ok (info :: acc) := by
      unfold linkStep
      simp only [hrd, fld, List.getD_cons_zero, List.getD_cons_succ]
      rw [res_bind_ok hi1]
      rfl
    obtain ⟨rr, hr1, hr2⟩ := linkLoop_enc ms hall r (i + 1) (moff + modBlockSize x) (info :: acc) hrec' (hblk.after (modBlock_length e moff x))
      (fun y hy => hf y (by simp [hy]))
    refine ⟨info :: rr, ?_, ?_⟩
    · rw [List.length_cons, loopFrom, res_bind_ok hstep, hr1]
      simp
    · rw [List.map_cons, hr2, hi2]
      rfl

theorem readCrashpadModuleLinks_enc (ms : MemSizes) {all : Bytes} {e : Endian} {off : Nat} {xs : List MModuleCrashpad}
    (h : Has all.toList off (modListBlock e off xs)) (hf : ∀ x ∈ xs, ModuleCrashpadFits x) (hall : all.size < 2 ^ 32) :
    ∃ r, (readCrashpadModuleLinks ms all e ⟨4 + 12 * xs.length, off⟩).res = .ok r ∧
      r.map rmoduleCrashpadOf = xs.map reportModuleCrashpad := by
  obtain ⟨data, hd, hsize, hcount, hrecs, hblk, hin⟩ := block_parts (recSize := 12) h
    (by rw [encRecords_length, linkRecs_length, size_link]) (by decide) hall
  obtain ⟨r, hr1, hr2⟩ := linkLoop_enc ms hall xs 0 _ [] hrecs hblk hf
  refine ⟨r, ?_, hr2⟩
  unfold readCrashpadModuleLinks
  simp only [hd, hsize, if_false, hcount, size_link, ensureCountInBound_in hin hall, loop_eq]
  rw [res_bind_ok (res_alloc _ _ _), res_bind_ok hr1]
  simp

def GuidFits (g : List Nat) : Prop :=
  g.length = 11 ∧ fld g 0 < 2 ^ 32 ∧ fld g 1 < 2 ^ 16 ∧ fld g 2 < 2 ^ 16 ∧ ∀ v ∈ g.drop 3, v < 256

/-- a Crashpad model the wire format can carry (version 0 is rejected by the reader) -/
def CrashpadFits (x : MCrashpad) : Prop :=
  x.version ≠ 0 ∧ x.version < 2 ^ 32 ∧ GuidFits x.reportId ∧ GuidFits x.clientId ∧ DictValid x.simpleAnnotations ∧
  ∀ y ∈ x.modules, ModuleCrashpadFits y

theorem crashpadOobOf_length (e : Endian) (off : Nat) (x : MCrashpad) : (crashpadOobOf e off x).length = crashpadOobSizeOf x := by
  simp [crashpadOobOf, crashpadOobSizeOf, dictBlock_length, modListBlock, modListBlockSize, linkRecs_length, size_link,
    modBlocks_length, Nat.mul_comm]
  omega

theorem guid_fits {g : List Nat} (h : GuidFits g) : Fits GUID g := by
  obtain ⟨hl, h0, h1, h2, h3⟩ := h
  match g, hl with
  | a :: b :: c :: rest, hl =>
    exact ⟨pow_256_4 ▸ h0, pow_256_2 ▸ h1, pow_256_2 ▸ h2,
      Fits.uniform (w := 1) (by simpa [eq_comm] using hl) (by decide) h3⟩

theorem readCrashpadInfoRaw_enc (ms : MemSizes) {s all : Bytes} {e : Endian} {off : Nat} {x : MCrashpad}
    (hs : s.toList = encCrashpad e off x) (hf : CrashpadFits x) (hoob : Has all.toList off (crashpadOobOf e off x))
    (hall : all.size < 2 ^ 32) :
    ∃ r, (readCrashpadInfoRaw ms s all e).res = .ok r ∧ rcrashpadOf r = reportCrashpad x := by
  obtain ⟨hv0, hv, hg1, hg2, hd, hm⟩ := hf
  have hle := hoob.size_le
  rw [crashpadOobOf_length] at hle
  unfold crashpadOobSizeOf dictBlockSize modListBlockSize at hle
  unfold crashpadOobOf at hoob
  obtain ⟨mr, hm1, hm2⟩ := readCrashpadModuleLinks_enc ms (hoob.after (dictBlock_length ..)) hm hall
  have hdr := readSimpleDict_enc (budget := all.size) hoob.left hd (by have := dictBytes_le x.simpleAnnotations; omega) hall
  -- the record: version, the two GUIDs (already 11 scalars each), the two location descriptors
  have hrec : crashpadRec off x = [x.version] ++ (x.reportId ++ (x.clientId ++
      [4 + 8 * x.simpleAnnotations.length, off, 4 + 12 * x.modules.length, off + dictBlockSize x.simpleAnnotations])) := by
    unfold crashpadRec guidVals
    rw [List.take_left' hg1.1, List.take_left' hg2.1, List.append_assoc, List.append_assoc]
  have hfit : Fits MINIDUMP_CRASHPAD_INFO (crashpadRec off x) := by
    rw [hrec]
    refine Fits.split 1 ⟨pow_256_4 ▸ hv, trivial⟩ (Fits.split 11 ((guid_fits hg1).of_widths (by decide))
      (Fits.split 11 ((guid_fits hg2).of_widths (by decide)) ?_))
    simp only [MINIDUMP_CRASHPAD_INFO, List.drop, Fits, pow_256_4]
    unfold dictBlockSize
    refine ⟨?_, ?_, ?_, ?_, trivial⟩ <;> omega
  have hrd : readFields MINIDUMP_CRASHPAD_INFO s 0 e = some (crashpadRec off x) :=
    readFields_has hfit (Has.prefix0 (rest := []) (by simpa [encCrashpad] using hs))
  have htail : ∀ k, fld (crashpadRec off x) (1 + (11 + (11 + k))) = fld [4 + 8 * x.simpleAnnotations.length, off,
      4 + 12 * x.modules.length, off + dictBlockSize x.simpleAnnotations] k := fun k => by
    rw [hrec]
    exact (fld_append_right _ rfl).trans ((fld_append_right _ hg1.1).trans (fld_append_right k hg2.1))
  have h23 : fld (crashpadRec off x) 23 = 4 + 8 * x.simpleAnnotations.length := htail 0
  have h24 : fld (crashpadRec off x) 24 = off := htail 1
  have h25 : fld (crashpadRec off x) 25 = 4 + 12 * x.modules.length := htail 2
  have h26 : fld (crashpadRec off x) 26 = off + dictBlockSize x.simpleAnnotations := htail 3
  have hcp : (readCrashpadInfo ms s all e).res = .ok ⟨x.version, dictOf x.simpleAnnotations, mr⟩ := by
    unfold readCrashpadInfo
    simp only [hrd, h23, h24, h25, h26, show fld (crashpadRec off x) 0 = x.version from rfl, hv0, if_false]
    rw [res_bind_ok hdr]
    simp only
    rw [res_bind_ok hm1]
    rfl
  refine ⟨_, by unfold readCrashpadInfoRaw; rw [res_bind_ok hcp]; simp only [hrd]; rfl, ?_⟩
  have hids : ((crashpadRec off x).drop 1).take 22 = guidVals x.reportId ++ guidVals x.clientId := by
    unfold guidVals
    rw [hrec, List.take_left' hg1.1, List.take_left' hg2.1]
    show (x.reportId ++ (x.clientId ++ _)).take 22 = _
    rw [← List.append_assoc]
    exact List.take_left' (by rw [List.length_append, hg1.1, hg2.1])
  simp only [rcrashpadOf, reportCrashpad, hids, hm2]

end MdModel.Encode
