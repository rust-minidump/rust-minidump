/-
  Checks over the tables generated from context.rs / format.rs, closed by kernel evaluation
  (`decide +kernel`, `rfl`; no native evaluation).  They are re-checked whenever the
  generated tables change; a changed arm (`"r11" => self.iregs[12]`), a missing alias, swapped
  sp/ip names, a broken `sparc_alias_index` … makes one of them false and the build fails.

  What the kernel pays for is `String` equality in the first-match lookups. `tables_ok` therefore
  decides everything that looks names up in the getter in ONE evaluation per context (a repeated
  `getCell c n` is answered from the kernel's cache), and sweeps `tableNames`, the argument of
  `dedup` in `knownNames`, as it stands: removing the duplicates would cost more comparisons than
  the sweep.
-/
import MdProofs.Lemmas.Regs
namespace MdModel.Regs
open MdModel MdModel.Gen.Regs

theorem tables_ok (c : Ctx) :
    (∀ n ∈ tableNames c, nameOk c n ∧ classOk c n) ∧
    pairwiseDistinctCells c (registers c) = true ∧ armTargetsOk c = true ∧
    getCell c (spName c) = resolve (spCell c) ∧ getCell c (ipName c) = resolve (ipCell c) := by
  cases c <;> decide +kernel

theorem known_ok (c : Ctx) : ∀ n ∈ tableNames c, nameOk c n ∧ classOk c n :=
  (tables_ok c).1

theorem registers_distinct (c : Ctx) : pairwiseDistinctCells c (registers c) = true :=
  (tables_ok c).2.1

theorem arm_targets (c : Ctx) : armTargetsOk c = true :=
  (tables_ok c).2.2.1

theorem sp_ip_cells (c : Ctx) :
    getCell c (spName c) = resolve (spCell c) ∧ getCell c (ipName c) = resolve (ipCell c) :=
  (tables_ok c).2.2.2

/-- `rfl`: the two tables are compared as terms, no string is decoded -/
theorem arms_agree (c : Ctx) :
    (setArms c).map (fun p => (p.1, resolve p.2)) = (getArms c).map (fun p => (p.1, resolve p.2)) := by
  cases c <;> rfl

/-- `general_purpose_registers()` lists the variant's own `REGISTERS` -/
theorem gpr_registers (c : Ctx) : registers (gprOf c) = registers c := by
  cases c <;> rfl

/-- `.into()` appears exactly for the 32-bit contexts (widening, never narrowing) -/
theorem widens_iff (c : Ctx) : widens c = (regBits c == 32) ∧ (regBits c = 32 ∨ regBits c = 64) := by
  cases c <;> decide +kernel

/-- the tables are those of a successful translation of the current source (a failed translation
    writes blank tables with `translationOk := false`) -/
theorem translation_ok : translationOk = true := by decide

end MdModel.Regs
