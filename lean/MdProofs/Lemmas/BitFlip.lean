/-
  Lemmas for C19: the exact output of `try_bit_flips` (`mem_tryBitFlips_iff`), rationals in the unit
  interval, the memory map through C08, the register pass and its `BTreeSet` model.
-/
import MdModel.BitFlip
import MdProofs.Lemmas.RangeMapIdx
import MdProofs.Lemmas.Assoc
namespace MdModel.BitFlip
open MdModel

theorem BitRange.mem_bits {R : BitRange} {i : Nat} : i ∈ R.bits ↔ R.lo ≤ i ∧ i < R.hi := by
  unfold BitRange.bits
  rw [List.mem_range'_1]
  cases R <;> simp [BitRange.lo, BitRange.hi]

theorem BitRange.hi_le_64 (R : BitRange) : R.hi ≤ 64 := by
  cases R <;> simp [BitRange.hi]

theorem flip_testBit (a i j : Nat) :
    (a ^^^ (1 <<< i)).testBit j = (a.testBit j ^^ decide (i = j)) := by
  rw [Nat.testBit_xor, Nat.one_shiftLeft, Nat.testBit_two_pow]

theorem flip_lt {a i : Nat} (ha : a < 2 ^ 64) (hi : i < 64) : a ^^^ (1 <<< i) < 2 ^ 64 := by
  rw [Nat.one_shiftLeft]
  exact Nat.xor_lt_two_pow ha (Nat.pow_lt_pow_right (by omega) hi)

theorem flip_ne (a i : Nat) : a ^^^ (1 <<< i) ≠ a := by
  intro h
  have := flip_testBit a i i
  rw [h] at this
  cases hb : a.testBit i <;> simp [hb] at this

theorem flip_flip (a i : Nat) : (a ^^^ (1 <<< i)) ^^^ (1 <<< i) = a := by
  rw [Nat.xor_assoc, Nat.xor_self, Nat.xor_zero]

theorem mem_candidatesAt_iff {a : Nat} {src : Option String} {R : BitRange} {ctx : Option Ctx}
    {look : Nat → Option Perm} {op : MemOp} {i : Nat} {r : Flip} :
    r ∈ candidatesAt a src R ctx look op i ↔
      r = mkFlip a src R ctx (a ^^^ (1 <<< i)) ∧
        (a ^^^ (1 <<< i) = 0 ∨ accessible look op (a ^^^ (1 <<< i)) = true) := by
  unfold candidatesAt
  by_cases h0 : a ^^^ (1 <<< i) = 0 <;>
    by_cases hacc : accessible look op (a ^^^ (1 <<< i)) = true <;> simp [h0, hacc]

theorem mem_tryBitFlips_iff {a : Nat} {src : Option String} {R : BitRange} {ctx : Option Ctx}
    {look : Nat → Option Perm} {op : MemOp} {r : Flip} :
    r ∈ tryBitFlips a src R ctx look op ↔
      accessible look op a = false ∧ ∃ i ∈ R.bits, r = mkFlip a src R ctx (a ^^^ (1 <<< i)) ∧
        (a ^^^ (1 <<< i) = 0 ∨ accessible look op (a ^^^ (1 <<< i)) = true) := by
  unfold tryBitFlips
  cases accessible look op a <;> simp [List.mem_flatMap, mem_candidatesAt_iff]

theorem flip_src {a : Nat} {src : Option String} {R : BitRange} {ctx : Option Ctx}
    {look : Nat → Option Perm} {op : MemOp} {r : Flip}
    (h : r ∈ tryBitFlips a src R ctx look op) : r.src = src := by
  obtain ⟨_, i, _, rfl, _⟩ := mem_tryBitFlips_iff.mp h
  rfl

theorem accessible_iff {look : Nat → Option Perm} {op : MemOp} {a : Nat} :
    accessible look op a = true ↔ ∃ m, look a = some m ∧ op.possiblyAllowed m = true := by
  unfold accessible
  cases look a <;> simp

namespace Q

theorem unit_mul {a b : Q} (ha : a.Unit) (hb : b.Unit) : (Q.mul a b).Unit := by
  obtain ⟨ha0, ha1, ha2⟩ := ha
  obtain ⟨hb0, hb1, hb2⟩ := hb
  refine ⟨Nat.mul_pos ha0 hb0, Int.mul_nonneg ha1 hb1, ?_⟩
  show a.num * b.num ≤ ((a.den * b.den : Nat) : Int)
  rw [Int.natCast_mul]
  exact Int.mul_le_mul ha2 hb2 hb1 (by omega)

theorem unit_oneMinus {a : Q} (ha : a.Unit) : (Q.oneMinus a).Unit := by
  obtain ⟨ha0, ha1, ha2⟩ := ha
  refine ⟨ha0, ?_, ?_⟩
  · show 0 ≤ (a.den : Int) - a.num
    omega
  · show (a.den : Int) - a.num ≤ (a.den : Int)
    omega

end Q

theorem foldl_unit (vs : List Q) (acc : Q) (hacc : acc.Unit) (hv : ∀ v ∈ vs, v.Unit) :
    (vs.foldl (fun acc v => Q.mul acc (Q.oneMinus v)) acc).Unit :=
  vs.foldlRecOn _ hacc fun _ h v hm => Q.unit_mul h (Q.unit_oneMinus (hv v hm))

theorem combine_unit (vs : List Q) (hv : ∀ v ∈ vs, v.Unit) : (combine vs).Unit :=
  Q.unit_oneMinus (foldl_unit vs Q.one ⟨by decide, by decide, by decide⟩ hv)

theorem unit_consts : ∀ q ∈ cLOW :: cMEDIUM :: cHIGH :: cNEARBY, q.Unit := by
  simp only [Q.Unit]; decide

theorem unit_cNEARBY (k : Nat) : (cNEARBY.getD k cMEDIUM).Unit := by
  rw [List.getD_eq_getElem?_getD]
  cases h : cNEARBY[k]? with
  | none => exact unit_consts _ (by simp)
  | some q => exact unit_consts _ (by simp [List.mem_of_getElem? h])

theorem confValues_unit (d : Details) : ∀ v ∈ confValues d, v.Unit := by
  have hM : cMEDIUM.Unit := unit_consts _ (by simp)
  have opt : ∀ {c : Prop} [Decidable c] {x v : Q}, x.Unit → v ∈ (if c then [x] else []) → v.Unit := by
    intro c _ x v hx hv
    split at hv
    · rw [List.mem_singleton.mp hv]; exact hx
    · cases hv
  intro v hv
  simp only [confValues, List.mem_append, List.mem_singleton] at hv
  rcases hv with ((rfl | hv) | hv) | hv
  · exact unit_consts _ (by simp [cBASELINE])
  · exact opt (unit_consts _ (by simp [cNON_CANONICAL])) hv
  · refine opt ?_ hv
    split
    · exact Q.unit_mul hM hM
    · exact hM
  · exact opt (unit_cNEARBY _) hv

theorem confValues_clamp (d : Details) :
    confValues d = confValues { d with nearby := min d.nearby 4 } := by
  have h1 : (min d.nearby 4 > 0) = (d.nearby > 0) := propext (by omega)
  have h2 : min (min d.nearby 4) cNEARBY.length = min d.nearby cNEARBY.length := by
    show min (min d.nearby 4) 4 = min d.nearby 4
    omega
  unfold confValues
  simp only [h1, h2]

theorem tableInput_wf (k : MapKind) (rs : List Region) (hb : ∀ r ∈ rs, r.b ≤ U64MAX) :
    RangeMap.InputWF (tableInput k rs) :=
  RangeMap.idx_wf (rng := fun r : Region => r.range k) fun reg hreg rg hrg => by
    cases k with
    | info => exact RangeMap.mkRange_ok hrg
    | maps => exact RangeMap.mkRangeMap_wf (hb reg hreg) hrg

theorem buildTable_ok (k : MapKind) (rs : List Region) (hb : ∀ r ∈ rs, r.b ≤ U64MAX) :
    buildTable k rs = .ok (RangeMap.safeVec (tableInput k rs)) :=
  RangeMap.safe_ok _ (tableInput_wf k rs hb)

theorem lookupIn_sound (k : MapKind) (rs : List Region) (a : Nat) (p : Perm)
    (h : lookupIn rs (RangeMap.safeVec (tableInput k rs)) a = some p) :
    ∃ reg ∈ rs, reg.perm = p ∧ ∃ rg, reg.range k = some rg ∧ rg.lo ≤ a ∧ a ≤ rg.hi := by
  unfold lookupIn at h
  split at h
  · cases h
  · rename_i i hget
    obtain ⟨reg, rg, hreg, hr, h1, h2⟩ := RangeMap.get_idx_sound (rng := fun r : Region => r.range k) hget
    rw [hreg] at h
    exact ⟨reg, List.mem_of_getElem? hreg, Option.some.inj h, rg, hr, h1, h2⟩

theorem mem_insertSorted_iff {s x : String} {l : List String} :
    x ∈ insertSorted s l ↔ x = s ∨ x ∈ l := by
  induction l with
  | nil => simp [insertSorted]
  | cons t rest ih =>
    simp only [insertSorted]
    split
    · simp
    · split
      · rename_i h; rw [eq_of_beq h]; simp
      · simp only [List.mem_cons, ih]; exact or_left_comm

theorem mem_foldl_insertSorted_iff {x : String} (l acc : List String) :
    x ∈ l.foldl (fun acc s => insertSorted s acc) acc ↔ x ∈ acc ∨ x ∈ l := by
  simpa using List.mem_foldl_insert (key := id) (fun _ _ _ => mem_insertSorted_iff.trans or_comm) l acc x

theorem mem_registerPass {c : Ctx} {iregs : List String} {R : BitRange} {look : Nat → Option Perm}
    {op : MemOp} {r : Flip} (h : r ∈ registerPass c iregs R look op) :
    ∃ reg ∈ iregs, ∃ v, c.get reg = some v ∧ r ∈ tryBitFlips v (some reg) R (some c) look op := by
  unfold registerPass at h
  obtain ⟨reg, hreg, hr⟩ := List.mem_flatMap.mp h
  split at hr
  · cases hr
  · rename_i v hv
    exact ⟨reg, ((mem_foldl_insertSorted_iff iregs []).mp hreg).resolve_left (by simp), v, hv, hr⟩

theorem insertSorted_sorted (s : String) (l : List String) (h : l.Pairwise (· < ·)) :
    (insertSorted s l).Pairwise (· < ·) := by
  induction l with
  | nil => simp [insertSorted]
  | cons t rest ih =>
    have ht : ∀ {x}, x ∈ rest → t < x := fun hx => List.rel_of_pairwise_cons h hx
    have hrest := List.Pairwise.of_cons h
    simp only [insertSorted]
    split
    · rename_i hst
      exact List.Pairwise.cons
        (List.forall_mem_cons.mpr ⟨hst, fun x hx => String.lt_trans hst (ht hx)⟩) h
    · split
      · exact h
      · rename_i hlt hne
        refine List.Pairwise.cons ?_ (ih hrest)
        intro x hx
        rcases mem_insertSorted_iff.mp hx with rfl | hx
        · apply String.not_le.mp
          intro hle
          have := String.le_antisymm hle (String.not_lt.mp hlt)
          exact hne (by simp [this])
        · exact ht hx

end MdModel.BitFlip
