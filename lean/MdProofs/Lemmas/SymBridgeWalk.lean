/-
  Bridge C11 ↔ walker model: from one lookup to every frame of a walk.

  A frame's module and function are a function of its lookup address alone (`Walk.walk_symbolised`),
  so nothing here looks at how the walk found the frame: the statements are about ANY environment
  whose `symb` field is `symbOfW` over the world's own tables (`SymbEnv`). `mkEnv`, `mkEnvW` and
  the process state's `envOf` are such environments; the per-walk and per-state theorems are
  instances.
-/
import MdProofs.Lemmas.SymBridgeWin
import MdProofs.C05
namespace MdModel.SymBridge
open MdModel MdModel.RangeMap

def ftblsOf (w : Walk.World) : List (List Entry) :=
  w.syms.map fun s => match s with
    | some sf => Walk.funcTable sf
    | none => []

def winsAt (wins : List (List Win.Rec)) (i : Nat) : List Win.Rec := (wins[i]?).getD []

/-- the environment symbolises with the world's modules, each symbol file's own function table and
    the STACK WIN tables of `wins` (per module, by position) -/
def SymbEnv (env : Walk.Env) (w : Walk.World) (wins : List (List Win.Rec)) : Prop :=
  env.symb = Walk.symbOfW w (Walk.modTable w.mods) (ftblsOf w) (wins.map Walk.winTables)

/-- `mkEnv` is such an environment for any `wins` without a record: the empty tables change nothing -/
theorem symbEnv_mkEnv (arch : Walk.Arch) (os : Walk.Os) (w : Walk.World) (mem0 : Walk.Mem)
    {wins : List (List Win.Rec)} (h : Walk.noWins wins = true) :
    SymbEnv (Walk.mkEnv arch os w mem0) w wins := by
  have key : ∀ i : Nat, ((wins.map Walk.winTables)[i]?).getD Walk.WinTables.empty =
      (([] : List Walk.WinTables)[i]?).getD Walk.WinTables.empty := by
    intro i
    rw [List.getElem?_map]
    cases hq : wins[i]? with
    | none => rfl
    | some ws =>
      have : ws = [] := by
        simpa using List.all_eq_true.mp h ws (List.mem_of_getElem? hq)
      rw [this]
      exact winTables_nil
  refine (symbOf_eq_symbOfW _ _ _).trans ?_
  funext instr
  simp only [Walk.symbOfW, key]
  rfl

theorem symbEnv_mkEnvW (arch : Walk.Arch) (os : Walk.Os) (w : Walk.World) (wins : List (List Win.Rec))
    (mem0 : Walk.Mem) : SymbEnv (Walk.mkEnvW arch os w wins mem0) w wins :=
  rfl

theorem winTables_winsAt (wins : List (List Win.Rec)) (i : Nat) :
    ((wins[i]?).map Walk.winTables).getD Walk.WinTables.empty = Walk.winTables (winsAt wins i) := by
  unfold winsAt
  cases wins[i]? with
  | none => exact winTables_nil.symm
  | some ws => rfl

theorem SymbEnv.frame {env : Walk.Env} {w : Walk.World} {wins : List (List Win.Rec)}
    (hs : SymbEnv env w wins) {mem : Option Walk.Mem} {ctx : Walk.Ctx} {f : Walk.Frame}
    (hf : f ∈ Walk.walk env mem ctx) :
    (∀ i m sf, f.module = some i → w.mods[i]? = some m → w.syms[i]? = some (some sf) →
      f.func = Walk.fillSymbolW sf (Walk.funcTable sf) (Walk.winTables (winsAt wins i)) m.base
        f.instruction) ∧
    (∀ g, f.func = some g →
      ∃ i m sf, f.module = some i ∧ w.mods[i]? = some m ∧ w.syms[i]? = some (some sf)) := by
  obtain ⟨h1, h2⟩ := Walk.walk_symbolised _ _ _ f hf
  rw [hs, Walk.symbOfW_fst] at h1 h2
  constructor
  · intro i m sf hmod hm hsf
    rw [h1] at hmod
    rw [h2, hmod]
    simp only [Option.isSome_some, if_true, Walk.symbOfW, hmod, hm, hsf, Option.join_some, ftblsOf,
      List.getElem?_map, Option.map_some, winTables_winsAt]
  · intro g hg
    rw [hg] at h2
    cases hma : Walk.moduleAt (Walk.modTable w.mods) f.instruction with
    | none => rw [hma] at h2; cases h2
    | some i =>
      rw [hma] at h2
      simp only [Option.isSome_some, if_true, Walk.symbOfW, hma] at h2
      split at h2
      · rename_i m sf ft hm hsf hft
        exact ⟨i, m, sf, h1.trans hma, hm, Option.join_eq_some_iff.mp hsf⟩
      · cases h2

theorem winsAt_bounds {wins : List (List Win.Rec)} (hsz : ∀ ws ∈ wins, ∀ x ∈ ws, x.size < 2 ^ 32)
    (hlen : ∀ ws ∈ wins, ws.length ≤ 2 ^ 64) (i : Nat) :
    (∀ x ∈ winsAt wins i, x.size < 2 ^ 32) ∧ (winsAt wins i).length ≤ 2 ^ 64 := by
  unfold winsAt
  cases h : wins[i]? with
  | none => exact ⟨fun _ hx => absurd hx List.not_mem_nil, Nat.zero_le _⟩
  | some ws => exact ⟨hsz ws (List.mem_of_getElem? h), hlen ws (List.mem_of_getElem? h)⟩

def recsOfW (sf : Walk.SymFile) (wins : List Win.Rec) : Symbolize.Recs :=
  { recsOf sf with win4 := kindOf isFd wins, win0 := kindOf isFpo wins }

theorem recsOfW_rel (sf : Walk.SymFile) (wins : List Win.Rec) :
    FileRel sf (recsOfW sf wins) ∧ WinRel wins (recsOfW sf wins) :=
  ⟨⟨(recsOf_rel sf).funcs, (recsOf_rel sf).pubs⟩, ⟨rfl, rfl⟩⟩

theorem fillSymbolW_eq_c11 {sf : Walk.SymFile} {r : Symbolize.Recs} (hrel : FileRel sf r)
    {wins : List Win.Rec} (hwin : WinRel wins r)
    (hsz : ∀ w ∈ wins, w.size < 2 ^ 32) (hlen : wins.length ≤ 2 ^ 64)
    {csf : Symbolize.SymFile} (hb : Symbolize.build r = .ok csf)
    {base instr : Nat} {fr : Symbolize.Frame} (h : Symbolize.fillSymbol csf base instr = .ok fr) :
    (Walk.fillSymbolW sf (Walk.funcTable sf) (Walk.winTables wins) base instr).map projW = fr.fn := by
  rw [fillSymbolW_eq]
  rcases fill_core hrel hb h with ⟨g, w, hge, _, hsome, hw, hcore, hfn⟩ | ⟨hcase, hres⟩
  · obtain ⟨i, hg⟩ := Option.isSome_iff_exists.mp hsome
    simp only [wcore, Prod.mk.injEq] at hcore
    obtain ⟨c1, _, c3, c4⟩ := hcore
    -- frame data > FPO > FUNC on both sides
    have hps : Symbolize.paramSize csf (instr - base) g =
        ((Walk.winTables wins).psize (instr - base)).getD g.psize := by
      rw [Symbolize.paramSize_eq, psize_agree hwin hsz hlen hb]
      cases get csf.wfd (instr - base) <;> rfl
    rw [hw, hfn, hps, Option.map_some, if_neg (not_or.mpr ⟨by omega, by rw [hg]; nofun⟩)]
    simp only [Option.map_some, projW, c1, c3, c4]
  · simp only [if_pos hcase, Option.map_id']
    exact hres

theorem c11_answersW (sf : Walk.SymFile) (wins : List Win.Rec) (hsz : ∀ x ∈ wins, x.size < 2 ^ 32)
    (base instr : Nat) (hi : instr ≤ U64MAX) :
    ∃ csf fr, Symbolize.build (recsOfW sf wins) = .ok csf ∧ Symbolize.fillSymbol csf base instr = .ok fr := by
  have hk : ∀ k, ∀ x ∈ kindOf k wins, x.size < 2 ^ 32 := by
    intro k x hx
    simp only [kindOf, List.mem_filterMap] at hx
    obtain ⟨w, hw, hx⟩ := hx
    split at hx
    · cases hx; exact hsz w hw
    · cases hx
  obtain ⟨csf, hb⟩ := Symbolize.build_okW (recsOfW sf wins) (hk isFd) (hk isFpo)
  obtain ⟨fr, hfr⟩ := Symbolize.fill_no_panic hb base instr hi (by
    intro f hf
    have hf' : f ∈ (recsOf sf).funcs := hf
    simp only [recsOf, List.mem_map] at hf'
    obtain ⟨w, _, rfl⟩ := hf'
    show ([] : List Symbolize.Inl).length + 1 < U32MAX
    decide)
  exact ⟨csf, fr, hb, hfr⟩

theorem SymbEnv.follows_c11 {env : Walk.Env} {w : Walk.World} {wins : List (List Win.Rec)}
    (hs : SymbEnv env w wins) {mem : Option Walk.Mem} {ctx : Walk.Ctx} {f : Walk.Frame}
    (hf : f ∈ Walk.walk env mem ctx) {i : Nat} {m : Walk.Module} {sf : Walk.SymFile}
    (hmod : f.module = some i) (hm : w.mods[i]? = some m) (hsf : w.syms[i]? = some (some sf))
    {r : Symbolize.Recs} {csf : Symbolize.SymFile} {fr : Symbolize.Frame}
    (hrel : FileRel sf r) (hwin : WinRel (winsAt wins i) r)
    (hsz : ∀ x ∈ winsAt wins i, x.size < 2 ^ 32) (hlen : (winsAt wins i).length ≤ 2 ^ 64)
    (hb : Symbolize.build r = .ok csf)
    (hfr : Symbolize.fillSymbol csf m.base f.instruction = .ok fr) :
    f.func.map projW = fr.fn := by
  rw [(hs.frame hf).1 i m sf hmod hm hsf]
  exact fillSymbolW_eq_c11 hrel hwin hsz hlen hb hfr

theorem SymbEnv.func_is_c11 {env : Walk.Env} {w : Walk.World} {wins : List (List Win.Rec)}
    (hs : SymbEnv env w wins) (hsz : ∀ ws ∈ wins, ∀ x ∈ ws, x.size < 2 ^ 32)
    (hlen : ∀ ws ∈ wins, ws.length ≤ 2 ^ 64) {mem : Option Walk.Mem} {ctx : Walk.Ctx}
    {f : Walk.Frame} (hf : f ∈ Walk.walk env mem ctx) {g : Walk.FuncInfo} (hg : f.func = some g)
    (hi : f.instruction ≤ U64MAX) :
    ∃ i m sf csf fr, f.module = some i ∧ w.mods[i]? = some m ∧ w.syms[i]? = some (some sf) ∧
      Symbolize.build (recsOfW sf (winsAt wins i)) = .ok csf ∧
      Symbolize.fillSymbol csf m.base f.instruction = .ok fr ∧
      fr.fn = some (nm g.name, g.base, g.psize) := by
  obtain ⟨i, m, sf, hmod, hm, hsf⟩ := (hs.frame hf).2 g hg
  obtain ⟨hsz', hlen'⟩ := winsAt_bounds hsz hlen i
  obtain ⟨csf, fr, hb, hfr⟩ := c11_answersW sf (winsAt wins i) hsz' m.base f.instruction hi
  have := hs.follows_c11 hf hmod hm hsf (recsOfW_rel sf _).1 (recsOfW_rel sf _).2 hsz' hlen' hb hfr
  rw [hg] at this
  exact ⟨i, m, sf, csf, fr, hmod, hm, hsf, hb, hfr, this.symm⟩

end MdModel.SymBridge
