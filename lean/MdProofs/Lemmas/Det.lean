/-
  C13 (`MdModel.Det`): the byte-string order is a total order, insertion sort
  returns THE sorted permutation, association-list facts, and what the order-consuming definitions
  (`joinByIndex`, `statsAfter`, `certMapUnsorted`, `printSeq`, `heurStep`) compute.
-/
import MdModel.Det
import MdProofs.Lemmas.Assoc
import MdProofs.Lemmas.Sort
namespace MdModel.Det
open MdModel


/-- `lexLe` is the order core Lean puts on `List Nat`; its laws are core's -/
theorem lexLe_iff_le : ∀ a b : List Nat, lexLe a b = true ↔ a ≤ b
  | [], b => by simp [lexLe]
  | _ :: _, [] => by simp [lexLe]
  | a :: as, b :: bs => by
    rw [lexLe, List.cons_le_cons_iff, ← lexLe_iff_le as bs]
    by_cases h1 : a < b
    · simp [h1]
    · by_cases h2 : b < a
      · simp [h1, h2]; omega
      · simp [show a = b by omega]

theorem lexLe_refl (a : List Nat) : lexLe a a = true := (lexLe_iff_le a a).mpr (List.le_refl a)

theorem lexLe_total (a b : List Nat) : lexLe a b = true ∨ lexLe b a = true := by
  simp only [lexLe_iff_le]; exact List.le_total a b

theorem lexLe_antisymm {a b : List Nat} (h1 : lexLe a b = true) (h2 : lexLe b a = true) : a = b :=
  List.le_antisymm ((lexLe_iff_le a b).mp h1) ((lexLe_iff_le b a).mp h2)

theorem lexLe_trans {a b c : List Nat} (h1 : lexLe a b = true) (h2 : lexLe b c = true) :
    lexLe a c = true :=
  (lexLe_iff_le a c).mpr (List.le_trans ((lexLe_iff_le a b).mp h1) ((lexLe_iff_le b c).mp h2))

section sort
variable {α : Type} (le : α → α → Bool)

/-! The model has insertion sort twice: `isort` is `Cfi.sortBy`, whose lemmas serve both. -/

theorem insertBy_eq (x : α) (l : List α) : insertBy le x l = Cfi.insertBy le x l := by
  induction l with
  | nil => rfl
  | cons y ys ih => simp only [insertBy, Cfi.insertBy, ih]

theorem isort_eq (l : List α) : isort le l = Cfi.sortBy le l := by
  induction l with
  | nil => rfl
  | cons x xs ih => simp only [isort, Cfi.sortBy, ih, insertBy_eq]

theorem isort_perm (l : List α) : (isort le l).Perm l :=
  isort_eq le l ▸ Cfi.sortBy_perm le l

theorem isort_sorted (total : ∀ a b, le a b = true ∨ le b a = true)
    (trans : ∀ a b c, le a b = true → le b c = true → le a c = true) (l : List α) :
    (isort le l).Pairwise (fun a b => le a b = true) :=
  isort_eq le l ▸ Cfi.sortBy_pairwise le total trans l

end sort

theorem eq_isort_keyLe {β : Type} {l out : List (List Nat × β)} (nd : (l.map (·.1)).Nodup)
    (hperm : out.Perm l) (hsorted : out.Pairwise (fun a b => keyLe a b = true)) :
    out = isort keyLe l :=
  (isort_eq keyLe l ▸ Cfi.sortBy_unique keyLe (fun a b => lexLe_total a.1 b.1) (fun _ _ _ => lexLe_trans)
    hperm.symm hsorted fun _ ha _ hb h1 h2 =>
      List.eq_of_mem_of_fst_eq nd (hperm.mem_iff.1 ha) (hperm.mem_iff.1 hb) (lexLe_antisymm h1 h2)).symm

theorem isort_keyLe_perm {β : Type} {l l' : List (List Nat × β)} (nd : (l.map (·.1)).Nodup)
    (hp : l.Perm l') : isort keyLe l' = isort keyLe l :=
  isort_eq keyLe l ▸ isort_eq keyLe l' ▸
    (Cfi.sortBy_congr_perm keyLe (fun a b => lexLe_total a.1 b.1) (fun _ _ _ => lexLe_trans) hp fun _ ha _ hb h1 h2 =>
      List.eq_of_mem_of_fst_eq nd ha hb (lexLe_antisymm h1 h2)).symm

/-! association lists read by first match (`HashMap` contents, newest insertion first) -/

section assoc
variable {κ ν : Type} [BEq κ] [LawfulBEq κ]

theorem assoc_congr {m m' : List (κ × ν)} (hmem : ∀ e, e ∈ m ↔ e ∈ m')
    (hfun : ∀ e, e ∈ m → ∀ e', e' ∈ m → e.1 = e'.1 → e.2 = e'.2) (k : κ) :
    (m'.find? (·.1 == k)).map (·.2) = (m.find? (·.1 == k)).map (·.2) := by
  rw [List.find?_fst_beq_eq_lookup, List.find?_fst_beq_eq_lookup]
  exact List.lookup_congr hmem hfun k

end assoc

theorem joinByIndex_cons {R : Type} (res : Nat → R) (init : List R) (i : Nat) (is : List Nat) :
    joinByIndex res init (i :: is) = joinByIndex res (init.set i (res i)) is := rfl

theorem joinByIndex_getElem? {R : Type} (res : Nat → R) (init : List R) (order : List Nat) (j : Nat) :
    (joinByIndex res init order)[j]? =
      if j ∈ order then (if j < init.length then some (res j) else none) else init[j]? := by
  induction order generalizing init with
  | nil => simp [joinByIndex]
  | cons i is ih =>
    rw [joinByIndex_cons, ih]
    by_cases hj : j ∈ is
    · simp [hj]
    · by_cases hji : j = i
      · subst hji
        simp [hj, List.getElem?_set]
      · have : i ≠ j := fun e => hji e.symm
        simp [hj, hji, this]

theorem joinByIndex_complete {R : Type} (res : Nat → R) (init : List R) (order : List Nat)
    (h : ∀ j, j < init.length → j ∈ order) :
    joinByIndex res init order = (List.range init.length).map res := by
  apply List.ext_getElem?
  intro j
  rw [joinByIndex_getElem?]
  by_cases hj : j < init.length
  · simp [h j hj, hj]
  · simp [hj]

theorem regs_congr (fixed : List (List Nat)) {valid valid' : List (List Nat)}
    (h : ∀ x, x ∈ valid' ↔ x ∈ valid) :
    textRegs fixed valid' = textRegs fixed valid ∧ jsonRegs fixed valid' = jsonRegs fixed valid := by
  have ht : textRegs fixed valid' = textRegs fixed valid :=
    List.filter_congr fun x _ => by simp only [List.contains_eq_mem, h]
  exact ⟨ht, by unfold jsonRegs; rw [ht]⟩

theorem statsAfter_eq (mods : Nat → Mod) (done : List Nat) :
    statsAfter mods done = (done.map fun k => ((mods k).leaf, (mods k).res)).reverse := by
  simp [statsAfter]

theorem mem_statsAfter {mods : Nat → Mod} {done : List Nat} {e : List Nat × Res} :
    e ∈ statsAfter mods done ↔ ∃ k, k ∈ done ∧ e = ((mods k).leaf, (mods k).res) := by
  rw [statsAfter_eq, List.mem_reverse, List.mem_map]
  exact exists_congr fun _ => and_congr_right fun _ => eq_comm

theorem certMapUnsorted_eq (entries : CertInfo) : certMapUnsorted entries = (certPairs entries).reverse := by
  simp [certMapUnsorted]

theorem printSeq_setCtx (ctx : Option Width) (ws : List Width) :
    printSeq setCtx ctx ws = ws.map (fun w => addrChars (some w)) := by
  induction ws generalizing ctx with
  | nil => rfl
  | cons w ws ih => simp [printSeq, setCtx, ih]

theorem heurStep_eq (near poison : Nat → Bool) (acc : Nat × Bool) (v : Nat) :
    heurStep near poison acc v = (acc.1 + (if near v then 1 else 0), acc.2 || poison v) := by
  obtain ⟨n, p⟩ := acc
  unfold heurStep
  cases near v <;> cases p <;> cases poison v <;> rfl

theorem heurStep_comm (near poison : Nat → Bool) (acc : Nat × Bool) (a b : Nat) :
    heurStep near poison (heurStep near poison acc a) b = heurStep near poison (heurStep near poison acc b) a := by
  simp only [heurStep_eq, Nat.add_right_comm, Bool.or_right_comm]

end MdModel.Det
