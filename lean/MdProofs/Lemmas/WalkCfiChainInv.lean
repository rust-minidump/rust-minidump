/-
  C04, canonical STACK CFI chains below an all-valid context, what the base chain (`WalkCfiChainBase`) and
  the chain with several saved registers (`WalkCfiChainRegsLoop`) share: every frame of such a chain has
  all callee-saved registers, sp and ip valid (`CfiInv`); on such a frame `cfiOf_leaf` / `cfiOf_canonG` say
  what `get_caller_by_cfi` returns for the leaf rule / the canonical rule followed by any saved-register
  groups, in terms of the record and the memory words (the chains read their link predicates off into
  these hypotheses); and the generated end of the stack (`cfiEnd`, `step_cfi_end`), for all seven context
  kinds/modes.
-/
import MdProofs.Lemmas.WalkCfiChain
import MdProofs.Lemmas.WalkCfiCanon
import MdProofs.Lemmas.WalkScanChain
namespace MdModel.Walk
open MdModel

/-- validity set of every frame found by CFI below an all-valid context: the callee-saved
    registers (all forwarded), the stack pointer and the instruction pointer -/
def validAfter (a : Arch) : List String := setInsert (setInsert a.calleeSaved a.spName) a.ipName

/-- every frame of a CFI chain below an all-valid context: the context frame itself (everything
    valid) or a frame with the validity set `validAfter`; the MIPS mode of the walk -/
def CfiInv (a : Arch) (st : Frame) : Prop :=
  effArch a st.ctx = a ∧
  ((st.trust = .context ∧ st.ctx.valid = none) ∨ (st.trust ≠ .context ∧ st.ctx.valid = some (validAfter a))) ∧
  st.ctx.sp ≤ a.regMax

def CfiView (a : Arch) (f st : Frame) : Prop :=
  f.ctx = st.ctx ∧ f.trust = st.trust ∧ f.instruction = st.instruction ∧ CfiInv a st

theorem CfiInv.valid {a : Arch} {st : Frame} (h : CfiInv a st) :
    st.ctx.valid = none ∨ st.ctx.valid = some (validAfter a) :=
  h.2.1.imp (·.2) (·.2)

theorem CfiInv.valid_none {a : Arch} {st : Frame} (h : CfiInv a st) (hc : st.trust = .context) :
    st.ctx.valid = none :=
  h.2.1.elim (·.2) fun h' => absurd hc h'.1

theorem CfiView.inv {a : Arch} {f st : Frame} (h : CfiView a f st) : CfiInv a f := by
  obtain ⟨h1, h2, _, h4⟩ := h
  unfold CfiInv at *
  rw [h1, h2]; exact h4

/-! ### validity: every callee-saved register, sp and ip

  `register_is_valid` looks a name up among its aliases, of which the name itself is one
  (`self_mem_aliases`); so a name that is in the validity set is valid, on every architecture. -/

theorem Ctx.has_of_alias {a : Arch} {c : Ctx} {V : List String} {r s : String} (hv : c.valid = some V)
    (hs : s ∈ a.aliases r) (hr : s ∈ V) : c.has a r = true := by
  simp only [Ctx.has, hv, List.any_eq_true, List.contains_iff_mem]
  exact ⟨s, hs, hr⟩

theorem mem_setInsert_of_mem {l : List String} {s t : String} (h : s ∈ l) : s ∈ setInsert l t :=
  mem_setInsert.mpr (Or.inl h)

section
variable {a : Arch} {c : Ctx} (h : c.valid = none ∨ c.valid = some (validAfter a))
include h

theorem has_of_inv {r s : String} (hs : s ∈ a.aliases r) (hr : s ∈ validAfter a) (hc : (a.canon r).isSome = true) :
    c.has a r = true := by
  rcases h with h | h
  · simpa only [Ctx.has, h] using hc
  · exact Ctx.has_of_alias h hs hr

theorem has_saved_of_inv {r : String} (hr : r ∈ a.calleeSaved) : c.has a r = true ∧ c.hasLit r = true :=
  have hm : r ∈ validAfter a := mem_setInsert_of_mem (mem_setInsert_of_mem hr)
  ⟨has_of_inv h (self_mem_aliases a r) hm (by rw [(canon_calleeSaved (by simpa using hr)).1]; rfl),
    by rcases h with h | h <;> simp [Ctx.hasLit, h, hm]⟩

theorem forwarded_of_inv : forwarded a c = a.calleeSaved := by
  cases a
  case arm | arm64 | arm64old => exact List.filter_eq_self.mpr fun r hr => (has_saved_of_inv h hr).1
  all_goals exact List.filter_eq_self.mpr fun r hr => (has_saved_of_inv h hr).2

theorem has_sp_of_inv : c.has a a.spName = true :=
  has_of_inv h (self_mem_aliases _ _) (mem_setInsert_of_mem (mem_setInsert.mpr (Or.inr rfl))) (by rw [spName_canon]; rfl)

end

theorem reg_sp_of_inv {a : Arch} {c : Ctx} (h : c.valid = none ∨ c.valid = some (validAfter a))
    (hsp : c.sp ≤ a.regMax) : c.get a a.spName = some c.sp :=
  Ctx.get_of_fits (has_sp_of_inv h) (raw_sp a c) hsp

theorem has_calleeSaved {a : Arch} {c : Ctx} {r : String} (hv : c.valid = some (validAfter a))
    (hr : a.calleeSaved.contains r = true) : c.has a r = true :=
  (has_saved_of_inv (Or.inr hv) (by simpa using hr)).1

theorem validAfter_plain (a : Arch) : PlainValid a (validAfter a) := by
  intro n hn
  rcases mem_setInsert.mp hn with hn | rfl
  · rcases mem_setInsert.mp hn with hn | rfl
    · exact Or.inl (List.contains_iff_mem.mpr hn)
    · exact Or.inr (Or.inl rfl)
  · exact Or.inr (Or.inr rfl)

/-- below the validity set `validAfter` the frame pointer is valid: on ARM64 it is always stripped -/
theorem cfiCaller_validAfter (a : Arch) (mask : Nat) (c : Ctx) :
    cfiCaller a mask { ctx := c, valid := validAfter a } =
      { ip := stripOf a mask c.ip, sp := c.sp,
        rest := if a = .arm64 ∨ a = .arm64old then assocSet c.rest "fp" (assocGet c.rest "fp" &&& mask) else c.rest,
        valid := some (validAfter a), m64 := c.m64 } := by
  have h : (a = .arm64 ∨ a = .arm64old) → (validAfter a).contains "fp" = true := by
    rintro (rfl | rfl) <;> decide
  simp only [cfiCaller, and_iff_left_of_imp h]

theorem cfiOf_leaf {a : Arch} {w : World} {mask : Nat} {mem : Mem} {f : Frame} {g : Option Frame} {rec : CfiRec}
    (heff : effArch a f.ctx = a) (hctx : f.ctx.valid = none)
    (hrec : cfiRecordAt w f.instruction = some rec) (hadds : rec.adds = [])
    (hleaf : a.leafOk = true) (htoks : tokenize rec.init = leafToks a)
    (hspm : f.ctx.sp ≤ a.regMax) (hlr : f.ctx.raw a (lrName a) ≤ a.regMax) :
    cfiOf a w (modTable w.mods) (cfiTables w) mask mem f g =
      some (cfiCaller a mask { ctx := { f.ctx with ip := f.ctx.raw a (lrName a) }, valid := validAfter a }) := by
  have hval : f.ctx.valid = none ∨ f.ctx.valid = some (validAfter a) := Or.inl hctx
  refine cfiOf_of_walk heff (has_sp_of_inv hval) ?_ (validAfter_plain a)
  rw [cfiWalk_of_record a w mem f rec hrec hadds, forwarded_of_inv hval]
  -- the link register of an all-valid context as the evaluator reads it
  have hreg : f.ctx.get a (lrName a) = some (f.ctx.raw a (lrName a)) := by
    refine Ctx.get_of_fits ?_ rfl hlr
    simp only [Ctx.has, hctx]
    cases a <;> first | decide | cases hleaf
  exact walkCfi_leaf { arch := a, callee := f.ctx, mem := mem } _ rec.init f.ctx.sp _ hleaf htoks
    (reg_sp_of_inv hval hspm) hspm hreg hlr

theorem foldl_setInsert_of_mem (L : List (String × Nat)) (v : List String) (h : ∀ g ∈ L, g.1 ∈ v) :
    L.foldl (fun v g => setInsert v g.1) v = v :=
  L.foldlRecOn _ (motive := (· = v)) rfl fun _ hv g hg => by
    rw [hv, setInsert, if_pos (List.contains_iff_mem.mpr (h g hg))]

theorem cfiOf_canonG {a : Arch} {w : World} {mask : Nat} {mem : Mem} {f : Frame} {g : Option Frame} {rec : CfiRec}
    {sp' ret : Nat} {saved : List (String × Nat)}
    (heff : effArch a f.ctx = a) (hval : f.ctx.valid = none ∨ f.ctx.valid = some (validAfter a))
    (hrec : cfiRecordAt w f.instruction = some rec) (hadds : rec.adds = [])
    (htoks : tokenize rec.init = canonToksS a (spTok a) (sp' - f.ctx.sp) saved)
    (hlt : f.ctx.sp < sp') (hpb : a.ptr ≤ sp' - f.ctx.sp) (hmax : sp' ≤ a.regMax)
    (hrd : mem.read (sp' - a.ptr) a.ptr = some ret) (hnd : (saved.map (·.1)).Nodup)
    (hall : ∀ g ∈ saved, a.calleeSaved.contains g.1 = true ∧ g.1 ≠ a.spName ∧
      (mem.read ((sp' + g.2) % W64) a.ptr).isSome = true) :
    cfiOf a w (modTable w.mods) (cfiTables w) mask mem f g =
      some (cfiCaller a mask
        { ctx := { f.ctx with
                   sp := sp', ip := ret,
                   rest := (byName saved).foldl (fun rest g => assocSet rest g.1 (slotWord a mem sp' g.2)) f.ctx.rest },
          valid := validAfter a }) := by
  obtain ⟨bytes, rfl⟩ : ∃ bytes, sp' = f.ctx.sp + bytes := ⟨sp' - f.ctx.sp, by omega⟩
  rw [Nat.add_sub_cancel_left] at htoks hpb
  have hsaved : ∀ g ∈ saved, a.calleeSaved.contains g.1 = true := fun g hg => (hall g hg).1
  refine cfiOf_of_walk heff (has_sp_of_inv hval) ?_ (validAfter_plain a)
  rw [cfiWalk_of_record a w mem f rec hrec hadds, forwarded_of_inv hval,
    walkCfi_canonS { arch := a, callee := f.ctx, mem := mem } _ rec.init (spTok a) bytes f.ctx.sp ret saved
      (spTok_cases a) htoks (reg_sp_of_inv hval (by omega : f.ctx.sp ≤ a.regMax)) hmax
      (by omega : a.ptr ≤ f.ctx.sp + bytes) hrd hnd
      fun g hg => ⟨(canon_calleeSaved (hsaved g hg)).1, (canon_calleeSaved (hsaved g hg)).2, (hall g hg).2⟩,
    canonOut,
    -- the saved registers were forwarded, hence valid already
    foldl_setInsert_of_mem]
  · rfl
  · exact fun g hg => mem_setInsert_of_mem (mem_setInsert_of_mem
      (by simpa using hsaved g (List.mem_mergeSort.mp hg)))

def cfiEnd (w : World) (a : Arch) (mem : Mem) (st : Frame) : Bool :=
  (cfiRecordAt w st.instruction).isNone && decide (st.ctx.raw a a.fpName = 0) && decide (16 < mem.base) &&
    zerosFrom mem a.ptr st.ctx.sp

/-- the registers of a frame of a CFI chain, as the frame-pointer and scan unwinders read them:
    sp and the frame pointer are valid -/
theorem CfiInv.rview {a : Arch} {f : Frame} (h : CfiInv a f) :
    RView a f f.ctx.sp (some (f.ctx.raw a a.fpName)) (f.trust == .context) :=
  ⟨h.1, rfl, fun ha => by subst ha; exact h.2.2, has_sp_of_inv h.valid,
    by rw [(has_saved_of_inv h.valid (by simpa using (fpName_calleeSaved a).1)).1]; rfl, by simp⟩

/-- `hok0`: on ARM32 the by-symbols check must reject the word 0; it does, `instrOkOf`. -/
theorem step_cfi_end {env : Env} {a : Arch} {w : World} {mem : Mem} (harch : env.arch = a)
    (hcfi : env.cfi = cfiOf a w (modTable w.mods) (cfiTables w) env.mask mem)
    (hok0 : a = .arm → env.instrOk 0 = false)
    (f : Frame) (g : Option Frame) (st : Frame) (hv : CfiView a f st) (he : cfiEnd w a mem st = true) :
    step env mem f g = none := by
  have hinv := hv.inv
  rw [cfiEnd, ← hv.1, ← hv.2.2.1] at he
  simp only [Bool.and_eq_true, decide_eq_true_eq, Option.isNone_iff_eq_none] at he
  obtain ⟨⟨⟨hrec, hfp⟩, hbase⟩, hz⟩ := he
  have hnone : env.cfi f g = none := by rw [hcfi]; exact cfiOf_of_none hrec
  have hrv := hinv.rview
  rw [hfp] at hrv
  by_cases hios : a = .arm ∧ env.os = .ios
  · -- iOS ARM: the frame-pointer unwinder ends the walk at a zero frame pointer (ip := 0)
    obtain ⟨rfl, hos⟩ := hios
    obtain ⟨hget11, hget13⟩ := hrv.get_arm rfl
    have hby : byFp env .arm mem f.ctx = _ := hos ▸ fpArm_zero hget11 hget13
    rw [step_of_byFp (a := .arm) (by rw [harch]; exact hinv.1) hnone hby]
    exact epilogue_null (Nat.zero_lt_succ _)
  · -- elsewhere nothing is readable at the frame pointer 0, and the scans run over zero words
    refine step_scan_end_any harch hnone hok0 hrv ?_ hz
    cases a <;> first | exact trivial | exact .inr ⟨rfl, hbase⟩ | exact .inr rfl |
      exact .inl fun hos => hios ⟨rfl, hos⟩

end MdModel.Walk
