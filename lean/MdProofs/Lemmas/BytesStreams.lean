/-
  The stream readers under `Run` (at most so many requests, none above `K * all.size` bytes, no panic, and
  what the later stages need of the lists they return), the handle object-info walk (termination by the
  visited set), the directory loop, `get_stream`, and `readCore` with `CoreOk`.

  The side condition has two forms. The readers of elements (a name, a module, a handle descriptor, and the loops
  over them) stand under `Sized ms all`. The reader of a stream `b` of the file `all` stands under any `H` with
  `hH : H → Sized ms all ∧ b.size ≤ all.size`, whether or not it needs both halves (`readException` needs neither
  and takes none), so that `readCore_run` hands each the same `hH`; `H := False` gives the postcondition alone.
-/
import MdProofs.Lemmas.BytesSafe
import MdProofs.Lemmas.BytesLayout
namespace MdModel.Dump
open MdModel MdModel.Gen.Layouts

abbrev Sized (ms : MemSizes) (all : Bytes) : Prop := ms.Bounded ∧ SliceLen all.size

theorem four_le_Bnd {all b : Bytes} (hb : b.size ≤ all.size) : 4 * b.size ≤ Bnd all := by
  unfold Bnd K; omega

theorem utf16_run {E : Prop} (ms : MemSizes) (all : Bytes) (off : Nat) (e : Endian) :
    Run (Sized ms all) (Bnd all) 1 (readStringUtf16 all off e) (fun _ => True) E :=
  (readStringUtf16_run all off e (fun h => ⟨h.2, by unfold Bnd K; omega⟩)).post (fun _ _ => trivial)

/-- A list stream: the header (`readStreamList` or `readExStreamList`, here `hd`), a vector with one
    `sz`-byte element per entry, then `rest` with the entries, whose postcondition is the stream's. -/
theorem listStream_run {α : Type} {H : Prop} {ms : MemSizes} {b all : Bytes} {e : Endian} {l : Layout} {memSz sz C : Nat}
    {hd : M (List (List Nat))} {rest : List (List Nat) → M α} {Q : α → Prop}
    (hhd : hd = readStreamList l memSz b e ∨ hd = readExStreamList l memSz b e)
    (hraw : ms.Bounded → memSz ≤ 4 * Layout.size l) (hsz : ms.Bounded → sz ≤ 4 * Layout.size l)
    (hH : H → Sized ms all ∧ b.size ≤ all.size)
    (hrest : ∀ es, es.length * Layout.size l ≤ b.size → Run H (Bnd all) C (rest es) Q True) :
    Run H (Bnd all) (2 + C) (hd >>= fun es => M.alloc es.length sz >>= fun _ => rest es) Q True := by
  have hrun : Run H (Bnd all) 1 hd (fun es => es.length * Layout.size l ≤ b.size) True := by
    cases hhd with
    | inl h => exact h ▸ readStreamList_run _ _ _ _ (fun h => ⟨hraw (hH h).1.1, four_le_Bnd (hH h).2⟩)
    | inr h => exact h ▸ readExStreamList_run _ _ _ _ (fun h => ⟨hraw (hH h).1.1, four_le_Bnd (hH h).2⟩)
  refine (run_bind hrun (C := 1 + C) (fun es hes => ?_)).mono (by omega)
  exact run_bind (run_alloc (fun h => vec_le_Bnd hes (hsz (hH h).1.1) (hH h).2)) (fun _ _ => hrest es hes)

theorem readModule_run (ms : MemSizes) (all : Bytes) (e : Endian) (raw : RawModule) :
    Run (Sized ms all) (Bnd all) 2 (readModule all e raw) (ModuleOk all.size) True := by
  unfold readModule
  refine run_bind (utf16_run ms all _ e) (C := 1) (fun r _ => ?_)
  split
  · exact run_fail _ trivial
  · split
    · exact run_pure (fun _ h => nomatch h)
    · refine run_bind (readCodeview_run all e _ (fun _ => by unfold Bnd K; omega)) (C := 0) (fun cv hcv => ?_)
      split
      · exact run_fail _ trivial
      · exact run_pure (fun cv' h => by cases h; exact hcv _ rfl)

theorem readModules_run (ms : MemSizes) (all : Bytes) (e : Endian) : ∀ raws : List RawModule,
    Run (Sized ms all) (Bnd all) (2 * raws.length) (readModules all e raws)
      (fun mods => mods.length ≤ raws.length ∧ ∀ m ∈ mods, ModuleOk all.size m) True := by
  intro raws
  induction raws with
  | nil => exact run_pure ⟨Nat.le_refl _, fun _ h => nomatch h⟩
  | cons r rs ih =>
    unfold readModules
    split
    · exact (ih.mono (by simp; omega)).post (fun _ h => ⟨Nat.le_succ_of_le h.1, h.2⟩)
    · refine (run_bind (readModule_run ms all e r) (C := 2 * rs.length) (fun m hm => ?_)).mono (by simp; omega)
      exact run_map ih (fun _ h => ⟨Nat.succ_le_succ h.1, List.forall_mem_cons.mpr ⟨hm, h.2⟩⟩)

theorem readModuleList_run {H : Prop} (ms : MemSizes) (b all : Bytes) (e : Endian)
    (hH : H → Sized ms all ∧ b.size ≤ all.size) :
    Run H (Bnd all) (2 + b.size / 8) (readModuleList ms b all e)
      (fun mods => (∀ m ∈ mods, ModuleOk all.size m) ∧ mods.length * 108 ≤ b.size) True :=
  listStream_run (.inl rfl) (·.rawModule) (·.module) hH fun raws hlen => by
    rw [size_module] at hlen
    have hmods := (readModules_run ms all e (raws.map RawModule.ofVals)).under (fun h => (hH h).1)
    rw [List.length_map] at hmods
    exact (hmods.mono (by omega)).post (fun _ h => ⟨h.2, Nat.le_trans (Nat.mul_le_mul_right _ h.1) hlen⟩)

theorem readUnloadedModules_run (ms : MemSizes) (all : Bytes) (e : Endian) : ∀ raws : List (List Nat),
    Run (Sized ms all) (Bnd all) raws.length (readUnloadedModules all e raws) (fun _ => True) True := by
  intro raws
  induction raws with
  | nil => exact run_pure trivial
  | cons v vs ih =>
    unfold readUnloadedModules
    split
    · exact run_fail _ trivial
    · refine (run_bind (utf16_run ms all _ e) (C := vs.length) (fun r _ => ?_)).mono (by simp; omega)
      split
      · exact run_fail _ trivial
      · exact run_map ih (fun _ _ => trivial)

theorem readUnloadedModuleList_run {H : Prop} (ms : MemSizes) (b all : Bytes) (e : Endian)
    (hH : H → Sized ms all ∧ b.size ≤ all.size) :
    Run H (Bnd all) (2 + b.size / 8) (readUnloadedModuleList ms b all e) (fun _ => True) True :=
  listStream_run (.inr rfl) (·.rawUnloaded) (·.unloaded) hH fun raws hlen =>
    ((readUnloadedModules_run ms all e raws).under (fun h => (hH h).1)).mono (by rw [size_unloaded] at hlen; omega)

theorem readNames_run {E : Prop} (ms : MemSizes) (all : Bytes) (e : Endian) :
    ∀ (raws : List (List Nat)) (acc : List (Nat × List Nat)),
      Run (Sized ms all) (Bnd all) raws.length (readNames all e raws acc) (fun _ => True) E := by
  intro raws
  induction raws with
  | nil => intro acc; exact run_pure trivial
  | cons v vs ih =>
    intro acc
    unfold readNames
    refine (run_bind (utf16_run ms all _ e) (C := vs.length) (fun r _ => ?_)).mono (by simp; omega)
    split
    · exact ih _
    · exact ih _

theorem readThreadNames_run {H : Prop} (ms : MemSizes) (b all : Bytes) (e : Endian)
    (hH : H → Sized ms all ∧ b.size ≤ all.size) :
    Run H (Bnd all) (1 + b.size / 8) (readThreadNames ms b all e) (fun _ => True) True := by
  unfold readThreadNames
  refine run_bind (readStreamList_run _ _ _ _ (fun h => ⟨(hH h).1.1.rawThreadName, four_le_Bnd (hH h).2⟩))
    (fun raws hlen => ?_)
  rw [size_threadname] at hlen
  exact ((readNames_run ms all e raws []).under (fun h => (hH h).1)).mono (by omega)

theorem readMemoryDesc_ok {len start : Nat} {mem : Loc} {r : Region}
    (h : readMemoryDesc len start mem = .ok r) : r.rva + r.size ≤ len ∧ r.rva ≠ 0 ∧ r.size ≠ 0 := by
  unfold readMemoryDesc at h
  split at h
  · cases h
  · rename_i hne
    split at h
    · cases h
    · rename_i p hp
      cases h
      obtain ⟨s, e'⟩ := p
      have := locationRange_some hp
      simp only
      omega

/-- every region of the list is backed by the file: `readMemoryDesc` keeps an entry only if `locationRange` accepts it -/
theorem readMemoryList_run {H : Prop} (ms : MemSizes) (b all : Bytes) (e : Endian)
    (hH : H → Sized ms all ∧ b.size ≤ all.size) :
    Run H (Bnd all) 2 (readMemoryList ms b all e)
      (fun rs => rs.length * 16 ≤ b.size ∧ ∀ r ∈ rs, r.rva + r.size ≤ all.size) True :=
  listStream_run (.inl rfl) (·.rawMemDesc) (·.memory) hH fun raws hlen => run_pure (N := 0) (by
    rw [size_memdesc] at hlen
    refine ⟨Nat.le_trans (Nat.mul_le_mul_right _ (List.length_filterMap_le _ _)) hlen, fun r hr => ?_⟩
    obtain ⟨v, _, hv⟩ := List.mem_filterMap.mp hr
    split at hv
    · rename_i r' hd
      cases hv
      exact (readMemoryDesc_ok hd).1
    · cases hv)

theorem mem64Regions_ok (allLen : Nat) : ∀ (raws : List (List Nat)) (rva : Nat) (rs : List Region),
    mem64Regions allLen rva raws = .ok rs → rs.length = raws.length ∧ ∀ r ∈ rs, r.rva + r.size ≤ allLen := by
  intro raws
  induction raws with
  | nil =>
    intro rva rs h
    simp [mem64Regions] at h
    cases h
    exact ⟨rfl, fun r hr => by cases hr⟩
  | cons v vs ih =>
    intro rva rs h
    unfold mem64Regions at h
    split at h
    · cases h
    · rename_i stop hstop
      have ⟨hs1, _⟩ := checkedAdd_some hstop
      split at h
      · split at h
        · cases h
        · rename_i rs' hrs'
          cases h
          have ⟨hl, hin⟩ := ih _ _ hrs'
          refine ⟨by simp [hl], fun r hr => ?_⟩
          cases List.mem_cons.mp hr with
          | inl h1 => subst h1; simp; omega
          | inr h2 => exact hin r h2
      · cases h

theorem readMemory64List_run {H : Prop} (ms : MemSizes) (b all : Bytes) (e : Endian)
    (hH : H → Sized ms all ∧ b.size ≤ all.size) :
    Run H (Bnd all) 2 (readMemory64List ms b all e)
      (fun rs => rs.length * 16 ≤ b.size ∧ ∀ r ∈ rs, r.rva + r.size ≤ all.size) True := by
  unfold readMemory64List
  split
  · rename_i count rva _ _
    split
    · exact run_fail _ trivial
    · rename_i counted hc
      have ⟨hc1, hc2⟩ := ensureCountInBound_ok hc
      rw [size_memdesc64] at hc1
      split
      · exact run_fail _ trivial
      · have h1 : count * 16 ≤ b.size := by omega
        refine run_bind (run_alloc (fun h => vec_le_Bnd h1 (hH h).1.1.rawMemDesc64 (hH h).2)) (C := 1) (fun _ _ => ?_)
        refine run_bind0 (run_ofOption _ _) (fun raws hraws => ?_)
        have hl := readEntries_length hraws
        refine run_bind (run_alloc (fun h => hl ▸ vec_le_Bnd h1 (hH h).1.1.memory64 (hH h).2)) (C := 0) (fun _ _ =>
          (run_ofExcept _).post (fun rs hrs => ?_))
        have ⟨h2, h3⟩ := mem64Regions_ok _ _ _ _ hrs
        exact ⟨by omega, h3⟩
  · exact run_fail _ trivial

theorem readMemoryInfoList_run {H : Prop} (ms : MemSizes) (b all : Bytes) (e : Endian)
    (hH : H → Sized ms all ∧ b.size ≤ all.size) :
    Run H (Bnd all) 2 (readMemoryInfoList ms b e) (fun is => is.length * 48 ≤ b.size) True :=
  listStream_run (.inr rfl) (·.rawMemInfo) (·.memInfo) hH fun raws hlen =>
    run_pure (N := 0) (by rw [List.length_map]; exact hlen)

/-- the `HashMap` of the two thread lists: one slot of at most 40 bytes per entry -/
theorem hashMap_run {α : Type} {H E : Prop} {b all : Bytes} {n wire : Nat} (a : α) (hlen : n * wire ≤ b.size)
    (hw : HASHMAP_SLOT ≤ 4 * wire) (hb : H → b.size ≤ all.size) :
    Run H (Bnd all) 1 (M.alloc n HASHMAP_SLOT false >>= fun _ => pure a) (fun _ => True) E :=
  run_map (run_alloc (fun h => vec_le_Bnd hlen hw (hb h))) (fun _ _ => trivial)

theorem readThreadList_run {H : Prop} (ms : MemSizes) (b all : Bytes) (e : Endian)
    (hH : H → Sized ms all ∧ b.size ≤ all.size) :
    Run H (Bnd all) 3 (readThreadList ms b all e) (fun _ => True) True :=
  listStream_run (.inl rfl) (·.rawThread) (·.thread) hH fun _ hlen => hashMap_run _ hlen (by decide) (fun h => (hH h).2)

theorem readThreadInfoList_run {H : Prop} (ms : MemSizes) (b all : Bytes) (e : Endian)
    (hH : H → Sized ms all ∧ b.size ≤ all.size) :
    Run H (Bnd all) 3 (readThreadInfoList ms b e) (fun _ => True) True :=
  listStream_run (.inr rfl) (·.rawThreadInfo) (·.threadInfo) hH fun _ hlen => hashMap_run _ hlen (by decide) (fun h => (hH h).2)

theorem readObjectInfo_some {all : Bytes} {e : Endian} {rva : Nat} {oi : ObjInfo}
    (h : readObjectInfo all e rva = some oi) : rva ≠ 0 ∧ rva + 12 ≤ all.size := by
  unfold readObjectInfo at h
  split at h
  · cases h
  · rename_i hne
    split at h
    · cases h
    · rename_i v hv
      exact ⟨hne, size_objinfo ▸ readFields_some (by decide) hv⟩

theorem nodup_length_le (n : Nat) (l : List Nat) (hnd : l.Nodup) (hlt : ∀ x ∈ l, x < n) : l.length ≤ n := by
  simpa using hnd.length_le_of_subset (l₂ := List.range n) fun x hx => List.mem_range.mpr (hlt x hx)

/-- Invariant of the walk: the visited set is duplicate free and holds only offsets inside the
    file, so it cannot grow beyond `all.size` elements; with `fuel + |seen| > all.size` the fuel is
    never the reason the walk stops, and the chain it returns has at most `all.size` elements. -/
theorem walkChain_inv (all : Bytes) (e : Endian) (fuel rva : Nat) (seen : List Nat) (acc : List ObjInfo)
    (hnd : seen.Nodup) (hlt : ∀ r ∈ seen, r < all.size) (hfuel : all.size < fuel + seen.length)
    (hacc : acc.length ≤ seen.length) :
    ∃ infos, walkChain all e fuel rva seen acc = some infos ∧ infos.length ≤ all.size := by
  have hpig := nodup_length_le all.size seen hnd hlt
  fun_induction walkChain all e fuel rva seen acc with
  | case1 => omega
  | case2 | case3 | case4 => exact ⟨_, rfl, by simp; omega⟩
  | case5 _ rva seen acc _ hnc oi hoi ih =>
    have ⟨_, hr⟩ := readObjectInfo_some hoi
    have hnd' := List.nodup_cons.mpr ⟨fun hm => hnc (by simpa using hm), hnd⟩
    have hlt' : ∀ r ∈ rva :: seen, r < all.size := fun r hr' => by
      cases List.mem_cons.mp hr' with
      | inl h => subst h; omega
      | inr h => exact hlt r h
    exact ih hnd' hlt' (by simp; omega) (by simp; omega) (nodup_length_le _ _ hnd' hlt')

theorem handleString_run {E : Prop} (ms : MemSizes) (all : Bytes) (e : Endian) (off : Nat) :
    Run (Sized ms all) (Bnd all) 1 (handleString all e off) (fun _ => True) E := by
  unfold handleString
  split
  · exact run_pure trivial
  · exact run_map (utf16_run ms all _ e) (fun _ _ => trivial)

theorem readHandleDescriptor_run {E : Prop} (ms : MemSizes) (b all : Bytes) (e : Endian) (fieldsize off : Nat) :
    Run (Sized ms all) (Bnd all) 3 (readHandleDescriptor ms b all e fieldsize off) (fun _ => True) E := by
  unfold readHandleDescriptor
  split
  · split
    · exact run_pure trivial
    · exact (run_bind (handleString_run ms all e _) (fun _ _ =>
        run_map (handleString_run ms all e _) (fun _ _ => trivial))).mono (by omega)
  · split
    · split
      · exact run_pure trivial
      · rename_i v _
        refine run_bind (handleString_run ms all e _) (C := 2) (fun _ _ =>
          run_bind (handleString_run ms all e _) (C := 1) (fun _ _ => ?_))
        have ⟨infos, hw, hl⟩ := walkChain_inv all e (all.size + 1) (fld v 7) [] []
          List.nodup_nil (by intro r h; cases h) (by simp) (by simp)
        rw [hw]
        refine run_map (run_alloc (fun h => ?_)) (fun _ _ => trivial)
        -- the chain has at most `all.size` elements of at most 16 bytes, requested with slack 2
        have : infos.length * (2 * ms.objInfo) ≤ all.size * 32 := Nat.mul_le_mul hl (by have := h.1.objInfo; omega)
        unfold Bnd K; omega
    · exact run_pure trivial

theorem readHandles_run (ms : MemSizes) (b all : Bytes) (e : Endian) (fieldsize : Nat) :
    ∀ n off, Run (Sized ms all) (Bnd all) (3 * n) (readHandles ms b all e fieldsize n off) (fun _ => True) True := by
  intro n
  induction n with
  | zero => intro off; exact run_pure trivial
  | succ n ih =>
    intro off
    unfold readHandles
    split
    · exact run_fail _ trivial
    · refine (run_bind (readHandleDescriptor_run ms b all e fieldsize off) (C := 3 * n) (fun h _ => ?_)).mono (by omega)
      split
      · exact run_fail _ trivial
      · exact run_map (ih _) (fun _ _ => trivial)

theorem readHandleData_run {H : Prop} (ms : MemSizes) (b all : Bytes) (e : Endian)
    (hH : H → Sized ms all ∧ b.size ≤ all.size) :
    Run H (Bnd all) (1 + b.size / 8) (readHandleData ms b all e) (fun _ => True) True := by
  unfold readHandleData
  split
  · rename_i hdr desc count _ _ _
    split
    · exact run_fail _ trivial
    · rename_i x hc
      have ⟨hc1, hc2⟩ := ensureCountInBound_ok hc
      split
      · exact run_fail _ trivial
      · rename_i hcond
        rw [size_handle1, size_handle2] at hcond
        -- an empty table, or descriptors of one of the two known sizes
        have hd : count = 0 ∨ desc = 32 ∨ desc = 40 := by omega
        have hcd : count * 32 ≤ b.size := by
          rcases hd with h | h | h <;> subst h <;> omega
        refine (run_bind (run_alloc (fun h => ?_)) (fun _ _ =>
          (readHandles_run ms b all e desc _ _).under (fun h => (hH h).1))).mono (by omega)
        exact vec_le_Bnd hcd (hH h).1.1.handleDesc (hH h).2
  · exact run_fail _ trivial

theorem readException_run {H : Prop} {B N : Nat} (b all : Bytes) (e : Endian) :
    Run H B N (readException b all e) (fun x => x.info.length = 15) True := by
  unfold readException
  split
  · exact run_fail _ trivial
  · rename_i v hv
    have hl : v.length = 25 := readFields_length hv
    exact run_pure (by simp [hl])

theorem readDirectory_steps (b : Bytes) (e : Endian) :
    ∀ (todo i off : Nat) (acc : List (Nat × DirEntry)),
      (readDirectory b e todo i off acc).2 ≤ i + (b.size - off) / 12 + 1 := by
  intro todo
  induction todo with
  | zero => intro i off acc; simp [readDirectory]; omega
  | succ t ih =>
    intro i off acc
    unfold readDirectory
    split
    · simp <;> omega
    · rename_i v hv
      have := readFields_some (by decide) hv
      rw [size_directory] at this ⊢
      have := ih (i + 1) (off + 12) (mapInsert (fld v 0) ⟨i, ⟨fld v 1, fld v 2⟩⟩ acc)
      omega

theorem readDirectory_ok (b : Bytes) (e : Endian) :
    ∀ (todo i off : Nat) (acc m : List (Nat × DirEntry)) (steps : Nat),
      readDirectory b e todo i off acc = (.ok m, steps) → steps = i + todo ∧ (todo = 0 ∨ off + 12 * todo ≤ b.size) := by
  intro todo
  induction todo with
  | zero => intro i off acc m steps h; simp [readDirectory] at h; exact ⟨by omega, .inl rfl⟩
  | succ t ih =>
    intro i off acc m steps h
    unfold readDirectory at h
    split at h
    · cases h
    · rename_i v hv
      have hle := readFields_some (by decide) hv
      rw [size_directory] at hle h
      have ⟨h1, h2⟩ := ih _ _ _ _ _ h
      refine ⟨by omega, .inr ?_⟩
      cases h2 with
      | inl h0 => subst h0; omega
      | inr h' => omega

theorem getRawStream_size {d : Dump} {b s : Bytes} {ty : Nat} (h : getRawStream d b ty = .ok s) :
    s.size ≤ b.size := by
  unfold getRawStream at h
  split at h
  · cases h
  · split at h
    · cases h
    · rename_i s' hs
      cases h
      exact locationSlice_size hs

theorem getStream_run_at {α : Type} {H : Prop} {B N : Nat} {P : α → Prop} {E F : Prop} (d : Dump) (b : Bytes) (ty : Nat)
    (reader : Bytes → M α) (h : ∀ s, getRawStream d b ty = .ok s → RunF H B N (reader s) P True F) :
    RunF H B N (getStream d b ty reader) (fun r => ∀ a, r = .ok a → P a) E F := by
  unfold getStream
  split
  · exact run_pure (fun _ h => nomatch h)
  · rename_i s hs
    exact run_catch (h s hs)

/-- the everyday form: all the reader's lemma needs of the stream is that it is a slice of the file -/
theorem getStream_run {α : Type} {H : Prop} {B N : Nat} {P : α → Prop} {E F : Prop} (d : Dump) (b : Bytes) (ty : Nat)
    (reader : Bytes → M α) (h : ∀ s, s.size ≤ b.size → RunF H B N (reader s) P True F) :
    RunF H B N (getStream d b ty reader) (fun r => ∀ a, r = .ok a → P a) E F :=
  getStream_run_at d b ty reader fun s hs => h s (getRawStream_size hs)

theorem getStream_run8 {α : Type} {H : Prop} {B N : Nat} {P : α → Prop} {E F : Prop} (d : Dump) (b : Bytes) (ty : Nat)
    (reader : Bytes → M α) (h : ∀ s, s.size ≤ b.size → RunF H B (N + s.size / 8) (reader s) P True F) :
    RunF H B (N + b.size / 8) (getStream d b ty reader) (fun r => ∀ a, r = .ok a → P a) E F :=
  getStream_run d b ty reader fun s hs => (h s hs).mono (by omega)

/-- A stream whose reader's count has no bound of its own (the Crashpad stream: links x entries) enters a walk with
    the length of its log as the count; of a reader about which nothing more is known, the `.ok` handed on is what it
    returned on a slice of the file. -/
theorem getStream_runOwn {α : Type} {H : Prop} {B : Nat} {E : Prop} (d : Dump) (b : Bytes) (ty : Nat)
    (reader : Bytes → M α) (h : ∀ s, s.size ≤ b.size → H → Safe B (reader s)) :
    Run H B (getStream d b ty reader).allocs.length (getStream d b ty reader)
      (fun r => ∀ a, r = .ok a → ∃ s, s.size ≤ b.size ∧ (reader s).res = .ok a) E := by
  unfold getStream
  split
  · exact run_pure (fun _ h => nomatch h)
  · rename_i s hs
    have hsz := getRawStream_size hs
    have hr : Run H B (reader s).allocs.length (reader s) (fun a => (reader s).res = .ok a) True :=
      ⟨Nat.le_refl _, fun _ ha => ha, fun _ _ => trivial, fun site hp hH => (h s hsz hH).1 site hp, fun hH => (h s hsz hH).2⟩
    rw [M.catch_allocs]
    exact (run_catch hr).post (fun _ hr a ha => ⟨s, hsz, hr a ha⟩)

theorem total_getStream {α : Type} {T : Nat} (d : Dump) (b : Bytes) (ty : Nat) (reader : Bytes → M α)
    (h : ∀ s, s.size ≤ b.size → totalBytes (reader s).allocs ≤ T) : totalBytes (getStream d b ty reader).allocs ≤ T := by
  unfold getStream
  split
  · exact Nat.zero_le _
  · rename_i s hs
    rw [M.catch_allocs]
    exact h s (getRawStream_size hs)

/-- what the later stages need of the ten list / record streams -/
structure CoreOk (b : Bytes) (c : Core) : Prop where
  modules : ∀ ms, c.modules = .ok ms → (∀ m ∈ ms, ModuleOk b.size m) ∧ ms.length * 108 ≤ b.size
  memory : ∀ rs, c.memory = .ok rs → rs.length * 16 ≤ b.size
  memory64 : ∀ rs, c.memory64 = .ok rs → rs.length * 16 ≤ b.size
  memInfo : ∀ is, c.memInfo = .ok is → is.length * 48 ≤ b.size
  exception : ∀ x, c.exception = .ok x → x.info.length = 15

theorem readCore_run (ms : MemSizes) (b : Bytes) (d : Dump) :
    Run (Sized ms b) (Bnd b) (21 + 10 * (b.size / 8)) (readCore ms b d) (CoreOk b) False := by
  unfold readCore
  dsimp only
  -- a stream is a slice of the file (`hs`): what a reader says of its stream's length holds of the file's
  have hH {s : Bytes} (hs : s.size ≤ b.size) (h : Sized ms b) : Sized ms b ∧ s.size ≤ b.size := ⟨h, hs⟩
  refine RunF.mono (
    run_bind (getStream_run8 (N := 3) _ _ _ _ fun s hs => (readThreadList_run ms s b _ (hH hs)).mono (Nat.le_add_right _ _)) fun _ _ =>
    run_bind (getStream_run8 (N := 2) _ _ _ _ fun s hs =>
      (readModuleList_run ms s b _ (hH hs)).post (fun _ h => ⟨h.1, Nat.le_trans h.2 hs⟩)) fun _ hmod =>
    run_bind (getStream_run8 (N := 2) _ _ _ _ fun s hs => readUnloadedModuleList_run ms s b _ (hH hs)) fun _ _ =>
    run_bind (getStream_run8 (N := 2) _ _ _ _ fun s hs =>
      ((readMemoryList_run ms s b _ (hH hs)).post (fun _ h => Nat.le_trans h.1 hs)).mono (Nat.le_add_right _ _)) fun _ hmem =>
    run_bind (getStream_run8 (N := 2) _ _ _ _ fun s hs =>
      ((readMemory64List_run ms s b _ (hH hs)).post (fun _ h => Nat.le_trans h.1 hs)).mono (Nat.le_add_right _ _)) fun _ hmem64 =>
    run_bind (getStream_run8 (N := 2) _ _ _ _ fun s hs =>
      ((readMemoryInfoList_run ms s b _ (hH hs)).post (fun _ h => Nat.le_trans h hs)).mono (Nat.le_add_right _ _)) fun _ hmi =>
    run_bind (getStream_run8 (N := 1) _ _ _ _ fun s hs => readThreadNames_run ms s b _ (hH hs)) fun _ _ =>
    run_bind (getStream_run8 (N := 3) _ _ _ _ fun s hs => (readThreadInfoList_run ms s b _ (hH hs)).mono (Nat.le_add_right _ _)) fun _ _ =>
    run_bind (getStream_run8 (N := 1) _ _ _ _ fun s hs => readHandleData_run ms s b _ (hH hs)) fun _ _ =>
    run_bind (getStream_run8 (N := 0) _ _ _ _ fun s _ => readException_run s b _) fun _ hexc =>
    run_pure (N := 0) ⟨hmod, hmem, hmem64, hmi, hexc⟩) (by omega)

end MdModel.Dump
