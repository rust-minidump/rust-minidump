/-
  Lemmas about `MdModel.Json` shared by the C15 modules. Objects as sorted association lists: a
  literal `mkObj lits` is read member by member with `get_mkObj` and `lookupLast`. What the printers of
  `print_json` that branch return (`frameJson_ok`, `threadJson_ok`, `crashingCopy_eq_some`, `addCrashing_ok`,
  `printJson_ok`), which the C15 modules use instead of unfolding a printer, and what every returned report says
  (`offsets_of_report`, `req_of_report`). Digits (`digitsB_rec`: one recursion for value, character set, leading
  digit and length), hex strings, and `takeWhile_app` for the scanners that read them back. The parts of the
  redundancy predicate `Consistent` (C15 `consistent`), printer by printer — the predicate compares JSON values
  with the Boolean `Json.beq`, so that block begins with its reflexivity.
-/
import MdModel.Json
import MdProofs.Lemmas.Outcome
import MdProofs.Lemmas.Assoc
namespace MdModel.Json
open MdModel
open MdModel.Process (mapO mapO_length mapO_getElem? mapO_ok)

theorem getKV_insertKV (k k' : String) (v : Json) (m : List (String × Json)) :
    getKV k' (insertKV k v m) = if k' = k then some v else getKV k' m := by
  induction m with
  | nil => simp [insertKV, getKV]
  | cons h t ih => grind [insertKV, getKV]

def lookupLast (k : String) : List (String × Json) → Option Json
  | [] => none
  | (k', v) :: r =>
    match lookupLast k r with
    | some x => some x
    | none => if k = k' then some v else none

theorem lookupLast_eq (k : String) : ∀ kvs : List (String × Json), lookupLast k kvs = kvs.reverse.lookup k
  | [] => rfl
  | (k', v) :: r => by
    rw [lookupLast, lookupLast_eq k r, List.reverse_cons, List.lookup_append]
    cases r.reverse.lookup k with
    | some _ => rfl
    | none => by_cases h : k = k' <;> simp [List.lookup, h, beq_eq_false_iff_ne.mpr]

theorem getKV_lits (k : String) (lits : List (String × Json)) :
    getKV k (lits.foldl (fun m kv => insertKV kv.1 kv.2 m) []) = lookupLast k lits := by
  rw [List.get_foldl_set getKV insertKV fun k k' v m => getKV_insertKV k' k v m, lookupLast_eq]
  cases lits.reverse.lookup k <;> rfl

theorem get_mkObj (k : String) (kvs : List (String × Json)) :
    (mkObj kvs).get k = lookupLast k kvs :=
  getKV_lits k kvs

theorem lookupLast_append (k : String) (a b : List (String × Json)) :
    lookupLast k (a ++ b) = match lookupLast k b with
      | some x => some x
      | none => lookupLast k a := by
  rw [lookupLast_eq, lookupLast_eq, lookupLast_eq, List.reverse_append, List.lookup_append]
  cases List.lookup k b.reverse <;> rfl

theorem obind_ok {α β : Type} (x : Outcome α) (f : α → Outcome β) (b : β) :
    obind x f = .ok b ↔ ∃ a, x = .ok a ∧ f a = .ok b := by
  cases x <;> simp [obind]

theorem checkedSub_ok (site : String) (a b c : Nat) : checkedSub site a b = .ok c ↔ b ≤ a ∧ c = a - b := by
  unfold checkedSub
  split <;> simp <;> omega

theorem checkedAdd_ok (site : String) (a b c : Nat) :
    checkedAdd site a b = .ok c ↔ a + b ≤ U64MAX ∧ c = a + b := by
  unfold checkedAdd
  split <;> simp <;> omega

/-- `omapM` is `mapO` (`MdModel.ProcessCore`) written with `obind`: `Lemmas/Outcome` says when it returns -/
theorem omapM_eq_mapO {α β : Type} (f : α → Outcome β) (l : List α) : omapM f l = mapO f l := by
  induction l with
  | nil => rfl
  | cons x xs ih =>
    rw [omapM, mapO, ih]
    cases f x with
    | panic s => rfl
    | ok y => cases mapO f xs <;> rfl

theorem framesJson_eq_mapO (pw : PW) (fs : List FrameM) (i0 : Nat) :
    framesJson pw i0 fs = mapO (fun p : FrameM × Nat => frameJson pw p.2 p.1) (fs.zipIdx i0) := by
  rw [← omapM_eq_mapO]
  induction fs generalizing i0 with
  | nil => rfl
  | cons f fs ih => simp only [framesJson, List.zipIdx_cons, omapM, ih]

theorem framesJson_ok (pw : PW) (fs : List FrameM) (i0 : Nat) (js : List Json)
    (h : framesJson pw i0 fs = .ok js) :
    js.length = fs.length ∧
    ∀ (k : Nat) (f : FrameM), fs[k]? = some f → ∃ j, js[k]? = some j ∧ frameJson pw (i0 + k) f = .ok j := by
  rw [framesJson_eq_mapO] at h
  exact ⟨by simpa using mapO_length _ _ _ h, fun k f hf => mapO_getElem? h (x := (f, i0 + k)) (by simp [hf])⟩

theorem framesJson_total (pw : PW) (fs : List FrameM)
    (h : ∀ f ∈ fs, ∀ i, ∃ j, frameJson pw i f = .ok j) (i0 : Nat) : ∃ js, framesJson pw i0 fs = .ok js := by
  rw [framesJson_eq_mapO]
  exact mapO_ok _ _ fun p hp => h p.1 ((List.mem_zipIdx hp).2.2 ▸ List.getElem_mem _) p.2

/-- the members of `frameJson`'s literal; the two offsets are parameters -/
def frameLits (pw : PW) (idx : Nat) (f : FrameM) (mo fo : Json) : List (String × Json) := [
  ("frame", .nat idx),
  ("module", optJ (fun m : String × Nat => .str (basename m.1)) f.module),
  ("function", optStr f.functionName),
  ("file", optStr f.sourceFile),
  ("line", optNat f.sourceLine),
  ("offset", .str (hexAddr pw f.instruction)),
  ("inlines", if f.inlines.isEmpty then .null else .arr (f.inlines.map inlineJson)),
  ("module_offset", mo),
  ("unloaded_modules", if f.unloaded.isEmpty then .null else .arr (f.unloaded.map (unloadedRefJson pw))),
  ("function_offset", fo),
  ("missing_symbols", .bool f.functionName.isNone),
  ("trust", .str f.trust.name)]

def offsetJ (pw : PW) (instr : Nat) (base : Option Nat) : Json :=
  optJ (fun b => .str (hexAddr pw (instr - b))) base

theorem frameJson_ok (pw : PW) (i : Nat) (f : FrameM) (j : Json) :
    frameJson pw i f = .ok j ↔
      (∀ nm base, f.module = some (nm, base) → base ≤ f.instruction) ∧
      (∀ fb, f.functionBase = some fb → fb ≤ f.instruction) ∧
      j = mkObj (frameLits pw i f (offsetJ pw f.instruction (f.module.map (·.2)))
        (offsetJ pw f.instruction f.functionBase)) := by
  unfold frameJson frameLits offsetJ
  rcases f.module with _ | ⟨nm, base⟩ <;> rcases f.functionBase with _ | fb <;>
    simp [obind_ok, checkedSub_ok, optJ, and_assoc, eq_comm (a := j)]

theorem threadJson_ok (pw : PW) (t : ThreadM) (tj : Json) :
    threadJson pw t = .ok tj ↔ ∃ fs, framesJson pw 0 t.frames = .ok fs ∧
      tj = mkObj [("frame_count", .nat t.frames.length), ("last_error_value", optStr t.lastError),
        ("thread_name", optStr t.threadName), ("thread_id", .nat t.threadId), ("frames", .arr fs)] := by
  simp only [threadJson, obind_ok, Outcome.ok.injEq, eq_comm (a := tj)]

theorem crashingCopy_eq_some (tj regs : Json) (i : Nat) (c : Json) :
    crashingCopy tj regs i = some c ↔ ∃ kvs f0 rest, tj = .obj kvs ∧
      getKV "frames" kvs = some (.arr (.obj f0 :: rest)) ∧
      c = .obj (insertKV "threads_index" (.nat i)
        (insertKV "frames" (.arr (.obj (insertKV "registers" regs f0) :: rest)) kvs)) := by
  fun_cases crashingCopy tj regs i
  case case1 kvs f0 rest h =>
    constructor
    · rintro ⟨⟩; exact ⟨kvs, f0, rest, rfl, h, rfl⟩
    · rintro ⟨kvs', f0', rest', ⟨⟩, h', rfl⟩
      rw [h] at h'; cases h'; rfl
  case case2 kvs h =>
    simp only [reduceCtorEq, false_iff, not_exists, not_and]
    rintro kvs' f0 rest ⟨rfl⟩ h'
    exact (h f0 rest h').elim
  case case3 h =>
    simp only [reduceCtorEq, false_iff, not_exists, not_and]
    rintro kvs f0 rest rfl
    exact (h kvs rfl).elim

theorem addCrashing_ok (s : StateModel) (ts : List Json) (out : List (String × Json)) (j : Json)
    (h : addCrashing s ts out = .ok j) :
    ∃ extra, j = mkObj (out ++ extra) ∧
      ((extra = [] ∧ (s.requestingThread = none ∨
        ∃ i t, s.requestingThread = some i ∧ s.threads[i]? = some t ∧ t.frames = [])) ∨
      ∃ i t tj f0 rest c, s.requestingThread = some i ∧ s.threads[i]? = some t ∧ ts[i]? = some tj ∧
        t.frames = f0 :: rest ∧ crashingCopy tj (registersJson f0.ctx) i = some c ∧
        extra = [("crashing_thread", c)]) := by
  revert h
  fun_cases addCrashing s ts out <;> intro h
  case case1 hreq => cases h; exact ⟨[], by rw [List.append_nil], .inl ⟨rfl, .inl hreq⟩⟩
  case case2 i hreq t tj htj hti hfr =>
    cases h; exact ⟨[], by rw [List.append_nil], .inl ⟨rfl, .inr ⟨i, t, hreq, hti, hfr⟩⟩⟩
  case case3 i hreq t tj htj hti f0 rest hfr c hc =>
    cases h; exact ⟨_, rfl, .inr ⟨i, t, tj, f0, rest, c, hreq, hti, htj, hfr, hc, rfl⟩⟩
  case case4 | case5 => cases h

theorem printJson_ok (s : StateModel) (j : Json) (h : printJson s = .ok j) :
    ∃ ms ts us,
      mapO (moduleJson s.sys.cpu.pw s.certInfo s.symbolStats) s.modules = .ok ms ∧
      mapO (threadJson s.sys.cpu.pw) s.threads = .ok ts ∧
      mapO (unloadedJson s.sys.cpu.pw s.certInfo) s.unloaded = .ok us ∧
      addCrashing s ts (baseFields s.sys.cpu.pw s ms ts us) = .ok j := by
  simp only [printJson, obind_ok, omapM_eq_mapO] at h
  obtain ⟨ms, hms, ts, hts, us, hus, h⟩ := h
  exact ⟨ms, ts, us, hms, hts, hus, h⟩

theorem addCrashing_get (s : StateModel) (ts : List Json) (out : List (String × Json)) (j : Json)
    (h : addCrashing s ts out = .ok j) (k : String) (hk : k ≠ "crashing_thread") :
    j.get k = lookupLast k out := by
  obtain ⟨extra, rfl, hex⟩ := addCrashing_ok s ts out j h
  rw [get_mkObj, lookupLast_append]
  rcases hex with ⟨rfl, _⟩ | ⟨_, _, _, _, _, _, _, _, _, _, _, rfl⟩ <;> simp [lookupLast, hk]

theorem report_threads (s : StateModel) (ms ts us : List Json) (j : Json)
    (h : addCrashing s ts (baseFields s.sys.cpu.pw s ms ts us) = .ok j) :
    j.get "threads" = some (.arr ts) := by
  rw [addCrashing_get s ts _ j h "threads" (by decide)]
  simp [baseFields, lookupLast]

theorem threadJson_shape (pw : PW) (t : ThreadM) (tj : Json) (h : threadJson pw t = .ok tj) :
    ∃ fs, framesJson pw 0 t.frames = .ok fs ∧
      tj.get "frame_count" = some (.nat t.frames.length) ∧
      tj.get "frames" = some (.arr fs) := by
  obtain ⟨fs, hfs, rfl⟩ := (threadJson_ok pw t tj).mp h
  exact ⟨fs, hfs, by simp [get_mkObj, lookupLast], by simp [get_mkObj, lookupLast]⟩

theorem frameJson_offsets (pw : PW) (i : Nat) (f : FrameM) (j : Json) (h : frameJson pw i f = .ok j) :
    j.get "offset" = some (.str (hexAddr pw f.instruction)) ∧
    j.get "module_offset" = some (offsetJ pw f.instruction (f.module.map (·.2))) ∧
    j.get "function_offset" = some (offsetJ pw f.instruction f.functionBase) := by
  obtain ⟨_, _, rfl⟩ := (frameJson_ok pw i f j).mp h
  simp [get_mkObj, frameLits, lookupLast]

/-- what every report says about its frames' addresses, read off the value `print_json` returned: `base ≤
    instruction` is part of it, since the unchecked subtraction would have panicked otherwise -/
theorem offsets_of_report (s : StateModel) (j : Json) (h : printJson s = .ok j) :
    ∃ ts, j.get "threads" = some (.arr ts) ∧
      ∀ (i : Nat) (t : ThreadM), s.threads[i]? = some t →
        ∃ tj fs, ts[i]? = some tj ∧ tj.get "frames" = some (.arr fs) ∧
          ∀ (k : Nat) (f : FrameM), t.frames[k]? = some f →
            ∃ fj, fs[k]? = some fj ∧
              fj.get "offset" = some (.str (hexAddr s.sys.cpu.pw f.instruction)) ∧
              (∀ nm base, f.module = some (nm, base) → base ≤ f.instruction ∧
                fj.get "module_offset" = some (.str (hexAddr s.sys.cpu.pw (f.instruction - base)))) ∧
              (f.module = none → fj.get "module_offset" = some .null) ∧
              (∀ fb, f.functionBase = some fb → fb ≤ f.instruction ∧
                fj.get "function_offset" = some (.str (hexAddr s.sys.cpu.pw (f.instruction - fb)))) ∧
              (f.functionBase = none → fj.get "function_offset" = some .null) := by
  obtain ⟨ms, ts, us, _, hts, _, hadd⟩ := printJson_ok s j h
  refine ⟨ts, report_threads s ms ts us j hadd, fun i t hti => ?_⟩
  obtain ⟨tj, htj, htok⟩ := mapO_getElem? hts hti
  obtain ⟨fs, hfs, _, hframes⟩ := threadJson_shape _ t tj htok
  refine ⟨tj, fs, htj, hframes, fun k f hk => ?_⟩
  obtain ⟨fj, hfj, hok⟩ := (framesJson_ok _ _ _ _ hfs).2 k f hk
  obtain ⟨hm, hf, _⟩ := (frameJson_ok _ _ f fj).mp hok
  obtain ⟨ho, hmo, hfo⟩ := frameJson_offsets _ _ f fj hok
  exact ⟨fj, hfj, ho, fun nm base hmod => ⟨hm nm base hmod, by rw [hmo, hmod]; rfl⟩, fun hmod => by rw [hmo, hmod]; rfl,
    fun fb hfb => ⟨hf fb hfb, by rw [hfo, hfb]; rfl⟩, fun hfb => by rw [hfo, hfb]; rfl⟩

/-- `self.threads[requesting_thread]` did not panic -/
theorem req_of_report (s : StateModel) (j : Json) (h : printJson s = .ok j) :
    ∀ i, s.requestingThread = some i → i < s.threads.length := by
  obtain ⟨ms, ts, us, _, _, _, hadd⟩ := printJson_ok s j h
  obtain ⟨_, _, hex⟩ := addCrashing_ok s ts _ j hadd
  intro i hi
  have : ∃ t, s.threads[i]? = some t := by
    rcases hex with ⟨_, hn | ⟨i', t, hr, ht, _⟩⟩ | ⟨i', t, _, _, _, _, hr, ht, _⟩
    · rw [hn] at hi; cases hi
    · rw [hr] at hi; cases hi; exact ⟨t, ht⟩
    · rw [hr] at hi; cases hi; exact ⟨t, ht⟩
  obtain ⟨t, ht⟩ := this
  exact (List.getElem?_eq_some_iff.mp ht).1

theorem digitChar_dec : ∀ d, d < 10 → isDigit (digitChar d) = true ∧ decVal (digitChar d) = d := by
  decide
theorem digitChar_hex : ∀ d, d < 16 →
    isHexLower (digitChar d) = true ∧ hexVal (digitChar d) = d ∧ (digitChar d = '0' → d = 0) := by
  decide

theorem valB_snoc (b : Nat) (dv : Char → Nat) (ds : List Char) (c : Char) :
    valB b dv (ds ++ [c]) = valB b dv ds * b + dv c := by
  simp [valB, List.foldl_append]

theorem digitsB_eq (b n : Nat) :
    digitsB b n = if n < b ∨ b < 2 then [digitChar n] else digitsB b (n / b) ++ [digitChar (n % b)] := by
  rw [digitsB]
  split <;> rfl

theorem digitsB_rec {b : Nat} (hb : 2 ≤ b) {P : Nat → List Char → Prop}
    (one : ∀ n, n < b → P n [digitChar n])
    (more : ∀ n, b ≤ n → P (n / b) (digitsB b (n / b)) → P n (digitsB b (n / b) ++ [digitChar (n % b)])) :
    ∀ n, P n (digitsB b n) := by
  intro n
  induction n using Nat.strongRecOn with
  | _ n ih =>
    rw [digitsB_eq]
    split
    · exact one n (by omega)
    · exact more n (by omega) (ih _ (Nat.div_lt_self (by omega) (by omega)))

theorem valB_digitsB (b : Nat) (dv : Char → Nat) (hb : 2 ≤ b) (hdv : ∀ d, d < b → dv (digitChar d) = d) :
    ∀ n, valB b dv (digitsB b n) = n :=
  digitsB_rec hb (P := fun n ds => valB b dv ds = n) (fun n h => by simp [valB, hdv n h])
    fun n _ ih => by
      rw [valB_snoc, ih, hdv _ (Nat.mod_lt _ (by omega))]
      exact Nat.div_add_mod' n b

theorem digitsB_all (b : Nat) (P : Char → Bool) (hb : 2 ≤ b) (hP : ∀ d, d < b → P (digitChar d) = true) :
    ∀ n, (digitsB b n).all P = true :=
  digitsB_rec hb (P := fun _ ds => ds.all P = true) (fun n h => by simp [hP n h])
    fun n _ ih => by
      simp only [List.all_append, ih, List.all_cons, hP _ (Nat.mod_lt _ (by omega)), List.all_nil,
        Bool.and_self]

theorem digitsB_head (b : Nat) (hb : 2 ≤ b) :
    ∀ n, ∃ d r, digitsB b n = digitChar d :: r ∧ d < b ∧ (d = 0 → n = 0 ∧ r = []) :=
  digitsB_rec hb (P := fun n ds => ∃ d r, ds = digitChar d :: r ∧ d < b ∧ (d = 0 → n = 0 ∧ r = []))
    (fun n h => ⟨n, [], rfl, h, fun h0 => ⟨h0, rfl⟩⟩)
    fun n hn ⟨d, r, hd, hdb, h0⟩ => ⟨d, r ++ [digitChar (n % b)], by rw [hd]; rfl, hdb, fun hd0 => by
      have := (h0 hd0).1
      have : 0 < n / b := Nat.div_pos hn (by omega)
      omega⟩

theorem digitsB_length_le (b : Nat) (hb : 2 ≤ b) :
    ∀ n w, 1 ≤ w → n < b ^ w → (digitsB b n).length ≤ w :=
  digitsB_rec hb (P := fun n ds => ∀ w, 1 ≤ w → n < b ^ w → ds.length ≤ w)
    (fun _ _ w hw _ => by simpa using hw)
    fun n hn ih w hw hlt => by
      -- `w ≥ 2`, since `b ≤ n < b ^ w`; the leading digits fit in `w - 1`
      obtain ⟨w, rfl⟩ : ∃ w', w = w' + 1 := ⟨w - 1, by omega⟩
      have hw1 : 1 ≤ w := by
        cases w with
        | zero => simp at hlt; omega
        | succ w => omega
      have := ih w hw1 (by rw [Nat.div_lt_iff_lt_mul (by omega)]; rwa [Nat.pow_succ] at hlt)
      simp only [List.length_append, List.length_cons, List.length_nil]
      omega

theorem digitsB_ne_nil (b n : Nat) : digitsB b n ≠ [] := by
  rw [digitsB_eq]
  split <;> simp

theorem valB_zeros (b : Nat) (dv : Char → Nat) (h0 : dv '0' = 0) (k : Nat) (ds : List Char) :
    valB b dv (List.replicate k '0' ++ ds) = valB b dv ds := by
  induction k with
  | zero => simp
  | succ k ih =>
    simp only [List.replicate_succ, List.cons_append]
    simp only [valB, List.foldl_cons, Nat.zero_mul, h0, Nat.add_zero] at ih ⊢
    exact ih

theorem natDigits_all (n : Nat) : (natDigits n).all isDigit = true :=
  digitsB_all 10 isDigit (by decide) (fun d hd => (digitChar_dec d hd).1) n

theorem decValue_natDigits (n : Nat) : decValue (natDigits n) = n :=
  valB_digitsB 10 decVal (by decide) (fun d hd => (digitChar_dec d hd).2) n

theorem hexDigits_hex (v : Nat) : (hexDigits v).all isHexLower = true :=
  digitsB_all 16 isHexLower (by decide) (fun d hd => (digitChar_hex d hd).1) v

theorem hexValue_hexDigits (v : Nat) : hexValue (hexDigits v) = v :=
  valB_digitsB 16 hexVal (by decide) (fun d hd => (digitChar_hex d hd).2.1) v

theorem hexPad_toList (w v : Nat) : (hexPad w v).toList = '0' :: 'x' :: padLeft w (hexDigits v) := by
  simp [hexPad]

theorem padLeft_hexDigits (w v : Nat) :
    padLeft w (hexDigits v) ≠ [] ∧ (padLeft w (hexDigits v)).all isHexLower = true ∧
    (padLeft w (hexDigits v)).length = max w (hexDigits v).length ∧
    hexValue (padLeft w (hexDigits v)) = v := by
  have hne : hexDigits v ≠ [] := digitsB_ne_nil 16 v
  refine ⟨by simp [padLeft, hne], ?_, by simp only [padLeft, List.length_append, List.length_replicate]; omega, ?_⟩
  · simp only [padLeft, List.all_append, hexDigits_hex, Bool.and_true]
    simp [isHexLower, isDigit]
  · unfold padLeft hexValue
    rw [valB_zeros 16 hexVal (by decide)]
    exact hexValue_hexDigits v

theorem hexPad_width (w v : Nat) (hw : 1 ≤ w) :
    ∃ ds, (hexPad w v).toList = '0' :: 'x' :: ds ∧ ds.all isHexLower = true ∧
      w ≤ ds.length ∧ (v < 16 ^ w → ds.length = w) := by
  obtain ⟨_, hall, hlen, _⟩ := padLeft_hexDigits w v
  refine ⟨_, hexPad_toList _ _, hall, by omega, fun hv => ?_⟩
  have : (hexDigits v).length ≤ w := digitsB_length_le 16 (by decide) v w hw hv
  omega

def StartsNot (p : Char → Bool) (l : List Char) : Prop := ∀ c r, l = c :: r → p c = false

theorem takeWhile_app (p : Char → Bool) (xs tail : List Char) (hall : xs.all p = true)
    (ht : StartsNot p tail) :
    (xs ++ tail).takeWhile p = xs ∧ (xs ++ tail).dropWhile p = tail := by
  have h := List.all_eq_true.mp hall
  rw [List.takeWhile_append_of_pos h, List.dropWhile_append_of_pos h]
  cases tail with
  | nil => simp
  | cons c r => simp [ht c r rfl]

mutual
theorem Json.beq_refl : ∀ j : Json, Json.beq j j = true
  | .null => rfl
  | .bool b => by simp [Json.beq]
  | .num n => by simp [Json.beq]
  | .str s => by simp [Json.beq]
  | .arr xs => by simp only [Json.beq]; exact Json.beqL_refl xs
  | .obj kvs => by simp only [Json.beq]; exact Json.beqF_refl kvs
theorem Json.beqL_refl : ∀ xs : List Json, Json.beqL xs xs = true
  | [] => rfl
  | x :: xs => by simp only [Json.beqL, Json.beq_refl x, Json.beqL_refl xs, Bool.and_self]
theorem Json.beqF_refl : ∀ kvs : List (String × Json), Json.beqF kvs kvs = true
  | [] => rfl
  | (k, x) :: kvs => by simp [Json.beqF, Json.beq_refl x, Json.beqF_refl kvs]
end

theorem optBeq_refl (o : Option Json) : optBeq o o = true := by
  cases o with
  | none => rfl
  | some j => exact Json.beq_refl j

@[simp] theorem isNatJ_nat (n : Nat) : isNatJ (some (.nat n)) n = true := by
  simp [isNatJ]

theorem sameExcept_of_get (skip : List String) (a b : List (String × Json))
    (h : ∀ k, skip.contains k = false → getKV k a = getKV k b) : sameExcept skip a b = true := by
  simp only [sameExcept, List.all_eq_true]
  intro k _
  cases hk : skip.contains k with
  | true => rfl
  | false => simp [h k hk, optBeq_refl]

theorem isAbsent_optStr (o : Option String) : isAbsent (some (optStr o)) = o.isNone := by
  cases o <;> rfl

theorem frameJson_consistent (pw : PW) (i : Nat) (f : FrameM) (j : Json) (h : frameJson pw i f = .ok j) :
    isNatJ (j.get "frame") i = true ∧
    optBeq (j.get "missing_symbols") (some (.bool (isAbsent (j.get "function")))) = true := by
  obtain ⟨_, _, rfl⟩ := (frameJson_ok pw i f j).mp h
  simp [get_mkObj, frameLits, lookupLast, isAbsent_optStr, optBeq_refl]

theorem framesJson_consistent (pw : PW) (fs : List FrameM) (i : Nat) (js : List Json)
    (h : framesJson pw i fs = .ok js) : framesConsistent js i = true := by
  induction fs generalizing i js with
  | nil => cases h; rfl
  | cons f fs ih =>
    simp only [framesJson, obind_ok, Outcome.ok.injEq] at h
    obtain ⟨j, hj, js', hjs, rfl⟩ := h
    obtain ⟨h1, h2⟩ := frameJson_consistent pw i f j hj
    simp only [framesConsistent, h1, h2, ih (i + 1) js' hjs, Bool.and_self]

theorem threadJson_consistent (pw : PW) (t : ThreadM) (tj : Json) (h : threadJson pw t = .ok tj) :
    threadConsistent tj = true := by
  obtain ⟨fs, hfs, rfl⟩ := (threadJson_ok pw t tj).mp h
  simp [threadConsistent, get_mkObj, lookupLast, framesJson_consistent pw t.frames 0 fs hfs,
    (framesJson_ok pw t.frames 0 fs hfs).1]

theorem copyOf_crashingCopy (kvs fj0 : List (String × Json)) (fjs : List Json) (regs : Json) (i : Nat)
    (hfr : getKV "frames" kvs = some (.arr (.obj fj0 :: fjs))) :
    copyOf (.obj (insertKV "threads_index" (.nat i)
      (insertKV "frames" (.arr (.obj (insertKV "registers" regs fj0) :: fjs)) kvs))) (.obj kvs) = true := by
  have h1 : ∀ m, sameExcept ["threads_index", "frames"]
      (insertKV "threads_index" (.nat i) (insertKV "frames" m kvs)) kvs = true := fun m =>
    sameExcept_of_get _ _ _ fun k hk => by
      have a : k ≠ "threads_index" := by rintro rfl; simp at hk
      have b : k ≠ "frames" := by rintro rfl; simp at hk
      simp [getKV_insertKV, a, b]
  have h2 : sameExcept ["registers"] (insertKV "registers" regs fj0) fj0 = true :=
    sameExcept_of_get _ _ _ fun k hk => by
      have a : k ≠ "registers" := by rintro rfl; simp at hk
      simp [getKV_insertKV, a]
  simp [copyOf, h1, h2, hfr, getKV_insertKV, Json.beqL_refl]

end MdModel.Json
