/-
  C04, chains along `PreW` (x86 through `WinView`, the other context kinds through `MView` of
  WalkMixedView): the chain theorem and what its x86 instance needs.

  * `walkLoop_chain_rel` — the chain induction `walkLoop_follows` (Lemmas/Walk) in relational form: the
    precondition is the recursive Boolean `preChain`, and a step lemma only has to exhibit SOME frame that
    satisfies the per-frame assertion `Good` and re-establishes the invariant `View` (which also sees the
    frame below, the grand callee: STACK WIN evaluation depends on whether there is one and on its
    parameter size) — no closed form of the frame is needed.
  * `linkMixed_cases`, `endMixed_spec` — what one frame and what the end of a `PreW` chain can be; both
    dispatchers split on the first. `step_endMixed` — at that end no technique finds a caller, for every
    context kind at once: the step needs only the register view `RView`, which `WinView` and `MView` both give.
  * what the x86 instance needs besides the step lemmas: the invariant `WinView` along `nextState`,
    the context frame, the generated end of the stack (the dispatcher is `step_x86_mixed`, WalkMixedX86).
-/
import MdProofs.Lemmas.WalkWinChainStep
namespace MdModel.Walk
open MdModel MdModel.Win

/-- the shape of every chain precondition: inside the stack memory and linked, frame by frame;
    at the end outside the stack memory or at the generated end -/
def preChain {σ : Type} (inR : σ → Bool) (link : σ → Exp → Bool) (endp : σ → Bool) (next : σ → Exp → σ) :
    σ → List Exp → Bool
  | st, [] => !inR st || endp st
  | st, e :: rest => inR st && link st e && preChain inR link endp next (next st e) rest

inductive All2 {α β : Type} (R : α → β → Prop) : List α → List β → Prop where
  | nil : All2 R [] []
  | cons {a b l m} : R a b → All2 R l m → All2 R (a :: l) (b :: m)

theorem All2.length_eq {α β : Type} {R : α → β → Prop} {l : List α} {m : List β} (h : All2 R l m) :
    l.length = m.length := by
  induction h with
  | nil => rfl
  | cons _ _ ih => simp [ih]

theorem All2.get {α β : Type} {R : α → β → Prop} {l : List α} {m : List β} (h : All2 R l m) :
    ∀ (i : Nat) (hi : i < m.length), R (l[i]'(by rw [h.length_eq]; exact hi)) m[i] := by
  induction h with
  | nil => intro i hi; cases hi
  | cons hr _ ih =>
    intro i hi
    cases i with
    | zero => exact hr
    | succ i => exact ih i (by simpa using hi)

theorem All2.imp {α β : Type} {R S : α → β → Prop} {l : List α} {m : List β} (h : All2 R l m)
    (hrs : ∀ a b, b ∈ m → R a b → S a b) : All2 S l m := by
  induction h with
  | nil => exact .nil
  | cons hr _ ih =>
    exact .cons (hrs _ _ List.mem_cons_self hr) (ih fun a b hb => hrs a b (List.mem_cons_of_mem _ hb))

theorem All2.map_eq {α β γ : Type} {R : α → β → Prop} {l : List α} {m : List β} (h : All2 R l m)
    {f : α → γ} {g : β → γ} (hfg : ∀ a b, b ∈ m → R a b → f a = g b) : l.map f = m.map g := by
  induction h with
  | nil => rfl
  | cons hr _ ih =>
    rw [List.map_cons, List.map_cons, hfg _ _ List.mem_cons_self hr,
      ih fun a b hb => hfg a b (List.mem_cons_of_mem _ hb)]

theorem walkLoop_chain_rel {σ : Type} {env : Env} {mem : Mem}
    (View : Frame → Option Frame → σ → Prop) (link : σ → Exp → Bool) (endp : σ → Bool) (spOf : σ → Nat)
    (next : σ → Exp → σ) (Good : Exp → Frame → Prop)
    (hsp : ∀ f g st, View f g st → f.ctx.sp = spOf st)
    (hstep : ∀ f g st e, View f g st → link st e = true →
      ∃ f', step env mem (symbolise env f) g = some f' ∧ View f' (some (symbolise env f)) (next st e) ∧ Good e f')
    (hend : ∀ f g st, View f g st → endp st = true → step env mem (symbolise env f) g = none) :
    ∀ (chain : List Exp) (n : Nat) (f : Frame) (g : Option Frame) (st : σ),
      View f g st → preChain (fun st => mem.inRange (spOf st)) link endp next st chain = true →
      need mem f ≤ n →
      ∃ frames, walkLoop env mem n f g = symbolise env f :: frames ∧
        All2 (fun fr e => ∃ f', fr = symbolise env f' ∧ Good e f') frames chain :=
  walkLoop_follows View link endp spOf next (fun st c => preChain _ link endp next st c = true)
    (fun _ c fs => All2 (fun fr e => ∃ f', fr = symbolise env f' ∧ Good e f') fs c)
    (fun _ h => h) (fun _ _ _ => Bool.and_eq_true_iff.mp) (fun _ => .nil) hsp
    (fun f g st e hv hl =>
      let ⟨f', hst, hv', hg⟩ := hstep f g st e hv hl
      ⟨f', hst, hv', fun _ _ => .cons ⟨f', rfl, hg⟩⟩)
    hend

theorem linkMixed_cases {w : World} {wins : List (List Win.Rec)} {env : Env} {a : Arch} {os : Os} {mem : Mem}
    {st : MState} {e : Exp} (h : linkMixed w wins env a os mem st e = true) :
    4096 ≤ e.ret ∧ e.sp ≤ a.regMax ∧ e.ret ≤ a.regMax ∧
    (st.sp < e.sp ∨ (st.first = true ∧ a.leafOk = true ∧ st.sp = e.sp)) ∧
    ((e.tech = "win" ∧ a = .x86 ∧ linkWinM w wins mem st e = true) ∨
     (e.tech = "cfi" ∧ (winAt w wins st.instr).1.isNone = true ∧ (winAt w wins st.instr).2.isNone = true ∧
        linkCfiM w a env.mask mem st e = true) ∨
     (e.tech = "fp" ∧ noRecordAt w wins st.instr = true ∧ hasFpTech a os = true ∧ e.regs.isEmpty = true ∧
        ∃ f0, st.fp = some f0 ∧ linkFp a os env.mask mem st.sp f0 e = true) ∨
     (e.tech = "scan" ∧ noRecordAt w wins st.instr = true ∧ fpDead a os mem st.fp = true ∧
        linkScanM env a mem st e = true)) := by
  simp only [linkMixed, Bool.and_eq_true, decide_eq_true_eq, Bool.or_eq_true] at h
  obtain ⟨⟨⟨⟨hret, hspm⟩, hretm⟩, hsp⟩, h⟩ := h
  refine ⟨hret, hspm, hretm, hsp.imp_right fun h => ⟨h.1.1, h.1.2, h.2⟩, ?_⟩
  split at h
  · rename_i ht
    simp only [Bool.and_eq_true, beq_iff_eq] at h
    exact .inl ⟨ht, h.1, h.2⟩
  · split at h
    · rename_i ht
      simp only [Bool.and_eq_true] at h
      exact .inr (.inl ⟨ht, h.1.1, h.1.2, h.2⟩)
    · split at h
      · rename_i ht
        simp only [Bool.and_eq_true] at h
        obtain ⟨⟨⟨hn, htech⟩, hregs⟩, h⟩ := h
        cases hfp : st.fp with
        | none => simp [hfp] at h
        | some f0 => exact .inr (.inr (.inl ⟨ht, hn, htech, hregs, f0, rfl, by simpa [hfp] using h⟩))
      · split at h
        · rename_i ht
          simp only [Bool.and_eq_true] at h
          exact .inr (.inr (.inr ⟨ht, h.1.1, h.1.2, h.2⟩))
        · cases h

/-- the frame pointer at the generated end of a `PreW` chain, where no technique finds a caller: dead (no
    frame-pointer caller, the scanner reads zeros), iOS-ARM's zero frame pointer, or pointing at the record
    `(0, 0)` (Windows x86-64: probed 16 bytes at a time) -/
def EndAlt (a : Arch) (os : Os) (mem : Mem) (st : MState) : Prop :=
  fpDead a os mem st.fp = true ∨ (a = .arm ∧ os = .ios ∧ st.fp = some 0) ∨
  ∃ f0, st.fp = some f0 ∧ st.sp ≤ f0 ∧ mem.read f0 a.ptr = some 0 ∧ mem.read (f0 + a.ptr) a.ptr = some 0 ∧
    f0 + 2 * a.ptr < a.regMax ∧ (a = .amd64 → os = .windows → (f0 - st.sp) % 8 = 0)

theorem endMixed_spec {w : World} {wins : List (List Win.Rec)} {a : Arch} {os : Os} {mem : Mem} {st : MState}
    (h : endMixed w wins a os mem st = true) :
    noRecordAt w wins st.instr = true ∧ 16 < mem.base ∧ zerosFrom mem a.ptr st.sp = true ∧ EndAlt a os mem st := by
  simp only [endMixed, Bool.and_eq_true, decide_eq_true_eq, Bool.or_eq_true, beq_iff_eq] at h
  obtain ⟨⟨⟨hn, hb⟩, hz⟩, he⟩ := h
  refine ⟨hn, hb, hz, ?_⟩
  rcases he with (he | he) | he
  · exact Or.inl he
  · exact Or.inr (Or.inl ⟨he.1.1, he.1.2, he.2⟩)
  · cases hfp : st.fp with
    | none => simp [hfp] at he
    | some f0 =>
      simp only [hfp, Bool.and_eq_true, decide_eq_true_eq, beq_iff_eq, Bool.or_eq_true, Bool.not_eq_true',
        Bool.and_eq_false_imp] at he
      obtain ⟨⟨⟨⟨h1, h2⟩, h3⟩, h4⟩, h5⟩ := he
      refine Or.inr (Or.inr ⟨f0, hfp, h1, h2, h3, h4, ?_⟩)
      intro ha ho
      rcases h5 with h5 | h5
      · have := h5 ha
        rw [ho] at this
        simp at this
      · exact h5

/-- **one `get_caller_frame` at the generated end of a `PreW` chain finds no caller**, every context kind, in
    each alternative of `EndAlt` -/
theorem step_endMixed {env : Env} {a : Arch} {mem : Mem} {f : Frame} {g : Option Frame} {st : MState}
    (harch : env.arch = a) (hcfi : env.cfi f g = none) (hok0 : a = .arm → env.instrOk 0 = false)
    (hv : RView a f st.sp st.fp st.first)
    (hbase : 16 < mem.base) (hz : zerosFrom mem a.ptr st.sp = true) (hend : EndAlt a env.os mem st) :
    step env mem f g = none := by
  have hdeadcase : fpDead a env.os mem st.fp = true → step env mem f g = none := fun hd =>
    step_scan_end_any harch hcfi hok0 hv (deadFp_of_fpDead hd) hz
  rcases hend with hd | ⟨rfl, hios, hfp⟩ | ⟨f0, hfp, hle, hr1, hr2, hlt, hal⟩
  · exact hdeadcase hd
  · -- a caller with ip 0, which the epilogue rejects
    obtain ⟨hget11, hget13⟩ := hv.get_arm hfp
    have hby : byFp env .arm mem f.ctx = _ := hios ▸ fpArm_zero hget11 hget13
    rw [step_of_byFp (by rw [harch]; exact hv.eff) hcfi hby]
    exact epilogue_null (Nat.zero_lt_succ _)
  · -- the record counts where the technique exists (elsewhere the frame pointer is dead)
    cases ht : hasFpTech a env.os with
    | false => exact hdeadcase (by simp only [fpDead, ht, Bool.not_false, Bool.true_or])
    | true =>
      have hview := hfp ▸ hv
      have hlt' : f0 < a.regMax - 2 * a.ptr := by omega
      have hfp : a.hasFp = true := by cases a <;> first | rfl | cases ht
      have hend : endFp a env.os mem st.sp f0 = true := by
        cases a <;> simp only [endFp, Bool.and_eq_true, decide_eq_true_eq, beq_iff_eq]
        case arm => exact ⟨⟨hbase, hz⟩, ⟨⟨by simpa [hasFpTech] using ht, hr1⟩, hr2⟩, hlt'⟩
        case mips32 | mips64 => cases hfp
        all_goals exact ⟨⟨hbase, hz⟩, ⟨hr1, hr2⟩, hlt'⟩
      by_cases hwin : a = .amd64 ∧ env.os = .windows
      · obtain ⟨rfl, hos⟩ := hwin
        refine step_end_amd64_aligned harch hcfi hview ?_
        simp only [endFpWin, Bool.and_eq_true, decide_eq_true_eq]
        exact ⟨⟨hend, hle⟩, hal rfl hos⟩
      · exact step_end_any hfp harch (fun ha ho => hwin ⟨ha, ho⟩) hcfi hview hend

/-! `techOK`, `x86Trust`: the restriction on the chain and the label of a frame in the statements of
    MdProofs/C04Win.lean (`walk_layout_mixed_x86_partial`). -/

/-- without `cfi`: x86 frames through canonical STACK CFI records are `step_x86_cfi` (WalkMixedX86) -/
def techOK (e : Exp) : Bool := e.tech == "win" || e.tech == "fp" || e.tech == "scan"

/-- the label `walk_stack` gives a frame of technique `e.tech` (`win` ↦ `cfi`, as the code labels
    frames found through STACK WIN records) -/
def x86Trust (e : Exp) : Trust := if e.tech = "win" then .cfi else if e.tech = "fp" then .fp else .scan

theorem symbOfW_none (w : World) (mtbl : List RangeMap.Entry) (ftbls : List (List RangeMap.Entry))
    (wts : List WinTables) (i : Nat) (h : (symbOfW w mtbl ftbls wts i).1 = none) :
    (symbOfW w mtbl ftbls wts i).2 = none := by
  unfold symbOfW at h ⊢
  cases hm : moduleAt mtbl i with
  | none => rfl
  | some j =>
    simp only [hm] at h
    split at h <;> cases h

theorem mkEnvW_symb_none (os : Os) (w : World) (wins : List (List Win.Rec)) (mem : Mem) (i : Nat)
    (h : ((mkEnvW .x86 os w wins mem).symb i).1 = none) : ((mkEnvW .x86 os w wins mem).symb i).2 = none :=
  symbOfW_none _ _ _ _ i h

theorem WinView.next {env : Env} (hsymb : ∀ i, (env.symb i).1 = none → (env.symb i).2 = none)
    {f : Frame} {g : Option Frame} {st : MState} (hv : WinView f g st) {t : Trust} {e : Exp} {f' : Frame}
    (hg : FrameIs t e f') (ht : t ≠ .context) :
    WinView f' (some (symbolise env f)) (nextState env .x86 st e) := by
  refine ⟨hg.instr, hg.ip, hg.sp, hg.vip, hg.vsp, hg.fp, ?_, rfl, ?_, ?_, hg.wf, hg.m64⟩
  · intro r v hl
    exact (hg.regs (r, v) (List.mem_of_lookup_eq_some hl)).2
  · show gcpOf (some (symbolise env f)) = ((env.symb st.instr).2.map (·.psize)).getD 0
    simp only [gcpOf, Option.bind_some, symbolise, hv.instr]
    cases h1 : (env.symb st.instr).1 with
    | none => simp [hsymb _ h1]
    | some j => simp
  · constructor
    · intro h; cases h
    · intro h; rw [hg.trust] at h; exact absurd h ht

theorem WinView.symbolise {env : Env} {f : Frame} {g : Option Frame} {st : MState} (hv : WinView f g st) :
    WinView (symbolise env f) g st :=
  ⟨hv.instr, hv.ip, hv.sp, hv.vip, hv.vsp, hv.fp, hv.regs, hv.first, hv.gcp, hv.trust, hv.wf, hv.m64⟩

theorem step_x86_end {os : Os} {w : World} {wins : List (List Win.Rec)} {mem : Mem}
    (f : Frame) (g : Option Frame) (st : MState)
    (hv : WinView f g st) (he : endMixed w wins .x86 os mem st = true) :
    step (mkEnvW .x86 os w wins mem) mem (symbolise (mkEnvW .x86 os w wins mem) f) g = none := by
  have hvs := hv.symbolise (env := mkEnvW .x86 os w wins mem)
  obtain ⟨hn, hbase, hz, halt⟩ := endMixed_spec he
  exact step_endMixed rfl (cfi_none_of_noRecord (by rw [hvs.instr]; exact hn)) nofun hvs.rview hbase hz halt

theorem winView_context (ctx : Ctx) (hip : ctx.has .x86 "eip" = true) (hsp : ctx.has .x86 "esp" = true)
    (hm : ctx.m64 = false) (hwf : ∀ r ∈ x86Regs, ctx.raw .x86 r ≤ U32MAX) :
    WinView (Frame.ofCtx ctx .context) none (initState .x86 ctx) := by
  refine ⟨rfl, rfl, rfl, ?_, ?_, ?_, ?_, rfl, rfl, ?_, hwf, hm⟩
  · show ctx.hasLit "eip" = true
    rw [← has_x86 ctx (by decide)]; exact hip
  · show ctx.hasLit "esp" = true
    rw [← has_x86 ctx (by decide)]; exact hsp
  · show (if ctx.has .x86 "ebp" = true then some (ctx.raw .x86 "ebp") else none) = _
    rw [has_x86 ctx (by decide)]; rfl
  · intro r v hl
    obtain ⟨x, hx, he⟩ := List.mem_map.mp (List.mem_of_lookup_eq_some hl)
    cases he
    exact ⟨(of_decide_eq_true (List.mem_filter.mp hx).2).2.2, rfl⟩
  · exact ⟨fun _ => rfl, fun _ => rfl⟩

end MdModel.Walk
