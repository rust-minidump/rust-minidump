/-
  C12: exact counts of supplier calls and returns per key
  (`callCount k = 1` as soon as the slot is no longer empty, `retCount k = 1` as soon as it holds a
  value); hence the calls (returns) in the log are an arrangement of the keys with a non-empty
  (filled) slot, which counts the calls of any CLASS of keys (the per-provider `pending_stats`
  counters, "exactly once at the end").
-/
import MdProofs.Lemmas.OnceWake
namespace MdModel.Once
open MdModel

def retCount (k : Nat) (log : List Event) : Nat := log.count (.ret k)

def CountInv (s : State) : Prop :=
  ∀ k, callCount k s.log = (if (s.slot k).nonEmpty then 1 else 0) ∧
       retCount k s.log = (if (s.slot k).isDone then 1 else 0)

theorem retCount_append (k : Nat) (l : List Event) (e : Event) :
    retCount k (l ++ [e]) = retCount k l + (if e = .ret k then 1 else 0) := by
  simp only [retCount, List.count_append, List.count_cons, List.count_nil, beq_iff_eq]
  omega

theorem countInv_init (cfg : Cfg) : CountInv (init cfg) := by
  intro k; simp [init, callCount, retCount, Slot.nonEmpty, Slot.isDone]

theorem countInv_upd {s : State} (h : CountInv s) {k : Nat} {v : Slot} {evs : List Event}
    (hoth : ∀ k', k' ≠ k → evs.count (.call k') = 0 ∧ evs.count (.ret k') = 0)
    (hcall : (if (s.slot k).nonEmpty then 1 else 0) + evs.count (.call k) = if v.nonEmpty then 1 else 0)
    (hret : (if (s.slot k).isDone then 1 else 0) + evs.count (.ret k) = if v.isDone then 1 else 0)
    (k' : Nat) :
    callCount k' (s.log ++ evs) = (if (upd s.slot k v k').nonEmpty then 1 else 0) ∧
      retCount k' (s.log ++ evs) = (if (upd s.slot k v k').isDone then 1 else 0) := by
  have hk := h k'
  simp only [callCount, retCount, List.count_append] at hk ⊢
  by_cases hkk : k' = k
  · subst hkk; rw [upd_same, hk.1, hk.2]; exact ⟨hcall, hret⟩
  · rw [upd_other _ _ hkk, (hoth k' hkk).1, (hoth k' hkk).2]; exact hk

/-- `complete` is only ever applied to a state in which `t` holds the lock of `k` -/
theorem countInv_complete (cfg : Cfg) (t k : Nat) (r : List Nat) {s : State} (h : CountInv s)
    (hheld : ∃ u, s.slot k = .held u) : CountInv (complete cfg t k r s) := by
  obtain ⟨u, hu⟩ := hheld
  intro k'
  simp only [complete, unlock_log, unlock_slot, setCtl_log, setCtl_slot, emit_log, emit_slot,
    setSlot_log, setSlot_slot, List.append_assoc]
  exact countInv_upd h (fun k' hk => by simp [Ne.symm hk]) (by simp [hu, Slot.nonEmpty])
    (by simp [hu, Slot.isDone]) k'

theorem countInv_acquire (t k n : Nat) (r : List Nat) {s : State} (h : CountInv s)
    (hslot : s.slot k = .empty) : CountInv (acquire s t k n r) :=
  countInv_upd h (evs := [.call k]) (fun k' hk => by simp [Ne.symm hk])
    (by simp [hslot, Slot.nonEmpty]) (by simp [hslot, Slot.isDone])

theorem countInv_poll (cfg : Cfg) (t : Nat) {s : State} (hA : InvA cfg s) (h : CountInv s) :
    CountInv (poll cfg t s) := by
  -- mid-poll: a supplier call that is about to return has the lock
  let M (s' : State) := CountInv s' ∧ ∀ k n, (s'.task t).ctl = .inSup k n → ∃ u, s'.slot k = .held u
  refine poll_induction cfg t s (I := CountInv) (M := M) (fun _ => h) (fun _ _ _ => h)
    ⟨h, fun k n hc => ⟨t, hA.insup_held t k n (by simpa using hc)⟩⟩ (fun _ h _ _ => h.1)
    (fun _ _ _ _ h _ _ => h.1) ?_ ?_ ?_
  · intro s k r res h _ _
    refine ⟨fun k' => ?_, by simp⟩
    simpa only [setCtl_log, setCtl_slot, emit_log, emit_slot, unlock_log, unlock_slot,
      setWaiters_log, setWaiters_slot, callCount_append, retCount_append, reduceCtorEq, if_false,
      Nat.add_zero] using h.1 k'
  · intro s k r n h _ hs
    have := countInv_acquire t k n r (s := setWaiters s k (deregister (s.waiters k) t))
      (fun k' => h.1 k') hs
    refine ⟨fun _ _ => ⟨this, fun k' n' hc => ⟨t, ?_⟩⟩, fun _ => this⟩
    simp only [acquire, setCtl_task, upd_same, Ctl.inSup.injEq] at hc
    simp [acquire, hc.1]
  · intro s k n r h hc _
    exact ⟨countInv_complete cfg t k r h.1 (h.2 k n hc), by simp [(complete_task cfg t k r s).1]⟩

theorem countInv_exec (cfg : Cfg) (sched : List Nat) {s : State} (hA : InvA cfg s)
    (h : CountInv s) : CountInv (exec cfg sched s) :=
  (exec_induction cfg (I := fun s => InvA cfg s ∧ CountInv s)
    (fun t _ h => ⟨invA_poll cfg t h.1, countInv_poll cfg t h.1 h.2⟩) sched ⟨hA, h⟩).2

theorem countInv_reach (cfg : Cfg) (sched : List Nat) : CountInv (exec cfg sched (init cfg)) :=
  countInv_exec cfg sched (invA_init cfg) (countInv_init cfg)

theorem nonEmpty_mem_allKeys {cfg : Cfg} {s : State} (h : InvA cfg s) {k : Nat}
    (hne : (s.slot k).nonEmpty = true) : k ∈ allKeys cfg := by
  cases hs : s.slot k with
  | empty => simp [hs, Slot.nonEmpty] at hne
  | held u =>
    obtain ⟨n, hn⟩ := h.held_insup k u hs
    exact mem_allKeys_of_prog (mem_prog_of_todo h (t := u) (r := (s.task u).rest) (by simp [todo, hn]))
  | done r =>
    obtain ⟨u, hu⟩ := h.done_seen k r hs
    exact mem_allKeys_of_prog (seen_mem_expected h hu).1


def callsOf (q : Nat → Bool) (log : List Event) : Nat :=
  (log.filter fun e => match e with
    | .call s => q s
    | _ => false).length

def retsOf (q : Nat → Bool) (log : List Event) : Nat :=
  (log.filter fun e => match e with
    | .ret s => q s
    | _ => false).length

def callKey : Event → Option Nat
  | .call k => some k
  | _ => none

def retKey : Event → Option Nat
  | .ret k => some k
  | _ => none

theorem perm_filter_of_count {K l : List Nat} (hK : K.Nodup) {b : Nat → Bool}
    (hc : ∀ k, l.count k = if b k then 1 else 0) (hmem : ∀ k ∈ l, k ∈ K) :
    l.Perm (K.filter b) := by
  refine (List.perm_ext_iff_of_nodup (List.nodup_iff_count.mpr fun k => ?_) (hK.filter _)).mpr fun k => ?_
  · rw [hc]; split <;> simp
  · have hk : k ∈ l ↔ b k = true := by rw [← List.count_pos_iff, hc]; split <;> simp [*]
    rw [List.mem_filter, hk]
    exact ⟨fun h => ⟨hmem k (hk.mpr h), h⟩, And.right⟩

theorem count_pos_mem {e : Event} {l : List Event} (h : 0 < l.count e) : e ∈ l :=
  List.count_pos_iff.mp h

theorem keys_perm {cfg : Cfg} {s : State} (hA : InvA cfg s) {c : Nat → Event} {f : Event → Option Nat}
    (hf : ∀ e k, f e = some k ↔ e = c k) {b : Slot → Bool} (hb : ∀ v, b v = true → v.nonEmpty = true)
    (hc : ∀ k, s.log.count (c k) = if b (s.slot k) then 1 else 0) :
    (s.log.filterMap f).Perm ((allKeys cfg).filter fun k => b (s.slot k)) := by
  refine perm_filter_of_count (nodup_dedup _) (fun k => ?_) fun k hk => ?_
  · rw [List.count_filterMap, ← hc, List.count_eq_countP]
    exact List.countP_congr fun e _ => by simp [hf]
  · obtain ⟨e, he, hk⟩ := List.mem_filterMap.mp hk
    rw [(hf e k).mp hk, ← List.count_pos_iff, hc] at he
    exact nonEmpty_mem_allKeys hA (hb _ (by split at he <;> simp_all))

theorem callKeys_perm {cfg : Cfg} {s : State} (hA : InvA cfg s) (hC : CountInv s) :
    (s.log.filterMap callKey).Perm ((allKeys cfg).filter fun k => (s.slot k).nonEmpty) :=
  keys_perm hA (c := .call) (by intro e k; cases e <;> simp [callKey]) (fun _ => id) fun k => (hC k).1

theorem retKeys_perm {cfg : Cfg} {s : State} (hA : InvA cfg s) (hC : CountInv s) :
    (s.log.filterMap retKey).Perm ((allKeys cfg).filter fun k => (s.slot k).isDone) :=
  keys_perm hA (c := .ret) (by intro e k; cases e <;> simp [retKey])
    (fun _ => Slot.nonEmpty_of_isDone) fun k => (hC k).2

theorem ret_mem_allKeys {cfg : Cfg} {s : State} (hA : InvA cfg s) (hC : CountInv s) {k : Nat}
    (hk : Event.ret k ∈ s.log) : k ∈ allKeys cfg :=
  (List.mem_filter.mp ((retKeys_perm hA hC).mem_iff.mp (List.mem_filterMap.mpr ⟨_, hk, rfl⟩))).1

theorem callsOf_eq_filter {cfg : Cfg} {s : State} (hA : InvA cfg s) (hC : CountInv s)
    (q : Nat → Bool) :
    callsOf q s.log = ((allKeys cfg).filter fun k => q k && (s.slot k).nonEmpty).length := by
  have : callsOf q s.log = (s.log.filterMap callKey).countP q := by
    rw [callsOf, List.countP_filterMap, List.countP_eq_length_filter]
    congr 2; funext e; cases e <;> rfl
  rw [this, (callKeys_perm hA hC).countP_eq, List.countP_eq_length_filter, List.filter_filter]

theorem retsOf_eq_filter {cfg : Cfg} {s : State} (hA : InvA cfg s) (hC : CountInv s)
    (q : Nat → Bool) :
    retsOf q s.log = ((allKeys cfg).filter fun k => q k && (s.slot k).isDone).length := by
  have : retsOf q s.log = (s.log.filterMap retKey).countP q := by
    rw [retsOf, List.countP_filterMap, List.countP_eq_length_filter]
    congr 2; funext e; cases e <;> rfl
  rw [this, (retKeys_perm hA hC).countP_eq, List.countP_eq_length_filter, List.filter_filter]

theorem all_done_of_allFin {cfg : Cfg} {s : State} (hA : InvA cfg s) (hfin : allFin cfg s = true)
    {k : Nat} (hk : k ∈ allKeys cfg) : ∃ r, s.slot k = .done r := by
  obtain ⟨t, ht, hkt⟩ := exists_task_of_key hk
  have hft := allFin_eq_true.mp hfin t ht
  have hres := hA.results t
  simp only [todo, hft, List.map_nil, List.append_nil] at hres
  have hm : expected cfg k ∈ seenBy t s.log := by
    rw [hres]; exact List.mem_map.mpr ⟨k, hkt, rfl⟩
  exact hA.seen_done t k _ (mem_seenBy.mp hm)

end MdModel.Once
