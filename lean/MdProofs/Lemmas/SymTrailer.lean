/-
  What the symbol parser model (`MdModel.SymLine`, `MdModel.SymParse`) does with the line
  `INFO URL <url>\n` that `commit_cache_file` appends to a cache entry (http.rs:165): an open FUNC /
  STACK CFI INIT item does not take it as one of its sub-records, so the item is finished and the
  line goes to the top level, where it sets `url` (a later note overrides an earlier one) and is
  counted. The URL is one as `Url::to_string` writes it (`UrlBytes`: ASCII, no blank / tab / CR / LF —
  leading blanks would be skipped by `space1`, the text is cut at CR / LF and must be valid UTF-8).
-/
import MdProofs.Lemmas.SymParseLocal
namespace MdModel.Sym
open MdModel MdModel.Stream

/-- `"INFO URL "` -/
def infoUrlTagB : Bytes := [73, 78, 70, 79, 32, 85, 82, 76, 32]

example : kw "INFO URL " = infoUrlTagB := by decide

/-- the bytes of a URL as `Url::to_string` serialises it -/
def UrlBytes (u : Bytes) : Prop := ∀ b ∈ u, b ≠ 10 ∧ b ≠ 13 ∧ b ≠ 32 ∧ b ≠ 9 ∧ b < 128

def noteThen (u s : Bytes) : Bytes := infoUrlTagB ++ u ++ Sym.NL :: s

theorem validUtf8_cons_ascii (b : UInt8) (rest : Bytes) (hb : b < 0x80) :
    validUtf8 (b :: rest) = validUtf8 rest := by
  match rest with
  | [] => simp [validUtf8, hb]
  | [_] => simp [validUtf8, hb]
  | [_, _] => simp [validUtf8, hb]
  | _ :: _ :: _ :: _ => simp [validUtf8, hb]

theorem validUtf8_ascii (u : Bytes) (h : ∀ b ∈ u, b < 128) : validUtf8 u = true := by
  induction u with
  | nil => simp [validUtf8]
  | cons b rest ih =>
    rw [validUtf8_cons_ascii b rest (h b (by simp))]
    exact ih (fun c hc => h c (by simp [hc]))

theorem line_infoUrl (u s : Bytes) (hu : UrlBytes u) : line (noteThen u s) = .ok s (.infoUrl u) := by
  have h1 : ∀ b ∈ u, isSpaceTab b = false := by
    intro b hb; obtain ⟨_, _, h3, h4, _⟩ := hu b hb
    simp [isSpaceTab, SP, TAB, h3, h4]
  have h2 : ∀ b ∈ u, (b != CR && b != Sym.NL) = true := by
    intro b hb; obtain ⟨h1, h2, _, _, _⟩ := hu b hb
    simp [CR, Sym.NL, h1, h2]
  -- `space1` stops at the first byte after the blank of the tag
  have ⟨t1, d1⟩ : (u ++ Sym.NL :: s).takeWhile isSpaceTab = [] ∧
      (u ++ Sym.NL :: s).dropWhile isSpaceTab = u ++ Sym.NL :: s := by
    cases u with
    | nil => exact ⟨rfl, rfl⟩
    | cons b rest => simp [h1 b List.mem_cons_self]
  have hv := validUtf8_ascii u (fun b hb => (hu b hb).2.2.2.2)
  have h3 : List.dropWhile (fun c => c == CR) (Sym.NL :: s) = Sym.NL :: s := by
    rw [List.dropWhile_cons]; simp [Sym.NL, CR]
  unfold line orElse infoUrl keyword terminated
  simp [noteThen, infoUrlTagB, P.bind, tag, kw, space1, takeWhile1P, List.isPrefixOf, cut, utf8, mapRes,
    notMyEol, takeWhileP, myEol, P.pure, t1, d1, List.takeWhile_append_of_pos h2, List.dropWhile_append_of_pos h2,
    h3, hv, isSpaceTab, SP, TAB]

theorem myEol_info (u s : Bytes) : myEol (noteThen u s) = .error := by
  simp [noteThen, infoUrlTagB, myEol, P.bind, takeWhileP, tag, CR, Sym.NL]

theorem funcSubline_info (u s : Bytes) : funcSubline (noteThen u s) = .error := by
  simp [noteThen, infoUrlTagB, funcSubline, kw, funcLineData, terminated, P.bind, hexStr, isHexDigit]

theorem stackCfi_info (u s : Bytes) : stackCfi (noteThen u s) = .error := by
  simp [noteThen, infoUrlTagB, stackCfi, keyword, terminated, P.bind, tag, kw]

theorem topLevel_info (st : PState) (u s : Bytes) (hu : UrlBytes u) :
    topLevel st (noteThen u s) = .ok s { st with url := some u, lines := st.lines + 1 } := by
  unfold topLevel
  rw [myEol_info, line_infoUrl u s hu]
  rfl

theorem finishCur_cur {st st' : PState} (h : finishCur st = .ok st') : st'.cur = .none := by
  unfold finishCur at h
  cases hc : st.cur with
  | none => rw [hc] at h; cases h; exact hc
  | func f ls inl =>
    rw [hc] at h
    simp only [finishFunc] at h
    split at h
    · cases h
    · split at h <;> cases h <;> rfl
  | cfi c =>
    rw [hc] at h
    simp only [finishCfi] at h
    cases h
    split <;> rfl

theorem stepLine_info (st : PState) (u s : Bytes) (hu : UrlBytes u) :
    stepLine st (noteThen u s) =
      match finishCur st with
      | .ok st' => .ok s { st' with url := some u, lines := st'.lines + 1 }
      | .panic e => .panic e := by
  unfold stepLine
  cases hc : st.cur with
  | none => simp only [topLevel_info st u s hu, finishCur, hc]
  | func _ _ _ | cfi _ =>
    simp only [funcSubline_info, stackCfi_info]
    cases finishCur st with
    | panic e => rfl
    | ok st' => exact topLevel_info st' u s hu

theorem Lsym_info (st : PState) (u : Bytes) (hu : UrlBytes u) :
    Lsym st (noteThen u []) =
      match finishCur st with
      | .ok st' => .ok { st' with url := some u, lines := st'.lines + 1 }
      | .panic e => .panic e := by
  unfold Lsym
  rw [stepLine_info st u [] hu]
  cases finishCur st <;> rfl

theorem finish_setUrl (st st' : PState) (h : finishCur st = .ok st') (u : Bytes) :
    finish { st' with url := some u, lines := st'.lines + 1 } =
      match finish st with
      | .ok f => .ok { f with url := some u }
      | .panic e => .panic e := by
  have hc := finishCur_cur h
  have h2 : finishCur { st' with url := some u, lines := st'.lines + 1 } =
      .ok { st' with url := some u, lines := st'.lines + 1 } := by
    simp [finishCur, hc]
  unfold finish
  rw [h, h2]
  simp only []
  cases tableP st'.functions.reverse <;> cases tableP st'.cfi.reverse <;>
    cases tableP (winBack st'.winFdInfos st'.winFd) <;> cases tableP (winBack st'.winFpoInfos st'.winFpo) <;> rfl

end MdModel.Sym
