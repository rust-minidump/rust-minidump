/-
  C13 §2 (`MdModel.Det`, the per-architecture CFI label tables): ASCII labels are
  determined by the `&str` handed to `memoize_register`; on the generated tables of
  `MdModel.Gen.Regs` two different labels can only denote one register when one of them is a key
  of the CPU's alias arms (`r11`/`r13`/`r14`/`r15` on ARM, `x29`/`x30` on ARM64 and ARM64_OLD) —
  the trait default `default_memoize_register` answers with the label itself. For any label table:
  a rule rewrites the one cell its label denotes (`applyRule_eq`), so rules for different registers
  commute (`applyRule_comm`).
-/
import MdModel.Det
import MdProofs.Lemmas.Regs
import MdProofs.Lemmas.Word
namespace MdModel.Det
open MdModel MdModel.Gen.Regs

theorem labelStr_inj {a b : List Nat} (ha : ∀ x, x ∈ a → x < 128) (hb : ∀ x, x ∈ b → x < 128)
    (h : labelStr a = labelStr b) : a = b := by
  -- on ASCII codes `Char.toNat` undoes `Char.ofNat`
  have inv : ∀ l : List Nat, (∀ x, x ∈ l → x < 128) → (l.map Char.ofNat).map Char.toNat = l := fun l hl => by
    rw [List.map_map]
    exact (List.map_congr_left fun x hx => Char.toNat_ofNat_of_lt (Nat.lt_trans (hl x hx) (by decide))).trans (List.map_id l)
  rw [← inv a ha, ← inv b hb, String.ofList_injective h]

theorem findIdx?_getElem? {regs : List String} {r : String} {i : Nat}
    (h : regs.findIdx? (· == r) = some i) : regs[i]? = some r := by
  rw [List.findIdx?_eq_some_iff_getElem] at h
  obtain ⟨hi, hp, _⟩ := h
  rw [List.getElem?_eq_getElem hi]
  simp only [beq_iff_eq] at hp
  rw [hp]

/-- what `canonCpu c label = some i` means: `memoize_register` answered `REGISTERS[i]` -/
theorem canonCpu_spec {c : Ctx} {label : List Nat} {i : Nat} (h : canonCpu c label = some i) :
    ∃ r, Regs.memoize c (labelStr label) = .ok (some r) ∧ (registers c)[i]? = some r := by
  unfold canonCpu at h
  split at h
  · rename_i r hm
    exact ⟨r, hm, findIdx?_getElem? h⟩
  · cases h

/-- is the label a key of the CPU's own alias arms of `memoize_register` (`"x29" => Some("fp")` …)? -/
def armKey (c : Ctx) (label : List Nat) : Bool :=
  match memoRule c with
  | .arms as => (Regs.assoc as (labelStr label)).isSome
  | _ => false

/-- a label that is no alias-arm key is left to `default_memoize_register`, which answers with (the
    static copy of) the name it was asked for -/
theorem memoize_of_not_armKey {c : Ctx} (hc : c ≠ .SPARC) {l : List Nat} {r : String}
    (hk : armKey c l = false) (h : Regs.memoize c (labelStr l) = .ok (some r)) : r = labelStr l := by
  unfold armKey at hk
  unfold Regs.memoize at h
  cases hrule : memoRule c with
  | default =>
    rw [hrule] at h
    exact (Regs.defaultMemo_some (Outcome.ok.inj h)).1
  | arms as =>
    rw [hrule] at h hk
    simp only at h hk
    cases haa : Regs.assoc as (labelStr l) with
    | some _ => rw [haa] at hk; cases hk
    | none =>
      rw [haa] at h
      exact (Regs.defaultMemo_some (Outcome.ok.inj h)).1
  | sparcIndex => cases c <;> simp_all [memoRule]

/-- on every CPU whose `memoize_register` is the trait default or alias arms in front of it (all
    but SPARC), two labels that denote one register are the same string or one of them is an
    alias-arm key -/
theorem alias_needs_arm_key {c : Ctx} (hc : c ≠ .SPARC) {a b : List Nat} {i : Nat}
    (ha : canonCpu c a = some i) (hb : canonCpu c b = some i) :
    labelStr a = labelStr b ∨ armKey c a = true ∨ armKey c b = true := by
  obtain ⟨ra, hma, hia⟩ := canonCpu_spec ha
  obtain ⟨rb, hmb, hib⟩ := canonCpu_spec hb
  cases Option.some.inj (hia.symm.trans hib)
  cases hka : armKey c a with
  | true => exact .inr (.inl rfl)
  | false =>
    cases hkb : armKey c b with
    | true => exact .inr (.inr rfl)
    | false =>
      exact .inl ((memoize_of_not_armKey hc hka hma).symm.trans (memoize_of_not_armKey hc hkb hmb))

def ruleCell (W : Walker) (v : Option Nat) (c : Cell) : Cell :=
  match v with
  | some v => if W.fits v then ⟨v, true⟩ else ⟨c.val, false⟩
  | none => ⟨c.val, false⟩

theorem applyRule_eq (W : Walker) (s : Regs) (a : Rule) :
    applyRule W s a =
      match W.canon a.1 with
      | none => s
      | some r => upd s r (ruleCell W a.2 (s r)) := by
  obtain ⟨l, v⟩ := a
  cases hc : W.canon l <;> cases v <;> simp only [applyRule, setReg, clearReg, ruleCell, hc]
  split <;> rfl

theorem applyRule_comm (W : Walker) (s : Regs) (a b : Rule)
    (h : W.canon a.1 ≠ W.canon b.1 ∨ W.canon a.1 = none) :
    applyRule W (applyRule W s a) b = applyRule W (applyRule W s b) a := by
  simp only [applyRule_eq]
  cases hca : W.canon a.1 with
  | none => rfl
  | some ra =>
    cases hcb : W.canon b.1 with
    | none => rfl
    | some rb =>
      have hne : ra ≠ rb := by
        rcases h with h | h
        · intro e; apply h; rw [hca, hcb, e]
        · rw [hca] at h; cases h
      funext j
      simp only [upd]
      by_cases h1 : j = ra <;> by_cases h2 : j = rb <;> simp [h1, h2, hne, Ne.symm hne]
end MdModel.Det
