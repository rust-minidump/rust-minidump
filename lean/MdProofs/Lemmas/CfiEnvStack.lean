/-
  C06 inside the stack-walk environment, part 3: the `cfi stack` protocol entry of C06's model
  (`MdModel.Cfi.stackFrame` = two `walkFrame`s + `stackGlue`) taken apart, for
  `MdProofs.C06Env.stack_entry_eq_walker`.
-/
import MdProofs.Lemmas.CfiEnv
namespace MdModel.CfiBridge
open MdModel

/-- `ptr_auth_strip` on a value -/
def stripV (strip : Option UInt64) (v : UInt64) : UInt64 :=
  match strip with
  | none => v
  | some m => v &&& m

/-- … on a register of the caller: only `fp` and `lr` -/
def regStrip (strip : Option UInt64) (n : Cfi.Name) (v : UInt64) : UInt64 :=
  match strip with
  | none => v
  | some m => if n = Cfi.nFp || n = Cfi.nLr then v &&& m else v

/-- the memory test of `stackGlue` is `walk_stack`'s in-range test on the walker model's memory -/
theorem glue_range (mem : Walk.Mem) (sp : Nat) :
    (mem.bytes.toList.isEmpty || decide (mem.base + mem.bytes.toList.length > U64MAX) || decide (sp < mem.base)
        || decide (sp > mem.base + mem.bytes.toList.length - 1)) = !mem.inRange sp := by
  have he : mem.bytes.toList.isEmpty = decide (mem.bytes.size = 0) := by
    rw [← Array.length_toList]
    cases mem.bytes.toList <;> rfl
  unfold Walk.Mem.inRange Walk.Mem.range? Walk.Mem.size
  rw [he, Array.length_toList]
  by_cases h0 : mem.bytes.size = 0
  · simp [h0]
  · by_cases h1 : mem.base + mem.bytes.size > U64MAX
    · simp [h0, h1]
    · -- both sides test `mem.base ≤ sp ≤ mem.base + size - 1`
      simp only [h0, h1, if_false, decide_false, Bool.false_or]
      rw [Bool.eq_iff_iff]
      simp only [Bool.or_eq_true, Bool.not_eq_true', Bool.and_eq_false_iff, decide_eq_true_eq, decide_eq_false_iff_not]
      omega

theorem stackGlue_spec (w : Cfi.Walker) (mem : Walk.Mem) (hmem : w.mem = mem.bytes.toList) (hbase : w.memBase = mem.base)
    (sp : Nat) (leaf : Bool) (strip : Option UInt64) (cfa ra : UInt64) (regs : List (Cfi.Name × UInt64))
    (hin : mem.inRange sp = true) :
    Cfi.stackGlue w sp leaf strip (some ⟨some cfa, some ra, regs⟩) =
      if (stripV strip ra).toNat < 4096 then none
      else if (decide (cfa.toNat ≤ sp) && !(leaf && cfa.toNat == sp)) = true then none
      else some ⟨some cfa, some (stripV strip ra), regs.map fun p => (p.1, regStrip strip p.1 p.2)⟩ := by
  unfold Cfi.stackGlue
  rw [hmem, hbase, glue_range, hin, if_neg (by decide)]
  cases strip with
  | none =>
    simp only [stripV, regStrip]
    have : (regs.map fun p => (p.1, p.2)) = regs := by simp
    rw [this]
    rfl
  | some m =>
    simp only [stripV, regStrip, Option.map_some]
    have : (regs.map fun x => match x with
        | (n, v) => if (decide (n = Cfi.nFp) || decide (n = Cfi.nLr)) = true then (n, v &&& m) else (n, v)) =
        regs.map fun p => (p.1, if (decide (p.1 = Cfi.nFp) || decide (p.1 = Cfi.nLr)) = true then p.2 &&& m else p.2) := by
      apply List.map_congr_left
      intro p _
      obtain ⟨n, v⟩ := p
      simp only
      split <;> rfl
    rw [this]
    rfl

theorem stackGlue_out (w : Cfi.Walker) (mem : Walk.Mem) (hmem : w.mem = mem.bytes.toList) (hbase : w.memBase = mem.base)
    (sp : Nat) (leaf : Bool) (strip : Option UInt64) (r : Option Cfi.Caller) (hout : mem.inRange sp = false) :
    Cfi.stackGlue w sp leaf strip r = none := by
  unfold Cfi.stackGlue
  rw [hmem, hbase, glue_range, hout, if_pos (by decide)]

theorem lookupName_map_snd {α β} (l : List (Cfi.Name × α)) (g : Cfi.Name → α → β) (k : Cfi.Name) :
    Cfi.lookupName (l.map fun p => (p.1, g p.1 p.2)) k = (Cfi.lookupName l k).map (g k) := by
  induction l with
  | nil => rfl
  | cons p t ih =>
    obtain ⟨n, v⟩ := p
    rw [List.map_cons, Cfi.lookupName_cons, Cfi.lookupName_cons]
    by_cases h : n = k
    · subst h; simp
    · simp only [h, if_false]; exact ih

theorem ite_sub_le (c : Prop) [Decidable c] (p : Nat) (h : c → p ≤ U64MAX) :
    (if c then p - 1 else U64MAX) ≤ U64MAX := by
  split
  · rename_i hc; have := h hc; omega
  · exact Nat.le_refl _

theorem ptrAuthMask_le (w : Walk.World) (mtbl : List RangeMap.Entry) (bits : Nat) :
    Walk.ptrAuthMask w mtbl bits ≤ U64MAX := by
  unfold Walk.ptrAuthMask
  simp only
  exact ite_sub_le _ _ (fun h => h.2)

theorem mkEnv_mask_lt (arch : Walk.Arch) (os : Walk.Os) (w : Walk.World) (mem : Walk.Mem) :
    (Walk.mkEnv arch os w mem).mask < 2 ^ 64 := by
  have := ptrAuthMask_le w (Walk.modTable w.mods)
    (if arch = .arm64old then Walk.Consts.arm64old_ptrauth_bits else Walk.Consts.arm64_ptrauth_bits)
  show Walk.ptrAuthMask _ _ _ < _
  simp only [U64MAX] at this
  omega

def stripOf (a : Walk.Arch) (mask : Nat) : Option UInt64 := if isArm64 a then some (UInt64.ofNat mask) else none

theorem nameOf_fp : Cfi.nFp = utf8 "fp" := by decide
theorem nameOf_lr : Cfi.nLr = utf8 "lr" := by decide

theorem spIpOfArch_eq :
    Cfi.spIpOfArch "x86" = some (utf8 Walk.Arch.x86.spName, utf8 Walk.Arch.x86.ipName) ∧
    Cfi.spIpOfArch "amd64" = some (utf8 Walk.Arch.amd64.spName, utf8 Walk.Arch.amd64.ipName) ∧
    Cfi.spIpOfArch "arm64" = some (utf8 Walk.Arch.arm64.spName, utf8 Walk.Arch.arm64.ipName) := by decide

theorem stripV_paMask (a : Walk.Arch) (mask : Nat) (hm : mask < 2 ^ 64) (v : UInt64) :
    (stripV (stripOf a mask) v).toNat = paMask a mask a.ipName v.toNat := by
  unfold stripOf paMask stripV
  cases hia : isArm64 a with
  | false => simp
  | true =>
    have hip : a.ipName = "pc" := by cases a <;> first | rfl | exact absurd hia (by decide)
    simp [hip, UInt64.toNat_and, u64_toNat_ofNat_lt mask hm]

theorem regStrip_paMask (a : Walk.Arch) (mask : Nat) (hm : mask < 2 ^ 64) (s : String) (hs : s ≠ a.ipName)
    (v : UInt64) : (regStrip (stripOf a mask) (utf8 s) v).toNat = paMask a mask s v.toNat := by
  unfold stripOf paMask regStrip
  cases hia : isArm64 a with
  | false => simp
  | true =>
    have hip : a.ipName = "pc" := by cases a <;> first | rfl | exact absurd hia (by decide)
    rw [hip] at hs
    simp only [if_true, Bool.true_and, nameOf_fp, nameOf_lr]
    by_cases h1 : s = "fp"
    · subst h1; simp [UInt64.toNat_and, u64_toNat_ofNat_lt mask hm]
    · by_cases h2 : s = "lr"
      · subst h2; simp [UInt64.toNat_and, u64_toNat_ofNat_lt mask hm]
      · have e1 : ¬ utf8 s = utf8 "fp" := fun e => h1 (utf8_inj e)
        have e2 : ¬ utf8 s = utf8 "lr" := fun e => h2 (utf8_inj e)
        simp [e1, e2, hs, h1, h2]

end MdModel.CfiBridge
