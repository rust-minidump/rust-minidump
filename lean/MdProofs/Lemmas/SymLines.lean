/-
  Splitting a byte string into complete lines (each ending in `\n`) and an unterminated rest;
  folding a per-line parser over them; the reference semantics `specRest` of the streaming loop.
-/
import MdModel.Stream
namespace MdModel.Stream
open MdModel

/-- complete lines (each including its `\n`) and the unterminated rest; `cur` is the reversed
    prefix of the line being collected -/
def linesAux : Bytes → Bytes → List Bytes × Bytes
  | [], cur => ([], cur.reverse)
  | b :: rest, cur =>
    if b = NL then
      let r := linesAux rest []
      ((b :: cur).reverse :: r.1, r.2)
    else linesAux rest (b :: cur)

def linesOf (w : Bytes) : List Bytes × Bytes := linesAux w []

def IsLine (l : Bytes) : Prop := ∃ c, NL ∉ c ∧ l = c ++ [NL]

theorem IsLine.ne_nil {l : Bytes} (h : IsLine l) : l ≠ [] := by
  obtain ⟨c, _, rfl⟩ := h; simp

theorem linesAux_spec (w cur : Bytes) (hc : NL ∉ cur) :
    (linesAux w cur).1.flatten ++ (linesAux w cur).2 = cur.reverse ++ w ∧
    NL ∉ (linesAux w cur).2 ∧ ∀ l ∈ (linesAux w cur).1, IsLine l := by
  induction w generalizing cur with
  | nil => simpa [linesAux] using hc
  | cons b rest ih =>
    unfold linesAux
    split
    · next hb =>
      obtain ⟨h1, h2, h3⟩ := ih [] List.not_mem_nil
      refine ⟨by simpa using h1, h2, fun l hl => ?_⟩
      rcases List.mem_cons.mp hl with rfl | hl
      · exact ⟨cur.reverse, by simpa using hc, by simp [hb]⟩
      · exact h3 l hl
    · next hb => simpa using ih (b :: cur) (by simp [hc, Ne.symm hb])

theorem linesOf_flatten (w : Bytes) : (linesOf w).1.flatten ++ (linesOf w).2 = w :=
  (linesAux_spec w [] List.not_mem_nil).1

theorem linesOf_rest_noNL (w : Bytes) : NL ∉ (linesOf w).2 := (linesAux_spec w [] List.not_mem_nil).2.1

theorem linesOf_isLine (w : Bytes) : ∀ l ∈ (linesOf w).1, IsLine l :=
  (linesAux_spec w [] List.not_mem_nil).2.2

theorem linesAux_scan (a w cur : Bytes) (ha : NL ∉ a) :
    linesAux (a ++ w) cur = linesAux w (a.reverse ++ cur) := by
  induction a generalizing cur with
  | nil => rfl
  | cons b rest ih =>
    have hb : b ≠ NL := fun e => ha (by simp [e])
    rw [List.cons_append, linesAux, if_neg hb, ih _ fun e => ha (List.mem_cons_of_mem _ e)]
    simp

theorem linesOf_noNL (w : Bytes) (h : NL ∉ w) : linesOf w = ([], w) := by
  have := linesAux_scan w [] [] h
  simpa [linesAux, linesOf] using this

theorem linesAux_endNL (a cur : Bytes) : (linesAux (a ++ [NL]) cur).2 = [] := by
  induction a generalizing cur with
  | nil => simp [linesAux]
  | cons b rest ih =>
    simp only [List.cons_append]
    unfold linesAux
    split
    · exact ih []
    · exact ih (b :: cur)

theorem linesAux_cur (w cur : Bytes) :
    linesAux w cur =
      (match (linesAux w []).1 with
        | [] => ([], cur.reverse ++ (linesAux w []).2)
        | l :: ls => ((cur.reverse ++ l) :: ls, (linesAux w []).2)) := by
  induction w generalizing cur with
  | nil => simp [linesAux]
  | cons b rest ih =>
    unfold linesAux
    split
    · simp
    · rw [ih (b :: cur), ih [b]]
      cases h : (linesAux rest []).1 <;> simp

theorem linesOf_append_line (l : Bytes) (hl : NL ∉ l) (w : Bytes) :
    linesOf (l ++ NL :: w) = ((l ++ [NL]) :: (linesOf w).1, (linesOf w).2) := by
  rw [linesOf, linesAux_scan l _ [] hl]
  simp [linesAux, linesOf]

theorem linesOf_append_lines (ls : List Bytes) (h : ∀ l ∈ ls, IsLine l) (w : Bytes) :
    linesOf (ls.flatten ++ w) = (ls ++ (linesOf w).1, (linesOf w).2) := by
  induction ls with
  | nil => simp
  | cons l rest ih =>
    obtain ⟨c, hc, rfl⟩ := h l (by simp)
    have hr : ∀ l ∈ rest, IsLine l := fun l hl => h l (by simp [hl])
    have e : ((c ++ [NL]) :: rest).flatten ++ w = c ++ NL :: (rest.flatten ++ w) := by simp
    rw [e, linesOf_append_line c hc, ih hr]
    simp

theorem linesOf_complete (w : Bytes) : linesOf (linesOf w).1.flatten = ((linesOf w).1, []) := by
  have := linesOf_append_lines (linesOf w).1 (linesOf_isLine w) []
  simpa [linesOf, linesAux] using this

/-- result of processing ONE complete line -/
inductive LR (σ : Type) where
  | ok (st : σ)
  | err (kind : Nat) (line : Nat)
  | panic (site : String)

def foldL {σ} (L : σ → Bytes → LR σ) : σ → List Bytes → LR σ
  | st, [] => .ok st
  | st, l :: ls =>
    match L st l with
    | .ok st' => foldL L st' ls
    | .err k n => .err k n
    | .panic e => .panic e

theorem foldL_append {σ} (L : σ → Bytes → LR σ) (st : σ) (a b : List Bytes) :
    foldL L st (a ++ b) =
      match foldL L st a with
      | .ok st' => foldL L st' b
      | .err k n => .err k n
      | .panic e => .panic e := by
  induction a generalizing st with
  | nil => simp [foldL]
  | cons l ls ih =>
    simp only [List.cons_append, foldL]
    cases L st l with
    | ok st' => exact ih st'
    | err k n => rfl
    | panic e => rfl

/-- what `parse_more` must compute: all complete lines of the window, in order -/
def pmSpec {σ} (L : σ → Bytes → LR σ) (st : σ) (w : Bytes) : PM σ :=
  match foldL L st (linesOf w).1 with
  | .ok st' => .ok (linesOf w).1.flatten.length st'
  | .err k n => .err k n
  | .panic e => .panic e

theorem pmSpec_lines {σ} (L : σ → Bytes → LR σ) (st : σ) (ls : List Bytes) (hls : ∀ l ∈ ls, IsLine l) (B : Bytes) :
    pmSpec L st (ls.flatten ++ B) =
      match pmSpec L st ls.flatten with
      | .ok n st' =>
        (match pmSpec L st' B with
         | .ok m st'' => .ok (n + m) st''
         | .err k l => .err k l
         | .panic e => .panic e)
      | .err k l => .err k l
      | .panic e => .panic e := by
  simp only [pmSpec]
  rw [linesOf_append_lines ls hls B]
  have h0 := linesOf_append_lines ls hls []
  simp only [List.append_nil] at h0
  rw [h0]
  simp only [linesOf, linesAux, List.append_nil, foldL_append, List.flatten_append, List.length_append]
  cases foldL L st ls with
  | err k n => rfl
  | panic e => rfl
  | ok st' =>
    simp only []
    cases foldL L st' (linesAux B []).1 <;> rfl

/-- reference semantics of the rest of a parse: `ne` = something has been consumed already -/
def specRest {σ} (L : σ → Bytes → LR σ) (lines : σ → Nat) (st : σ) (ne : Bool) (rest : Bytes) : Out σ :=
  match foldL L st (linesOf rest).1 with
  | .err k n => .err k n
  | .panic e => .panic e
  | .ok st' =>
    if !ne && (linesOf rest).1.isEmpty then .err errEmpty 0
    else if (linesOf rest).2.isEmpty then .ok st'
    else .err errEof (lines st')

/-- reference semantics of `SymbolFile::parse` for inputs without over-long lines: fold the line
    parser over the complete lines; an unterminated rest is `unexpected EOF`; nothing consumed at
    all is `empty SymbolFile`. -/
def specOut {σ} (L : σ → Bytes → LR σ) (lines : σ → Nat) (st : σ) (input : Bytes) : Out σ :=
  specRest L lines st false input

theorem specRest_lines {σ} (L : σ → Bytes → LR σ) (lines : σ → Nat) (st : σ) (ne : Bool)
    (ls : List Bytes) (hls : ∀ l ∈ ls, IsLine l) (w : Bytes) :
    specRest L lines st ne (ls.flatten ++ w) =
      match foldL L st ls with
      | .ok st' => specRest L lines st' (ne || !ls.isEmpty) w
      | .err k n => .err k n
      | .panic e => .panic e := by
  simp only [specRest, linesOf_append_lines ls hls w, foldL_append]
  cases foldL L st ls with
  | err k n => rfl
  | panic e => rfl
  | ok st' =>
    dsimp only
    cases foldL L st' (linesOf w).1 with
    | err k n => rfl
    | panic e => rfl
    | ok st2 => cases ne <;> cases ls <;> rfl

theorem specRest_append {σ} (L : σ → Bytes → LR σ) (lines : σ → Nat) (st st' : σ) (ne : Bool)
    (ls : List Bytes) (hls : ∀ l ∈ ls, IsLine l) (w : Bytes) (hf : foldL L st ls = .ok st') :
    specRest L lines st ne (ls.flatten ++ w) = specRest L lines st' (ne || !ls.isEmpty) w := by
  rw [specRest_lines L lines st ne ls hls, hf]

theorem specOut_snoc_line {σ} (L : σ → Bytes → LR σ) (lines : σ → Nat) (st0 ps : σ) (body line : Bytes)
    (hnl : ∃ pre, body = pre ++ [NL]) (hline : IsLine line) (h : specOut L lines st0 body = .ok ps) :
    specOut L lines st0 (body ++ line) =
      match L ps line with
      | .ok ps' => .ok ps'
      | .err k n => .err k n
      | .panic e => .panic e := by
  obtain ⟨pre, hpre⟩ := hnl
  have hrest : (linesOf body).2 = [] := by rw [hpre]; exact linesAux_endNL pre []
  have hflat : (linesOf body).1.flatten = body := by
    have := linesOf_flatten body; rw [hrest, List.append_nil] at this; exact this
  have hfold : foldL L st0 (linesOf body).1 = .ok ps ∧ (linesOf body).1.isEmpty = false := by
    unfold specOut specRest at h
    cases hf : foldL L st0 (linesOf body).1 with
    | err k l => rw [hf] at h; simp at h
    | panic e => rw [hf] at h; simp at h
    | ok st' =>
      rw [hf] at h
      simp only [Bool.not_false, Bool.true_and] at h
      cases he : (linesOf body).1.isEmpty with
      | true => rw [he] at h; simp at h
      | false =>
        rw [he, hrest] at h
        simp at h
        exact ⟨by rw [h], rfl⟩
  have hl : linesOf line = ([line], []) := by
    have := linesOf_append_lines [line] (fun l hl => List.mem_singleton.mp hl ▸ hline) []
    simpa [linesOf, linesAux] using this
  unfold specOut
  rw [← hflat, specRest_append L lines st0 ps false _ (linesOf_isLine body) line hfold.1]
  unfold specRest
  rw [hl]
  simp only [foldL]
  cases L ps line <;> simp [hfold.2]

end MdModel.Stream
