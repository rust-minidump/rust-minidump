/-
  C12: a key that occurs exactly once in all programs is never waited for — its lock
  is never contended. This is what makes "a lookup of a slot private to one request" the same as a
  plain, unlocked supplier call (`Symbolizer::get_file_path` → `supplier.locate_file`).
-/
import MdProofs.Lemmas.OnceInv
namespace MdModel.Once
open MdModel

theorem count_flatten_ge_of_mem {L : List (List Nat)} {l : List Nat} (hl : l ∈ L) (k : Nat) :
    l.count k ≤ L.flatten.count k :=
  (List.sublist_flatten_of_mem hl).count_le k

theorem count_flatten_two {L : List (List Nat)} {i j : Nat} (hi : i < L.length) (hj : j < L.length)
    (hij : i ≠ j) {k : Nat} (hki : k ∈ L[i]) (hkj : k ∈ L[j]) : 2 ≤ L.flatten.count k := by
  induction L generalizing i j with
  | nil => simp at hi
  | cons a L ih =>
    simp only [List.flatten_cons, List.count_append]
    cases i with
    | zero =>
      cases j with
      | zero => exact absurd rfl hij
      | succ j =>
        simp only [List.getElem_cons_zero] at hki
        simp only [List.getElem_cons_succ] at hkj
        have h1 : 0 < a.count k := List.count_pos_iff.mpr hki
        have h2 : 0 < L.flatten.count k := by
          have := count_flatten_ge_of_mem (List.getElem_mem (by simpa using hj)) k
          have := List.count_pos_iff.mpr hkj
          omega
        omega
    | succ i =>
      cases j with
      | zero =>
        simp only [List.getElem_cons_zero] at hkj
        simp only [List.getElem_cons_succ] at hki
        have h1 : 0 < a.count k := List.count_pos_iff.mpr hkj
        have h2 : 0 < L.flatten.count k := by
          have := count_flatten_ge_of_mem (List.getElem_mem (by simpa using hi)) k
          have := List.count_pos_iff.mpr hki
          omega
        omega
      | succ j =>
        simp only [List.getElem_cons_succ] at hki hkj
        have := ih (by simpa using hi) (by simpa using hj) (by omega) hki hkj
        omega

theorem map_fst_expected (cfg : Cfg) (l : List Nat) : (l.map (expected cfg)).map Prod.fst = l := by
  rw [List.map_map]
  have : (Prod.fst ∘ expected cfg) = id := by funext k; rfl
  rw [this, List.map_id]

theorem private_key_never_waited {cfg : Cfg} {s : State} (h : InvA cfg s) {k : Nat}
    (hone : ∀ t₁ t₂, k ∈ cfg.prog t₁ → k ∈ cfg.prog t₂ → t₁ = t₂)
    (hcount : ∀ t, (cfg.prog t).count k ≤ 1) (t : Nat) : (s.task t).ctl ≠ .waiting k := by
  intro hw
  have htodo : todo (s.task t) = k :: (s.task t).rest := by simp [todo, hw]
  have hkt := mem_prog_of_todo h htodo
  have hslot := h.waiting_slot t k hw
  cases hs : s.slot k with
  | empty => exact hslot hs
  | held u =>
    obtain ⟨n, hn⟩ := h.held_insup k u hs
    have hut : u ≠ t := by intro e; subst e; rw [hn] at hw; cases hw
    have hku : k ∈ cfg.prog u :=
      mem_prog_of_todo h (t := u) (k := k) (r := (s.task u).rest) (by simp [todo, hn])
    exact hut (hone u t hku hkt)
  | done r =>
    obtain ⟨u, hu⟩ := h.done_seen k r hs
    have hut : u = t := hone u t (seen_mem_expected h hu).1 hkt
    subst hut
    have hres := h.results u
    rw [htodo] at hres
    have h1 := congrArg (fun l => (l.map Prod.fst).count k) hres
    simp only [List.map_append, List.count_append, map_fst_expected, List.map_cons,
      List.count_cons] at h1
    have hseen : 0 < ((seenBy u s.log).map Prod.fst).count k := by
      apply List.count_pos_iff.mpr
      exact List.mem_map.mpr ⟨(k, r), mem_seenBy.mpr hu, rfl⟩
    simp only [expected, beq_self_eq_true, if_true] at h1
    have := hcount u
    omega

theorem unique_key_never_waited {cfg : Cfg} {s : State} (h : InvA cfg s) {k : Nat}
    (huniq : cfg.progs.flatten.count k = 1) (t : Nat) : (s.task t).ctl ≠ .waiting k := by
  apply private_key_never_waited h
  · intro t₁ t₂ h1 h2
    have l1 := lt_ntasks_of_mem_prog h1
    have l2 := lt_ntasks_of_mem_prog h2
    rw [prog_of_lt l1] at h1
    rw [prog_of_lt l2] at h2
    by_cases e : t₁ = t₂
    · exact e
    · have := count_flatten_two l1 l2 e h1 h2; omega
  · intro t
    by_cases ht : t < cfg.progs.length
    · rw [prog_of_lt ht, ← huniq]; exact count_flatten_ge_of_mem (List.getElem_mem ht) k
    · simp [prog_of_ge (Nat.le_of_not_lt ht)]

end MdModel.Once
