/-
  C12: the dynamic machine of `MdModel.OnceG` (what a task does next depends on the
  result it observed) and the base machine of `MdModel.OnceCore` on the statically compiled programs
  are in lock step, poll for poll, for every schedule (`sim_exec`).

  The only fact about reachable states the simulation needs is `DoneOk`: a remembered value is the
  supplier's outcome for that slot — then "what the task observed" and "what the supplier table says"
  coincide, and the dynamic decision equals the static one.
-/
import MdProofs.Lemmas.Once
import MdModel.OnceG
namespace MdModel.Once
open MdModel


def absT (cfg : ICfg) (T : GTask) : Task :=
  match T.ctl with
  | .ready => ⟨.ready, compS cfg 0 T.rest, T.woken⟩
  | .waiting i => ⟨.waiting i.slot, compS cfg (skipOf (cfg.outcome i.slot) i) T.rest, T.woken⟩
  | .inSup i n => ⟨.inSup i.slot n, compS cfg (skipOf (cfg.outcome i.slot) i) T.rest, T.woken⟩
  | .fin => ⟨.fin, [], T.woken⟩

def absS (cfg : ICfg) (s : GState) : State :=
  ⟨fun u => absT cfg (s.task u), s.slot, s.waiters, s.requested, s.processed, s.log⟩

def DoneOk (cfg : ICfg) (s : GState) : Prop := ∀ k r, s.slot k = .done r → r = cfg.outcome k

@[simp] theorem absT_woken (cfg : ICfg) (T : GTask) : (absT cfg T).woken = T.woken := by
  unfold absT; split <;> rfl

@[simp] theorem absS_slot (cfg : ICfg) (s : GState) : (absS cfg s).slot = s.slot := rfl
@[simp] theorem absS_waiters (cfg : ICfg) (s : GState) : (absS cfg s).waiters = s.waiters := rfl
@[simp] theorem absS_log (cfg : ICfg) (s : GState) : (absS cfg s).log = s.log := rfl
@[simp] theorem absS_requested (cfg : ICfg) (s : GState) : (absS cfg s).requested = s.requested := rfl
@[simp] theorem absS_processed (cfg : ICfg) (s : GState) : (absS cfg s).processed = s.processed := rfl
@[simp] theorem absS_task (cfg : ICfg) (s : GState) (u : Nat) :
    (absS cfg s).task u = absT cfg (s.task u) := rfl

@[simp] theorem compile_sup (cfg : ICfg) : (compile cfg).sup = cfg.sup := rfl
@[simp] theorem compile_outcome (cfg : ICfg) (k : Nat) : (compile cfg).outcome k = cfg.outcome k := rfl
@[simp] theorem compile_ntasks (cfg : ICfg) : (compile cfg).ntasks = cfg.ntasks := by
  simp [compile, Cfg.ntasks, ICfg.ntasks]

theorem compile_prog (cfg : ICfg) (t : Nat) : (compile cfg).prog t = compS cfg 0 (cfg.prog t) := by
  unfold compile Cfg.prog ICfg.prog
  by_cases ht : t < cfg.progs.length
  · simp [List.getD_eq_getElem?_getD, ht]
  · simp [List.getD_eq_getElem?_getD, ht, compS]

theorem compS_drop (cfg : ICfg) (n : Nat) (l : List Item) :
    compS cfg 0 (l.drop n) = compS cfg n l := by
  induction l generalizing n with
  | nil => cases n <;> simp [compS]
  | cons a l ih =>
    cases n with
    | zero => simp
    | succ n => simp [compS, ih]


theorem absS_gsetWoken (cfg : ICfg) (s : GState) (t : Nat) (b : Bool) :
    absS cfg (gsetWoken s t b) = setWoken (absS cfg s) t b := by
  unfold absS gsetWoken setWoken
  simp only [State.mk.injEq, and_true]
  funext u
  simp only [upd_apply]
  split
  · subst_vars
    unfold absT
    cases (s.task u).ctl <;> rfl
  · rfl

theorem absS_gemit (cfg : ICfg) (s : GState) (e : Event) :
    absS cfg (gemit s e) = emit (absS cfg s) e := rfl

theorem absS_gsetSlot (cfg : ICfg) (s : GState) (k : Nat) (v : Slot) :
    absS cfg (gsetSlot s k v) = setSlot (absS cfg s) k v := rfl

theorem absS_gsetWaiters (cfg : ICfg) (s : GState) (k : Nat) (ws : List (Nat × Bool)) :
    absS cfg (gsetWaiters s k ws) = setWaiters (absS cfg s) k ws := rfl

theorem absS_gunlock (cfg : ICfg) (s : GState) (k : Nat) :
    absS cfg (gunlock s k) = unlock (absS cfg s) k := by
  unfold gunlock unlock
  simp only [absS_waiters]
  split
  · rename_i hw; simp only [hw]; rw [absS_gsetWoken, absS_gsetWaiters]
  · rename_i hw
    split
    · rename_i hw'; exact absurd hw' (hw _ _)
    · rfl

/-- the abstraction of the new control state does not depend on the wake flag -/
theorem absS_gsetCtl (cfg : ICfg) (s : GState) (t : Nat) (c : GCtl) (r : List Item) :
    absS cfg (gsetCtl s t c r) =
      setCtl (absS cfg s) t (absT cfg ⟨c, r, false⟩).ctl (absT cfg ⟨c, r, false⟩).rest := by
  unfold absS gsetCtl setCtl
  simp only [State.mk.injEq, and_true]
  funext u
  simp only [upd_apply]
  split
  · subst_vars; rw [absT_woken]; cases c <;> rfl
  · rfl


theorem doneOk_gunlock {cfg : ICfg} {s : GState} (k : Nat) (h : DoneOk cfg s) :
    DoneOk cfg (gunlock s k) := by
  unfold gunlock; split
  · exact h
  · exact h

theorem doneOk_gcomplete {cfg : ICfg} {s : GState} (t : Nat) (i : Item) (r : List Item)
    (h : DoneOk cfg s) : DoneOk cfg (gcomplete cfg t i r s) := by
  unfold gcomplete
  apply doneOk_gunlock
  intro k res hs
  simp only [gsetCtl, gemit, gsetSlot, upd_apply] at hs
  split at hs
  · subst_vars; cases hs; rfl
  · exact h k res hs

theorem doneOk_ginit (cfg : ICfg) : DoneOk cfg (ginit cfg) := by
  intro k r h; simp [ginit] at h


theorem sim_gcomplete (cfg : ICfg) (t : Nat) (i : Item) (r : List Item) (s : GState) :
    absS cfg (gcomplete cfg t i r s) =
      complete (compile cfg) t i.slot (compS cfg (skipOf (cfg.outcome i.slot) i) r) (absS cfg s) := by
  unfold gcomplete complete
  simp only [compile_outcome]
  rw [absS_gunlock]
  congr 1
  rw [absS_gsetCtl]
  simp only [absT, compS_drop]
  rfl

theorem sim_glookup (cfg : ICfg) (t : Nat) (i : Item) (r : List Item) {s : GState}
    (h : DoneOk cfg s) :
    absS cfg (glookup cfg t i r s).1 =
        (lookup (compile cfg) t i.slot (compS cfg (skipOf (cfg.outcome i.slot) i) r) (absS cfg s)).1 ∧
    ((glookup cfg t i r s).2.isSome =
        (lookup (compile cfg) t i.slot (compS cfg (skipOf (cfg.outcome i.slot) i) r) (absS cfg s)).2) ∧
    (∀ res, (glookup cfg t i r s).2 = some res → res = cfg.outcome i.slot) ∧
    DoneOk cfg (glookup cfg t i r s).1 := by
  unfold glookup lookup
  simp only [absS_slot, absS_waiters, compile_sup]
  cases hs : s.slot i.slot with
  | held u =>
    simp only
    refine ⟨?_, rfl, by simp, h⟩
    rw [absS_gsetCtl]
    rfl
  | done res =>
    simp only
    have hres : res = cfg.outcome i.slot := h _ _ hs
    refine ⟨?_, rfl, by intro res' h'; cases h'; exact hres, doneOk_gunlock _ h⟩
    rw [absS_gunlock]
    congr 1
    rw [absS_gsetCtl]
    simp only [absT, compS_drop, hres]
    rfl
  | empty =>
    simp only
    have key : DoneOk cfg (gsetSlot (gemit { gsetWaiters s i.slot (deregister (s.waiters i.slot) t) with
        requested := (gsetWaiters s i.slot (deregister (s.waiters i.slot) t)).requested + 1 }
        (.call i.slot)) i.slot (.held t)) := by
      intro k res hs
      simp only [gsetSlot, gemit, gsetWaiters, upd_apply] at hs
      split at hs
      · cases hs
      · exact h k res hs
    cases hd : (cfg.sup i.slot).delay with
    | zero =>
      simp only
      refine ⟨?_, rfl, by intro res' h'; cases h'; rfl,
        doneOk_gcomplete t i r (s := gsetCtl _ t (.inSup i 0) r) key⟩
      rw [sim_gcomplete]
      congr 1
      rw [absS_gsetCtl]
      rfl
    | succ n =>
      simp only
      refine ⟨?_, rfl, by simp, key⟩
      rw [absS_gsetWoken]
      congr 1
      rw [absS_gsetCtl]
      rfl

/-- a lookup and what follows it: the poll ends, or goes on with the rest of the program — in
    lock step, given that the rest runs in lock step (`ih`) -/
theorem sim_step (cfg : ICfg) (t : Nat) (i : Item) (r : List Item) {s : GState} (h : DoneOk cfg s)
    (ih : ∀ n s', DoneOk cfg s' →
      absS cfg (grunReady cfg t n r s') = runReady (compile cfg) t (compS cfg n r) (absS cfg s') ∧
        DoneOk cfg (grunReady cfg t n r s')) :
    absS cfg (match glookup cfg t i r s with
        | (s', some res) => grunReady cfg t (skipOf res i) r s'
        | (s', none) => s') =
      (match lookup (compile cfg) t i.slot (compS cfg (skipOf (cfg.outcome i.slot) i) r) (absS cfg s) with
        | (s', true) => runReady (compile cfg) t (compS cfg (skipOf (cfg.outcome i.slot) i) r) s'
        | (s', false) => s') ∧
    DoneOk cfg (match glookup cfg t i r s with
        | (s', some res) => grunReady cfg t (skipOf res i) r s'
        | (s', none) => s') := by
  obtain ⟨h1, h2, h3, h4⟩ := sim_glookup cfg t i r h
  rcases hg : glookup cfg t i r s with ⟨s', _ | res⟩ <;>
    rcases hl : lookup (compile cfg) t i.slot (compS cfg (skipOf (cfg.outcome i.slot) i) r)
      (absS cfg s) with ⟨sb, _ | _⟩ <;>
    rw [hg] at h1 h2 h3 h4 <;> rw [hl] at h1 h2 <;> simp only at h1 h2 ⊢
  · exact ⟨h1, h4⟩
  · simp at h2
  · simp at h2
  · rw [← h1, h3 res rfl]; exact ih _ s' h4

theorem sim_grunReady (cfg : ICfg) (t : Nat) (n : Nat) (l : List Item) {s : GState}
    (h : DoneOk cfg s) :
    absS cfg (grunReady cfg t n l s) = runReady (compile cfg) t (compS cfg n l) (absS cfg s) ∧
      DoneOk cfg (grunReady cfg t n l s) := by
  induction l generalizing n s with
  | nil =>
    unfold grunReady
    simp only [compS, runReady]
    exact ⟨absS_gsetCtl cfg s t .fin [], h⟩
  | cons a l ih =>
    cases n with
    | succ n => unfold grunReady; simp only [compS]; exact ih n h
    | zero =>
      unfold grunReady
      simp only [compS]
      unfold runReady
      exact sim_step cfg t a l h (fun n s' => ih n)

theorem sim_gpoll (cfg : ICfg) (t : Nat) {s : GState} (h : DoneOk cfg s) :
    absS cfg (gpoll cfg t s) = poll (compile cfg) t (absS cfg s) ∧ DoneOk cfg (gpoll cfg t s) := by
  have hw : DoneOk cfg (gsetWoken s t false) := h
  unfold gpoll poll
  simp only [absS_task]
  cases hc : (s.task t).ctl with
  | fin => exact ⟨by simp [absT, hc], h⟩
  | ready =>
    simp only [absT, hc]
    rw [← absS_gsetWoken]
    exact sim_grunReady cfg t 0 _ hw
  | waiting i =>
    simp only [absT, hc]
    rw [← absS_gsetWoken]
    exact sim_step cfg t i _ hw (fun n s' => sim_grunReady cfg t n _)
  | inSup i n =>
    cases n with
    | succ n =>
      simp only [absT, hc]
      refine ⟨?_, h⟩
      rw [absS_gsetWoken]
      congr 1
      exact absS_gsetCtl cfg s t (.inSup i n) _
    | zero =>
      simp only [absT, hc]
      rw [← absS_gsetWoken, ← sim_gcomplete]
      exact sim_grunReady cfg t _ _ (doneOk_gcomplete t _ _ hw)

theorem sim_gexec (cfg : ICfg) (sched : List Nat) {s : GState} (h : DoneOk cfg s) :
    absS cfg (gexec cfg sched s) = exec (compile cfg) sched (absS cfg s) ∧
      DoneOk cfg (gexec cfg sched s) := by
  induction sched generalizing s with
  | nil => exact ⟨rfl, h⟩
  | cons t ts ih =>
    simp only [gexec, exec]
    rw [← (sim_gpoll cfg t h).1]
    exact ih (sim_gpoll cfg t h).2

theorem absS_ginit (cfg : ICfg) : absS cfg (ginit cfg) = init (compile cfg) := by
  unfold absS ginit init
  simp only [State.mk.injEq, and_true, compile_ntasks]
  funext u
  split
  · simp [absT, compile_prog]
  · simp [absT]

theorem sim_exec (cfg : ICfg) (sched : List Nat) :
    absS cfg (gexec cfg sched (ginit cfg)) = exec (compile cfg) sched (init (compile cfg)) := by
  rw [(sim_gexec cfg sched (doneOk_ginit cfg)).1, absS_ginit]

theorem sim_log (cfg : ICfg) (sched : List Nat) :
    (gexec cfg sched (ginit cfg)).log = (exec (compile cfg) sched (init (compile cfg))).log := by
  rw [← sim_exec]; rfl

theorem sim_isFin (cfg : ICfg) (s : GState) (t : Nat) : gisFin s t = isFin (absS cfg s) t := by
  unfold gisFin isFin
  simp only [absS_task]
  unfold absT
  cases (s.task t).ctl <;> rfl

theorem sim_allFin (cfg : ICfg) (s : GState) : gallFin cfg s = allFin (compile cfg) (absS cfg s) := by
  unfold gallFin allFin
  simp only [compile_ntasks]
  congr 1
  funext t
  exact sim_isFin cfg s t

theorem sim_runnable (cfg : ICfg) (s : GState) :
    grunnable cfg s = runnable (compile cfg) (absS cfg s) := by
  unfold grunnable runnable
  simp only [compile_ntasks, absS_task, absT_woken, sim_isFin cfg]

theorem sim_gfinish (cfg : ICfg) (f : Nat) {s : GState} (h : DoneOk cfg s) :
    absS cfg (gfinish cfg f s) = finish (compile cfg) f (absS cfg s) ∧ DoneOk cfg (gfinish cfg f s) := by
  fun_induction gfinish cfg f s with
  | case1 => exact ⟨rfl, h⟩
  | case2 _ s hfin => rw [finish, ← sim_allFin, if_pos hfin]; exact ⟨rfl, h⟩
  | case3 _ s hfin ih =>
    obtain ⟨hs, hd⟩ := sim_gexec cfg (List.range cfg.ntasks) h
    rw [finish, ← sim_allFin, if_neg hfin, roundRobin, compile_ntasks, ← hs]
    exact ih hd

theorem sim_gfinishW (cfg : ICfg) (f : Nat) {s : GState} (h : DoneOk cfg s) :
    absS cfg (gfinishW cfg f s) = finishW (compile cfg) f (absS cfg s) := by
  fun_induction gfinishW cfg f s with
  | case1 => rfl
  | case2 _ s hfin => rw [finishW, ← sim_allFin, if_pos hfin]
  | case3 _ s hfin hne => rw [finishW, ← sim_allFin, ← sim_runnable, if_neg hfin, if_pos hne]
  | case4 _ s hfin hne ih =>
    rw [finishW, ← sim_allFin, ← sim_runnable, if_neg hfin, if_neg hne, ih (sim_gexec cfg _ h).2,
      (sim_gexec cfg _ h).1]

end MdModel.Once
