/-
  C04, x86 STACK WIN chains: the evaluator side.

  `PreW` (MdModel/Walk/LayoutMixed.lean) recognises a frame-data program by the token list the
  lexer produces (`matchWinToks`). Here: what C07's evaluator (`MdModel.Win.run` / `finalVars`)
  computes on exactly those token lists — the standard prologue program, the `.raSearch` programs
  with and without `@`, the optional MSVC temporaries and the saved-register groups of any length.
  Each fixed piece is run by unfolding `Win.step` and described by what it leaves in `$T0` and the
  three output variables (`Out`); a program is the composition of its pieces (`run_append_ok`).
-/
import MdProofs.C07
import MdModel.Walk
import MdProofs.Lemmas.Assoc
namespace MdModel.Walk
open MdModel MdModel.Win

theorem run_append (mem : Nat → Option UInt32) (a b : List Tok) (st : St) :
    run mem st (a ++ b) =
      match run mem st a with
      | .ok st' => run mem st' b
      | .fail => .fail
      | .panic s => .panic s := by
  induction a generalizing st with
  | nil => rfl
  | cons t rest ih =>
    simp only [List.cons_append, run]
    cases Win.step mem st t with
    | ok st' => exact ih st'
    | fail => rfl
    | panic s => rfl

theorem run_append_ok {mem : Nat → Option UInt32} {a b : List Tok} {st st' : St}
    (h : run mem st a = .ok st') : run mem st (a ++ b) = run mem st' b := by
  rw [run_append, h]

structure Out (vs : Vars) (t0 eip esp ebp : UInt32) : Prop where
  t0 : vs.get "$T0" = some t0
  eip : vs.get "$eip" = some eip
  esp : vs.get "$esp" = some esp
  ebp : vs.get "$ebp" = some ebp

theorem Out.set {vs : Vars} {t0 eip esp ebp : UInt32} (o : Out vs t0 eip esp ebp) {k : String} (v : UInt32)
    (hk : k ∉ ["$T0", "$eip", "$esp", "$ebp"]) : Out (vs.set k v) t0 eip esp ebp :=
  have h : ∀ k' ∈ ["$T0", "$eip", "$esp", "$ebp"], (vs.set k v).get k' = vs.get k' :=
    fun _ hk' => Vars.get_set_other vs v fun e => hk (e ▸ hk')
  ⟨(h _ (by decide)).trans o.t0, (h _ (by decide)).trans o.eip, (h _ (by decide)).trans o.esp,
    (h _ (by decide)).trans o.ebp⟩

theorem Out.set_ebp {vs : Vars} {t0 eip esp ebp : UInt32} (o : Out vs t0 eip esp ebp) (v : UInt32) :
    Out (vs.set "$ebp" v) t0 eip esp v :=
  ⟨(Vars.get_set_other _ _ (by decide)).trans o.t0, (Vars.get_set_other _ _ (by decide)).trans o.eip,
    (Vars.get_set_other _ _ (by decide)).trans o.esp, Vars.get_set_self ..⟩

/-- `$T0 $ebp = $eip $T0 4 + ^ = $ebp $T0 ^ = $esp $T0 8 + =` -/
theorem run_std {mem : Nat → Option UInt32} {vs : Vars} {ebp ret nfp : UInt32}
    (hb : vs.get "$ebp" = some ebp) (h1 : mem (ebp + 4).toNat = some ret) (h2 : mem ebp.toNat = some nfp) :
    ∃ vs', run mem ⟨vs, []⟩ stdPrefix = .ok ⟨vs', []⟩ ∧ Out vs' ebp ret (ebp + 8) nfp ∧
      ∀ k, k ∉ ["$T0", "$eip", "$ebp", "$esp"] → vs'.get k = vs.get k := by
  refine ⟨(((vs.set "$T0" ebp).set "$eip" ret).set "$ebp" nfp).set "$esp" (ebp + 8), ?_, ?_, fun k hk => ?_⟩
  · simp only [stdPrefix, run, Win.step, stepBin, pop2, Val.toInt, BinOp.eval, Vars.get_set, String.reduceEq,
      if_true, if_false, hb, h1, h2]
  · constructor <;> simp only [Vars.get_set, String.reduceEq, if_true, if_false]
  · simp only [List.mem_cons, List.not_mem_nil, or_false, not_or] at hk
    simp only [Vars.get_set, hk, if_false]

/-- `$L $T0 .cbSavedRegs - = $P $T0 8 + .cbParams + =` (MSVC's temporaries: no output register) -/
theorem run_msvc {mem : Nat → Option UInt32} {vs : Vars} {t0 eip esp ebp sav par : UInt32}
    (o : Out vs t0 eip esp ebp) (hs : vs.get ".cbSavedRegs" = some sav) (hp : vs.get ".cbParams" = some par) :
    ∃ vs', run mem ⟨vs, []⟩ msvcGroup = .ok ⟨vs', []⟩ ∧ Out vs' t0 eip esp ebp := by
  refine ⟨(vs.set "$L" (t0 - sav)).set "$P" (t0 + 8 + par), ?_, (o.set _ (by decide)).set _ (by decide)⟩
  simp only [msvcGroup, run, Win.step, stepBin, pop2, Val.toInt, BinOp.eval, Vars.get_set, String.reduceEq,
    if_false, o.t0, hs, hp]

/-- `$T0 .raSearch = $eip $T0 ^ = $esp $T0 4 + =` -/
theorem run_raPrefix {mem : Nat → Option UInt32} {vs : Vars} {ss ret ebp : UInt32}
    (hs : vs.get ".raSearch" = some ss) (hb : vs.get "$ebp" = some ebp) (h1 : mem ss.toNat = some ret) :
    ∃ vs', run mem ⟨vs, []⟩ raPrefix = .ok ⟨vs', []⟩ ∧ Out vs' ss ret (ss + 4) ebp := by
  refine ⟨((vs.set "$T0" ss).set "$eip" ret).set "$esp" (ss + 4), ?_, ?_⟩
  · simp only [raPrefix, run, Win.step, stepBin, pop2, Val.toInt, BinOp.eval, Vars.get_set, String.reduceEq,
      if_true, if_false, hs, h1]
  · constructor <;> simp only [Vars.get_set, String.reduceEq, if_true, if_false, hb]

/-- one group `r $T0 OFF - ^ =`: the word `OFF` below `$T0` is assigned to `r` -/
theorem run_group {mem : Nat → Option UInt32} {vs : Vars} {r : String} {t0 off v : UInt32} (gs : List Tok)
    (ht : vs.get "$T0" = some t0) (h1 : mem (t0 - off).toNat = some v) :
    run mem ⟨vs, []⟩ (.var r :: .var "$T0" :: .lit off :: .sub :: .deref :: .assign :: gs) =
      run mem ⟨vs.set r v, []⟩ gs := by
  simp only [run, Win.step, stepBin, pop2, Val.toInt, BinOp.eval, ht, h1]

/-- `$ebp $ebp =` -/
theorem run_raSelfEbp {mem : Nat → Option UInt32} {vs : Vars} {ebp : UInt32}
    (hb : vs.get "$ebp" = some ebp) :
    run mem ⟨vs, []⟩ raSelfEbp = .ok ⟨vs.set "$ebp" ebp, []⟩ := by
  simp only [raSelfEbp, run, Win.step, Val.toInt, hb]

/-- `$T1 $esp 16 @ =` -/
theorem run_atTrailer {mem : Nat → Option UInt32} {vs : Vars} {esp : UInt32}
    (he : vs.get "$esp" = some esp) :
    ∃ v, run mem ⟨vs, []⟩ atTrailer = .ok ⟨vs.set "$T1" v, []⟩ := by
  refine ⟨esp &&& (0xffffffff ^^^ (16 - 1)), ?_⟩
  have h16 : alignOp esp 16 = .ok (esp &&& (0xffffffff ^^^ (16 - 1))) := by
    unfold alignOp
    simp (config := { decide := true })
  simp only [atTrailer, run, Win.step, pop2, Val.toInt, he, h16]

def Reg3 (n : String) : Prop := n = "ebx" ∨ n = "esi" ∨ n = "edi"

theorem winRegOfVar_some {v n : String} (h : winRegOfVar v = some n) : v = "$" ++ n ∧ Reg3 n := by
  unfold winRegOfVar at h
  split at h
  · rename_i h1; cases h; exact ⟨h1, .inl rfl⟩
  · split at h
    · rename_i h2; cases h; exact ⟨h2, .inr (.inl rfl)⟩
    · split at h
      · rename_i h3; cases h; exact ⟨h3, .inr (.inr rfl)⟩
      · cases h

theorem reg3_ne_out {n : String} (hn : Reg3 n) :
    "$" ++ n ∉ ["$T0", "$eip", "$esp", "$ebp"] ∧ "$" ++ n ≠ "$T1" := by
  rcases hn with rfl | rfl | rfl <;> decide

theorem winGroups_inv {toks : List Tok} {saved : List (String × Nat)} (h : winGroups toks = some saved) :
    (toks = [] ∧ saved = []) ∨
    ∃ r off rest n l, toks = .var r :: .var "$T0" :: .lit off :: .sub :: .deref :: .assign :: rest ∧
      winRegOfVar r = some n ∧ winGroups rest = some l ∧ saved = (n, off.toNat) :: l := by
  unfold winGroups at h
  split at h
  · cases h; exact .inl ⟨rfl, rfl⟩
  · rename_i r t off rest
    split at h
    · rename_i ht
      subst ht
      split at h
      · rename_i n l hr hg
        cases h
        exact .inr ⟨r, off, rest, n, l, rfl, hr, hg, rfl⟩
      · cases h
    · cases h
  · cases h

theorem run_groups_spec {mem : Nat → Option UInt32} {t0 eip esp ebp : UInt32} :
    ∀ (saved : List (String × Nat)) (gs : List Tok) (vs : Vars), winGroups gs = some saved →
      Out vs t0 eip esp ebp → (∀ p ∈ saved, p.2 ≤ t0.toNat ∧ (mem (t0.toNat - p.2)).isSome = true) →
      (saved.map (·.1)).Nodup →
      ∃ vs', run mem ⟨vs, []⟩ gs = .ok ⟨vs', []⟩ ∧ Out vs' t0 eip esp ebp ∧ (∀ p ∈ saved, Reg3 p.1) ∧
        (∀ k, (∀ p ∈ saved, "$" ++ p.1 ≠ k) → vs'.get k = vs.get k) ∧
        ∀ r off, saved.lookup r = some off → vs'.get ("$" ++ r) = some ((mem (t0.toNat - off)).getD 0) := by
  intro saved
  induction saved with
  | nil =>
    intro gs vs h o _ _
    rcases winGroups_inv h with ⟨rfl, _⟩ | ⟨_, _, _, _, _, _, _, _, hs⟩
    · exact ⟨vs, rfl, o, nofun, fun _ _ => rfl, nofun⟩
    · cases hs
  | cons q l ih =>
    intro gs vs h o hm hnd
    rcases winGroups_inv h with ⟨_, h2⟩ | ⟨r, off, rest, n, l', rfl, hr, hg, hs⟩
    · cases h2
    · cases hs
      obtain ⟨rfl, hn3⟩ := winRegOfVar_some hr
      rw [List.map_cons, List.nodup_cons] at hnd
      obtain ⟨hle, hrd⟩ := hm _ List.mem_cons_self
      obtain ⟨v, hv⟩ := Option.isSome_iff_exists.mp hrd
      obtain ⟨vs', hrun, o', h3, hfr, hlk⟩ := ih rest _ hg (o.set v (reg3_ne_out hn3).1)
        (fun p hp => hm p (List.mem_cons_of_mem _ hp)) hnd.2
      refine ⟨vs', ?_, o', ?_, fun k hk => ?_, fun r o hl => ?_⟩
      · rw [run_group rest o.t0 (by rw [u32_sub hle]; exact hv)]; exact hrun
      · exact fun p hp => (List.mem_cons.mp hp).elim (fun e => e ▸ hn3) (h3 p)
      · rw [hfr k fun p hp => hk p (List.mem_cons_of_mem _ hp)]
        exact Vars.get_set_other _ _ (Ne.symm (hk _ List.mem_cons_self))
      · by_cases hrn : r = n
        · subst hrn
          rw [List.lookup_cons_self, Option.some.injEq] at hl
          subst hl
          -- no later group names `r` again
          rw [hfr _ fun p hp e => hnd.1 (List.mem_map.mpr ⟨p, hp, (String.append_right_inj "$").mp e⟩),
            Vars.get_set_self, hv]
          rfl
        · rw [List.lookup_cons, beq_false_of_ne hrn] at hl
          exact hlk r o hl

theorem stripPrefix_some {p l r : List Tok} (h : stripPrefix p l = some r) : l = p ++ r := by
  unfold stripPrefix at h
  split at h
  · rename_i hp
    cases h
    exact (List.prefix_iff_eq_append.mp (List.isPrefixOf_iff_prefix.mp hp)).symm
  · cases h

theorem stripSuffix_some {p l r : List Tok} (h : stripSuffix p l = some r) : l = r ++ p := by
  unfold stripSuffix at h
  split at h
  · rename_i hp
    cases h
    exact (List.suffix_iff_eq_append.mp (List.isSuffixOf_iff_suffix.mp hp)).symm
  · cases h

/-- the four kinds of frame-data programs `PreW` accepts, as token lists -/
inductive WinToks : Bool → List Tok → WinShape → Prop where
  | std (mid gs saved) (hmid : mid = [] ∨ mid = msvcGroup) (hg : winGroups gs = some saved) :
      WinToks false (stdPrefix ++ (mid ++ gs)) (.std saved)
  | raAt (gs saved) (hg : winGroups gs = some saved) :
      WinToks true (raPrefix ++ ((raAtEbp ++ gs) ++ atTrailer)) (.raAt saved)
  | raSelf (gs saved) (hg : winGroups gs = some saved) :
      WinToks false (raPrefix ++ (raSelfEbp ++ gs)) (.ra none saved)
  | raOff (off : UInt32) (gs saved) (hg : winGroups gs = some saved) :
      WinToks false (raPrefix ++ (.var "$ebp" :: .var "$T0" :: .lit off :: .sub :: .deref :: .assign :: gs))
        (.ra (some off.toNat) saved)

theorem matchWinToks_spec {hasAt : Bool} {toks : List Tok} {sh : WinShape}
    (h : matchWinToks hasAt toks = some sh) : WinToks hasAt toks sh := by
  unfold matchWinToks at h
  split at h
  · rename_i rest hp
    cases hasAt <;> simp only [Bool.false_eq_true, if_false, if_true, reduceCtorEq, Option.map_eq_some_iff] at h
    obtain ⟨saved, hg, rfl⟩ := h
    rw [stripPrefix_some hp]
    cases hms : stripPrefix msvcGroup rest with
    | none => rw [hms] at hg; exact .std [] rest saved (.inl rfl) hg
    | some gs => rw [hms] at hg; rw [stripPrefix_some hms]; exact .std msvcGroup gs saved (.inr rfl) hg
  · split at h
    · cases h
    · rename_i rest hp
      rw [stripPrefix_some hp]
      split at h
      · rename_i mid hs
        cases hasAt <;> simp only [Bool.not_true, Bool.not_false, Bool.false_eq_true, if_false, if_true, reduceCtorEq] at h
        split at h
        · rename_i gs hg
          obtain ⟨saved, hgs, rfl⟩ := Option.map_eq_some_iff.mp h
          rw [stripSuffix_some hs, stripPrefix_some hg]
          exact .raAt gs saved hgs
        · cases h
      · cases hasAt <;> simp only [Bool.false_eq_true, if_false, if_true, reduceCtorEq] at h
        split at h
        · rename_i gs hg
          obtain ⟨saved, hgs, rfl⟩ := Option.map_eq_some_iff.mp h
          rw [stripPrefix_some hg]
          exact .raSelf gs saved hgs
        · split at h
          · rename_i r t off gs _ _
            split at h
            · rename_i hrt
              obtain ⟨rfl, rfl⟩ := hrt
              split at h
              · rename_i saved hgs
                cases h
                exact .raOff off gs saved hgs
              · cases h
            · cases h
          · cases h

theorem initVars_ok {hasAt : Bool} {info : Info} {w : Walker} {esp ebp ss : UInt32}
    (h1 : w.reg "esp" = some esp) (h2 : w.reg "ebp" = some ebp)
    (h3 : searchStart hasAt info w.gcParam esp ebp = some ss) :
    ∃ vs, initVars hasAt info w = some vs ∧ vs.get "$esp" = some esp ∧ vs.get "$ebp" = some ebp ∧
      vs.get ".raSearch" = some ss ∧ vs.get ".cbSavedRegs" = some info.sav ∧
      vs.get ".cbParams" = some info.par := by
  have hex : ∃ vs, initVars hasAt info w = some vs := by
    unfold initVars
    simp only [h1, h2, h3]
    exact ⟨_, rfl⟩
  obtain ⟨vs, hvs⟩ := hex
  obtain ⟨esp', ebp', ss', e1, e2, e3, c1, _, c3, _, c5, _, c7, c8, _, _⟩ := consts_table hvs
  cases h1.symm.trans e1
  cases h2.symm.trans e2
  cases h3.symm.trans e3
  exact ⟨vs, hvs, c7, c8, c5, c3, c1⟩

theorem searchStart_esp_ok {info : Info} {gc esp ebp : UInt32}
    (h : esp.toNat + (info.loc.toNat + info.sav.toNat + gc.toNat) ≤ U32MAX) :
    ∃ ss, searchStart false info gc esp ebp = some ss ∧
      ss.toNat = esp.toNat + (info.loc.toNat + info.sav.toNat + gc.toNat) :=
  ⟨UInt32.ofNat (esp.toNat + (info.loc.toNat + info.sav.toNat + gc.toNat)),
    ra_search_esp.mpr ⟨h, u32_toNat_ofNat h⟩, u32_toNat_ofNat h⟩

theorem searchStart_ebp_ok {info : Info} {gc esp ebp : UInt32} (h : ebp.toNat + 4 ≤ U32MAX) :
    ∃ ss, searchStart true info gc esp ebp = some ss ∧ ss.toNat = ebp.toNat + 4 :=
  ⟨UInt32.ofNat (ebp.toNat + 4), ra_search_ebp.mpr ⟨h, u32_toNat_ofNat h⟩, u32_toNat_ofNat h⟩

theorem finalVars_of_run {prog : List Char} {info : Info} {w : Walker} {hasAt : Bool} {vs0 vs : Vars}
    (hAt : prog.contains '@' = hasAt) (hinit : initVars hasAt info w = some vs0)
    (hrun : run w.mem ⟨vs0, []⟩ (Win.tokenize prog) = .ok ⟨vs, []⟩) : finalVars prog info w = .ok vs := by
  simp only [finalVars, hAt, hinit, hrun]

/-- Where a frame-data program of a recognised shape finds the caller's registers. Everything is
    relative to `$T0`: the callee's `ebp` for the standard prologue program, `.raSearch` otherwise
    (`ebp + 4` when the text contains `@`, else `esp + locals + saved + callee params`). -/
structure WinShape.Slots where
  hasAt : Bool
  /-- the return address is the word `raOff` above `$T0` -/
  raOff : Nat
  /-- `$ebp` is the word this far below `$T0`, or (`none`) assigned to itself -/
  fpOff : Option Nat
  saved : List (String × Nat)

def WinShape.slots : WinShape → WinShape.Slots
  | .std saved => ⟨false, 4, some 0, saved⟩
  | .raAt saved => ⟨true, 0, some 4, saved⟩
  | .ra ebpOff saved => ⟨false, 0, ebpOff, saved⟩

def WinShape.t0 (ebp ss : UInt32) : WinShape → UInt32
  | .std _ => ebp
  | _ => ss

theorem WinToks.hasAt {b : Bool} {toks : List Tok} {sh : WinShape} (h : WinToks b toks sh) : b = sh.slots.hasAt := by
  cases h <;> rfl

/-- **what a recognised frame-data program computes** (standard prologue with or without MSVC's
    temporaries, `.raSearch` with and without `@`, any saved-register groups): with `t0` the value of
    `$T0`, `$eip = *(t0 + raOff)`, `$esp = t0 + raOff + 4`, `$ebp = *(t0 - fpOff)` or the callee's,
    `$r = *(t0 - OFF)` for every group -/
theorem finalVars_shape {prog : List Char} {info : Info} {w : Walker} {sh : WinShape}
    (hm : matchWin prog = some sh) {esp ebp ss ret nfp : UInt32}
    (hesp : w.reg "esp" = some esp) (hebp : w.reg "ebp" = some ebp)
    (hss : searchStart sh.slots.hasAt info w.gcParam esp ebp = some ss)
    {t0 : Nat} (ht0 : (sh.t0 ebp ss).toNat = t0) (hb : t0 + sh.slots.raOff + 4 ≤ U32MAX)
    (h1 : w.mem (t0 + sh.slots.raOff) = some ret)
    (hfp : match sh.slots.fpOff with
      | some off => off ≤ t0 ∧ w.mem (t0 - off) = some nfp
      | none => nfp = ebp)
    (hsv : ∀ p ∈ sh.slots.saved, p.2 ≤ t0 ∧ (w.mem (t0 - p.2)).isSome = true)
    (hnd : (sh.slots.saved.map (·.1)).Nodup) :
    ∃ vs csp, finalVars prog info w = .ok vs ∧ vs.get "$eip" = some ret ∧ vs.get "$esp" = some csp ∧
      csp.toNat = t0 + sh.slots.raOff + 4 ∧ vs.get "$ebp" = some nfp ∧
      ∀ r off, sh.slots.saved.lookup r = some off → vs.get ("$" ++ r) = some ((w.mem (t0 - off)).getD 0) := by
  have hw := matchWinToks_spec hm
  obtain ⟨vs0, hinit, _, g2, g3, g4, g5⟩ := initVars_ok hesp hebp hss
  generalize hAt : prog.contains '@' = b at hw
  generalize htk : Win.tokenize prog = toks at hw
  have four : (4 : UInt32).toNat = 4 := rfl
  -- it suffices to run the program up to the saved-register groups: `$T0`, `$eip`, `$esp`, `$ebp` have
  -- their final values there; the groups and (with `@`) the trailer `$T1 $esp 16 @ =` follow
  suffices h : ∃ vs1 gs tr csp, winGroups gs = some sh.slots.saved ∧ (tr = [] ∨ tr = atTrailer) ∧
      run w.mem ⟨vs0, []⟩ toks = run w.mem ⟨vs1, []⟩ (gs ++ tr) ∧ csp.toNat = t0 + sh.slots.raOff + 4 ∧
      Out vs1 (sh.t0 ebp ss) ret csp nfp by
    obtain ⟨vs1, gs, tr, csp, hg, htr, hrun, hcsp, o1⟩ := h
    obtain ⟨vs3, r3, o3, h3, _, q⟩ := run_groups_spec (mem := w.mem) _ _ _ hg o1 (by rw [ht0]; exact hsv) hnd
    obtain ⟨vs4, r4, o4, q4⟩ : ∃ vs4, run w.mem ⟨vs3, []⟩ tr = .ok ⟨vs4, []⟩ ∧ Out vs4 (sh.t0 ebp ss) ret csp nfp ∧
        ∀ p ∈ sh.slots.saved, vs4.get ("$" ++ p.1) = vs3.get ("$" ++ p.1) := by
      rcases htr with rfl | rfl
      · exact ⟨vs3, rfl, o3, fun _ _ => rfl⟩
      · obtain ⟨v, r4⟩ := run_atTrailer (mem := w.mem) o3.esp
        exact ⟨_, r4, o3.set v (k := "$T1") (by decide), fun p hp => Vars.get_set_other _ _ (reg3_ne_out (h3 p hp)).2⟩
    refine ⟨vs4, csp, finalVars_of_run (hAt.trans hw.hasAt) hinit (by rw [htk, hrun, run_append_ok r3, r4]),
      o4.eip, o4.esp, hcsp, o4.ebp, fun r off hl => ?_⟩
    rw [q4 _ (List.mem_of_lookup_eq_some hl), q r off hl, ht0]
  cases hw with
  | std mid gs _ hmid hg =>
    simp only [WinShape.slots, WinShape.t0] at ht0 hb h1 hfp ⊢
    have e4 : (ebp + 4).toNat = t0 + 4 := by rw [u32_add (by rw [four, ht0]; omega), four, ht0]
    obtain ⟨vs1, r1, o1, f1⟩ := run_std (mem := w.mem) g2 (by rw [e4]; exact h1)
      (by rw [ht0]; exact hfp.2)
    obtain ⟨vs2, r2, o2⟩ : ∃ vs2, run w.mem ⟨vs1, []⟩ mid = .ok ⟨vs2, []⟩ ∧ Out vs2 ebp ret (ebp + 8) nfp := by
      rcases hmid with rfl | rfl
      · exact ⟨vs1, rfl, o1⟩
      · exact run_msvc o1 ((f1 _ (by decide)).trans g4) ((f1 _ (by decide)).trans g5)
    refine ⟨vs2, gs, [], ebp + 8, hg, .inl rfl, by rw [run_append_ok r1, run_append_ok r2, List.append_nil], ?_, o2⟩
    have e8 : (8 : UInt32).toNat = 8 := rfl
    rw [u32_add (by rw [e8, ht0]; omega), e8, ht0]
  | raAt gs _ hg =>
    simp only [WinShape.slots, WinShape.t0, Nat.add_zero] at ht0 hb h1 hfp ⊢
    obtain ⟨vs1, r1, o1⟩ := run_raPrefix (mem := w.mem) g3 g2 (by rw [ht0]; exact h1)
    have e4 : (ss - 4).toNat = t0 - 4 := by rw [u32_sub (by rw [four, ht0]; exact hfp.1), four, ht0]
    refine ⟨_, gs, atTrailer, ss + 4, hg, .inr rfl, ?_, by rw [u32_add (by rw [four, ht0]; omega), four, ht0],
      o1.set_ebp nfp⟩
    rw [run_append_ok r1, List.append_assoc]
    exact run_group (gs ++ atTrailer) o1.t0 (by rw [e4]; exact hfp.2)
  | raSelf gs _ hg =>
    simp only [WinShape.slots, WinShape.t0, Nat.add_zero] at ht0 hb h1 hfp ⊢
    obtain ⟨vs1, r1, o1⟩ := run_raPrefix (mem := w.mem) g3 g2 (by rw [ht0]; exact h1)
    cases hfp
    exact ⟨_, gs, [], ss + 4, hg, .inl rfl,
      by rw [run_append_ok r1, run_append_ok (run_raSelfEbp o1.ebp), List.append_nil],
      by rw [u32_add (by rw [four, ht0]; omega), four, ht0], o1.set_ebp ebp⟩
  | raOff off gs _ hg =>
    simp only [WinShape.slots, WinShape.t0, Nat.add_zero] at ht0 hb h1 hfp ⊢
    obtain ⟨vs1, r1, o1⟩ := run_raPrefix (mem := w.mem) g3 g2 (by rw [ht0]; exact h1)
    have e4 : (ss - off).toNat = t0 - off.toNat := by rw [u32_sub (by rw [ht0]; exact hfp.1), ht0]
    exact ⟨_, gs, [], ss + 4, hg, .inl rfl,
      by rw [run_append_ok r1, run_group gs o1.t0 (by rw [e4]; exact hfp.2), List.append_nil],
      by rw [u32_add (by rw [four, ht0]; omega), four, ht0], o1.set_ebp nfp⟩

end MdModel.Walk
