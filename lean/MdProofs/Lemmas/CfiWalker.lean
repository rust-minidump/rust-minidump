/-
  The real `CfiStackWalker` (MdModel.CfiWalker), method by method, in terms of C18's theorems. The
  writes are described by their effect on the VIEW of every canonical register (`callerView`: its
  value if valid).

  The hypotheses are the invariants of every walker the unwinders build: the callee's validity set
  names only registers (or aliases) of the context type (`validityWf`, C18's `hS`).
-/
import MdProofs.Lemmas.CfiWalkerTables
import MdProofs.Lemmas.CfiBridgeInst
namespace MdModel.CfiWalker
open MdModel MdModel.Gen.Regs MdModel.Regs MdModel.CfiBridge

def Cpu.canon (p : Cpu) (n : String) : Option String := memoName p.tbl n

theorem Cpu.memoize_eq (p : Cpu) (n : String) : p.memoize n = .ok (p.canon n) :=
  Regs.memoize_eq p.tbl n

theorem canon_known {p : Cpu} {n r : String} (h : p.canon n = some r) : n ∈ knownNames p.tbl :=
  memoize_some_known (memoize_of_memoName h)

theorem canon_unknown {p : Cpu} {n : String} (h : n ∉ knownNames p.tbl) : p.canon n = none :=
  memoName_of_memoize (memoize_unknown h)

theorem canon_of_known {p : Cpu} {n : String} (h : n ∈ knownNames p.tbl) : ∃ r, p.canon n = some r := by
  obtain ⟨cell, r, f⟩ := known_facts h
  exact ⟨r, memoName_of_memoize f.memo⟩

theorem canon_canon {p : Cpu} {n r : String} (h : p.canon n = some r) :
    r ∈ registers p.tbl ∧ p.canon r = some r := by
  have := memoize_canonical p.tbl n r (memoize_of_memoName h)
  exact ⟨this.1, memoName_of_memoize this.2⟩

theorem canon_register {p : Cpu} {r : String} (h : r ∈ registers p.tbl) : p.canon r = some r :=
  memoName_register h

theorem canon_cell {p : Cpu} {n r : String} (h : p.canon n = some r) : getCell p.tbl n = getCell p.tbl r := by
  obtain ⟨cell, f⟩ := facts_of_memoize (memoize_of_memoName h)
  exact f.getCell.trans f.canonCell.symm

theorem cell_inj {p : Cpu} {n s m : String} (hn : p.canon n = some m) (hs : s ∈ registers p.tbl) :
    getCell p.tbl s = getCell p.tbl n ↔ s = m := by
  have hks := known_of_registers hs
  have hkn := canon_known hn
  rw [← known_alias_iff hks hkn]
  have e1 : memoName p.tbl s = some s := canon_register hs
  have e2 : memoName p.tbl n = some m := hn
  rw [e1, e2]
  simp

def rawOf (c : Ctx) (st : State) (n : String) : Nat :=
  match getCell c n with
  | some cell => st cell
  | none => 0

/-- what `get_register_always` returns for a known name: the cell, at the walker's width -/
def Cpu.read (p : Cpu) (st : State) (n : String) : Nat :=
  match p with
  | .ctx c => rawOf c st n
  | .mips32 => rawOf .MIPS st n % 2 ^ Gen.CfiWalkerConsts.mips32Bits

theorem Cpu.getAlways_known (p : Cpu) (st : State) {n : String} (hn : n ∈ knownNames p.tbl) :
    p.getAlways st n = .ok (p.read st n) := by
  obtain ⟨cell, hc, hg⟩ := Regs.getAlways_known st hn
  cases p <;> simp only [Cpu.tbl] at hc hg <;> simp only [Cpu.getAlways, Cpu.read, rawOf, hc, hg]

def covers (c : Ctx) (v : Validity) (n : String) : Bool :=
  match v with
  | .all => true
  | .some S => S.any (sameReg c n)

theorem validityWf_some {c : Ctx} {S : List String} (h : validityWf c (.some S) = true) :
    ∀ s ∈ S, s ∈ knownNames c := by
  intro s hs
  simp only [validityWf, List.all_eq_true] at h
  simpa using h s hs

/-- `validityWf` of a set, checked against the tables as they stand (no `dedup`) -/
theorem validityWf_tableNames {c : Ctx} {S : List String}
    (h : S.all (fun n => (tableNames c).contains n) = true) : validityWf c (.some S) = true := by
  simpa only [validityWf, knownNames_contains] using h

theorem Cpu.isValid_known (p : Cpu) {n : String} {v : Validity} (hn : n ∈ knownNames p.tbl)
    (hv : validityWf p.tbl v = true) : p.isValid n v = .ok (covers p.tbl v n) := by
  unfold Cpu.isValid
  cases v with
  | all => exact isValid_all_known hn
  | some S => exact isValid_some_sameReg hn (validityWf_some hv)

theorem Cpu.getRegister_known (p : Cpu) (st : State) {n : String} {v : Validity}
    (hn : n ∈ knownNames p.tbl) (hv : validityWf p.tbl v = true) :
    p.getRegister st n v = .ok (if covers p.tbl v n then some (p.read st n) else none) := by
  unfold Cpu.getRegister
  rw [p.isValid_known hn hv, p.getAlways_known st hn]
  cases covers p.tbl v n <;> rfl

theorem Cpu.getRegister_unknown (p : Cpu) (st : State) {n : String} {v : Validity}
    (hn : n ∉ knownNames p.tbl) (hv : validityWf p.tbl v = true) :
    p.getRegister st n v = .ok none := by
  obtain ⟨_, _, h3, _, h5⟩ := unknown_absent p.tbl st n hn
  unfold Cpu.getRegister Cpu.isValid
  cases v with
  | all => rw [h3]
  | some S =>
    have : n ∉ S := fun h => hn (validityWf_some hv n h)
    rw [(h5 S this).1]

def calleeView (w : CfiStackWalker) (n : String) : Option Nat :=
  match w.cpu.canon n with
  | none => none
  | some _ => if covers w.cpu.tbl w.calleeValidity n then some (w.cpu.read w.calleeCtx n) else none

theorem getCalleeRegister_eq (w : CfiStackWalker) (hv : validityWf w.cpu.tbl w.calleeValidity = true) (n : String) :
    w.getCalleeRegister n = .ok (calleeView w n) := by
  unfold CfiStackWalker.getCalleeRegister calleeView
  by_cases hn : n ∈ knownNames w.cpu.tbl
  · obtain ⟨r, hr⟩ := canon_of_known (p := w.cpu) hn
    rw [hr, w.cpu.getRegister_known _ hn hv]
  · rw [canon_unknown hn, w.cpu.getRegister_unknown _ hn hv]

theorem sameReg_canon {p : Cpu} {n r : String} (h : p.canon n = some r) : sameReg p.tbl n = sameReg p.tbl r := by
  funext s; simp only [sameReg, canon_cell h]

theorem rawOf_canon {p : Cpu} {n r : String} (h : p.canon n = some r) (st : State) :
    rawOf p.tbl st n = rawOf p.tbl st r := by
  simp only [rawOf, canon_cell h]

theorem Cpu.read_canon {p : Cpu} {n r : String} (h : p.canon n = some r) (st : State) :
    p.read st n = p.read st r := by
  have := rawOf_canon h st
  cases p with
  | ctx c => exact this
  | mips32 => exact congrArg (· % _) this

theorem calleeView_canon (w : CfiStackWalker) {n r : String} (h : w.cpu.canon n = some r) :
    calleeView w n = calleeView w r := by
  unfold calleeView covers
  rw [h, (canon_canon h).2, Cpu.read_canon h, sameReg_canon h]

def CfiStackWalker.withCaller (w : CfiStackWalker) (st : State) (vs : List String) : CfiStackWalker :=
  { w with callerCtx := st, callerValidity := vs }

def writeOf (c : Ctx) (st : State) (n : String) (v : Nat) : State :=
  match getCell c n with
  | some cell => st.write cell v
  | none => st

theorem Cpu.setRegister_known (p : Cpu) (st : State) {n : String} (hn : n ∈ knownNames p.tbl) (v : Nat) :
    p.setRegister st n v = .ok (some (writeOf p.tbl st n v)) := by
  obtain ⟨cell, r, f⟩ := known_facts hn
  unfold Cpu.setRegister writeOf
  rw [setRegister_of_cell st v f.setCell f.inBounds, f.getCell]

theorem setCallerRegister_eq (w : CfiStackWalker) (n : String) (v : Nat) :
    w.setCallerRegister n v = .ok
      (match w.cpu.canon n with
       | none => (false, w)
       | some m =>
         if w.cpu.fits v then
           (true, w.withCaller (writeOf w.cpu.tbl w.callerCtx n v) (setInsert w.callerValidity m))
         else (false, w)) := by
  unfold CfiStackWalker.setCallerRegister
  rw [w.cpu.memoize_eq]
  cases hm : w.cpu.canon n with
  | none => rfl
  | some m =>
    simp only
    by_cases hf : w.cpu.fits v = true
    · simp only [hf, Bool.not_true, Bool.false_eq_true, if_false, if_true]
      rw [w.cpu.setRegister_known _ (canon_known hm)]
      rfl
    · simp only [hf, Bool.not_false, if_true]
      simp

theorem clearCallerRegister_eq (w : CfiStackWalker) (n : String) :
    w.clearCallerRegister n = .ok
      (match w.cpu.canon n with
       | none => w
       | some m => w.withCaller w.callerCtx (setRemove w.callerValidity m)) := by
  unfold CfiStackWalker.clearCallerRegister
  rw [w.cpu.memoize_eq]
  cases w.cpu.canon n <;> rfl

theorem sp_known (p : Cpu) : p.spName ∈ registers p.tbl ∧ p.ipName ∈ registers p.tbl ∧ p.spName ≠ p.ipName :=
  sp_ip_registers p.tbl

/-- `set_cfa` / `set_ra`: `hr` holds for the stack-pointer / instruction-pointer name by
    `sp_ip_registers` -/
theorem setNamed_eq (w : CfiStackWalker) {reg : String} (hr : reg ∈ registers w.cpu.tbl) (v : Nat) :
    w.setNamed reg v = w.setCallerRegister reg v := by
  unfold CfiStackWalker.setNamed CfiStackWalker.setCallerRegister
  rw [w.cpu.memoize_eq, canon_register hr]

theorem setCfa_eq (w : CfiStackWalker) (v : Nat) : w.setCfa v = w.setCallerRegister w.cpu.spName v :=
  setNamed_eq w (sp_known w.cpu).1 v

theorem setRa_eq (w : CfiStackWalker) (v : Nat) : w.setRa v = w.setCallerRegister w.cpu.ipName v :=
  setNamed_eq w (sp_known w.cpu).2.1 v

/-- `s` is meant to be a canonical name -/
def callerView (w : CfiStackWalker) (s : String) : Option Nat :=
  if w.callerValidity.contains s then some (rawOf w.cpu.tbl w.callerCtx s) else none

theorem setInsert_contains (l : List String) (m s : String) :
    (setInsert l m).contains s = (decide (s = m) || l.contains s) :=
  Walk.setInsert_contains l m s

theorem setRemove_contains (l : List String) (m s : String) :
    (setRemove l m).contains s = (!decide (s = m) && l.contains s) :=
  CfiBridge.filter_ne_contains l m s

theorem rawOf_write (p : Cpu) (st : State) {n m s : String} (hn : p.canon n = some m)
    (hs : s ∈ registers p.tbl) (v : Nat) :
    rawOf p.tbl (writeOf p.tbl st n v) s = if s = m then v else rawOf p.tbl st s := by
  obtain ⟨cell, r, f⟩ := known_facts (canon_known hn)
  obtain ⟨cs, rs, fs⟩ := known_facts (known_of_registers hs)
  have hinj := cell_inj hn hs
  unfold rawOf writeOf
  rw [f.getCell, fs.getCell] at *
  simp only [State.write]
  by_cases hsm : s = m
  · have : cs = cell := by have := hinj.mpr hsm; simpa using this
    simp [hsm, this]
  · have : ¬ cs = cell := fun e => hsm (hinj.mp (by rw [e]))
    simp [hsm, this]

theorem setCallerRegister_view (w : CfiStackWalker) (n : String) (v : Nat) :
    ∃ st vs, w.setCallerRegister n v = .ok ((w.cpu.canon n).isSome && w.cpu.fits v, w.withCaller st vs) ∧
      (((w.cpu.canon n).isSome && w.cpu.fits v) = false → w.withCaller st vs = w) ∧
      ∀ s ∈ registers w.cpu.tbl, callerView (w.withCaller st vs) s =
        if w.cpu.canon n = some s ∧ w.cpu.fits v = true then some v else callerView w s := by
  rw [setCallerRegister_eq]
  cases hc : w.cpu.canon n with
  | none => exact ⟨w.callerCtx, w.callerValidity, rfl, fun _ => rfl, fun s _ => (if_neg (by simp)).symm⟩
  | some m =>
    cases hf : w.cpu.fits v with
    | false => exact ⟨w.callerCtx, w.callerValidity, rfl, fun _ => rfl, fun s _ => (if_neg (by simp)).symm⟩
    | true =>
      refine ⟨_, _, rfl, fun h => (by cases h), fun s hs => ?_⟩
      unfold callerView CfiStackWalker.withCaller
      simp only [setInsert_contains]
      rw [rawOf_write w.cpu _ hc hs]
      by_cases hsm : s = m
      · simp [hsm]
      · simp [hsm, Ne.symm hsm]

theorem clearCallerRegister_view (w : CfiStackWalker) (n : String) :
    ∃ vs, w.clearCallerRegister n = .ok (w.withCaller w.callerCtx vs) ∧
      (w.cpu.canon n = none → w.withCaller w.callerCtx vs = w) ∧
      ∀ s, callerView (w.withCaller w.callerCtx vs) s =
        if w.cpu.canon n = some s then none else callerView w s := by
  rw [clearCallerRegister_eq]
  cases hc : w.cpu.canon n with
  | none => exact ⟨w.callerValidity, rfl, fun _ => rfl, fun s => (if_neg (by simp)).symm⟩
  | some m =>
    refine ⟨_, rfl, fun h => (by cases h), fun s => ?_⟩
    unfold callerView CfiStackWalker.withCaller
    simp only [setRemove_contains]
    by_cases hsm : m = s
    · simp [hsm]
    · simp [hsm, Ne.symm hsm]

end MdModel.CfiWalker
