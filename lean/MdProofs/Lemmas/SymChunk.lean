/-
  Chunk independence of the buffer state machine, for every line parser that processes its
  window line by line (`PmSpec`): when no line reaches half the capacity limit, the loop never
  enters recovery and computes the reference semantics `specOut` — whatever the chunk schedule.
  One iteration outside recovery (`step_normal`, `parse_normal`) is analysed without that
  hypothesis; `MdProofs.Lemmas.SymDrop` rests on it as well.
-/
import MdProofs.Lemmas.SymStream
import MdProofs.Lemmas.SymLines
namespace MdModel.Stream
open MdModel

def PmSpec {σ} (ops : Ops σ) (L : σ → Bytes → LR σ) : Prop :=
  ∀ st w, ops.parseMore st w = pmSpec L st w

def ShortLines (half : Nat) (input : Bytes) : Prop :=
  ∀ a seg b, input = a ++ seg ++ b → NL ∉ seg → seg.length < half

theorem ShortLines.of_length {half : Nat} {input : Bytes} (h : input.length < half) : ShortLines half input := by
  intro a seg b he _
  have : input.length = a.length + seg.length + b.length := by rw [he]; simp only [List.length_append]
  omega

theorem pow_chain_le {a k m : Nat} (h : a * 2 ^ k = m) : a ≤ m :=
  h ▸ Nat.le_mul_of_pos_right _ (Nat.two_pow_pos k)

/-- loop-head invariant of a run that never recovers -/
structure J {σ} (maxCap : Nat) (input : Bytes) (L : σ → Bytes → LR σ) (st0 : σ) (s : St σ) : Prop where
  inv : Inv maxCap input s
  notRec : s.inRecovery = false
  notJust : s.justFinished = false
  noNL : NL ∉ s.buf.data
  aligned : ∃ ls, (∀ l ∈ ls, IsLine l) ∧ cbBytes s = ls.flatten ∧ foldL L st0 ls = .ok s.ps
  fullyIff : s.fullyConsumed = true ↔ (s.buf.data = [] ∧ cbBytes s ≠ [])
  tried : s.triedToGrow = true → s.buf.availableSpace > 0
  chain : ∃ k, s.buf.cap * 2 ^ k = maxCap

theorem flatten_isEmpty_of_lines (ls : List Bytes) (h : ∀ l ∈ ls, IsLine l) :
    ls.flatten.isEmpty = ls.isEmpty := by
  cases ls with
  | nil => rfl
  | cons l rest =>
    have := IsLine.ne_nil (h l (by simp))
    cases l with
    | nil => exact absurd rfl this
    | cons b bs => simp

theorem not_isEmpty_append_lines (a : Bytes) (ls : List Bytes) (h : ∀ l ∈ ls, IsLine l) :
    (!(a ++ ls.flatten).isEmpty) = (!a.isEmpty || !ls.isEmpty) := by
  rw [← flatten_isEmpty_of_lines ls h]
  cases a <;> cases ls.flatten <;> rfl

theorem specRest_window {σ} (L : σ → Bytes → LR σ) (lines : σ → Nat) (st : σ) (ne : Bool) (w u : Bytes) :
    specRest L lines st ne (w ++ u) =
      match foldL L st (linesOf w).1 with
      | .ok st' => specRest L lines st' (ne || !(linesOf w).1.isEmpty) ((linesOf w).2 ++ u)
      | .err k n => .err k n
      | .panic e => .panic e := by
  have hw : w ++ u = (linesOf w).1.flatten ++ ((linesOf w).2 ++ u) := by
    rw [← List.append_assoc, linesOf_flatten]
  rw [hw]
  exact specRest_lines L lines st ne _ (linesOf_isLine w) _

theorem specRest_noNL {σ} (L : σ → Bytes → LR σ) (lines : σ → Nat) (st : σ) (ne : Bool) (w : Bytes)
    (h : NL ∉ w) :
    specRest L lines st ne w =
      if ne = false then .err errEmpty 0 else if w = [] then .ok st else .err errEof (lines st) := by
  unfold specRest
  rw [linesOf_noNL w h]
  cases ne <;> cases w <;> rfl

/-- what `J` and `SymDrop`'s `JM` share -/
structure Normal {σ} (maxCap : Nat) (input : Bytes) (s : St σ) : Prop where
  inv : Inv maxCap input s
  notRec : s.inRecovery = false
  notJust : s.justFinished = false
  noNL : NL ∉ s.buf.data
  fullyIff : s.fullyConsumed = true ↔ (s.buf.data = [] ∧ cbBytes s ≠ [])
  tried : s.triedToGrow = true → s.buf.availableSpace > 0
  chain : ∃ k, s.buf.cap * 2 ^ k = maxCap

theorem J.normal {σ} {maxCap : Nat} {input : Bytes} {L : σ → Bytes → LR σ} {st0 : σ} {s : St σ}
    (h : J maxCap input L st0 s) : Normal maxCap input s :=
  { h with }

/-- What the ghost `aligned` is for: the reference answer for what remains, from the parser state
    reached, is the reference answer for the whole input, whatever the input is extended by. -/
theorem J.spec {σ} {maxCap : Nat} {input : Bytes} {L : σ → Bytes → LR σ} {st0 : σ} {s : St σ}
    (h : J maxCap input L st0 s) (lines : σ → Nat) (ext : Bytes) :
    specOut L lines st0 (input ++ ext) =
      specRest L lines s.ps (!(cbBytes s).isEmpty) (s.buf.data ++ (s.unread ++ ext)) := by
  obtain ⟨ls, hls, hcb, hfold⟩ := h.aligned
  unfold specOut
  rw [← h.inv.split, hcb, List.append_assoc, List.append_assoc,
    specRest_append L lines st0 s.ps false ls hls _ hfold, flatten_isEmpty_of_lines ls hls, Bool.false_or]

/-- The parser block on a non-empty window outside recovery, compared with ANY reference semantics
    `ref st ne rest` that obeys the window law `hwin` (on a window within the limit: fold its complete
    lines, go on with what is left — `specRest_window`, `specRestM_window`): the block returns the
    reference answer, or leaves a `Normal` state with the same answer ahead. -/
theorem parse_normal {σ} (maxCap : Nat) (input : Bytes) (ops : Ops σ) (L : σ → Bytes → LR σ)
    (hspec : PmSpec ops L) (ref : σ → Bool → Bytes → Out σ)
    (hwin : ∀ st ne w u, w.length ≤ maxCap → ref st ne (w ++ u) =
      match foldL L st (linesOf w).1 with
      | .ok st' => ref st' (ne || !(linesOf w).1.isEmpty) ((linesOf w).2 ++ u)
      | .err k n => .err k n
      | .panic e => .panic e)
    (m : St σ) {res} (hp : ParseTo ops m res) (hm : Mid maxCap input m) (hnr : m.inRecovery = false)
    (hwne : m.buf.data ≠ []) (htg : m.triedToGrow = false) (hchain : ∃ k, m.buf.cap * 2 ^ k = maxCap) :
    (∃ sf, res = .inr (ref m.ps (!(cbBytes m).isEmpty) (m.buf.data ++ m.unread), sf)) ∨
    (∃ s', res = .inl s' ∧ Normal maxCap input s' ∧
      ref s'.ps (!(cbBytes s').isEmpty) (s'.buf.data ++ s'.unread) =
        ref m.ps (!(cbBytes m).isEmpty) (m.buf.data ++ m.unread) ∧
      foldL L m.ps (linesOf m.buf.data).1 = .ok s'.ps ∧
      cbBytes s' = cbBytes m ++ (linesOf m.buf.data).1.flatten ∧
      s'.buf.data = (linesOf m.buf.data).2 ∧ s'.unread = m.unread) := by
  have hpm := hspec m.ps m.buf.data
  unfold pmSpec at hpm
  have hfl := linesOf_flatten m.buf.data
  have hwl : m.buf.data.length = (linesOf m.buf.data).1.flatten.length + (linesOf m.buf.data).2.length := by
    rw [← List.length_append, hfl]
  have hfit : m.buf.data.length ≤ maxCap := by
    have h2 := hm.buf.fits; have h3 := hm.capLe; omega
  rw [hwin _ _ _ _ hfit]
  cases hp with
  | skip hr => rw [hnr] at hr; cases hr
  | @took n ps' s' _ hok t hps hir hjf =>
    cases hf : foldL L m.ps (linesOf m.buf.data).1 with
    | err k n => rw [hf, hok] at hpm; cases hpm
    | panic e => rw [hf, hok] at hpm; cases hpm
    | ok st' =>
      rw [hf, hok] at hpm
      injection hpm with hn hst
      subst hn hst
      have htake : m.buf.data.take (linesOf m.buf.data).1.flatten.length = (linesOf m.buf.data).1.flatten := by
        conv => lhs; arg 2; rw [← hfl]
        exact List.take_left
      have hdrop : m.buf.data.drop (linesOf m.buf.data).1.flatten.length = (linesOf m.buf.data).2 := by
        conv => lhs; arg 2; rw [← hfl]
        exact List.drop_left
      have hd : s'.buf.data = (linesOf m.buf.data).2 := t.data.trans hdrop
      have hcb : cbBytes s' = cbBytes m ++ (linesOf m.buf.data).1.flatten := by rw [t.bytes, htake]
      refine Or.inr ⟨s', rfl, ⟨t.inv hm, hir, hjf, ?_, ?_, fun h => ?_, ?_⟩, ?_, hps ▸ rfl, hcb, hd, t.unread⟩
      · rw [hd]; exact linesOf_rest_noNL _
      · -- fully consumed: nothing is left of a non-empty window, so complete lines were taken
        rw [t.fully, hcb]
        refine ⟨fun h => ⟨h, fun hc => ?_⟩, fun h => h.1⟩
        rw [hd] at h
        rw [h, (List.append_eq_nil_iff.mp hc).2] at hwl
        exact hwne (List.eq_nil_of_length_eq_zero hwl)
      · rw [t.tried, htg] at h; cases h
      · rw [t.cap]; exact hchain
      · rw [hps, hcb, hd, t.unread, not_isEmpty_append_lines _ _ (linesOf_isLine m.buf.data)]
  | @failed out _ ho =>
    left
    cases hf : foldL L m.ps (linesOf m.buf.data).1 with
    | err k n => rw [hf] at hpm; rw [hpm] at ho; cases (ho : out = .err k n); exact ⟨_, rfl⟩
    | panic e => rw [hf] at hpm; rw [hpm] at ho; cases (ho : out = .panic e); exact ⟨_, rfl⟩
    | ok st' => rw [hf] at hpm; rw [hpm] at ho; omega

/-- One iteration from a `Normal` state: (a) end of input; (b) the buffer is full below the limit
    and grows; (c) it is full at the limit, so the line in the window has reached half of it (the
    loop enters recovery if doubling the limit exceeds it: left to the caller); (d) the parser runs. -/
theorem step_normal {σ} (maxCap : Nat) (input : Bytes) (ops : Ops σ) (L : σ → Bytes → LR σ)
    (hmax : maxCap ≤ U64MAX) (s : St σ) (hN : Normal maxCap input s) :
    (s.unread = [] ∧ s.buf.data.length < maxCap ∧ ∃ sf, step maxCap ops s =
        .inr (specRest L ops.lines s.ps (!(cbBytes s).isEmpty) (s.buf.data ++ s.unread), sf)) ∨
    (∃ s', step maxCap ops s = .inl s' ∧ Normal maxCap input s' ∧ s'.ps = s.ps ∧
        cbBytes s' = cbBytes s ∧ s'.buf.data = s.buf.data ∧ s'.unread = s.unread) ∨
    (s.buf.cap = maxCap ∧ maxCap / 2 ≤ s.buf.data.length ∧ ∃ s', step maxCap ops s = .inl s' ∧
      (satDouble maxCap > maxCap → Inv maxCap input s' ∧
        s'.inRecovery = true ∧ s'.justFinished = false ∧ s'.triedToGrow = false ∧ s'.buf.cap = maxCap ∧
        s'.ps = s.ps ∧ s'.buf.data = s.buf.data ∧ s'.unread = s.unread)) ∨
    (∃ m, ParseTo ops m (step maxCap ops s) ∧ Mid maxCap input m ∧ m.inRecovery = false ∧
        m.buf.data ≠ [] ∧ m.triedToGrow = false ∧ m.buf.cap = s.buf.cap ∧ m.ps = s.ps ∧
        cbBytes m = cbBytes s ∧ m.buf.data ++ m.unread = s.buf.data ++ s.unread) := by
  obtain ⟨hinv, hnr, hnj, hnoNL, hfully, htried, ⟨k, hk⟩⟩ := hN
  have sp1 := (step_spec maxCap input ops s hinv).1
  have hbuf := hinv.buf
  rw [show step maxCap ops s = tail maxCap ops s by rw [step_eq_tail, recover_of_notRec ops s hnr]]
    at sp1 ⊢
  have ht := tail_to maxCap ops s
  generalize tail maxCap ops s = res at sp1 ht ⊢
  have hspec0 := specRest_noNL L ops.lines s.ps (!(cbBytes s).isEmpty) s.buf.data hnoNL
  -- a zero-length read into a full buffer: the window is at least half the capacity
  have hfull (hsp : s.buf.availableSpace = 0) : s.buf.cap / 2 ≤ s.buf.data.length := by
    have h1 := hbuf.fits; have h2 := hbuf.half
    simp only [Buf.availableSpace, Buf.end_] at hsp
    omega
  -- a zero-length read that is an error: end of input with an unterminated rest (or nothing at all)
  have hend {m : St σ} (hR : ReadTo s m []) (hfc : m.fullyConsumed = false)
      (hg : m.triedToGrow = true ∨ s.buf.availableSpace > 0) :
      s.unread = [] ∧ s.buf.data.length < maxCap ∧ m.totalConsumed = (cbBytes s).length ∧
      (cbBytes s ≠ [] → s.buf.data ≠ []) := by
    have hhad : s.buf.availableSpace > 0 := hg.elim (fun h => htried (hR.tried0 rfl ▸ h)) id
    refine ⟨(hR.zero rfl).resolve_left (by omega), ?_, hR.total.trans hinv.total,
      fun hcb hd => Bool.noConfusion (hfc.symm.trans (hR.fully.trans (hfully.mpr ⟨hd, hcb⟩)))⟩
    have h1 := hbuf.fits; have h2 := hinv.capLe
    simp only [Buf.availableSpace, Buf.end_] at hhad
    omega
  -- below the limit the capacity can double
  have hdbl (hlt : s.buf.cap < maxCap) :
      ∃ k', 2 * s.buf.cap * 2 ^ k' = maxCap ∧ satDouble s.buf.cap = 2 * s.buf.cap := by
    obtain ⟨k', rfl⟩ : ∃ k', k = k' + 1 := by
      cases k with
      | zero => rw [Nat.pow_zero, Nat.mul_one] at hk; omega
      | succ k' => exact ⟨k', rfl⟩
    have h2cap : 2 * s.buf.cap * 2 ^ k' = maxCap := by
      rw [← hk, Nat.pow_succ, Nat.mul_comm 2 s.buf.cap, Nat.mul_assoc, Nat.mul_comm 2 (2 ^ k')]
    have := pow_chain_le h2cap
    exact ⟨k', h2cap, by unfold satDouble; omega⟩
  cases ht with
  | @parse m chunk _ hR hc hp =>
    exact Or.inr (Or.inr (Or.inr ⟨m, hp, hR.mid hinv.toMid, hR.inRec.trans hnr, (hR.parsed hc).1,
      (hR.parsed hc).2 (Or.inr hnj), hR.cap, hR.ps, cbBytes_eq hR.cb, hR.rest⟩))
  | @ok m hR _ hfc =>
    left
    obtain ⟨hd, hne⟩ := hfully.mp (hR.fully ▸ hfc)
    have hun : s.unread = [] := hR.at_end hbuf hd
    refine ⟨hun, by rw [hd]; exact hbuf.capPos |> Nat.lt_of_lt_of_le <| hinv.capLe, m, ?_⟩
    rw [hun, List.append_nil, hspec0, List.isEmpty_eq_false_iff.mpr hne, hd, hR.ps]
    rfl
  | @empty m hR _ hfc hg ht0 =>
    left
    obtain ⟨hun, hshort, htot, _⟩ := hend hR hfc hg
    refine ⟨hun, hshort, m, ?_⟩
    rw [hun, List.append_nil, hspec0, (List.eq_nil_of_length_eq_zero (htot ▸ ht0) : cbBytes s = [])]
    rfl
  | @eof m hR _ hfc hg ht0 =>
    left
    obtain ⟨hun, hshort, htot, hdne⟩ := hend hR hfc hg
    have hcb : cbBytes s ≠ [] := fun h => ht0 (by rw [htot, h]; rfl)
    refine ⟨hun, hshort, m, ?_⟩
    rw [hun, List.append_nil, hspec0, hR.ps, List.isEmpty_eq_false_iff.mpr hcb, if_neg (by simp),
      if_neg (hdne hcb)]
  | @limit m hR _ _ htg hsp hsd =>
    right; right; left
    have hcapeq : s.buf.cap = maxCap := by
      rcases Nat.lt_or_ge s.buf.cap maxCap with hlt | hge
      · obtain ⟨_, h2cap, hsd'⟩ := hdbl hlt
        rw [hR.cap, hsd'] at hsd
        exact absurd (pow_chain_le h2cap) (Nat.not_le_of_gt hsd)
      · exact Nat.le_antisymm hinv.capLe hge
    exact ⟨hcapeq, hcapeq ▸ hfull hsp, _, rfl, fun _ => ⟨sp1 _ rfl, rfl, hR.just.trans hnj, htg,
      hR.cap.trans hcapeq, hR.ps, hR.data0, hR.unread0⟩⟩
  | @grow m hR _ hfc htg hsp hsd =>
    right
    rcases Nat.lt_or_ge s.buf.cap maxCap with hlt | hge
    · -- below the limit: the capacity doubles
      left
      obtain ⟨k', h2cap, hsd'⟩ := hdbl hlt
      have hgc : (m.buf.grow (satDouble m.buf.cap)).cap = 2 * s.buf.cap := by
        rw [hR.cap, hsd', Buf.grow_cap _ _ (by rw [hR.cap]; omega)]
      have hcb' : cbBytes { m with buf := m.buf.grow (satDouble m.buf.cap), triedToGrow := true }
          = cbBytes s := cbBytes_eq hR.cb
      refine ⟨_, rfl, ⟨sp1 _ rfl, hR.inRec.trans hnr, hR.just.trans hnj, ?_, ?_, fun _ => ?_,
        ⟨k', ?_⟩⟩, hR.ps, hcb', ?_, hR.unread0⟩
      · show NL ∉ (m.buf.grow _).data
        rw [Buf.grow_data, hR.data0]; exact hnoNL
      · show m.fullyConsumed = true ↔ ((m.buf.grow _).data = [] ∧ _ ≠ [])
        rw [Buf.grow_data, hR.data0, hcb', hR.fully]
        exact hfully
      · have h1 := (hR.bufInv hbuf).fits; have h2 := hbuf.capPos
        show (m.buf.grow (satDouble m.buf.cap)).availableSpace > 0
        simp only [Buf.availableSpace, Buf.end_, hgc, Buf.grow_data, Buf.grow_pos]
        rw [hR.cap] at h1
        omega
      · show (m.buf.grow (satDouble m.buf.cap)).cap * 2 ^ k' = maxCap
        rw [hgc]; exact h2cap
      · show (m.buf.grow _).data = s.buf.data
        rw [Buf.grow_data, hR.data0]
    · -- at the limit (and doubling the limit does not exceed it: nothing is claimed)
      right; left
      have hcapeq : s.buf.cap = maxCap := Nat.le_antisymm hinv.capLe hge
      rw [hR.cap, hcapeq] at hsd
      exact ⟨hcapeq, hcapeq ▸ hfull hsp, _, rfl, fun h => absurd hsd (Nat.not_le_of_gt h)⟩

theorem step_J {σ} (maxCap : Nat) (input : Bytes) (ops : Ops σ) (L : σ → Bytes → LR σ) (st0 : σ)
    (hspec : PmSpec ops L) (hmax : maxCap ≤ U64MAX) (hshort : ShortLines (maxCap / 2) input)
    (s : St σ) (hJ : J maxCap input L st0 s) :
    (∃ sf, step maxCap ops s =
        .inr (specRest L ops.lines s.ps (!(cbBytes s).isEmpty) (s.buf.data ++ s.unread), sf)) ∨
    (∃ s', step maxCap ops s = .inl s' ∧ J maxCap input L st0 s' ∧
        specRest L ops.lines s'.ps (!(cbBytes s').isEmpty) (s'.buf.data ++ s'.unread) =
        specRest L ops.lines s.ps (!(cbBytes s).isEmpty) (s.buf.data ++ s.unread)) := by
  obtain ⟨ls0, hls0, hcb0, hfold0⟩ := hJ.aligned
  rcases step_normal maxCap input ops L hmax s hJ.normal with
    ⟨_, _, h⟩ | ⟨s', hS, hN, hps, hcb, hd, hu⟩ | ⟨_, hlen, _⟩ |
    ⟨m, hS, hm, hnr, hne, htg, hcap, hps, hcb, hrest⟩
  · exact Or.inl h
  · right
    refine ⟨s', hS, { hN with aligned := ⟨ls0, hls0, hcb.trans hcb0, ?_⟩ }, ?_⟩
    · rw [hps]; exact hfold0
    · rw [hps, hcb, hd, hu]
  · -- no line reaches half the limit
    have := hshort (cbBytes s) s.buf.data s.unread hJ.inv.split.symm hJ.noNL
    omega
  · rw [← hrest, ← hps, ← hcb]
    rcases parse_normal maxCap input ops L hspec (specRest L ops.lines)
        (fun st ne w u _ => specRest_window L ops.lines st ne w u) m hS hm hnr hne htg (hcap ▸ hJ.chain) with
      h | ⟨s', hS', hN, href, hf, hcb', _, _⟩
    · exact Or.inl h
    · right
      refine ⟨s', hS', { hN with aligned := ⟨ls0 ++ (linesOf m.buf.data).1, ?_, ?_, ?_⟩ }, href⟩
      · intro l hl
        rcases List.mem_append.mp hl with h | h
        · exact hls0 l h
        · exact linesOf_isLine m.buf.data l h
      · rw [hcb', hcb, hcb0, List.flatten_append]
      · rw [foldL_append, hfold0, ← hps]; exact hf

theorem step_J_unread {σ} (maxCap : Nat) (input : Bytes) (ops : Ops σ) (L : σ → Bytes → LR σ) (st0 : σ)
    (hspec : PmSpec ops L) (hmax : maxCap ≤ U64MAX) (s : St σ) (hJ : J maxCap input L st0 s)
    (hun : s.unread ≠ []) (out : Out σ) (sf : St σ) (h : step maxCap ops s = .inr (out, sf)) :
    ∀ ext, specOut L ops.lines st0 (input ++ ext) = out := by
  rcases step_normal maxCap input ops L hmax s hJ.normal with
    ⟨hu, _⟩ | ⟨s', hS, _⟩ | ⟨_, _, s', hS, _⟩ | ⟨m, hS, hm, hnr, hne, htg, hcap, hps, hcb, hrest⟩
  · exact absurd hu hun
  · rw [hS] at h; cases h
  · rw [hS] at h; cases h
  · intro ext
    rcases parse_normal maxCap input ops L hspec (fun st ne w => specRest L ops.lines st ne (w ++ ext))
        (fun st ne w u _ => by rw [List.append_assoc, specRest_window, List.append_assoc])
        m hS hm hnr hne htg (hcap ▸ hJ.chain) with ⟨sf', e⟩ | ⟨s', e, _⟩
    · rw [e] at h; cases h
      rw [hJ.spec ops.lines ext, hps, hcb, ← List.append_assoc, ← hrest]
    · rw [e] at h; cases h

theorem run_J {σ} (maxCap : Nat) (input : Bytes) (ops : Ops σ) (L : σ → Bytes → LR σ) (st0 : σ)
    (hspec : PmSpec ops L) (hmax : maxCap ≤ U64MAX) (hshort : ShortLines (maxCap / 2) input)
    (fuel : Nat) (s : St σ) (hJ : J maxCap input L st0 s) (hm : measure s < fuel) :
    ∃ sf, run maxCap ops fuel s = some (specOut L ops.lines st0 input, sf) := by
  refine run_total (P := fun s o => J maxCap input L st0 s ∧ specOut L ops.lines st0 input = o)
    (fun s o hs => ?_) fuel s _ ⟨hJ, rfl⟩ hm
  have hsp := hs.1.spec ops.lines []
  rw [List.append_nil, List.append_nil, hs.2] at hsp
  rcases step_J maxCap input ops L st0 hspec hmax hshort s hs.1 with ⟨sf, h⟩ | ⟨s', h, hJ', _⟩
  · exact Or.inl ⟨sf, hsp ▸ h⟩
  · exact Or.inr ⟨s', h, hJ', hs.2⟩

theorem init_normal {σ} (maxCap initCap : Nat) (input : Bytes) (st0 : σ) (sched : List Nat)
    (h0 : 0 < initCap) (hchain : ∃ k, initCap * 2 ^ k = maxCap) :
    Normal maxCap input (init initCap st0 input sched) := by
  obtain ⟨k, hk⟩ := hchain
  refine ⟨init_inv maxCap initCap st0 input sched h0 (pow_chain_le hk), rfl, rfl, ?_, ?_, ?_, ⟨k, hk⟩⟩
  · simp [init, Buf.withCapacity]
  · simp [init, cbBytes]
  · intro h; cases h

theorem init_J {σ} (maxCap initCap : Nat) (input : Bytes) (L : σ → Bytes → LR σ) (st0 : σ) (sched : List Nat)
    (h0 : 0 < initCap) (hchain : ∃ k, initCap * 2 ^ k = maxCap) :
    J maxCap input L st0 (init initCap st0 input sched) :=
  { init_normal maxCap initCap input st0 sched h0 hchain with aligned := ⟨[], fun _ hl => (nomatch hl), rfl, rfl⟩ }

theorem machine_eq_spec {σ} (maxCap initCap : Nat) (input : Bytes) (ops : Ops σ) (L : σ → Bytes → LR σ)
    (st0 : σ) (sched : List Nat)
    (hspec : PmSpec ops L) (hmax : maxCap ≤ U64MAX) (h0 : 0 < initCap)
    (hchain : ∃ k, initCap * 2 ^ k = maxCap) (hshort : ShortLines (maxCap / 2) input) :
    ∃ sf, run maxCap ops (fuelFor input) (init initCap st0 input sched) =
      some (specOut L ops.lines st0 input, sf) :=
  run_J maxCap input ops L st0 hspec hmax hshort (fuelFor input) _
    (init_J maxCap initCap input L st0 sched h0 hchain) (measure_init initCap st0 input sched)

end MdModel.Stream
