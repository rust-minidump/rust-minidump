/-
  The proof kit of C02's round trip. `Has l off c`: the bytes `c` sit in `l` at offset `off`; a
  reader is followed over an encoded file by carrying a `Has` from field to field. `Fits l vs`: each
  value is below `256 ^ width` of its field. `readFields_has` (a serialized fixed-layout record
  reads back) is proved once for every layout, so it covers the GENERATED ones; the checked
  arithmetic and location descriptors succeed because the values lie inside a file shorter than
  2^32. A monadic reader's outcome is followed with `res_bind_ok` (Lemmas/Bytes) and one `res_*`
  rule for each primitive.
-/
import MdModel.Encode
import MdProofs.Lemmas.Bytes
import MdProofs.Lemmas.Assoc
namespace MdModel.Encode
open MdModel MdModel.Dump MdModel.Gen.Layouts

theorem U32_le_U64 : (2 : Nat) ^ 32 ≤ U64MAX := by decide
theorem pow_256_1 : (256 : Nat) ^ 1 = 256 := by decide
theorem pow_256_2 : (256 : Nat) ^ 2 = 2 ^ 16 := by decide
theorem pow_256_4 : (256 : Nat) ^ 4 = 2 ^ 32 := by decide
theorem pow_256_8 : (256 : Nat) ^ 8 = 2 ^ 64 := by decide

@[simp] theorem leBytes_length (w v : Nat) : (leBytes w v).length = w := by
  induction w generalizing v with
  | zero => rfl
  | succ n ih => simp [leBytes, ih]

@[simp] theorem encNat_length (e : Endian) (w v : Nat) : (encNat e w v).length = w := by
  cases e <;> simp [encNat]

theorem leNat_leBytes (w v : Nat) (h : v < 256 ^ w) : leNat (leBytes w v) = v := by
  induction w generalizing v with
  | zero => simp at h; subst h; rfl
  | succ n ih =>
    have h' : v / 256 < 256 ^ n := by
      rw [Nat.pow_succ] at h
      exact Nat.div_lt_of_lt_mul (by rw [Nat.mul_comm]; exact h)
    simp only [leBytes, leNat, ih _ h', UInt8.toNat_ofNat']
    omega

theorem encNat_one (e : Endian) (b : UInt8) : encNat e 1 b.toNat = [b] := by
  cases e <;> simp [encNat, leBytes]

theorem decodeNat_encNat (e : Endian) (w v : Nat) (h : v < 256 ^ w) : decodeNat e (encNat e w v) = v := by
  cases e with
  | little => exact leNat_leBytes w v h
  | big => simp [decodeNat, encNat, leNat_leBytes w v h]

def Has (l : List UInt8) (off : Nat) (c : List UInt8) : Prop :=
  ∃ pre post, l = pre ++ c ++ post ∧ pre.length = off

theorem Has.mid (pre c post : List UInt8) : Has (pre ++ c ++ post) pre.length c := ⟨pre, post, rfl, rfl⟩

theorem Has.left {l : List UInt8} {off : Nat} {c1 c2 : List UInt8} (h : Has l off (c1 ++ c2)) : Has l off c1 := by
  obtain ⟨pre, post, hl, hp⟩ := h
  exact ⟨pre, c2 ++ post, by simp [hl], hp⟩

theorem Has.right {l : List UInt8} {off : Nat} {c1 c2 : List UInt8} (h : Has l off (c1 ++ c2)) :
    Has l (off + c1.length) c2 := by
  obtain ⟨pre, post, hl, hp⟩ := h
  exact ⟨pre ++ c1, post, by simp [hl], by simp [hp]⟩

theorem Has.after {l : List UInt8} {off n : Nat} {c1 c2 : List UInt8} (h : Has l off (c1 ++ c2)) (hn : c1.length = n) :
    Has l (off + n) c2 := hn ▸ h.right

theorem Has.length_le {l : List UInt8} {off : Nat} {c : List UInt8} (h : Has l off c) : off + c.length ≤ l.length := by
  obtain ⟨pre, post, hl, hp⟩ := h
  subst hl; simp; omega

theorem Has.sub {l : List UInt8} {off off' : Nat} {c c' : List UInt8} (h : Has l off c) (h' : Has c off' c') :
    Has l (off + off') c' := by
  obtain ⟨pre, post, hl, hp⟩ := h
  obtain ⟨pre', post', hc, hp'⟩ := h'
  exact ⟨pre ++ pre', post' ++ post, by simp [hl, hc], by simp [hp, hp']⟩

theorem Has.nil {l : List UInt8} {off : Nat} (h : off ≤ l.length) : Has l off [] :=
  ⟨l.take off, l.drop off, by simp, by simp [h]⟩

theorem Has.extract {b : Bytes} {off : Nat} {c : List UInt8} (h : Has b.toList off c) :
    (b.extract off (off + c.length)).toList = c := by
  obtain ⟨pre, post, hl, hp⟩ := h
  rw [Array.toList_extract, hl, List.extract_eq_take_drop]
  subst hp
  simp

theorem Has.size_le {b : Bytes} {off : Nat} {c : List UInt8} (h : Has b.toList off c) : off + c.length ≤ b.size := by
  have := h.length_le
  simpa using this

theorem Has.prefix0 {b : Bytes} {c rest : List UInt8} (h : b.toList = c ++ rest) : Has b.toList 0 c :=
  ⟨[], rest, by simp [h], rfl⟩

theorem readScalar_has {b : Bytes} {off w v : Nat} {e : Endian} (h : Has b.toList off (encNat e w v))
    (hv : v < 256 ^ w) : readScalar b off w e = some v := by
  have hsz := h.size_le
  have hx := h.extract
  rw [encNat_length] at hsz hx
  exact readScalar_eq_some.mpr ⟨hsz, by rw [hx, decodeNat_encNat e w v hv]⟩

theorem Has.scalar {b : Bytes} {off w v : Nat} {e : Endian} {rest : List UInt8}
    (h : Has b.toList off (encNat e w v ++ rest)) (hv : v < 256 ^ w) :
    readScalar b off w e = some v ∧ Has b.toList (off + w) rest :=
  ⟨readScalar_has h.left hv, h.after (encNat_length e w v)⟩

def Fits : Layout → List Nat → Prop
  | [], [] => True
  | (_, w) :: l, v :: vs => v < 256 ^ w ∧ Fits l vs
  | _, _ => False

theorem Fits.append : ∀ {l1 l2 : Layout} {v1 v2 : List Nat}, Fits l1 v1 → Fits l2 v2 → Fits (l1 ++ l2) (v1 ++ v2)
  | [], _, [], _, _, h2 => h2
  | [], _, _ :: _, _, h1, _ => h1.elim
  | (_, _) :: _, _, [], _, h1, _ => h1.elim
  | (_, _) :: _, _, _ :: _, _, h1, h2 => ⟨h1.1, h1.2.append h2⟩

theorem Fits.of_widths : ∀ {l l' : Layout} {vs : List Nat}, l.map (·.2) = l'.map (·.2) → Fits l vs → Fits l' vs
  | [], [], _, _, h => h
  | (_, _) :: _, (_, _) :: _, [], _, h => h.elim
  | (_, w) :: l, (_, w') :: l', v :: vs, hw, h => by
    simp only [List.map_cons, List.cons.injEq] at hw
    exact ⟨hw.1 ▸ h.1, Fits.of_widths hw.2 h.2⟩

theorem Fits.split {l : Layout} (n : Nat) {v1 v2 : List Nat} (h1 : Fits (l.take n) v1) (h2 : Fits (l.drop n) v2) :
    Fits l (v1 ++ v2) := by
  rw [← List.take_append_drop n l]; exact h1.append h2

theorem Fits.uniform {w : Nat} : ∀ {l : Layout} {vs : List Nat}, l.length = vs.length → (∀ f ∈ l, f.2 = w) →
    (∀ v ∈ vs, v < 256 ^ w) → Fits l vs
  | [], [], _, _, _ => trivial
  | [], _ :: _, hl, _, _ => by simp at hl
  | _ :: _, [], hl, _, _ => by simp at hl
  | (n, w') :: l, v :: vs, hl, hw, hv => by
    have hw1 : w' = w := hw (n, w') (by simp)
    subst hw1
    exact ⟨hv v (by simp), Fits.uniform (by simpa using hl) (fun f hf => hw f (by simp [hf]))
      (fun x hx => hv x (by simp [hx]))⟩

theorem fld_append_right {a b : List Nat} {n : Nat} (k : Nat) (h : a.length = n) : fld (a ++ b) (n + k) = fld b k := by
  subst h
  simp [fld, List.getD_eq_getElem?_getD, List.getElem?_append_right]

@[simp] theorem encFields_length (e : Endian) (l : Layout) (vs : List Nat) :
    (encFields e l vs).length = Layout.size l := by
  induction l generalizing vs with
  | nil => simp [encFields, Layout.size]
  | cons f rest ih =>
    obtain ⟨n, w⟩ := f
    cases vs <;> simp [encFields, Layout.size, ih]

theorem readFields_has {l : Layout} {b : Bytes} {off : Nat} {e : Endian} {vs : List Nat}
    (hf : Fits l vs) (h : Has b.toList off (encFields e l vs)) : readFields l b off e = some vs := by
  fun_induction Fits l vs generalizing off with
  | case1 => rfl
  | case2 _ w l v vs ih =>
    obtain ⟨h1, h2⟩ := Has.scalar h hf.1
    exact readFields_cons_some.mpr ⟨v, vs, h1, ih hf.2 h2, rfl⟩
  | case3 => exact hf.elim

theorem readFields_head {n : String} {w : Nat} {rest : Layout} {b : Bytes} {off : Nat} {e : Endian} {v : Nat}
    {vs : List Nat} (h : readFields ((n, w) :: rest) b off e = some (v :: vs)) : readScalar b off w e = some v := by
  obtain ⟨_, _, hv, -, hvs⟩ := readFields_cons_some.mp h
  cases hvs
  exact hv

theorem mapM_range' {β : Type} (f : Nat → Option β) (rs : List β) (s : Nat)
    (h : ∀ k (hk : k < rs.length), f (s + k) = some rs[k]) : (List.range' s rs.length).mapM f = some rs :=
  List.mapM_option_eq_some.mpr (List.ext_getElem (by simp) fun k h1 _ => by simpa using h k (by simpa using h1))

theorem encRecords_cons (e : Endian) (l : Layout) (r : List Nat) (rs : List (List Nat)) :
    encRecords e l (r :: rs) = encFields e l r ++ encRecords e l rs := by
  simp [encRecords]

@[simp] theorem encRecords_length (e : Endian) (l : Layout) (rs : List (List Nat)) :
    (encRecords e l rs).length = rs.length * Layout.size l := by
  induction rs with
  | nil => simp [encRecords]
  | cons r rs ih => rw [encRecords_cons]; simp [ih, Nat.add_mul]; omega

theorem Has.record {bs : List UInt8} {off : Nat} {e : Endian} {l : Layout} :
    ∀ {rs : List (List Nat)} (k : Nat) (hk : k < rs.length), Has bs off (encRecords e l rs) →
      Has bs (off + k * Layout.size l) (encFields e l rs[k]) := by
  intro rs
  induction rs generalizing off with
  | nil => intro k hk; exact absurd hk (by simp)
  | cons r rs ih =>
    intro k hk h
    rw [encRecords_cons] at h
    cases k with
    | zero => simpa using h.left
    | succ k =>
      have := ih k (by simpa using hk) (h.after (encFields_length ..))
      rwa [Nat.add_assoc, Nat.add_comm (Layout.size l), ← Nat.succ_mul] at this

theorem readEntries_has {l : Layout} {b : Bytes} {off : Nat} {e : Endian} {rs : List (List Nat)}
    (hf : ∀ r ∈ rs, Fits l r) (h : Has b.toList off (encRecords e l rs)) :
    readEntries l b e off rs.length = some rs := by
  unfold readEntries
  rw [List.range_eq_range']
  apply mapM_range'
  intro k hk
  simp only [Nat.zero_add]
  exact readFields_has (hf _ (List.getElem_mem hk)) (h.record k hk)

@[simp] theorem res_pure {α : Type} (a : α) : (pure a : M α).res = .ok a := rfl
@[simp] theorem res_fail {α : Type} (e : Err) : (M.fail e : M α).res = .err e := rfl
@[simp] theorem res_alloc (n sz : Nat) (ex : Bool) : (M.alloc n sz ex).res = .ok () := rfl

theorem res_usizeAdd {site : String} {a b : Nat} (h : a + b ≤ USIZE_MAX) : (usizeAdd site a b).res = .ok (a + b) := by
  unfold usizeAdd; rw [if_pos h]; rfl

theorem res_usizeSub {site : String} {a b : Nat} (h : b ≤ a) : (usizeSub site a b).res = .ok (a - b) := by
  unfold usizeSub; rw [if_pos h]; rfl

theorem res_sliceRange {site : String} {b : Bytes} {lo hi : Nat} (h : lo ≤ hi ∧ hi ≤ b.size) :
    (sliceRange site b lo hi).res = .ok (b.extract lo hi) := by
  unfold sliceRange; rw [if_pos h]; rfl

theorem ensureCountInBound_in {len n size off : Nat} (h : n * size + off ≤ len) (hlen : len < 2 ^ 32) :
    ensureCountInBound len n size off = .ok (n * size + off) := by
  have hU := U32_le_U64
  unfold ensureCountInBound checkedMul checkedAdd
  rw [if_pos (by omega)]; simp only
  rw [if_pos (by omega)]; simp only
  rw [if_neg (by omega)]

theorem locationRange_has {all : Bytes} {o : Nat} {c : List UInt8} (h : Has all.toList o c) (hall : all.size < 2 ^ 32) :
    locationRange all.size ⟨c.length, o⟩ = some (o, o + c.length) := by
  have hle := h.size_le
  have hU := U32_le_U64
  unfold locationRange checkedAdd
  simp only
  rw [if_pos (by omega)]; simp only
  rw [if_pos (by omega)]

theorem locationSlice_has {all : Bytes} {o : Nat} {c : List UInt8} (h : Has all.toList o c) (hall : all.size < 2 ^ 32) :
    ∃ src, locationSlice all ⟨c.length, o⟩ = some src ∧ src.toList = c := by
  refine ⟨all.extract o (o + c.length), ?_, h.extract⟩
  unfold locationSlice
  rw [locationRange_has h hall]

end MdModel.Encode
