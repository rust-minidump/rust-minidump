/-
  C04, canonical STACK CFI chains whose records save several callee-saved registers: the link
  predicate `cfiLinkG` (the record covering the lookup address is the canonical rule followed by
  groups `$r: .cfa LIT + ^`, or the leaf rule; the claimed frame pointer and registers are the slot
  words / the callee's values), the expected frame `cfiFrameG`, one `get_caller_frame`, and the
  chain theorem as an instance of `walkLoop_follows`.
-/
import MdProofs.Lemmas.WalkCfiChainInv
namespace MdModel.Walk
open MdModel

/-- the groups of the record covering `instr` (tokens after the nine of the canonical rule) -/
def savedAt (w : World) (instr : Nat) : List (String × Nat) :=
  match cfiRecordAt w instr with
  | some rec => (groupsOf ((tokenize rec.init).drop 9)).getD []
  | none => []

/-- the value the caller has in the callee-saved register `r`: the slot word where the record
    saves it, the callee's value otherwise; the frame pointer goes through the ptr-auth strip -/
def callerReg (a : Arch) (mask : Nat) (mem : Mem) (saved : List (String × Nat)) (st : Frame) (e : Exp)
    (r : String) : Nat :=
  let v := match saved.lookup r with
    | some lit => slotWord a mem e.sp lit
    | none => st.ctx.raw a r
  if r = a.fpName then stripOf a mask v else v

/-- the frame the walker must produce for the expected caller `e` of the frame `st`: the callee's
    registers with ip, sp as generated, every saved register := its slot word (applied in name
    order, as `walk_with_stack_cfi` does), on ARM64 the frame pointer stripped -/
def cfiFrameG (w : World) (a : Arch) (mask : Nat) (mem : Mem) (st : Frame) (e : Exp) : Frame :=
  let rest1 := (byName (savedAt w st.instruction)).foldl
    (fun rest g => assocSet rest g.1 (slotWord a mem e.sp g.2)) st.ctx.rest
  let rest2 := if a = .arm64 ∨ a = .arm64old then assocSet rest1 "fp" (assocGet rest1 "fp" &&& mask) else rest1
  { ctx := { ip := e.ret, sp := e.sp, rest := rest2, valid := some (validAfter a), m64 := st.ctx.m64 },
    trust := .cfi, instruction := e.ret - a.adj }

def cfiLinkG (w : World) (a : Arch) (mask : Nat) (mem : Mem) (st : Frame) (e : Exp) : Bool :=
  let p := a.ptr
  decide (effArch a st.ctx = a) &&
  decide (4096 ≤ e.ret) && decide (e.sp ≤ a.regMax) && decide (e.ret ≤ a.regMax) &&
  match cfiRecordAt w st.instruction with
  | none => false
  | some rec =>
    let toks := tokenize rec.init
    let saved := (groupsOf (toks.drop 9)).getD []
    rec.adds.isEmpty &&
    (if st.trust = .context ∧ a.leafOk ∧ toks = leafToks a then
       decide (e.sp = st.ctx.sp) && decide (st.ctx.raw a (lrName a) ≤ a.regMax) &&
       decide (e.ret = stripOf a mask (st.ctx.raw a (lrName a)))
     else
       let bytes := e.sp - st.ctx.sp
       decide (st.ctx.sp < e.sp) && decide (p ≤ bytes) &&
       (mem.read (e.sp - p) p).map (stripOf a mask) == some e.ret &&
       decide (toks.take 9 = canonicalToks a bytes false) && (groupsOf (toks.drop 9)).isSome &&
       decide ((saved.map (·.1)).Nodup) &&
       saved.all fun g => a.calleeSaved.contains g.1 && g.1 != a.spName &&
         (mem.read ((e.sp + g.2) % W64) p).isSome) &&
    e.fp == some (callerReg a mask mem saved st e a.fpName) &&
    e.regs.all fun (r, val) => a.calleeSaved.contains r && r != a.spName && callerReg a mask mem saved st e r == val

def preCfiG (w : World) (a : Arch) (mask : Nat) (mem : Mem) : Frame → List Exp → Bool
  | st, [] => !mem.inRange st.ctx.sp || cfiEnd w a mem st
  | st, e :: rest =>
    mem.inRange st.ctx.sp && cfiLinkG w a mask mem st e && preCfiG w a mask mem (cfiFrameG w a mask mem st e) rest

def expectedCfiG (env : Env) (w : World) (a : Arch) (mem : Mem) : Frame → List Exp → List Frame
  | _, [] => []
  | st, e :: rest =>
    symbolise env (cfiFrameG w a env.mask mem st e) :: expectedCfiG env w a mem (cfiFrameG w a env.mask mem st e) rest

theorem spName_not_ip_of_calleeSaved (a : Arch) : a.spName ≠ a.ipName := spName_ne_ip a

theorem cfiLinkG_cases {a : Arch} {w : World} {mask : Nat} {mem : Mem} {f : Frame} {e : Exp}
    (hl : cfiLinkG w a mask mem f e = true) :
    effArch a f.ctx = a ∧ 4096 ≤ e.ret ∧ e.sp ≤ a.regMax ∧
    (∃ rec, cfiRecordAt w f.instruction = some rec ∧ rec.adds = [] ∧
      ((f.trust = .context ∧ a.leafOk = true ∧ tokenize rec.init = leafToks a ∧ savedAt w f.instruction = [] ∧
          e.sp = f.ctx.sp ∧ f.ctx.raw a (lrName a) ≤ a.regMax ∧
          e.ret = stripOf a mask (f.ctx.raw a (lrName a))) ∨
       (f.ctx.sp < e.sp ∧ a.ptr ≤ e.sp - f.ctx.sp ∧
          (∃ ret, mem.read (e.sp - a.ptr) a.ptr = some ret ∧ e.ret = stripOf a mask ret) ∧
          tokenize rec.init = canonToksS a (spTok a) (e.sp - f.ctx.sp) (savedAt w f.instruction) ∧
          ((savedAt w f.instruction).map (·.1)).Nodup ∧
          ∀ g ∈ savedAt w f.instruction, a.calleeSaved.contains g.1 = true ∧ g.1 ≠ a.spName ∧
            (mem.read ((e.sp + g.2) % W64) a.ptr).isSome = true))) ∧
    e.fp = some (callerReg a mask mem (savedAt w f.instruction) f e a.fpName) ∧
    ∀ p ∈ e.regs, a.calleeSaved.contains p.1 = true ∧ p.1 ≠ a.spName ∧
      callerReg a mask mem (savedAt w f.instruction) f e p.1 = p.2 := by
  unfold cfiLinkG at hl
  simp only [Bool.and_eq_true, decide_eq_true_eq] at hl
  obtain ⟨⟨⟨⟨heff, h4096⟩, hspmax⟩, _⟩, hm⟩ := hl
  refine ⟨heff, h4096, hspmax, ?_⟩
  cases hrec : cfiRecordAt w f.instruction with
  | none => rw [hrec] at hm; cases hm
  | some rec =>
    rw [hrec] at hm
    have hsv : savedAt w f.instruction = (groupsOf ((tokenize rec.init).drop 9)).getD [] := by
      simp only [savedAt, hrec]
    simp only [] at hm
    rw [← hsv] at hm
    simp only [Bool.and_eq_true, List.isEmpty_iff, beq_iff_eq, List.all_eq_true, bne_iff_ne] at hm
    obtain ⟨⟨⟨hadds, hshape⟩, hfp⟩, hregs⟩ := hm
    refine ⟨⟨rec, rfl, hadds, ?_⟩, hfp, fun p hp => ⟨(hregs p hp).1.1, (hregs p hp).1.2, (hregs p hp).2⟩⟩
    split at hshape
    · rename_i hleaf
      simp only [Bool.and_eq_true, decide_eq_true_eq] at hshape
      refine Or.inl ⟨hleaf.1, hleaf.2.1, hleaf.2.2, ?_, hshape.1.1, hshape.1.2, hshape.2⟩
      simp [hsv, hleaf.2.2, leafToks, groupsOf]
    · simp only [Bool.and_eq_true, decide_eq_true_eq, beq_iff_eq, Option.map_eq_some_iff, List.all_eq_true,
        bne_iff_ne] at hshape
      obtain ⟨⟨⟨⟨⟨⟨hlt, hpb⟩, ret, hrd, hret⟩, htake⟩, hgs⟩, hnd⟩, hall⟩ := hshape
      obtain ⟨saved, hsaved⟩ := Option.isSome_iff_exists.mp hgs
      have hsv' : savedAt w f.instruction = saved := by rw [hsv, hsaved, Option.getD_some]
      refine Or.inr ⟨hlt, hpb, ⟨ret, hrd, hret.symm⟩, ?_, hnd, fun g hg => ⟨(hall g hg).1.1, (hall g hg).1.2, (hall g hg).2⟩⟩
      rw [← List.take_append_drop 9 (tokenize rec.init), htake, groupsOf_spec _ _ hsaved, hsv']
      rfl

theorem cfiOf_linkG {a : Arch} {w : World} {mask : Nat} {mem : Mem} {f : Frame} {g : Option Frame} {e : Exp}
    (hinv : CfiInv a f) (hl : cfiLinkG w a mask mem f e = true) :
    cfiOf a w (modTable w.mods) (cfiTables w) mask mem f g = some (cfiFrameG w a mask mem f e).ctx := by
  obtain ⟨heff, _, hspmax, ⟨rec, hrec, hadds, hc⟩, _⟩ := cfiLinkG_cases hl
  rcases hc with ⟨hctx, hleaf, htoks, hsaved, hesp, hlrmax, heret⟩ | ⟨hlt, hpb, ⟨ret, hrd, heret⟩, htoks, hnd, hall⟩
  · rw [cfiOf_leaf heff (hinv.valid_none hctx) hrec hadds hleaf htoks (by omega) hlrmax]
    simp only [cfiFrameG, cfiCaller_validAfter, hsaved, byName, List.mergeSort_nil, List.foldl_nil, heret, hesp]
  · rw [cfiOf_canonG heff hinv.valid hrec hadds htoks hlt hpb hspmax hrd hnd hall]
    simp only [cfiFrameG, cfiCaller_validAfter, heret]

theorem step_cfiG {env : Env} {a : Arch} {w : World} {mem : Mem} (harch : env.arch = a)
    (hcfi : env.cfi = cfiOf a w (modTable w.mods) (cfiTables w) env.mask mem)
    (f : Frame) (g : Option Frame) (st : Frame) (e : Exp)
    (hv : CfiView a f st) (hl : cfiLinkG w a env.mask mem st e = true) :
    step env mem f g = some (cfiFrameG w a env.mask mem st e) := by
  subst harch
  have hinv := hv.inv
  obtain ⟨h1, h2, h3, _⟩ := hv
  have hfe : cfiFrameG w env.arch env.mask mem st e = cfiFrameG w env.arch env.mask mem f e := by
    unfold cfiFrameG; rw [h1, h3]
  have hl' : cfiLinkG w env.arch env.mask mem f e = true := by
    unfold cfiLinkG callerReg at hl ⊢; rw [h1, h2, h3]; exact hl
  obtain ⟨_, h4096, _, ⟨rec, _, _, hc⟩, _⟩ := cfiLinkG_cases hl'
  rw [hfe]
  refine step_cfi_accept (by rw [hcfi]; exact cfiOf_linkG hinv hl') h4096 ?_
  rcases hc with ⟨hctx, hleaf, _, _, hesp, _⟩ | ⟨hlt, _⟩
  · exact Or.inr ⟨hleaf, hctx, hesp⟩
  · exact Or.inl hlt

theorem cfiFrameG_view {a : Arch} {w : World} {mask : Nat} {mem : Mem} (st : Frame) (e : Exp)
    (hl : cfiLinkG w a mask mem st e = true) :
    CfiView a (cfiFrameG w a mask mem st e) (cfiFrameG w a mask mem st e) := by
  obtain ⟨heff, _, hspmax, _⟩ := cfiLinkG_cases hl
  exact ⟨rfl, rfl, rfl, heff, Or.inr ⟨by simp [cfiFrameG], rfl⟩, hspmax⟩

theorem walkLoop_cfiG_chain {env : Env} {a : Arch} {w : World} {mem : Mem} (harch : env.arch = a)
    (hcfi : env.cfi = cfiOf a w (modTable w.mods) (cfiTables w) env.mask mem)
    (hok0 : a = .arm → env.instrOk 0 = false) :
    ∀ (chain : List Exp) (n : Nat) (f : Frame) (g : Option Frame) (st : Frame),
      CfiView a f st → preCfiG w a env.mask mem st chain = true → need mem f ≤ n →
      walkLoop env mem n f g = symbolise env f :: expectedCfiG env w a mem st chain := by
  intro chain n f g st hv hp hn
  obtain ⟨_, h, rfl⟩ := walkLoop_follows (fun f _ => CfiView a f) (cfiLinkG w a env.mask mem) (cfiEnd w a mem)
    (fun st => st.ctx.sp) (cfiFrameG w a env.mask mem) (fun st c => preCfiG w a env.mask mem st c = true)
    (fun st c fs => fs = expectedCfiG env w a mem st c)
    (fun _ h => h) (fun _ _ _ => Bool.and_eq_true_iff.mp) (fun _ => rfl) (fun f _ st h => by rw [h.1])
    (fun f g st e hv hl => ⟨_, step_cfiG harch hcfi (symbolise env f) g st e hv hl, cfiFrameG_view st e hl,
      fun _ _ h => h ▸ rfl⟩)
    (fun f g => step_cfi_end harch hcfi hok0 (symbolise env f) g) chain n f g st hv hp hn
  exact h

theorem cfiFrameG_reg {a : Arch} {w : World} {mask : Nat} {mem : Mem} {f : Frame} {e : Exp}
    (hl : cfiLinkG w a mask mem f e = true) {r : String} (hr : a.calleeSaved.contains r = true)
    (hsp : r ≠ a.spName) :
    (cfiFrameG w a mask mem f e).ctx.raw a r = callerReg a mask mem (savedAt w f.instruction) f e r := by
  have hnd : ((savedAt w f.instruction).map (·.1)).Nodup := by
    obtain ⟨_, _, _, ⟨rec, _, _, hc⟩, _⟩ := cfiLinkG_cases hl
    rcases hc with ⟨_, _, _, hsaved, _⟩ | ⟨_, _, _, _, hnd, _⟩
    · rw [hsaved]; exact List.nodup_nil
    · exact hnd
  rw [raw_calleeSaved _ hr hsp]
  unfold cfiFrameG callerReg
  have h1 := assocGet_foldl_byName (slotWord a mem e.sp) hnd r f.ctx.rest
  rw [← raw_calleeSaved f.ctx hr hsp] at h1
  simp only [stripOf_eq]
  by_cases h64 : a = .arm64 ∨ a = .arm64old
  · simp only [if_pos h64, fpName_arm64 h64]
    by_cases hfp : r = "fp"
    · subst hfp
      rw [if_pos rfl, assocGet_assocSet_same]
      exact congrArg (· &&& mask) h1
    · rw [if_neg hfp, assocGet_assocSet_ne _ _ _ _ (Ne.symm hfp)]
      exact h1
  · simp only [if_neg h64, ite_self]
    exact h1

end MdModel.Walk
