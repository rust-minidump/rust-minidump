/-
  C02, contexts as register files: the record `encodeContext` writes is read back by `contextRead`
  (C01's model of `MinidumpContext::read`), and the register file the reader derives from it
  (`regState`) is the one that was written, cell by cell.
-/
import MdModel.EncodeCtx
import MdProofs.Lemmas.BytesRegs
import MdProofs.Lemmas.Encode
namespace MdModel.EncodeCtx
open MdModel MdModel.Dump MdModel.Encode MdModel.Gen.Layouts MdModel.Gen.LayoutsX

theorem fits_map (g : String → Nat) : ∀ l : Layout, (∀ f ∈ l, g f.1 < 256 ^ f.2) → Fits l (l.map fun f => g f.1)
  | [], _ => by simp [Fits]
  | (n, w) :: rest, h =>
    ⟨h (n, w) List.mem_cons_self, fits_map g rest fun f hf => h f (List.mem_cons_of_mem _ hf)⟩

theorem getField_map (g : String → Nat) (name : String) : ∀ (l : Layout) {p : Nat × Nat}, layoutOffset l name = some p →
    getField? l (l.map fun f => g f.1) name = some (g name)
  | (n, w) :: rest, _, h => by
    unfold layoutOffset at h
    unfold getField? fieldIdx
    rw [List.findIdx?_cons]
    by_cases hn : (n == name) = true
    · simp [← beq_iff_eq.mp hn]
    · rw [if_neg hn] at h
      split at h
      · rename_i hrest
        have ih := getField_map g name rest hrest
        unfold getField? fieldIdx at ih
        simp only [hn, Bool.false_eq_true, ↓reduceIte]
        cases hi : List.findIdx? (fun f => f.1 == name) rest with
        | none => simp [hi] at ih
        | some i => simpa [hi] using ih
      · cases h

def RegFileFits (k : CtxKind) (rf : Regs.State) : Prop :=
  ∀ cell ∈ regCells k, ∀ w, (Regs.showCell cell, w) ∈ k.layout → rf cell < 256 ^ w

def PartsFit (k : CtxKind) (flags : Nat) (other : String → Nat) : Prop :=
  flags < 2 ^ 32 ∧ ∀ f ∈ k.layout, other f.1 < 256 ^ f.2

theorem regFileFits_of_bits {k : CtxKind} {rf : Regs.State} (h : ∀ cell ∈ regCells k, rf cell < 2 ^ cellBits k cell) :
    RegFileFits k rf := by
  intro cell hc w hw
  have hw8 : (256 : Nat) ^ w = 2 ^ (w * 8) := by rw [Nat.mul_comm, Nat.pow_mul]
  rw [hw8, ((table_facts k).2.1 _ hw).2 cell hc rfl]
  exact h cell hc

theorem ctxVals_fits {k : CtxKind} {rf : Regs.State} {flags : Nat} {other : String → Nat}
    (hrf : RegFileFits k rf) (hp : PartsFit k flags other) : Fits k.layout (ctxVals k rf flags other) := by
  unfold ctxVals
  apply fits_map
  intro f hf
  unfold ctxScalar
  split
  · rename_i hn
    have h4 := ((table_facts k).2.1 f hf).1 hn
    have : (256 : Nat) ^ 4 ≤ 256 ^ f.2 := Nat.pow_le_pow_right (by decide) h4
    have h2 : (2 : Nat) ^ 32 = 256 ^ 4 := by decide
    have := hp.1
    omega
  · split
    · rename_i c hfind
      have hsp : Regs.showCell c = f.1 := by simpa using List.find?_some hfind
      exact hrf c (List.mem_of_find?_eq_some hfind) f.2 (hsp ▸ hf)
    · exact hp.2 f hf

theorem ctxScalar_flags (k : CtxKind) (rf : Regs.State) (flags : Nat) (other : String → Nat) :
    ctxScalar k rf flags other "context_flags" = flags := by
  unfold ctxScalar; rw [if_pos rfl]

theorem ctxScalar_cell {k : CtxKind} (rf : Regs.State) (flags : Nat) (other : String → Nat) {cell : Regs.Cell}
    (hc : cell ∈ regCells k) : ctxScalar k rf flags other (Regs.showCell cell) = rf cell := by
  obtain ⟨h1, h2⟩ := (table_facts k).2.2 cell hc
  unfold ctxScalar
  rw [if_neg h1, h2]

theorem getField_cell {k : CtxKind} (rf : Regs.State) (flags : Nat) (other : String → Nat) {n : String} {cell : Regs.Cell}
    (hn : n ∈ Regs.knownNames (regsCtxOf k)) (hc : Regs.getCell (regsCtxOf k) n = some cell) :
    getField? k.layout (ctxVals k rf flags other) (Regs.showCell cell) = some (rf cell) := by
  obtain ⟨_, _, _, hoff, _⟩ := cell_in_layout hc
  unfold ctxVals
  rw [getField_map (ctxScalar k rf flags other) _ k.layout hoff,
    ctxScalar_cell rf flags other (known_cell hn hc)]

theorem contextRead_encode {arch : Nat} {k : CtxKind} (hk : ctxKindOfArch arch = some k) (rf : Regs.State) (flags : Nat)
    (other : String → Nat) (e : Endian) (tail : List UInt8)
    (hfits : Fits k.layout (ctxVals k rf flags other)) (hfl : contextFlagsCpu flags = k.cpuFlag) :
    contextRead (encodeContext k rf flags other e ++ tail).toArray e arch = .ok ⟨k, ctxVals k rf flags other, flags⟩ := by
  unfold contextRead
  rw [hk]
  have hread : readFields k.layout (encodeContext k rf flags other e ++ tail).toArray 0 e = some (ctxVals k rf flags other) :=
    readFields_has hfits ⟨[], tail, by simp [encodeContext], rfl⟩
  have hflags : getField? k.layout (ctxVals k rf flags other) "context_flags" = some flags := by
    unfold ctxVals
    obtain ⟨p, hp⟩ := Option.isSome_iff_exists.mp (table_facts k).1
    rw [getField_map (ctxScalar k rf flags other) _ k.layout hp, ctxScalar_flags]
  simp only [hread, hflags, hfl, ↓reduceIte]

/-- the cell `Context.ip` reads -/
def ipCellOf : CtxKind → Regs.Cell
  | .amd64 => ⟨"rip", none⟩
  | .arm => ⟨"iregs", some ArmRegisterNumbers_ProgramCounter⟩
  | .arm64 | .arm64Old => ⟨"pc", none⟩
  | .ppc | .ppc64 => ⟨"srr0", none⟩
  | .sparc => ⟨"pc", none⟩
  | .x86 => ⟨"eip", none⟩
  | .mips => ⟨"epc", none⟩

def spCellOf : CtxKind → Regs.Cell
  | .amd64 => ⟨"rsp", none⟩
  | .arm => ⟨"iregs", some ArmRegisterNumbers_StackPointer⟩
  | .arm64 | .arm64Old => ⟨"sp", none⟩
  | .ppc => ⟨"gpr", some PpcRegisterNumbers_StackPointer⟩
  | .ppc64 => ⟨"gpr", some Ppc64RegisterNumbers_StackPointer⟩
  | .sparc => ⟨"g_r", some SparcRegisterNumbers_StackPointer⟩
  | .x86 => ⟨"esp", none⟩
  | .mips => ⟨"iregs", some MipsRegisterNumbers_StackPointer⟩

/-- `raw.field` / `raw.field[i]` as `MdModel.DumpCtx` reads them -/
def cellAt (l : Layout) (vs : List Nat) (cell : Regs.Cell) : M Nat :=
  match cell.idx with
  | none => fieldAtName l vs cell.field
  | some i => arrayAt l vs cell.field i

theorem cellAt_res {l : Layout} {vs : List Nat} {cell : Regs.Cell} {v : Nat}
    (h : getField? l vs (Regs.showCell cell) = some v) : (cellAt l vs cell).res = .ok v := by
  obtain ⟨fld, idx⟩ := cell
  cases idx <;> simp only [Regs.showCell] at h <;> simp only [cellAt, fieldAtName, arrayAt, h] <;> rfl

theorem ip_eq (c : Context) : c.ip = cellAt c.kind.layout c.vals (ipCellOf c.kind) := by
  obtain ⟨k, vs, fl⟩ := c
  cases k <;> rfl

theorem sp_eq (c : Context) : c.sp = cellAt c.kind.layout c.vals (spCellOf c.kind) := by
  obtain ⟨k, vs, fl⟩ := c
  cases k <;> rfl

/-- the cell the dedicated accessor reads is the one context.rs gives `get_instruction_pointer` /
    `get_stack_pointer` (C18's `ipCell` / `spCell`) -/
def accessorsOk (k : CtxKind) : Bool :=
  Regs.resolve (Gen.Regs.ipCell (regsCtxOf k)) == some (ipCellOf k) &&
  Regs.resolve (Gen.Regs.spCell (regsCtxOf k)) == some (spCellOf k)

theorem accessors_ok (k : CtxKind) : accessorsOk k = true := by
  cases k <;> decide +kernel

/-- … which is the cell `instruction_pointer_register_name()` / `stack_pointer_register_name()` denote -/
theorem ip_sp_cells (k : CtxKind) :
    Regs.getCell (regsCtxOf k) (Gen.Regs.ipName (regsCtxOf k)) = some (ipCellOf k) ∧
    Regs.getCell (regsCtxOf k) (Gen.Regs.spName (regsCtxOf k)) = some (spCellOf k) := by
  have h := accessors_ok k
  simp only [accessorsOk, Bool.and_eq_true, beq_iff_eq] at h
  obtain ⟨hs, hi⟩ := Regs.sp_ip_cells (regsCtxOf k)
  exact ⟨hi.trans h.1, hs.trans h.2⟩

end MdModel.EncodeCtx
