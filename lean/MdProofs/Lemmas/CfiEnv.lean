/-
  C06 inside the stack-walk environment, part 2: `get_caller_by_cfi` of `mkEnv` is `Walk.cfiOf` over
  the world's tables (`mkEnv_cfi`), and once module, symbol file and record are found it is C06's
  `walkFrame` on the callee's `Walker`, register by register (`cfiOf_at_record`). On the way: `CtxOk`
  holds of every frame of a `walk` (`walk_ctxOk`), what the ARM64 pointer-authentication strip does
  to the registers (`stripPA_view`), and the raw values of the stack pointer / instruction pointer
  after `walk_with_stack_cfi` (`raw_fold`).
-/
import MdProofs.Lemmas.CfiEnvInv
namespace MdModel.CfiBridge
open MdModel

def CfiOk (env : Walk.Env) : Prop :=
  ∀ callee grand r, CtxOk env.arch callee.ctx → env.cfi callee grand = some r → CtxOk env.arch r

theorem cfiOk_of_eq {env : Walk.Env} {arch : Walk.Arch} {os : Walk.Os} {w : Walk.World} {mem0 : Walk.Mem}
    (harch : env.arch = arch) (hcfi : env.cfi = (Walk.mkEnv arch os w mem0).cfi) : CfiOk env := by
  subst harch
  intro callee grand r h0 h
  rw [hcfi] at h
  exact cfiOf_ok (grand := grand) h0 h

theorem step_spec {env : Walk.Env} {mem : Walk.Mem} {p f : Walk.Frame} {g : Option Walk.Frame}
    (h : Walk.step env mem p g = some f) :
    ∃ c t, Walk.candidate env (Walk.effArch env.arch p.ctx) mem p g = some (c, t) ∧
      Walk.epilogue (Walk.effArch env.arch p.ctx) p c t = some f := by
  unfold Walk.step at h
  simp only at h
  split at h
  · cases h
  · rename_i c t hc; exact ⟨c, t, hc, h⟩

theorem step_ok {env : Walk.Env} {mem : Walk.Mem} {p f : Walk.Frame} {g : Option Walk.Frame}
    (hcfi : CfiOk env) (h0 : CtxOk env.arch p.ctx) (h : Walk.step env mem p g = some f) :
    CtxOk env.arch f.ctx := by
  obtain ⟨c, t, he, hc⟩ := Walk.step_cases h
  rw [(Walk.epilogue_spec he).1]
  rcases hc with ⟨_, hc⟩ | ⟨_, _, hc⟩ | ⟨_, _, _, hc⟩
  · exact hcfi _ _ _ h0 hc
  · exact (byFp_ok h0 hc).of_eff
  · exact (byScan_ok' h0 hc).of_eff

theorem step_cfi {env : Walk.Env} {mem : Walk.Mem} {p f : Walk.Frame} {g : Option Walk.Frame}
    (h : Walk.step env mem p g = some f) (ht : f.trust = .cfi) :
    env.cfi p g = some f.ctx ∧ Walk.epilogue (Walk.effArch env.arch p.ctx) p f.ctx .cfi = some f := by
  obtain ⟨c, t, he, hc⟩ := Walk.step_cases h
  obtain ⟨h1, h2, _⟩ := Walk.epilogue_spec he
  rw [h2] at ht
  subst ht h1
  rcases hc with ⟨_, hc⟩ | ⟨ht, _⟩ | ⟨ht, _⟩
  · exact ⟨hc, he⟩
  · cases ht
  · cases ht

theorem walk_ctxOk {env : Walk.Env} (hcfi : CfiOk env) (mem : Option Walk.Mem) {ctx : Walk.Ctx}
    (hctx : CtxOk env.arch ctx) : ∀ q ∈ Walk.walk env mem ctx, CtxOk env.arch q.ctx :=
  Walk.walk_forall (I := fun q => CtxOk env.arch q.ctx) hctx
    fun _ _ _ f' hp hs => show CtxOk env.arch f'.ctx from step_ok hcfi hp hs

theorem walk_cfi_frames {env : Walk.Env} {mem : Option Walk.Mem} {ctx : Walk.Ctx} {I : Walk.Frame → Prop}
    {P : Walk.Frame → Walk.Frame → Prop} (hinv : ∀ q ∈ Walk.walk env mem ctx, I q)
    (hstep : ∀ m p f' g, I p → Walk.step env m p g = some f' → f'.trust = .cfi → P p (Walk.symbolise env f')) :
    ∀ (i : Nat) (hi : i + 1 < (Walk.walk env mem ctx).length),
      (Walk.walk env mem ctx)[i + 1].trust = .cfi →
      P (Walk.walk env mem ctx)[i] (Walk.walk env mem ctx)[i + 1] := by
  intro i hi ht
  obtain ⟨m, _, _, g, f', hs, hf⟩ := Walk.walk_adjacent env mem ctx i hi
  rw [hf] at ht ⊢
  exact hstep m _ f' g (hinv _ (List.getElem_mem (Nat.lt_of_succ_lt hi))) hs ht

theorem mkEnv_cfi (arch : Walk.Arch) (os : Walk.Os) (w : Walk.World) (mem : Walk.Mem) :
    (Walk.mkEnv arch os w mem).cfi = Walk.cfiOf arch w (Walk.modTable w.mods) (Walk.cfiTables w)
      (Walk.mkEnv arch os w mem).mask mem := rfl

theorem cfiTable_index (sf : Walk.SymFile) (a j : Nat) (h : RangeMap.get (Walk.cfiTable sf) a = some j) :
    ∃ rec, sf.cfis[j]? = some rec ∧ (recOf rec).covers a = true :=
  let ⟨c, hc, _⟩ := Walk.cfiTable_sound h
  ⟨c, hc, covers_of_cfiTable sf a j c h hc⟩

def isArm64 (a : Walk.Arch) : Bool :=
  match a with
  | .arm64 | .arm64old => true
  | _ => false

/-- what `get_caller_by_cfi`'s last step does to the value of caller register `s` (canonical name):
    on ARM64 `pc`, `lr` and `fp` lose their pointer-authentication bits -/
def paMask (a : Walk.Arch) (mask : Nat) (s : String) (v : Nat) : Nat :=
  if isArm64 a && (s == "pc" || s == "lr" || s == "fp") then v &&& mask else v

theorem paMask_sp (a : Walk.Arch) (mask v : Nat) : paMask a mask a.spName v = v := by
  cases a <;> simp [paMask, isArm64, Walk.Arch.spName]

theorem rawC_sp (a : Walk.Arch) (c : Walk.Ctx) : rawC a c a.spName = c.sp := by
  unfold rawC; simp [Walk.spName_ne_ip a]

theorem rawC_ip (a : Walk.Arch) (c : Walk.Ctx) : rawC a c a.ipName = c.ip := by
  unfold rawC; simp

theorem stripPA_view {a : Walk.Arch} {o : Walk.CfiOut} (h : OutOk a o) (mask : Nat) :
    (stripPA a mask { o.ctx with valid := some o.valid }).valid = some o.valid ∧
    (stripPA a mask { o.ctx with valid := some o.valid }).m64 = o.ctx.m64 ∧
    (stripPA a mask { o.ctx with valid := some o.valid }).sp = o.ctx.sp ∧
    (stripPA a mask { o.ctx with valid := some o.valid }).ip = paMask a mask a.ipName o.ctx.ip ∧
    ∀ s, viewW a ⟨stripPA a mask { o.ctx with valid := some o.valid }, o.valid⟩ s =
      (viewW a o s).map (paMask a mask s) := by
  have plain : isArm64 a = false → stripPA a mask { o.ctx with valid := some o.valid } = { o.ctx with valid := some o.valid } := by
    intro hna; cases a <;> first | rfl | exact absurd hna (by decide)
  cases hia : isArm64 a with
  | false =>
    rw [plain hia]
    refine ⟨rfl, rfl, rfl, by simp [paMask, hia], ?_⟩
    intro s
    have : paMask a mask s = id := by funext v; simp [paMask, hia]
    rw [this, Option.map_id]
    rfl
  | true =>
    obtain ⟨c30, c29, a30, a29, hipn, hspn⟩ : a.canon "x30" = some "lr" ∧ a.canon "x29" = some "fp" ∧
        a.aliases "x30" = ["x30", "lr"] ∧ a.aliases "x29" = ["x29", "fp"] ∧ a.ipName = "pc" ∧ a.spName = "sp" := by
      cases a <;> first | exact absurd hia (by decide) | (refine ⟨by decide, by decide, by decide, by decide, rfl, rfl⟩)
    -- the validity set holds canonical names, so an alias is valid iff its register's name is in the set
    have hhas : ∀ (c : Walk.Ctx) (n m : String), c.valid = some o.valid → a.canon n = some m → a.aliases n = [n, m] →
        n ≠ m → c.has a n = o.valid.contains m := by
      intro c n m hv hc hal hne
      have hn : o.valid.contains n = false := by
        cases hv' : o.valid.contains n with
        | false => rfl
        | true => exact absurd (Option.some.inj ((h.names n (List.contains_iff_mem.mp hv')).symm.trans hc)) hne
      unfold Walk.Ctx.has
      rw [hv]
      simp only [hal, List.any_cons, List.any_nil, hn, Bool.false_or, Bool.or_false]
    obtain ⟨c1, e1, v1, m1, _, r1⟩ :=
      strip_step a mask { o.ctx with valid := some o.valid, ip := o.ctx.ip &&& mask } c30
    obtain ⟨c2, e2, v2, m2, _, r2⟩ := strip_step a mask c1 c29
    have hstrip : stripPA a mask { o.ctx with valid := some o.valid } = c2 := by
      rw [← e2, ← e1]
      cases a <;> first | exact absurd hia (by decide) | rfl
    have hraw : ∀ s, (o.valid.contains s = true ∨ s = "pc" ∨ s = "sp") →
        rawC a c2 s = paMask a mask s (rawC a o.ctx s) := by
      intro s hs
      rw [r2, r1, hhas c1 "x29" "fp" v1 c29 a29 (by decide), hhas _ "x30" "lr" rfl c30 a30 (by decide)]
      unfold rawC paMask
      rw [hipn, hia]
      by_cases h1 : s = "fp"
      · subst h1; simp at hs; simp [hs]
      · by_cases h2 : s = "lr"
        · subst h2; simp at hs; simp [hs]
        · by_cases h3 : s = "pc" <;> simp [h1, h2, h3]
    rw [hstrip]
    refine ⟨v2.trans v1, m2.trans m1, ?_, ?_, fun s => ?_⟩
    · rw [← rawC_sp a c2, hspn, hraw _ (.inr (.inr rfl)), ← hspn, rawC_sp, paMask_sp]
    · rw [← rawC_ip a c2, hipn, hraw _ (.inr (.inl rfl)), ← hipn, rawC_ip]
    · unfold viewW
      cases hs : o.valid.contains s with
      | false => rfl
      | true => simp only [if_true, Option.map_some]; rw [hraw s (.inl hs)]

/-! ## raw values of the stack pointer and the instruction pointer

  Every unwinder reads `sp` and `ip` of the caller context RAW, valid or not (the epilogue's
  tests, the lookup address, the next frame's in-range test). After `walk_with_stack_cfi` they
  hold what the register's own rule set, or — no such rule, or the rule failed — the CFA / the
  return address `set_cfa` / `set_ra` stored there. (On 32-bit ARM `r13`/`sp` and `r15`/`pc` are
  two labels for one register, and the raw value of a register that one rule set and another
  cleared depends on their order; the statement is for registers with a single name.) -/

theorem clearReg_ctx (a : Walk.Arch) (o : Walk.CfiOut) (n : String) : (o.clearReg a n).ctx = o.ctx := by
  unfold Walk.CfiOut.clearReg; split <;> rfl

theorem rawC_setReg (a : Walk.Arch) (o o' : Walk.CfiOut) (n m : String) (v : Nat) (s : String)
    (hm : a.canon n = some m) (h : o.setReg a n v = some o') :
    rawC a o'.ctx s = if s = m then v else rawC a o.ctx s := by
  rw [setReg_spec, hm] at h
  simp only at h
  split at h
  · cases h
  · cases h
    exact rawC_write a o.ctx m s v

theorem rawC_stepW (x : Walk.CfiIn) (cfa : Nat) (o : Walk.CfiOut) (p : String × List Walk.ETok) (s : String) :
    rawC x.arch (stepW x cfa o p).ctx s =
      if x.arch.canon p.1 = some s then (viewW x.arch (stepW x cfa o p) s).getD (rawC x.arch o.ctx s)
      else rawC x.arch o.ctx s := by
  rcases stepW_cases x cfa o p with e | ⟨v, e⟩
  · rw [e, clearReg_ctx, viewW_clearReg]
    split <;> rfl
  · obtain ⟨m, _, hm, _, _, _⟩ := setReg_some e
    rw [viewW_setReg _ _ _ _ _ _ s hm e, rawC_setReg _ _ _ _ _ _ s hm e, hm]
    by_cases e : s = m
    · simp [e]
    · simp [e, Ne.symm e]

theorem fold_nohit (x : Walk.CfiIn) (cfa : Nat) (s : String) (l : List (String × List Walk.ETok))
    (hno : ∀ p ∈ l, x.arch.canon p.1 ≠ some s) (o : Walk.CfiOut) :
    viewW x.arch (l.foldl (stepW x cfa) o) s = viewW x.arch o s ∧
      rawC x.arch (l.foldl (stepW x cfa) o).ctx s = rawC x.arch o.ctx s :=
  List.foldlRecOn (motive := fun o' => viewW x.arch o' s = viewW x.arch o s ∧ rawC x.arch o'.ctx s = rawC x.arch o.ctx s)
    l _ ⟨rfl, rfl⟩ fun o' h p hp =>
      ⟨(viewW_stepW x cfa o' p s).trans ((if_neg (hno p hp)).trans h.1),
        (rawC_stepW x cfa o' p s).trans ((if_neg (hno p hp)).trans h.2)⟩

theorem raw_fold (x : Walk.CfiIn) (cfa : Nat) (s : String) (hinj : ∀ n, x.arch.canon n = some s → n = s)
    (l : List (String × List Walk.ETok)) (hnd : (l.map (·.1)).Nodup) :
    ∀ o : Walk.CfiOut, viewW x.arch o s = some (rawC x.arch o.ctx s) →
      rawC x.arch (l.foldl (stepW x cfa) o).ctx s =
        (viewW x.arch (l.foldl (stepW x cfa) o) s).getD (rawC x.arch o.ctx s) := by
  induction l with
  | nil => intro o h; simp [h]
  | cons p t ih =>
    intro o h
    simp only [List.map_cons, List.nodup_cons] at hnd
    simp only [List.foldl_cons]
    by_cases hp : x.arch.canon p.1 = some s
    · have hno : ∀ q ∈ t, x.arch.canon q.1 ≠ some s := by
        intro q hq hq'
        apply hnd.1
        rw [hinj _ hp, ← hinj _ hq']
        exact List.mem_map.mpr ⟨q, hq, rfl⟩
      obtain ⟨h1, h2⟩ := fold_nohit x cfa s t hno (stepW x cfa o p)
      rw [h1, h2, rawC_stepW, if_pos hp]
    · have hv1 := (viewW_stepW x cfa o p s).trans (if_neg hp)
      have hr1 := (rawC_stepW x cfa o p s).trans (if_neg hp)
      rw [ih hnd.2 (stepW x cfa o p) (by rw [hv1, hr1]; exact h), hr1]

theorem canon_sp_ip (a : Walk.Arch) (ha : a ≠ .arm) (s : String) (hs : s = a.spName ∨ s = a.ipName) :
    ∀ n, a.canon n = some s → n = s := by
  intro n h
  rw [canon_eq] at h
  cases hl : (aliasTable a).lookup n with
  | none => rw [hl] at h; exact (plain_canon _ n s h).1
  | some c =>
    -- off 32-bit ARM no alias names the stack pointer or the instruction pointer
    rw [hl] at h; cases h
    have hno : ∀ p ∈ aliasTable a, p.2 ≠ a.spName ∧ p.2 ≠ a.ipName := by
      cases a <;> first | exact absurd rfl ha | decide
    have := hno _ (List.mem_of_lookup_eq_some hl)
    rcases hs with hs | hs
    · exact absurd hs this.1
    · exact absurd hs this.2

theorem otherRules_names_nodup {rs : List (Walk.CfiReg × List Walk.ETok)} (h : (rs.map (·.1)).Nodup) :
    ((Walk.otherRules rs).map (·.1)).Nodup := by
  rw [List.Nodup, List.pairwise_map] at h ⊢
  -- two kept rules with one label come from two rules with one key
  refine List.Pairwise.filterMap _ (fun p q hpq b hb b' hb' e => hpq ?_) h
  obtain ⟨k, _⟩ := p
  obtain ⟨k', _⟩ := q
  cases k <;> cases k' <;> simp at hb hb'
  subst hb hb'
  exact congrArg Walk.CfiReg.other e

theorem walkCfi_raw (x : Walk.CfiIn) (W : Cfi.Walker) (h : WalkerSim x W) (o0 o : Walk.CfiOut)
    (init : String) (adds : List String) (hw : Walk.walkCfi x o0 init adds = some o)
    {c : Cfi.Caller} {cfa ra : UInt64} (hc : Cfi.walkCfi W ((init :: adds).map utf8) = some c)
    (hcfa : c.cfa = some cfa) (hra : c.ra = some ra)
    (s : String) (hs : s = x.arch.spName ∨ s = x.arch.ipName) (hinj : ∀ n, x.arch.canon n = some s → n = s) :
    rawC x.arch o.ctx s = (viewW x.arch o s).getD (if s = x.arch.ipName then ra.toNat else cfa.toNat) := by
  rcases walkCfi_core x W h o0 init adds with ⟨_, hn⟩ | ⟨m, cfaE, raE, cfa', ra', rs, hst, hrel, hw'⟩
  · rw [hn] at hw; cases hw
  · cases hw'.symm.trans hw
    -- C06's CFA and return address are the lock-step ones
    cases hst.walk.symm.trans hc
    cases (Cfi.foldl_applyOther_cfa_ra W cfa' _ _).1.symm.trans hcfa
    cases (Cfi.foldl_applyOther_cfa_ra W cfa _ _).2.symm.trans hra
    have hnd : ((((Walk.otherRules rs).mergeSort fun p q => Walk.strLe p.1 q.1)).map (·.1)).Nodup :=
      ((List.mergeSort_perm _ _).map _).nodup_iff.mpr (otherRules_names_nodup hrel.nodup)
    -- after `set_cfa; set_ra` the register is valid and holds the CFA / the return address
    have h0 : viewW x.arch (afterCfaRa x.arch o0 cfa.toNat ra.toNat) s =
          some (rawC x.arch (afterCfaRa x.arch o0 cfa.toNat ra.toNat).ctx s) ∧
        rawC x.arch (afterCfaRa x.arch o0 cfa.toNat ra.toNat).ctx s =
          if s = x.arch.ipName then ra.toNat else cfa.toNat := by
      rw [viewW_afterCfaRa]
      unfold rawC afterCfaRa
      rcases hs with rfl | rfl <;> simp [Walk.spName_ne_ip]
    rw [raw_fold x cfa.toNat s hinj _ hnd _ h0.1, h0.2]

/-- the C06 model's `Walker` for callee frame `callee` unwound as architecture `a` over stack
    memory `mem`: `walkerOf` (register names, alias table, valid callee registers, memory image,
    pointer width) with the callee-saved registers forwarded as `callee_forwarded_regs` does -/
def c06Walker (a : Walk.Arch) (mem : Walk.Mem) (callee : Walk.Frame) : Cfi.Walker :=
  walkerOf ⟨a, callee.ctx, mem⟩ callee.instruction (fwdOf a ⟨callee.ctx, Walk.forwarded a callee.ctx⟩)

theorem c06Walker_related {a0 : Walk.Arch} (mem : Walk.Mem) (callee : Walk.Frame) (hok : CtxOk a0 callee.ctx) :
    WalkerSim ⟨Walk.effArch a0 callee.ctx, callee.ctx, mem⟩ (c06Walker (Walk.effArch a0 callee.ctx) mem callee) ∧
    ∀ s, OutSimAt (Walk.effArch a0 callee.ctx) ⟨callee.ctx, Walk.forwarded (Walk.effArch a0 callee.ctx) callee.ctx⟩
      (c06Walker (Walk.effArch a0 callee.ctx) mem callee).caller0 s := by
  constructor
  · exact walkerOf_sim _ _ _ ((validWf_eff a0 callee.ctx callee.ctx).mpr hok.valid) (reg64_of_ctx _ hok.ip hok.sp hok.rest)
  · intro s
    exact fwdOf_sim _ _ s (fun _ => hok.regs.rawC_lt _ s)

/-- **`walk_frame` of the walker model = C06's `walkFrame`, register by register** — with the
    initial states related at EVERY register: the whole validity set and every valid value agree,
    and the raw stack pointer / instruction pointer (single-named) are the rule's value or the
    CFA / return address -/
theorem walkFrameCfi_follows (sf : Walk.SymFile) (modBase : Nat) (x : Walk.CfiIn) (o0 : Walk.CfiOut)
    (W : Cfi.Walker) (h : WalkerSim x W) (hall : ∀ s, OutSimAt x.arch o0 W.caller0 s)
    (i : Nat) (rec : Walk.CfiRec) (hge : ¬ W.instr < modBase)
    (hget : RangeMap.get (Walk.cfiTable sf) (W.instr - modBase) = some i) (hrec : sf.cfis[i]? = some rec) :
    match Cfi.walkFrame (recOf rec) modBase W with
    | none => Walk.walkFrameCfi sf (Walk.cfiTable sf) modBase x o0 W.instr = none
    | some c =>
      ∃ cfa ra o c', c.cfa = some cfa ∧ c.ra = some ra ∧
        Walk.walkFrameCfi sf (Walk.cfiTable sf) modBase x o0 W.instr = some o ∧
        Cfi.walkFrame (recOf rec) modBase (seeded x.arch W cfa ra) = some c' ∧
        (∀ s, viewW x.arch o s = (c'.get (utf8 s)).map UInt64.toNat) ∧
        (∀ s, (s = x.arch.spName ∨ s = x.arch.ipName) → (∀ n, x.arch.canon n = some s → n = s) →
          rawC x.arch o.ctx s =
            ((c'.get (utf8 s)).map UInt64.toNat).getD (if s = x.arch.ipName then ra.toNat else cfa.toNat)) := by
  have hb := (walkFrame_bridge sf modBase x o0 W h).2.2 i rec hge hget hrec
  cases hc : Cfi.walkFrame (recOf rec) modBase W with
  | none => rw [hc] at hb; exact hb
  | some c =>
    rw [hc] at hb
    obtain ⟨cfa, ra, o, c', h1, h2, h3, h4, _, _, h7⟩ := hb
    have hsim : ∀ s, viewW x.arch o s = (c'.get (utf8 s)).map UInt64.toNat := fun s =>
      (h7 s (.inr (.inr (hall s)))).symm
    refine ⟨cfa, ra, o, c', h1, h2, h3, h4, hsim, ?_⟩
    intro s hs hinj
    obtain ⟨hw, hcw⟩ := walkFrame_reduce sf modBase x o0 W i rec hge hget hrec
    rw [walkCfi_raw x W h o0 o _ _ (hw ▸ h3) (hcw ▸ hc) h1 h2 s hs hinj, hsim s]

theorem stepW_m64 (x : Walk.CfiIn) (cfa : Nat) (o : Walk.CfiOut) (p : String × List Walk.ETok) :
    (stepW x cfa o p).ctx.m64 = o.ctx.m64 := by
  rcases stepW_cases x cfa o p with e | ⟨_, e⟩
  · rw [e, clearReg_ctx]
  · obtain ⟨_, _, _, _, hc, e'⟩ := setReg_some e
    rw [e']; exact (set_some hc).2.1

theorem walkFrameCfi_m64 {sf : Walk.SymFile} {ct : List RangeMap.Entry} {base : Nat} {x : Walk.CfiIn}
    {o0 o : Walk.CfiOut} {instr : Nat} (h : Walk.walkFrameCfi sf ct base x o0 instr = some o) :
    o.ctx.m64 = o0.ctx.m64 := by
  obtain ⟨cfa, ra, l, _, _, rfl⟩ := walkFrameCfi_shape h
  exact List.foldlRecOn (motive := fun o => o.ctx.m64 = o0.ctx.m64) l _ (b := afterCfaRa x.arch o0 cfa ra) rfl
    fun o ho p _ => (stepW_m64 x cfa o p).trans ho

/-- **`get_caller_by_cfi` once its look-ups have succeeded** (module `m` at position `k` of C08's table,
    its symbol file `sf`, record `rec` at position `j` of the file's CFI table; the callee's stack
    pointer valid; `a` the architecture the callee is unwound as; any pointer-authentication mask):
    no caller iff C06's `walkFrame` on the callee's `Walker` finds none; else the caller context has
    C06's validity set and values. `mkEnv_cfi_spec` (C06Env) is this below the tree of look-ups. -/
theorem cfiOf_at_record {arch a : Walk.Arch} {w : Walk.World} {mem : Walk.Mem} {callee : Walk.Frame}
    (mask : Nat) (grand : Option Walk.Frame) (hok : CtxOk arch callee.ctx) (ha : Walk.effArch arch callee.ctx = a)
    {k j : Nat} {m : Walk.Module} {sf : Walk.SymFile} {rec : Walk.CfiRec}
    (hk : Walk.moduleAt (Walk.modTable w.mods) callee.instruction = some k) (hm : w.mods[k]? = some m)
    (hsf : w.syms[k]? = some (some sf))
    (hget : RangeMap.get (Walk.cfiTable sf) (callee.instruction - m.base) = some j) (hrec : sf.cfis[j]? = some rec)
    (hsp : spValid a callee.ctx = true) :
    (Cfi.walkFrame (recOf rec) m.base (c06Walker a mem callee) = none →
      Walk.cfiOf arch w (Walk.modTable w.mods) (Walk.cfiTables w) mask mem callee grand = none) ∧
    ∀ c, Cfi.walkFrame (recOf rec) m.base (c06Walker a mem callee) = some c →
      ∃ cfa ra c' r vs, c.cfa = some cfa ∧ c.ra = some ra ∧
        Cfi.walkFrame (recOf rec) m.base (seeded a (c06Walker a mem callee) cfa ra) = some c' ∧
        Walk.cfiOf arch w (Walk.modTable w.mods) (Walk.cfiTables w) mask mem callee grand = some r ∧
        r.valid = some vs ∧ r.m64 = callee.ctx.m64 ∧
        (∀ s, viewW a ⟨r, vs⟩ s = ((c'.get (utf8 s)).map UInt64.toNat).map (paMask a mask s)) ∧
        (a ≠ .arm →
          r.sp = ((c'.get (utf8 a.spName)).map UInt64.toNat).getD cfa.toNat ∧
          r.ip = paMask a mask a.ipName (((c'.get (utf8 a.ipName)).map UInt64.toNat).getD ra.toNat)) := by
  obtain ⟨m', hm', hlo, _⟩ := Walk.moduleAt_sound w.mods _ _ hk
  obtain rfl : m' = m := Option.some.inj (hm'.symm.trans hm)
  have hred : Walk.cfiOf arch w (Walk.modTable w.mods) (Walk.cfiTables w) mask mem callee grand =
      (Walk.walkFrameCfi sf (Walk.cfiTable sf) m'.base ⟨a, callee.ctx, mem⟩
        ⟨callee.ctx, Walk.forwarded a callee.ctx⟩ callee.instruction).map fun o =>
          stripPA a mask { o.ctx with valid := some o.valid } := by
    rw [cfiOf_eq, cfiWalk_mkEnv, ha, hk]
    simp only [hm, hsf, hsp, Bool.not_true, Bool.false_eq_true, if_false]
  obtain ⟨hsimW, hall⟩ := c06Walker_related mem callee hok
  rw [ha] at hsimW hall
  have hf := walkFrameCfi_follows sf m'.base ⟨a, callee.ctx, mem⟩ ⟨callee.ctx, Walk.forwarded a callee.ctx⟩
    (c06Walker a mem callee) hsimW hall j rec (show ¬ callee.instruction < m'.base by omega) hget hrec
  rw [show (c06Walker a mem callee).instr = callee.instruction from rfl] at hf
  constructor
  · intro hc
    rw [hc] at hf
    rw [hred, hf]; rfl
  · intro c hc
    rw [hc] at hf
    obtain ⟨cfa, ra, o, c', h1, h2, h3, h4, hview, hraw⟩ := hf
    have hoo : OutOk a o := walkFrameCfi_ok (x := ⟨a, callee.ctx, mem⟩) (OutOk.init hok) h3
    obtain ⟨v1, v2, v3, v4, v5⟩ := stripPA_view hoo mask
    refine ⟨cfa, ra, c', _, o.valid, h1, h2, h4, by rw [hred, h3]; rfl, v1, by rw [v2]; exact walkFrameCfi_m64 h3,
      fun s => by rw [v5 s, hview s], fun harm => ⟨?_, ?_⟩⟩
    · rw [v3, ← rawC_sp a o.ctx, hraw _ (.inl rfl) (canon_sp_ip a harm _ (.inl rfl))]
      simp [Walk.spName_ne_ip a]
    · rw [v4, ← rawC_ip a o.ctx, hraw _ (.inr rfl) (canon_sp_ip a harm _ (.inr rfl))]
      simp

end MdModel.CfiBridge
