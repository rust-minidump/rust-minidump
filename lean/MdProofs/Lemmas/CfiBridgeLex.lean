/-
  Bridge C06 ↔ walker model, part 2: the lexers.

  `MdModel.Walk.Cfi` classifies the characters of a token (`classifyL`, `classifyRL`, `mkCfiRegL`,
  `parseI64L`, `splitWsL`), `MdModel.Cfi` the bytes (`classify`, `stripColon`, `labelOf`,
  `parseI64`, `splitWs`). Here: on the UTF-8 encoding of the same text they find the same tokens
  and give them the same meaning — for EVERY text (non-ASCII characters included: none of their
  bytes is whitespace, `$`, `:`, a sign or a digit).
-/
import MdProofs.Lemmas.CfiBridgeUtf8
import MdProofs.Lemmas.Cfi
namespace MdModel.CfiBridge
open MdModel

theorem encC_head (c : Char) :
    ∃ b tl, String.utf8EncodeChar c = b :: tl ∧
      ((tl = [] ∧ b.toNat = c.toNat ∧ c.toNat < 0x80) ∨ (0x80 ≤ b.toNat ∧ 0x80 ≤ c.toNat)) := by
  rcases encC_cases c with ⟨b, he, hv, hc⟩ | ⟨hc, hh⟩
  · exact ⟨b, [], he, .inl ⟨rfl, hv, hc⟩⟩
  · cases he : String.utf8EncodeChar c with
    | nil => exact absurd he String.utf8EncodeChar_ne_nil
    | cons b tl => exact ⟨b, tl, rfl, .inr ⟨hh b (he ▸ List.mem_cons_self), hc⟩⟩

theorem enc_cons_head (c : Char) (t : List Char) :
    ∃ b tl, enc (c :: t) = b :: tl ∧
      ∀ (d : Char) (k : UInt8), k.toNat < 0x80 → d.toNat = k.toNat → (b = k ↔ c = d) := by
  obtain ⟨b, tl, he, hcase⟩ := encC_head c
  refine ⟨b, tl ++ enc t, by rw [enc_cons, he]; rfl, fun d k hk hd => ?_⟩
  rw [← UInt8.toNat_inj, ← Char.toNat_inj]
  rcases hcase with ⟨_, hv, _⟩ | ⟨hb, hc⟩ <;> omega

theorem encC_of_code (c : Char) (k : Nat) (hk : k < 0x80) (h : c.toNat = k) :
    String.utf8EncodeChar c = [UInt8.ofNat k] := by
  rw [encC_ascii c (by omega), h]

theorem not_mem_encC (c d : Char) (k : UInt8) (hk : k.toNat < 0x80) (hd : d.toNat = k.toNat) (hc : c ≠ d) :
    k ∉ String.utf8EncodeChar c :=
  fun hm => hc (Char.toNat_inj.mp ((mem_encC_low c k hk hm).2.trans hd.symm))

theorem cfi_isWs_iff (b : UInt8) :
    Cfi.isWs b = true ↔ (b.toNat = 32 ∨ b.toNat = 9 ∨ b.toNat = 10 ∨ b.toNat = 12 ∨ b.toNat = 13) := by
  simp only [Cfi.isWs, Bool.or_eq_true, beq_iff_eq, ← UInt8.toNat_inj]
  simp [or_assoc]

theorem walk_isWs_iff (c : Char) :
    Walk.isWs c = true ↔ (c.toNat = 32 ∨ c.toNat = 9 ∨ c.toNat = 10 ∨ c.toNat = 12 ∨ c.toNat = 13) := by
  simp only [Walk.isWs, Bool.or_eq_true, decide_eq_true_eq, ← Char.toNat_inj, or_assoc]
  rw [@or_comm (c.toNat = 12)]
  exact Iff.rfl

theorem isWs_encC (c : Char) :
    (Walk.isWs c = true ∧ ∃ b, String.utf8EncodeChar c = [b] ∧ Cfi.isWs b = true) ∨
    (Walk.isWs c = false ∧ ∀ b ∈ String.utf8EncodeChar c, Cfi.isWs b = false) := by
  by_cases hw : Walk.isWs c = true
  · have hc := (walk_isWs_iff c).mp hw
    rcases encC_cases c with ⟨b, he, hv, _⟩ | ⟨h, _⟩
    · exact .inl ⟨hw, b, he, (cfi_isWs_iff b).mpr (by rw [hv]; exact hc)⟩
    · omega
  · refine .inr ⟨by simpa using hw, fun b hb => ?_⟩
    cases hb' : Cfi.isWs b with
    | false => rfl
    | true =>
      -- a whitespace byte is ASCII, so it is the whole encoding of `c`
      have h1 := (cfi_isWs_iff b).mp hb'
      have h2 := (mem_encC_low c b (by omega) hb).2
      exact absurd ((walk_isWs_iff c).mpr (by rw [h2]; exact h1)) hw

theorem splitWsAux_nows (e rest cur : Bytes) (h : ∀ b ∈ e, Cfi.isWs b = false) :
    Cfi.splitWsAux (e ++ rest) cur = Cfi.splitWsAux rest (e.reverse ++ cur) := by
  induction e generalizing cur with
  | nil => rfl
  | cons b e ih =>
    obtain ⟨hb, he⟩ := List.forall_mem_cons.mp h
    simp only [List.cons_append, Cfi.splitWsAux, hb, Bool.false_eq_true, if_false]
    rw [ih _ he]
    simp

theorem enc_eq_nil_iff (l : List Char) : enc l = [] ↔ l = [] := by
  constructor
  · intro h
    cases l with
    | nil => rfl
    | cons c l =>
      simp only [enc_cons, List.append_eq_nil_iff] at h
      exact absurd h.1 String.utf8EncodeChar_ne_nil
  · rintro rfl; rfl

theorem splitWsAux_enc (cs cur : List Char) :
    Cfi.splitWsAux (enc cs) (enc cur.reverse).reverse = (Walk.splitWsAux cs cur).map enc := by
  induction cs generalizing cur with
  | nil =>
    simp only [enc_nil, Cfi.splitWsAux, Walk.splitWsAux, List.isEmpty_iff, List.reverse_eq_nil_iff,
      enc_eq_nil_iff, List.reverse_reverse]
    by_cases h : cur = [] <;> simp [h]
  | cons c rest ih =>
    rcases isWs_encC c with ⟨hw, b, he, hb⟩ | ⟨hw, hall⟩
    · simp only [enc_cons, he, List.cons_append, List.nil_append, Cfi.splitWsAux, hb, if_true,
        Walk.splitWsAux, hw, List.isEmpty_iff, List.reverse_eq_nil_iff, enc_eq_nil_iff, List.reverse_reverse]
      have ih0 := ih []
      simp only [List.reverse_nil, enc_nil] at ih0
      by_cases h : cur = [] <;> simp [h, ih0]
    · simp only [enc_cons, Walk.splitWsAux, hw, Bool.false_eq_true, if_false]
      rw [splitWsAux_nows _ _ _ hall, ← ih (c :: cur)]
      simp [enc_append]

theorem splitWs_enc (cs : List Char) : Cfi.splitWs (enc cs) = (Walk.splitWsL cs).map enc := by
  have := splitWsAux_enc cs []
  simpa [Cfi.splitWs, Walk.splitWsL] using this

/-- the operator and keyword spellings, in the order `classifyL` tests them -/
def fixedL : List (List Char) :=
  [['+'], ['-'], ['*'], ['/'], ['%'], ['@'], ['^'], ['.', 'c', 'f', 'a'], ['.', 'u', 'n', 'd', 'e', 'f']]

theorem enc_fixedL : fixedL.map enc = Cfi.fixedToks := by decide

theorem enc_mem_fixed (tok : List Char) : enc tok ∈ Cfi.fixedToks ↔ tok ∈ fixedL := by
  rw [← enc_fixedL, List.mem_map]
  exact ⟨fun ⟨_, ha, e⟩ => enc_inj e ▸ ha, fun h => ⟨tok, h, rfl⟩⟩

theorem classifyL_of_not_fixed (tok : List Char) (h : tok ∉ fixedL) :
    Walk.classifyL tok =
      if tok.contains '$' then .dollar (String.ofList ((tok.dropWhile (· ≠ '$')).drop 1))
      else match Walk.parseI64L tok with
        | some v => .lit v
        | none => .bare (String.ofList tok) := by
  simp only [fixedL, List.mem_cons, List.not_mem_nil, or_false, not_or] at h
  obtain ⟨h1, h2, h3, h4, h5, h6, h7, h8, h9⟩ := h
  rw [Walk.classifyL, if_neg h1, if_neg h2, if_neg h3, if_neg h4, if_neg h5, if_neg h6, if_neg h7,
    if_neg h8, if_neg h9]
  rfl

theorem afterDollar_append (e r : Bytes) (h : (0x24 : UInt8) ∉ e) :
    Cfi.afterDollar (e ++ r) = Cfi.afterDollar r := by
  induction e with
  | nil => rfl
  | cons b e ih =>
    have hb : ¬ b = 0x24 := fun hh => h (hh ▸ List.mem_cons_self)
    simp only [List.cons_append, Cfi.afterDollar, beq_iff_eq, hb, if_false]
    exact ih (fun hm => h (List.mem_cons_of_mem _ hm))

theorem dollar_toNat : '$'.toNat = 0x24 := rfl

theorem afterDollar_enc (tok : List Char) :
    Cfi.afterDollar (enc tok) =
      if tok.contains '$' then some (enc ((tok.dropWhile (· ≠ '$')).drop 1)) else none := by
  induction tok with
  | nil => rfl
  | cons c rest ih =>
    by_cases hc : c = '$'
    · subst hc
      have he : String.utf8EncodeChar '$' = [0x24] := by decide
      simp [enc_cons, he, Cfi.afterDollar]
    · have hnm := not_mem_encC c '$' 0x24 (by decide) rfl hc
      rw [enc_cons, afterDollar_append _ _ hnm, ih, List.contains_cons, beq_eq_false_iff_ne.mpr (Ne.symm hc),
        Bool.false_or, List.dropWhile_cons, if_pos (decide_eq_true hc)]

theorem digitVal_iff (b : UInt8) : Cfi.digitVal b = if 48 ≤ b.toNat ∧ b.toNat ≤ 57 then some (b.toNat - 48) else none := by
  simp only [Cfi.digitVal, UInt8.le_iff_toNat_le]
  rfl

theorem parseDigits_enc (ds : List Char) (acc : Nat) :
    Cfi.parseDigits (enc ds) acc =
      if ds.all Char.isDigit then some (ds.foldl (fun acc c => acc * 10 + (c.toNat - '0'.toNat)) acc) else none := by
  induction ds generalizing acc with
  | nil => rfl
  | cons c rest ih =>
    obtain ⟨b, tl, he, hcase⟩ := encC_head c
    rw [enc_cons, he]
    simp only [List.cons_append, Cfi.parseDigits, digitVal_iff, List.all_cons, List.foldl_cons]
    by_cases hd : c.isDigit = true
    · have hr := c.isDigit_iff.mp hd
      rcases hcase with ⟨htl, hv, _⟩ | ⟨_, hhi⟩
      · subst htl
        have : 48 ≤ b.toNat ∧ b.toNat ≤ 57 := by omega
        simp only [this, and_self, if_true, List.nil_append, hd, Bool.true_and]
        rw [ih, hv]; rfl
      · omega
    · have hr : ¬ (48 ≤ c.toNat ∧ c.toNat ≤ 57) := fun h => hd (c.isDigit_iff.mpr h)
      have : ¬ (48 ≤ b.toNat ∧ b.toNat ≤ 57) := by
        rcases hcase with ⟨_, hv, _⟩ | ⟨hb, _⟩ <;> omega
      simp [this, hd]

theorem minus_toNat : '-'.toNat = 0x2D := rfl
theorem plus_toNat : '+'.toNat = 0x2B := rfl

/-- `i64::from_str` after the sign, on characters: the value of the digits `ds`, negated if `neg` -/
def signedL (neg : Bool) (ds : List Char) : Option Nat :=
  if ds.isEmpty ∨ !(ds.all Char.isDigit) then none
  else
    let v := ds.foldl (fun acc c => acc * 10 + (c.toNat - '0'.toNat)) 0
    if neg then (if v ≤ 2 ^ 63 then some ((2 ^ 64 - v) % 2 ^ 64) else none)
    else (if v < 2 ^ 63 then some v else none)

def signedC (neg : Bool) (ds : Bytes) : Option UInt64 :=
  if ds.isEmpty then none else
  match Cfi.parseDigits ds 0 with
  | some n =>
    if neg then (if n ≤ 2 ^ 63 then some (UInt64.ofNat (2 ^ 64 - n)) else none)
    else (if n < 2 ^ 63 then some (UInt64.ofNat n) else none)
  | none => none

theorem parseI64L_cons (c : Char) (t : List Char) :
    Walk.parseI64L (c :: t) =
      if c = '-' then signedL true t else if c = '+' then signedL false t else signedL false (c :: t) := by
  by_cases hm : c = '-'
  · subst hm; rfl
  by_cases hp : c = '+'
  · subst hp; rfl
  rw [if_neg hm, if_neg hp]
  unfold Walk.parseI64L
  split
  rename_i neg ds heq
  split at heq
  · exact absurd (List.cons.inj ‹_›).1 hm
  · exact absurd (List.cons.inj ‹_›).1 hp
  · cases heq; rfl

theorem parseI64_cons (b : UInt8) (rest : Bytes) :
    Cfi.parseI64 (b :: rest) =
      if b = 0x2D then signedC true rest else if b = 0x2B then signedC false rest
      else signedC false (b :: rest) := by
  simp only [Cfi.parseI64, signedC, beq_iff_eq, if_true, List.isEmpty_cons]
  rfl

theorem signed_enc (neg : Bool) (ds : List Char) :
    signedC neg (enc ds) = (signedL neg ds).map UInt64.ofNat := by
  unfold signedC signedL
  simp only [List.isEmpty_iff, enc_eq_nil_iff, parseDigits_enc]
  by_cases ht : ds = []
  · simp [ht]
  · by_cases hd : ds.all Char.isDigit = true
    · simp only [ht, hd, if_false, if_true, Bool.not_true, Bool.false_eq_true, or_self]
      cases neg
      · simp only [Bool.false_eq_true, if_false]; split <;> rfl
      · simp only [if_true]
        split
        · exact congrArg some UInt64.ofNat_mod_size.symm
        · rfl
    · simp [ht, hd]

theorem signedL_lt {neg : Bool} {ds : List Char} {v : Nat} (h : signedL neg ds = some v) : v < 2 ^ 64 := by
  unfold signedL at h
  split at h
  · cases h
  · cases neg
    · simp only [Bool.false_eq_true, if_false] at h
      split at h <;> cases h
      omega
    · simp only [if_true] at h
      split at h <;> cases h
      omega

theorem parseI64L_lt (tok : List Char) (v : Nat) (h : Walk.parseI64L tok = some v) : v < 2 ^ 64 := by
  cases tok with
  | nil => cases h
  | cons c t =>
    rw [parseI64L_cons] at h
    repeat' split at h
    all_goals exact signedL_lt h

/-- negative values as `u64` bit patterns -/
theorem parseI64_enc (tok : List Char) :
    Cfi.parseI64 (enc tok) = (Walk.parseI64L tok).map UInt64.ofNat := by
  cases tok with
  | nil => rfl
  | cons c t =>
    rw [parseI64L_cons]
    by_cases hm : c = '-'
    · subst hm; exact signed_enc true t
    by_cases hp : c = '+'
    · subst hp; exact signed_enc false t
    obtain ⟨b, tl, he, hb⟩ := enc_cons_head c t
    rw [if_neg hm, if_neg hp, he, parseI64_cons, if_neg (mt (hb '-' 0x2D (by decide) rfl).mp hm),
      if_neg (mt (hb '+' 0x2B (by decide) rfl).mp hp), ← he]
    exact signed_enc false (c :: t)

def tokOf : Walk.ETok → Cfi.Tok
  | .add => .bin .add
  | .sub => .bin .sub
  | .mul => .bin .mul
  | .div => .bin .div
  | .rem => .bin .rem
  | .align => .bin .align
  | .deref => .deref
  | .cfa => .cfa
  | .undef => .undef
  | .dollar n => .reg (utf8 n)
  | .lit v => .lit (UInt64.ofNat v)
  | .bare n => .reg (utf8 n)

theorem classify_enc_fixed : ∀ tok ∈ fixedL, Cfi.classify (enc tok) = tokOf (Walk.classifyL tok) := by
  decide

theorem classify_enc (tok : List Char) : Cfi.classify (enc tok) = tokOf (Walk.classifyL tok) := by
  by_cases h : tok ∈ fixedL
  · exact classify_enc_fixed tok h
  · rw [Cfi.classify_of_not_fixed _ (mt (enc_mem_fixed tok).mp h), classifyL_of_not_fixed tok h,
      afterDollar_enc, parseI64_enc]
    by_cases hd : tok.contains '$' = true
    · simp only [hd, if_true, tokOf, utf8_ofList]
    · simp only [hd, Bool.false_eq_true, if_false]
      cases Walk.parseI64L tok with
      | none => simp only [Option.map_none, tokOf, utf8_ofList]
      | some v => simp only [Option.map_some, tokOf]

def regOf : Walk.CfiReg → Cfi.CfiReg
  | .cfa => .cfa
  | .ra => .ra
  | .other n => .other (utf8 n)

theorem regOf_inj {a b : Walk.CfiReg} (h : regOf a = regOf b) : a = b := by
  cases a <;> cases b <;> simp only [regOf, reduceCtorEq] at h <;> try rfl
  rw [utf8_inj (Cfi.CfiReg.other.inj h)]

theorem colon_toNat : ':'.toNat = 0x3A := rfl

theorem stripColon_enc (tok : List Char) :
    Cfi.stripColon (enc tok) = if tok.getLast? = some ':' then some (enc tok.dropLast) else none := by
  rcases List.eq_nil_or_concat tok with rfl | ⟨init, c, rfl⟩
  · rfl
  · simp only [List.concat_eq_append, enc_append, enc_cons, enc_nil, List.append_nil, Cfi.stripColon,
      List.reverse_append, List.getLast?_append, List.getLast?_singleton, Option.some_or,
      Option.some.injEq, List.dropLast_concat]
    by_cases hc : c = ':'
    · subst hc
      have he : String.utf8EncodeChar ':' = [0x3A] := by decide
      simp [he]
    · have hnm := not_mem_encC c ':' 0x3A (by decide) rfl hc
      cases hr : (String.utf8EncodeChar c).reverse with
      | nil => exact absurd (List.reverse_eq_nil_iff.mp hr) String.utf8EncodeChar_ne_nil
      | cons b rest =>
        have hb : b ∈ String.utf8EncodeChar c := List.mem_reverse.mp (hr ▸ List.mem_cons_self)
        have hb' : ¬ b = 0x3A := fun h => hnm (h ▸ hb)
        simp [hb', hc]

theorem mkCfiRegL_other (cs : List Char) (hc : ∀ t, cs ≠ '$' :: t) (h1 : cs ≠ ['.', 'c', 'f', 'a'])
    (h2 : cs ≠ ['.', 'r', 'a']) : Walk.mkCfiRegL cs = Walk.CfiReg.other (String.ofList cs) := by
  unfold Walk.mkCfiRegL
  simp only [h1, h2, if_false]

theorem mkCfiRegL_dollar (t : List Char) : Walk.mkCfiRegL ('$' :: t) = Walk.CfiReg.other (String.ofList t) := by
  unfold Walk.mkCfiRegL
  have h1 : ¬ ('$' :: t = ['.', 'c', 'f', 'a']) := by intro h; exact absurd (List.cons.inj h).1 (by decide)
  have h2 : ¬ ('$' :: t = ['.', 'r', 'a']) := by intro h; exact absurd (List.cons.inj h).1 (by decide)
  simp only [h1, h2, if_false]

theorem labelOf_enc (name : List Char) : Cfi.labelOf (enc name) = regOf (Walk.mkCfiRegL name) := by
  by_cases h1 : name = ['.', 'c', 'f', 'a']
  · subst h1; rfl
  by_cases h2 : name = ['.', 'r', 'a']
  · subst h2; rfl
  have e1 : ¬ enc name = Cfi.tCfa := fun h => h1 (enc_inj (h.trans (by decide)))
  have e2 : ¬ enc name = Cfi.tRa := fun h => h2 (enc_inj (h.trans (by decide)))
  unfold Cfi.labelOf
  simp only [e1, e2, if_false]
  cases name with
  | nil => rfl
  | cons c t =>
    by_cases hc : c = '$'
    · subst hc; rw [mkCfiRegL_dollar, regOf, utf8_ofList]; rfl
    · obtain ⟨b, tl, he, hb⟩ := enc_cons_head c t
      have hb' : ¬ b = 0x24 := mt (hb '$' 0x24 (by decide) rfl).mp hc
      rw [mkCfiRegL_other (c :: t) (fun t' h => hc (List.cons.inj h).1) h1 h2, he]
      simp only [beq_iff_eq, hb', if_false, regOf, utf8_ofList, he]

theorem classifyRL_tok {tok : List Char} {t : Walk.ETok} (h : Walk.classifyRL tok = .tok t) :
    t = Walk.classifyL tok := by
  unfold Walk.classifyRL at h
  split at h <;> cases h
  rfl

theorem classifyRL_enc (tok : List Char) :
    match Walk.classifyRL tok with
    | .label r => ∃ name, Cfi.stripColon (enc tok) = some name ∧ Cfi.labelOf name = regOf r
    | .tok t => Cfi.stripColon (enc tok) = none ∧ Cfi.classify (enc tok) = tokOf t := by
  unfold Walk.classifyRL
  rw [stripColon_enc]
  by_cases h : tok.getLast? = some ':'
  · simp only [h, if_true]
    exact ⟨_, rfl, labelOf_enc _⟩
  · simp only [h, if_false]
    exact ⟨trivial, classify_enc tok⟩

end MdModel.CfiBridge
