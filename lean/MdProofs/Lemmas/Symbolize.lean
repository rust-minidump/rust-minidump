/-
  C11 (symbolication), lemmas: what `build` establishes (`Built`; every entry of the function table
  is a FUNC record with its own range), the binary search, `fill_symbol` by the branch it takes, the
  inline loop, the PUBLIC fallback at table level.
  Property theorems: `MdProofs/C11.lean`.
-/
import MdModel.Symbolize
import MdProofs.Lemmas.MaxFold
import MdProofs.Lemmas.RangeMapDistinct
namespace MdModel.Symbolize
open MdModel MdModel.RangeMap

theorem mkRangeLine_eq_some {a s : Nat} {r : Rng} :
    mkRangeLine a s = some r ↔ 0 < s ∧ a + (s - 1) ≤ U64MAX ∧ r = ⟨a, a + (s - 1)⟩ := by
  unfold mkRangeLine
  split
  · simp; omega
  · split
    · simp; omega
    · simp only [Option.some.injEq]
      exact ⟨fun h => ⟨by omega, by omega, h.symm⟩, fun h => h.2.2.symm⟩

theorem lineInput_wf (ls : List Line) : InputWF (lineInput ls) := by
  intro e he r hr
  simp only [lineInput, List.mem_map] at he
  obtain ⟨l, _, rfl⟩ := he
  have := mkRangeLine_wf hr
  exact ⟨this.1, this.2.1⟩

/-- the `Function` that `finish_item` stores for a FUNC record (`finishItem_ok`: it never fails) -/
def finOf (f : Func) : BFunc :=
  let ls := f.lines.filter fun l => l.size > 0
  { addr := f.addr, size := f.size, psize := f.psize, name := f.name,
    lines := ls, ltab := safeVec (lineInput ls),
    inls := (f.inls.filter fun x => x.size > 0).mergeSort inlLe }

theorem finishItem_ok (f : Func) : finishItem f = .ok (finOf f) := by
  unfold finishItem finOf
  simp only [safe_ok _ (lineInput_wf _)]

theorem finishAll_ok (fs : List Func) : finishAll fs = .ok (fs.map finOf) := by
  induction fs with
  | nil => rfl
  | cons f rest ih => simp only [finishAll, finishItem_ok, ih, List.map_cons]

theorem funcInput_wf (bs : List BFunc) : ∀ e ∈ funcInput bs, WF e :=
  validOnly_wf fun e he r hr => by
    obtain ⟨b, _, rfl⟩ := List.mem_map.mp he
    exact mkRange_ok hr

structure Built (r : Recs) (sf : SymFile) : Prop where
  funcs : sf.funcs = r.funcs.map finOf
  ftab : sf.ftab = safeVecP (funcInput sf.funcs)
  pubs : sf.pubs = r.pubs.mergeSort pubLe
  files : sf.files = r.files
  origins : sf.origins = r.origins
  wfd : winTable r.win4 = .ok sf.wfd
  wfpo : winTable r.win0 = .ok sf.wfpo

theorem winTable_nil : winTable [] = .ok [] := by
  unfold winTable
  simp only [insertWinAll, List.reverse_nil, List.map_nil]
  rw [safeP_ok [] (fun _ he => nomatch he)]
  simp [safeVecP, sortEntries, pass, keep]

theorem build_built {r : Recs} {sf : SymFile} (h : build r = .ok sf) : Built r sf := by
  unfold build at h
  simp only [finishAll_ok, safeP_ok _ (funcInput_wf _)] at h
  split at h
  · cases h
  · rename_i wfd hwfd
    split at h
    · cases h
    · rename_i wfpo hwfpo
      cases h
      exact ⟨rfl, rfl, rfl, rfl, rfl, hwfd, hwfpo⟩

/-- a STACK WIN table builds for ANY records with `u32` sizes: the overlap repair cannot panic (`insertWinAll_ok`) and
    what it leaves are records with their own ranges -/
theorem winTable_ok (recs : List Rec) (h : ∀ x ∈ recs, x.size < 2 ^ 32) : ∃ t, winTable recs = .ok t := by
  obtain ⟨v, hv, hinv⟩ := insertWinAll_ok (P := fun _ => True) recs (fun x hx => ⟨h x hx, trivial⟩) []
    (fun _ hp => nomatch hp)
  unfold winTable
  rw [hv]
  refine ⟨_, safeP_ok _ ?_⟩
  intro e he
  obtain ⟨p, hp, rfl⟩ := List.mem_map.mp he
  exact mkRange_ok (hinv p hp).1

/-- `SymbolParser::finish` builds every file whose STACK WIN sizes fit `u32` -/
theorem build_okW (r : Recs) (h4 : ∀ x ∈ r.win4, x.size < 2 ^ 32) (h0 : ∀ x ∈ r.win0, x.size < 2 ^ 32) :
    ∃ sf, build r = .ok sf := by
  obtain ⟨t4, e4⟩ := winTable_ok _ h4
  obtain ⟨t0, e0⟩ := winTable_ok _ h0
  unfold build
  simp only [finishAll_ok, safeP_ok _ (funcInput_wf _), e4, e0]
  exact ⟨_, rfl⟩

theorem bsLoop_spec (probe : Nat → Ordering) (n fuel base size : Nat) (hs : 1 ≤ size) :
    base ≤ bsLoop probe fuel base size ∧ bsLoop probe fuel base size < base + size ∧
    (bsLoop probe fuel base size = base ∨ probe (bsLoop probe fuel base size) ≠ .gt) ∧
    ((∀ i j, i ≤ j → j < n → probe i = .gt → probe j = .gt) → size ≤ fuel + 1 →
      (∀ j, base + size ≤ j → j < n → probe j = .gt) →
      ∀ j, bsLoop probe fuel base size < j → j < n → probe j = .gt) := by
  induction fuel generalizing base size with
  | zero =>
    simp only [bsLoop]
    exact ⟨Nat.le_refl _, by omega, .inl trivial, fun _ _ hup j hj hjn => hup j (by omega) hjn⟩
  | succ fuel ih =>
    simp only [bsLoop]
    split
    · have hh : 1 ≤ size - size / 2 := by omega
      split
      · rename_i hgt
        obtain ⟨h1, h2, h3, h4⟩ := ih base (size - size / 2) hh
        exact ⟨h1, by omega, h3, fun hmono hf _ => h4 hmono (by omega)
          fun j hj hjn => hmono (base + size / 2) j (by omega) hjn hgt⟩
      · rename_i hm
        obtain ⟨h1, h2, h3, h4⟩ := ih (base + size / 2) (size - size / 2) hh
        refine ⟨by omega, by omega, .inr ?_, fun hmono hf hup => h4 hmono (by omega)
          fun j hj hjn => hup j (by omega) hjn⟩
        rcases h3 with h | h
        · rw [h]; exact hm
        · exact h
    · exact ⟨Nat.le_refl _, by omega, .inl rfl, fun _ _ hup j hj hjn => hup j (by omega) hjn⟩

theorem probeOf_eq {α : Type} {xs : List α} {cmp : α → Ordering} {k : Nat} {x : α}
    (h : xs[k]? = some x) : probeOf xs cmp k = cmp x := by
  unfold probeOf
  rw [h]

/-- where `binary_search_by` over a list lands: nowhere, and then every element is `Greater`; or on
    an element that is not `Greater`, and then every element behind it is `Greater` (both on a list
    in which only `Greater` elements follow a `Greater` one — what "sorted" means to the search) -/
theorem binarySearchBy_cases {α : Type} (xs : List α) (cmp : α → Ordering) :
    (binarySearchBy xs.length (probeOf xs cmp) = .notFound 0 ∧
      ((xs.Pairwise fun x y => cmp x = .gt → cmp y = .gt) → ∀ y ∈ xs, cmp y = .gt)) ∨
    ∃ i x, xs[i]? = some x ∧
      (binarySearchBy xs.length (probeOf xs cmp) = .found i ∧ cmp x = .eq ∨
        binarySearchBy xs.length (probeOf xs cmp) = .notFound (i + 1) ∧ cmp x = .lt) ∧
      ((xs.Pairwise fun x y => cmp x = .gt → cmp y = .gt) →
        ∀ j y, i < j → xs[j]? = some y → cmp y = .gt) := by
  unfold binarySearchBy
  by_cases hn : xs.length = 0
  · rw [if_pos hn, List.length_eq_zero_iff.mp hn]
    exact .inl ⟨rfl, fun _ _ hy => nomatch hy⟩
  · rw [if_neg hn]
    obtain ⟨_, hr, hg, hu⟩ := bsLoop_spec (probeOf xs cmp) xs.length xs.length 0 xs.length (by omega)
    generalize bsLoop (probeOf xs cmp) xs.length 0 xs.length = L at hr hg hu
    have hL : xs[L]? = some xs[L] := List.getElem?_eq_getElem (by omega)
    have after : (xs.Pairwise fun x y => cmp x = .gt → cmp y = .gt) →
        ∀ j y, L < j → xs[j]? = some y → cmp y = .gt := by
      intro hs j y hj hy
      have hjl := (List.getElem?_eq_some_iff.mp hy).1
      rw [← probeOf_eq (cmp := cmp) hy]
      refine hu (fun i j hij hj hgt => ?_) (by omega) (by intro j hj hjn; omega) j hj hjl
      have hi : i < xs.length := by omega
      rw [probeOf_eq (List.getElem?_eq_getElem hi)] at hgt
      rw [probeOf_eq (List.getElem?_eq_getElem hj)]
      by_cases h : i = j
      · subst h; exact hgt
      · exact List.pairwise_iff_getElem.mp hs i j hi hj (by omega) hgt
    rw [probeOf_eq hL] at hg
    simp only [probeOf_eq hL]
    cases hc : cmp xs[L] with
    | eq => exact .inr ⟨L, _, hL, .inl ⟨rfl, hc⟩, after⟩
    | lt => exact .inr ⟨L, _, hL, .inr ⟨rfl, hc⟩, after⟩
    | gt =>
      -- the loop never moves onto a `Greater` element: it is still at index 0
      obtain rfl : L = 0 := hg.resolve_right (fun h => h hc)
      refine .inl ⟨rfl, fun hs y hy => ?_⟩
      obtain ⟨j, hj, rfl⟩ := List.getElem_of_mem hy
      by_cases hj0 : j = 0
      · subst hj0; exact hc
      · exact after hs j _ (by omega) (List.getElem?_eq_getElem hj)

theorem cmpNat_eq {a b : Nat} : cmpNat a b = .eq ↔ a = b := by
  unfold cmpNat; split
  · simp; omega
  · split <;> simp <;> omega

theorem cmpNat_lt {a b : Nat} : cmpNat a b = .lt ↔ a < b := by
  unfold cmpNat; split
  · simp; assumption
  · split <;> simp <;> omega

theorem cmpNat_gt {a b : Nat} : cmpNat a b = .gt ↔ a > b := by
  unfold cmpNat; split
  · simp; omega
  · split <;> simp <;> omega

theorem cmpDepthAddr_gt {d a : Nat} {i : Inl} :
    cmpDepthAddr d a i = .gt ↔ i.depth > d ∨ (i.depth = d ∧ i.addr > a) := by
  unfold cmpDepthAddr
  split
  · rename_i h
    have := cmpNat_eq.mp h
    rw [cmpNat_gt]
    omega
  · rename_i hne
    have : i.depth ≠ d := fun e => hne (cmpNat_eq.mpr e)
    rw [cmpNat_gt]
    omega

theorem inlineeAt_cases (S : List Inl) (d a : Nat) :
    (inlineeAt S d a = .ok none ∧
      ((S.Pairwise fun x y => cmpDepthAddr d a x = .gt → cmpDepthAddr d a y = .gt) →
        ∀ y ∈ S, cmpDepthAddr d a y = .gt)) ∨
    ∃ (i : Nat) (c : Inl), S[i]? = some c ∧ cmpDepthAddr d a c ≠ .gt ∧
      ((S.Pairwise fun x y => cmpDepthAddr d a x = .gt → cmpDepthAddr d a y = .gt) →
        ∀ j y, i < j → S[j]? = some y → cmpDepthAddr d a y = .gt) ∧
      inlineeAt S d a = .ok (if c.depth = d ∧ c.addr + c.size ≤ U64MAX ∧ a < c.addr + c.size
        then some c else none) := by
  have key : ∀ c : Inl, (if c.depth ≠ d then Outcome.ok none
        else if c.addr + c.size > U64MAX then .ok none
        else if a < c.addr + c.size then .ok (some c) else .ok none) =
      .ok (if c.depth = d ∧ c.addr + c.size ≤ U64MAX ∧ a < c.addr + c.size then some c else none) := by
    intro c
    by_cases h1 : c.depth = d <;> by_cases h2 : c.addr + c.size ≤ U64MAX <;>
      by_cases h3 : a < c.addr + c.size <;> simp [h1, h2, h3, Nat.not_lt.mpr, Nat.lt_of_not_le]
  unfold inlineeAt
  rcases binarySearchBy_cases S (cmpDepthAddr d a) with ⟨h0, hall⟩ | ⟨i, c, hc, hbs, hafter⟩
  · exact .inl ⟨by rw [h0], hall⟩
  · refine .inr ⟨i, c, hc, ?_, hafter, ?_⟩
    · rcases hbs with ⟨_, h⟩ | ⟨_, h⟩ <;> rw [h] <;> nofun
    · rcases hbs with ⟨h, _⟩ | ⟨h, _⟩ <;> simp only [h, hc, key]

theorem inlineeAt_ok (inls : List Inl) (d a : Nat) : ∃ o, inlineeAt inls d a = .ok o := by
  rcases inlineeAt_cases inls d a with ⟨h, _⟩ | ⟨_, _, _, _, _, h⟩ <;> exact ⟨_, h⟩

/-- no hypothesis on the inlinee list (sorted or not) -/
theorem inlineeAt_sound {inls : List Inl} {d a : Nat} {x : Inl}
    (h : inlineeAt inls d a = .ok (some x)) :
    x ∈ inls ∧ x.depth = d ∧ x.addr ≤ a ∧ a < x.addr + x.size ∧ x.addr + x.size ≤ U64MAX := by
  rcases inlineeAt_cases inls d a with ⟨h0, _⟩ | ⟨i, c, hc, hng, _, heq⟩
  · rw [h0] at h; cases h
  · rw [heq] at h
    split at h
    · rename_i hcond
      cases h
      rw [Ne, cmpDepthAddr_gt] at hng
      exact ⟨List.mem_of_getElem? hc, by omega, by omega, by omega, by omega⟩
    · cases h

theorem getElem?_idxOf {α : Type} [BEq α] [LawfulBEq α] {l : List α} {a : α} (h : a ∈ l) :
    l[l.idxOf a]? = some a := by
  have hlt := List.idxOf_lt_length_iff.mpr h
  rw [List.getElem?_eq_getElem hlt, List.getElem_idxOf hlt]

theorem funcVal_get {bs : List BFunc} {b : BFunc} (hb : b ∈ bs) :
    ∃ f, bs[funcVal bs b]? = some f ∧ f.key = b.key := by
  have := getElem?_idxOf (List.mem_map_of_mem (f := BFunc.key) hb)
  rw [List.getElem?_map] at this
  exact Option.map_eq_some_iff.mp this

theorem funcInput_entry {bs : List BFunc} {e : Entry} (he : e ∈ funcInput bs) :
    ∃ g, bs[e.2]? = some g ∧ 0 < g.size ∧ g.addr + g.size ≤ U64MAX ∧
      e.1 = ⟨g.addr, g.addr + g.size - 1⟩ := by
  obtain ⟨b, hb, hbe⟩ := List.mem_map.mp (mem_validOnly.mp he)
  obtain ⟨hr, hv⟩ := Prod.mk.inj hbe
  obtain ⟨g, hg, hkey⟩ := funcVal_get hb
  simp only [BFunc.key, Prod.mk.injEq] at hkey
  obtain ⟨ha, hs, -⟩ := hkey
  obtain ⟨hpos, hmax, hr⟩ := mkRange_eq_some.mp hr
  exact ⟨g, hv ▸ hg, by omega, by omega, by rw [hr, ha, hs]⟩

theorem funcInput_self {bs : List BFunc} : ∀ x ∈ funcInput bs, ∀ y ∈ funcInput bs,
    x.2 = y.2 → x.1 = y.1 := by
  intro x hx y hy hv
  obtain ⟨g, hg, _, _, hx'⟩ := funcInput_entry hx
  obtain ⟨g', hg', _, _, hy'⟩ := funcInput_entry hy
  rw [hv, hg'] at hg
  cases hg
  rw [hx', hy']

theorem checkedAdd_ok {a b : Nat} {site : String} {c : Nat} (h : checkedAdd a b site = .ok c) :
    c = a + b ∧ a + b ≤ U64MAX := by
  unfold checkedAdd at h
  split at h
  · cases h
  · cases h; exact ⟨rfl, by omega⟩

theorem checkedAdd_of_le {a b : Nat} (site : String) (h : a + b ≤ U64MAX) :
    checkedAdd a b site = .ok (a + b) := by
  unfold checkedAdd
  rw [if_neg (by omega)]

theorem setSource_ok {sf : SymFile} {fr fr' : Frame} {fid line address base : Nat}
    (h : setSource sf fr fid line address base = .ok fr') :
    (mapGet sf.files fid = none ∧ fr' = fr) ∨
    (∃ file, mapGet sf.files fid = some file ∧ address + base ≤ U64MAX ∧
      fr' = { fr with src := some (file, line, address + base) }) := by
  unfold setSource at h
  split at h
  · rename_i hm; cases h; exact .inl ⟨hm, rfl⟩
  · rename_i file hm
    split at h
    · cases h
    · rename_i b hb
      obtain ⟨rfl, hle⟩ := checkedAdd_ok hb
      cases h
      exact .inr ⟨file, hm, hle, rfl⟩

/-- the two ways `fill_symbol` ends once a FUNC has been found; the source location is there only
    if the file id has a FILE record -/
inductive FuncCase (sf : SymFile) (f : BFunc) (base addr : Nat) (fr : Frame) : Prop where
  /-- a depth-0 inlinee covers the address: its call site is the source location, the inline
      loop produces the inline frames -/
  | inlined (x : Inl) (inl : List InlineFrame)
      (h0 : inlineeAt f.inls 0 addr = .ok (some x))
      (hl : inlineLoop sf f addr (f.inls.length + 1) 1 x.origin = some (.ok inl))
      (hfr : fr = { fn := some (f.name, f.addr + base, paramSize sf addr f),
                    src := (mapGet sf.files x.callFile).map fun file => (file, x.callLine, x.addr + base),
                    inl := inl })
  /-- no inlinee: the line record covering the address, if any, is the source location -/
  | plain
      (h0 : inlineeAt f.inls 0 addr = .ok none)
      (hfr : fr = { fn := some (f.name, f.addr + base, paramSize sf addr f),
                    src := (lineAt f addr).bind fun l =>
                      (mapGet sf.files l.file).map fun file => (file, l.line, l.addr + base) })

theorem fillSymbol_func {sf : SymFile} {base instr : Nat} {fr : Frame} {f : BFunc}
    (hge : base ≤ instr) (hf : funcAt sf.funcs sf.ftab (instr - base) = some f)
    (h : fillSymbol sf base instr = .ok fr) :
    f.addr + base ≤ U64MAX ∧ FuncCase sf f base (instr - base) fr := by
  unfold fillSymbol at h
  rw [if_neg (by omega)] at h
  simp only [hf] at h
  split at h
  · cases h
  · rename_i fbase hfb
    obtain ⟨rfl, hle⟩ := checkedAdd_ok hfb
    refine ⟨hle, ?_⟩
    split at h
    · cases h
    · rename_i x h0
      split at h
      · cases h
      · rename_i fr0 hs
        split at h
        · cases h
        · cases h
        · rename_i inl hl
          cases h
          refine .inlined x inl h0 hl ?_
          rcases setSource_ok hs with ⟨hm, rfl⟩ | ⟨file, hm, _, rfl⟩ <;> rw [hm] <;> rfl
    · rename_i h0
      refine .plain h0 ?_
      split at h
      · rename_i hl
        cases h
        rw [hl]
        rfl
      · rename_i l hl
        rw [hl]
        rcases setSource_ok h with ⟨hm, rfl⟩ | ⟨file, hm, _, rfl⟩ <;>
          simp only [Option.bind_some, hm] <;> rfl

theorem fillSymbol_nofunc {sf : SymFile} {base instr : Nat} {fr : Frame}
    (hge : base ≤ instr) (hf : funcAt sf.funcs sf.ftab (instr - base) = none)
    (h : fillSymbol sf base instr = .ok fr) :
    fr = match findNearestPublic sf.pubs (instr - base) with
      | some p =>
        if (prevFunc sf (instr - base)).any (fun prev => decide (p.addr ≤ prev.addr)) then {}
        else { fn := some (p.name, p.addr + base, p.psize) }
      | none => {} := by
  unfold fillSymbol at h
  rw [if_neg (by omega)] at h
  simp only [hf] at h
  cases hp : findNearestPublic sf.pubs (instr - base) with
  | none => rw [hp] at h; cases h; rfl
  | some p =>
    rw [hp] at h
    cases hprev : prevFunc sf (instr - base) with
    | none =>
      rw [hprev] at h
      simp only at h ⊢
      split at h
      · cases h
      · rename_i b hb; cases h; rw [(checkedAdd_ok hb).1]; rfl
    | some prev =>
      rw [hprev] at h
      simp only [Option.any_some, decide_eq_true_eq] at h ⊢
      split at h
      · cases h; rw [if_pos ‹_›]
      · rw [if_neg ‹_›]
        split at h
        · cases h
        · rename_i b hb; cases h; rw [(checkedAdd_ok hb).1]

theorem fillSymbol_below {sf : SymFile} {base instr : Nat} (hlt : instr < base) :
    fillSymbol sf base instr = .ok {} := by
  unfold fillSymbol; rw [if_pos hlt]

theorem filter_length_lt {α : Type} (l : List α) (p q : α → Bool) (hpq : ∀ x, p x = true → q x = true)
    (x : α) (hx : x ∈ l) (hqx : q x = true) (hpx : p x = false) :
    (l.filter p).length < (l.filter q).length := by
  have h : l.filter p = (l.filter q).filter p := by
    rw [List.filter_filter]
    refine List.filter_congr fun y _ => ?_
    cases hp : p y
    · rfl
    · rw [hpq y hp]; rfl
  rw [h]
  exact List.length_filter_lt_length_iff_exists.mpr
    ⟨x, List.mem_filter.mpr ⟨hx, hqx⟩, by rw [hpx]; exact Bool.false_ne_true⟩

/-- every round that goes on has found an inlinee of exactly the current depth, so the inlinees at
    this depth or deeper bound the rounds (and, added to the depth, the depth counter) -/
theorem inlineLoop_some (sf : SymFile) (f : BFunc) (addr : Nat) (fuel depth origin : Nat)
    (hfuel : (f.inls.filter fun x => decide (depth ≤ x.depth)).length < fuel) :
    ∃ o, inlineLoop sf f addr fuel depth origin = some o ∧
      (depth + (f.inls.filter fun x => decide (depth ≤ x.depth)).length < U32MAX →
        ∃ inl, o = .ok inl) := by
  induction fuel generalizing depth origin with
  | zero => omega
  | succ fuel ih =>
    simp only [inlineLoop]
    split
    · exact ⟨_, rfl, fun hd => by omega⟩
    · obtain ⟨o, ho⟩ := inlineeAt_ok f.inls depth addr
      rw [ho]
      cases o with
      | none => exact ⟨_, rfl, fun _ => ⟨_, rfl⟩⟩
      | some x =>
        obtain ⟨hm, hdx, _⟩ := inlineeAt_sound ho
        have hlt := filter_length_lt f.inls (fun y => decide (depth + 1 ≤ y.depth))
          (fun y => decide (depth ≤ y.depth)) (by intro y hy; simp at hy ⊢; omega) x hm
          (by simp; omega) (by simp; omega)
        obtain ⟨o', ho', hok⟩ := ih (depth + 1) x.origin (by omega)
        simp only [ho']
        cases o' with
        | panic s => exact ⟨_, rfl, fun hd => by obtain ⟨_, h⟩ := hok (by omega); cases h⟩
        | ok rest => exact ⟨_, rfl, fun _ => ⟨_, rfl⟩⟩

theorem inlineLoop_ok {sf : SymFile} {f : BFunc} {addr fuel depth origin : Nat} {inl : List InlineFrame}
    (h : inlineLoop sf f addr (fuel + 1) depth origin = some (.ok inl)) :
    (inlineeAt f.inls depth addr = .ok none ∧ inl = lastInline sf f addr origin) ∨
    ∃ x rest, inlineeAt f.inls depth addr = .ok (some x) ∧
      inlineLoop sf f addr fuel (depth + 1) x.origin = some (.ok rest) ∧
      inl = (match mapGet sf.origins origin with
        | some name => [⟨name, mapGet sf.files x.callFile, some x.callLine⟩]
        | none => []) ++ rest := by
  simp only [inlineLoop] at h
  split at h
  · cases h
  · split at h
    · cases h
    · rename_i hn; cases h; exact .inl ⟨hn, rfl⟩
    · rename_i x hx
      split at h
      · cases h
      · cases h
      · rename_i rest hrest; cases h; exact .inr ⟨x, rest, hx, hrest, rfl⟩

/-- the inline frames for a chain of inlinees: `origin` names the function the chain starts in
    (the origin of the inlinee one depth up), `xs` are the inlinees at the following depths. The
    frame of each depth carries the name of *its* origin and the call site recorded in the *next*
    deeper inlinee ("call sites shifted by one depth"); the last frame carries the innermost line
    record. Frames whose origin id has no INLINE_ORIGIN record are skipped, as in the code. -/
def chainFrames (sf : SymFile) (f : BFunc) (addr : Nat) : Nat → List Inl → List InlineFrame
  | origin, [] => lastInline sf f addr origin
  | origin, y :: rest =>
    (match mapGet sf.origins origin with
      | some name => [⟨name, mapGet sf.files y.callFile, some y.callLine⟩]
      | none => []) ++ chainFrames sf f addr y.origin rest

theorem inlineLoop_chain (sf : SymFile) (f : BFunc) (addr : Nat) (fuel depth origin : Nat)
    (inl : List InlineFrame) (h : inlineLoop sf f addr fuel depth origin = some (.ok inl)) :
    ∃ xs : List Inl,
      (∀ k x, xs[k]? = some x → inlineeAt f.inls (depth + k) addr = .ok (some x)) ∧
      inlineeAt f.inls (depth + xs.length) addr = .ok none ∧
      inl = chainFrames sf f addr origin xs := by
  induction fuel generalizing depth origin inl with
  | zero => simp [inlineLoop] at h
  | succ fuel ih =>
    rcases inlineLoop_ok h with ⟨hn, rfl⟩ | ⟨x, rest, hx, hrest, rfl⟩
    · exact ⟨[], by simp, by simpa using hn, rfl⟩
    · obtain ⟨xs, h1, h2, rfl⟩ := ih (depth + 1) x.origin rest hrest
      refine ⟨x :: xs, ?_, ?_, rfl⟩
      · intro k y hk
        cases k with
        | zero => simp at hk; subst hk; simpa using hx
        | succ k =>
          simp at hk
          have := h1 k y hk
          rw [show depth + (k + 1) = depth + 1 + k by omega]; exact this
      · rw [show depth + (x :: xs).length = depth + 1 + xs.length by simp; omega]; exact h2

theorem setSource_ne_panic (sf : SymFile) (fr : Frame) (fid line address base : Nat)
    (h : address + base ≤ U64MAX) : ∃ fr', setSource sf fr fid line address base = .ok fr' := by
  unfold setSource
  split
  · exact ⟨_, rfl⟩
  · rw [checkedAdd_of_le _ h]; exact ⟨_, rfl⟩

/-- `lexLe` is the order core Lean puts on `List Nat`; its laws are core's -/
theorem lexLe_iff_le : ∀ a b : List Nat, lexLe a b = true ↔ a ≤ b
  | [], b => by simp [lexLe]
  | _ :: _, [] => by simp [lexLe]
  | a :: as, b :: bs => by
    rw [lexLe, List.cons_le_cons_iff, ← lexLe_iff_le as bs]
    simp

theorem lexLe_refl (a : List Nat) : lexLe a a = true := (lexLe_iff_le a a).mpr (List.le_refl a)

theorem lexLe_total (a b : List Nat) : lexLe a b = true ∨ lexLe b a = true := by
  simp only [lexLe_iff_le]; exact List.le_total a b

theorem lexLe_trans (a b c : List Nat) : lexLe a b = true → lexLe b c = true → lexLe a c = true := by
  simp only [lexLe_iff_le]; exact List.le_trans

theorem lexLe_antisymm (a b : List Nat) : lexLe a b = true → lexLe b a = true → a = b := by
  simp only [lexLe_iff_le]; exact List.le_antisymm

theorem pubLe_iff (p q : Pub) : pubLe p q = true ↔
    p.addr < q.addr ∨ (p.addr = q.addr ∧
      ((lexLe p.name q.name = true ∧ p.name ≠ q.name) ∨ (p.name = q.name ∧ p.psize ≤ q.psize))) := by
  simp [pubLe]

theorem pubLe_refl (p : Pub) : pubLe p p = true := by
  rw [pubLe_iff]; right; exact ⟨rfl, .inr ⟨rfl, Nat.le_refl _⟩⟩

theorem pubLe_total (p q : Pub) : (pubLe p q || pubLe q p) = true := by
  rw [Bool.or_eq_true, pubLe_iff, pubLe_iff]
  rcases Nat.lt_trichotomy p.addr q.addr with h | h | h
  · left; left; exact h
  · by_cases hn : p.name = q.name
    · rcases Nat.le_total p.psize q.psize with h' | h'
      · left; right; exact ⟨h, .inr ⟨hn, h'⟩⟩
      · right; right; exact ⟨h.symm, .inr ⟨hn.symm, h'⟩⟩
    · rcases lexLe_total p.name q.name with h' | h'
      · left; right; exact ⟨h, .inl ⟨h', hn⟩⟩
      · right; right; exact ⟨h.symm, .inl ⟨h', fun e => hn e.symm⟩⟩
  · right; left; exact h

theorem pubLe_trans (p q s : Pub) : pubLe p q = true → pubLe q s = true → pubLe p s = true := by
  rw [pubLe_iff, pubLe_iff, pubLe_iff]
  intro h1 h2
  rcases h1 with h1 | ⟨h1, h1'⟩ <;> rcases h2 with h2 | ⟨h2, h2'⟩
  · left; omega
  · left; omega
  · left; omega
  · right
    refine ⟨by omega, ?_⟩
    rcases h1' with ⟨a1, a2⟩ | ⟨a1, a2⟩ <;> rcases h2' with ⟨b1, b2⟩ | ⟨b1, b2⟩
    · left
      refine ⟨lexLe_trans _ _ _ a1 b1, ?_⟩
      intro e
      rw [← e] at b1
      exact a2 (lexLe_antisymm _ _ a1 b1)
    · left; rw [← b1]; exact ⟨a1, a2⟩
    · left; rw [a1]; exact ⟨b1, b2⟩
    · right; exact ⟨a1.trans b1, by omega⟩

/-- `p` is the nearest preceding PUBLIC of `a`: the greatest PUBLIC record, in the order the
    parser sorts them by (address, then name, then parameter size), among those at or below `a`.
    In particular no PUBLIC lies strictly between `p.addr` and `a`. -/
def NearestPublic (pubs : List Pub) (a : Nat) (p : Pub) : Prop :=
  p ∈ pubs ∧ p.addr ≤ a ∧ ∀ q ∈ pubs, q.addr ≤ a → pubLe q p = true

theorem NearestPublic.addr_max {pubs : List Pub} {a : Nat} {p : Pub} (h : NearestPublic pubs a p) :
    ∀ q ∈ pubs, q.addr ≤ a → q.addr ≤ p.addr := by
  intro q hq hqa
  have := (pubLe_iff q p).mp (h.2.2 q hq hqa)
  omega

theorem find?_reverse_pairwise {α : Type} {R : α → α → Prop} {l : List α} (hpw : l.Pairwise R)
    {p : α → Bool} {x : α} (h : l.reverse.find? p = some x) :
    x ∈ l ∧ p x = true ∧ ∀ y ∈ l, p y = true → y = x ∨ R y x := by
  obtain ⟨hp, as, bs, hsplit, has⟩ := List.find?_eq_some_iff_append.mp h
  have hrev : l = bs.reverse ++ x :: as.reverse := by simpa using congrArg List.reverse hsplit
  subst hrev
  refine ⟨by simp, hp, fun y hy hpy => ?_⟩
  rcases List.mem_append.mp hy with hy | hy
  · exact .inr ((List.pairwise_append.mp hpw).2.2 y hy x List.mem_cons_self)
  · rcases List.mem_cons.mp hy with rfl | hy
    · exact .inl rfl
    · have := has y (List.mem_reverse.mp hy)
      simp [hpy] at this

theorem findNearestPublic_spec (pubs : List Pub) (a : Nat) :
    Greatest pubLe (fun q => q.addr ≤ a) pubs (findNearestPublic (pubs.mergeSort pubLe) a) := by
  unfold findNearestPublic
  constructor
  · intro p h
    obtain ⟨hm, hp, hmax⟩ :=
      find?_reverse_pairwise (List.pairwise_mergeSort pubLe_trans pubLe_total pubs) h
    refine ⟨List.mem_mergeSort.mp hm, by simpa using hp, fun q hq hqa => ?_⟩
    rcases hmax q (List.mem_mergeSort.mpr hq) (by simpa using hqa) with rfl | h
    · exact pubLe_refl _
    · exact h
  · intro h q hq
    simpa using List.find?_eq_none.mp h q (List.mem_reverse.mpr (List.mem_mergeSort.mpr hq))

theorem sep_lo_mono {m : List Entry} (hs : Sep m) {i j : Nat} {x y : Entry}
    (hi : m[i]? = some x) (hj : m[j]? = some y) (hij : i ≤ j) : x.1.lo ≤ y.1.lo := by
  by_cases h : i = j
  · subst h; rw [hi] at hj; cases hj; omega
  · have hi' := List.getElem?_eq_some_iff.mp hi
    have hj' := List.getElem?_eq_some_iff.mp hj
    obtain ⟨hil, rfl⟩ := hi'
    obtain ⟨hjl, rfl⟩ := hj'
    have := List.pairwise_iff_getElem.mp hs.pairwise i j hil hjl (by omega)
    have hw := (hs.wf _ (List.getElem_mem hil)).1
    omega

/-- an entry starting at `a` would contain it -/
theorem lo_ne_of_get_none {m : List Entry} (hs : Sep m) {a : Nat} (hg : get m a = none) {e : Entry}
    (he : e ∈ m) : e.1.lo ≠ a := by
  intro heq
  have hw := hs.wf e he
  have := get_complete_mem m hs e he a
    (by unfold WF at hw; omega)
  rw [hg] at this; cases this

def StartsIn (m : List Entry) (lo a : Nat) : Prop := ∃ e ∈ m, e.1.lo ≤ a ∧ lo ≤ e.1.lo

theorem StartsIn.congr {m m' : List Entry} (h : m.map (·.1) = m'.map (·.1)) {lo a : Nat} :
    StartsIn m lo a ↔ StartsIn m' lo a := by
  have key : ∀ {m m' : List Entry}, m.map (·.1) = m'.map (·.1) →
      StartsIn m lo a → StartsIn m' lo a := by
    rintro m m' h ⟨e, he, h1, h2⟩
    have : e.1 ∈ m'.map (·.1) := h ▸ List.mem_map_of_mem he
    obtain ⟨e', he', heq⟩ := List.mem_map.mp this
    exact ⟨e', he', by rw [heq]; exact h1, by rw [heq]; exact h2⟩
  exact ⟨key h, key h.symm⟩

theorem not_startsIn {m : List Entry} {lo a : Nat} :
    ¬ StartsIn m lo a ↔ ∀ e ∈ m, e.1.lo ≤ a → e.1.lo < lo := by
  constructor
  · intro h e he hle
    exact Nat.lt_of_not_le fun hlo => h ⟨e, he, hle, hlo⟩
  · rintro h ⟨e, he, hle, hlo⟩
    exact absurd (h e he hle) (Nat.not_lt.mpr hlo)

/-- the function table is the table over the FUNC records whose value is `funcVal` (the parser-local builder
    builds the same table as the trait's, `safeVecP_validOnly`) -/
theorem Built.ftab_eq {r : Recs} {sf : SymFile} (B : Built r sf) :
    sf.ftab = safeVec (r.funcs.map fun f => (mkRange f.addr f.size, funcVal sf.funcs (finOf f))) := by
  rw [B.ftab, funcInput, safeVecP_validOnly, B.funcs, List.map_map]
  rfl

theorem Built.sep {r : Recs} {sf : SymFile} (B : Built r sf) : Sep sf.ftab := by
  rw [B.ftab]; exact safeVecP_sep _ (funcInput_wf _)

/-- equal values sit on equal ranges (`funcInput_self`), so the builder merges nothing: every entry
    of the function table is a FUNC record of the file with its own range -/
theorem ftab_entry_is_record {r : Recs} {sf : SymFile} (B : Built r sf) {e : Entry}
    (he : e ∈ sf.ftab) :
    ∃ f ∈ r.funcs, mkRange f.addr f.size = some e.1 ∧ sf.funcs[e.2]? = some (finOf f) := by
  rw [B.ftab] at he
  have hm : ∀ {x}, x ∈ sortEntries (funcInput sf.funcs) → x ∈ funcInput sf.funcs := List.mem_mergeSort.mp
  obtain ⟨g, hg, hpos, hmax, hr⟩ := funcInput_entry
    (hm (keep_mem_of_selfranged _ (fun x hx y hy => funcInput_self x (hm hx) y (hm hy)) e he))
  obtain ⟨f, hfm, rfl⟩ := List.mem_map.mp (B.funcs ▸ List.mem_of_getElem? hg)
  exact ⟨f, hfm, mkRange_eq_some.mpr ⟨hpos, hmax, hr⟩, hg⟩

theorem funcAt_none_get {r : Recs} {sf : SymFile} (B : Built r sf) {a : Nat}
    (h : funcAt sf.funcs sf.ftab a = none) : get sf.ftab a = none := by
  cases hg : get sf.ftab a with
  | none => rfl
  | some v =>
    obtain ⟨e, he, _, hv⟩ := get_sound_mem _ a v hg
    obtain ⟨f, _, _, hf⟩ := ftab_entry_is_record B he
    unfold funcAt at h
    rw [hg] at h
    simp only [Option.bind_some, ← hv, hf] at h
    cases h

/-- `public.address <= prev_func.address`, when no entry contains the address: some entry of the
    table starts between the PUBLIC and the address -/
theorem prevFunc_cut {r : Recs} {sf : SymFile} (B : Built r sf) {a : Nat}
    (hg : get sf.ftab a = none) (lo : Nat) :
    (prevFunc sf a).any (fun prev => decide (lo ≤ prev.addr)) = true ↔ StartsIn sf.ftab lo a := by
  have hs := B.sep
  -- the table is sorted by start, so the search ends on the last entry starting at or below `a`
  have hgt : sf.ftab.Pairwise fun x y => cmpNat x.1.lo a = .gt → cmpNat y.1.lo a = .gt :=
    hs.pairwise.imp_of_mem fun hx _ h => by
      rw [cmpNat_gt, cmpNat_gt]; have := (hs.wf _ hx).1; omega
  unfold prevFunc
  rcases binarySearchBy_cases sf.ftab (fun e => cmpNat e.1.lo a) with ⟨h0, hall⟩ | ⟨i, e, hi, hbs, hafter⟩
  · rw [h0]
    refine ⟨nofun, fun ⟨e, he, hle, _⟩ => ?_⟩
    have := cmpNat_gt.mp (hall hgt e he)
    omega
  · have hm := List.mem_of_getElem? hi
    rcases hbs with ⟨_, he⟩ | ⟨hbs, he⟩
    · exact absurd (cmpNat_eq.mp he) (lo_ne_of_get_none hs hg hm)
    · rw [cmpNat_lt] at he
      obtain ⟨f, _, hr, hf⟩ := ftab_entry_is_record B hm
      have hfa' : (finOf f).addr = e.1.lo := by rw [(mkRange_eq_some.mp hr).2.2]; rfl
      simp only [hbs, hi, Option.bind_some, hf, Option.any_some, decide_eq_true_eq]
      constructor
      · exact fun h => ⟨_, hm, by omega, by omega⟩
      · rintro ⟨e', he', hle, hlo⟩
        obtain ⟨j, hj, rfl⟩ := List.getElem_of_mem he'
        by_cases hji : j ≤ i
        · have := sep_lo_mono hs (List.getElem?_eq_getElem hj) hi hji
          omega
        · have := cmpNat_gt.mp (hafter hgt j _ (by omega) (List.getElem?_eq_getElem hj))
          omega

end MdModel.Symbolize
