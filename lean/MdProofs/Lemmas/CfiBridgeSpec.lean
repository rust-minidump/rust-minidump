/-
  Bridge C06 ↔ walker model, part 7: the documented language on the walker side.

  Expression trees over `String` register names (`WTree`), their postfix form in the walker
  model's token vocabulary (`wpostfix`), and their denotation written directly over the walker
  model's environment and `Nat` arithmetic (`wdenote`) — with the lemmas identifying them with
  C06's `Tree` / `postfixOf` / `denote`.
-/
import MdProofs.Lemmas.CfiBridgeInst
namespace MdModel.CfiBridge
open MdModel

inductive WTree where
  | lit (v : UInt64)
  | reg (n : String)
  | cfa
  | undef
  | deref (t : WTree)
  | bin (o : Cfi.BinOp) (l r : WTree)

def WTree.toTree : WTree → Cfi.Tree
  | .lit v => .lit v
  | .reg n => .reg (utf8 n)
  | .cfa => .cfa
  | .undef => .undef
  | .deref t => .deref t.toTree
  | .bin o l r => .bin o l.toTree r.toTree

/-- postfix form in the walker model's tokens (registers spelled `$name`) -/
def wpostfix : WTree → List Walk.ETok
  | .lit v => [.lit v.toNat]
  | .reg n => [.dollar n]
  | .cfa => [.cfa]
  | .undef => [.undef]
  | .deref t => wpostfix t ++ [.deref]
  | .bin o l r => wpostfix l ++ wpostfix r ++
      [match o with
       | .add => .add | .sub => .sub | .mul => .mul | .div => .div | .rem => .rem | .align => .align]

/-- denotation over the walker model's environment: `Nat` arithmetic modulo 2^64 (`walkBin`),
    `none` = the rule fails -/
def wdenote (x : Walk.CfiIn) (cfa : Option Nat) : WTree → Option Nat
  | .lit v => some v.toNat
  | .reg n => x.reg n
  | .cfa => cfa
  | .undef => none
  | .deref t =>
    match wdenote x cfa t with
    | some a => x.deref a
    | none => none
  | .bin o l r =>
    match wdenote x cfa l, wdenote x cfa r with
    | some a, some b => walkBin o a b
    | _, _ => none

theorem u64_ofNat_toNat (v : UInt64) : UInt64.ofNat v.toNat = v := UInt64.ofNat_toNat

theorem wpostfix_tokOf (t : WTree) : (wpostfix t).map tokOf = Cfi.postfixOf t.toTree := by
  induction t with
  | lit v => simp [wpostfix, tokOf, WTree.toTree, Cfi.postfixOf]
  | reg _ | cfa | undef => rfl
  | deref t ih => simp [wpostfix, WTree.toTree, Cfi.postfixOf, ih, tokOf]
  | bin o l r ihl ihr =>
    simp only [wpostfix, WTree.toTree, Cfi.postfixOf, List.map_append, ihl, ihr, List.map_cons, List.map_nil]
    cases o <;> rfl

theorem wpostfix_wf (t : WTree) : ∀ k ∈ wpostfix t, ETokWf k := by
  induction t with
  | lit v => exact List.forall_mem_singleton.mpr v.toNat_lt
  | reg _ | cfa | undef => exact List.forall_mem_singleton.mpr trivial
  | deref t ih =>
    rw [wpostfix, List.forall_mem_append, List.forall_mem_singleton]
    exact ⟨ih, trivial⟩
  | bin o l r ihl ihr =>
    unfold wpostfix
    rw [List.forall_mem_append, List.forall_mem_append, List.forall_mem_singleton]
    exact ⟨⟨ihl, ihr⟩, by cases o <;> trivial⟩

theorem wdenote_eq (x : Walk.CfiIn) (env : Cfi.Env) (h : EnvSim x env) (cfa : Option UInt64) (t : WTree) :
    wdenote x (cfa.map UInt64.toNat) t = (Cfi.denote env cfa t.toTree).map UInt64.toNat := by
  induction t with
  | lit _ | cfa | undef => rfl
  | reg n => exact h.reg n
  | deref t ih =>
    simp only [wdenote, WTree.toTree, Cfi.denote, ih]
    cases Cfi.denote env cfa t.toTree with
    | none => rfl
    | some a => exact h.deref a
  | bin o l r ihl ihr =>
    simp only [wdenote, WTree.toTree, Cfi.denote, ihl, ihr]
    cases Cfi.denote env cfa l.toTree with
    | none => rfl
    | some a =>
      cases Cfi.denote env cfa r.toTree with
      | none => rfl
      | some b =>
        simp only [Option.map_some]
        rw [walkBin_eq, Cfi.applyBin_eq_binSem]

theorem reg64_of_ctx (x : Walk.CfiIn) (hip : x.callee.ip < 2 ^ 64) (hsp : x.callee.sp < 2 ^ 64)
    (hrest : ∀ p ∈ x.callee.rest, p.2 < 2 ^ 64) : ∀ n v, x.reg n = some v → v < 2 ^ 64 := by
  intro n v h
  have hraw : Walk.Ctx.raw x.arch x.callee n ≤ 2 ^ 64 - 1 :=
    Walk.raw_le (Nat.le_pred_of_lt hip) (Nat.le_pred_of_lt hsp) (fun p hp => Nat.le_pred_of_lt (hrest p hp)) n
  unfold Walk.CfiIn.reg Walk.Ctx.get at h
  split at h
  · cases h
    -- MIPS32 truncates what it reads
    have := Nat.mod_le (Walk.Ctx.raw x.arch x.callee n) (2 ^ 32)
    split <;> omega
  · cases h

end MdModel.CfiBridge
