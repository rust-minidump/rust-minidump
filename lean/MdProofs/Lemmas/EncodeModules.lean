/-
  C02: the module list (names + the CodeView shapes PDB 7.0 / PDB 2.0 / ELF build id / unknown
  signature / none), the exception stream and system info (with the CSD-version string) read back.
-/
import MdProofs.Lemmas.EncodeStreams
namespace MdModel.Encode
open MdModel MdModel.Dump MdModel.Gen.Layouts MdModel.Gen.LayoutsC02

theorem encFields_bytes (e : Endian) : ∀ (l : Layout) (bs : List UInt8), l.length = bs.length → (∀ f ∈ l, f.2 = 1) →
    encFields e l (bs.map (·.toNat)) = bs := by
  intro l
  induction l with
  | nil => intro bs hl _; cases bs with
    | nil => rfl
    | cons b bs => simp at hl
  | cons f rest ih =>
    intro bs hl hw
    obtain ⟨n, w⟩ := f
    cases bs with
    | nil => simp at hl
    | cons b bs =>
      have hw1 : w = 1 := hw (n, w) (by simp)
      subst hw1
      simp only [List.map_cons, encFields, encNat_one, List.singleton_append, List.cons.injEq, true_and]
      exact ih bs (by simpa using hl) (fun f hf => hw f (by simp [hf]))

theorem encFields_append (e : Endian) : ∀ (l1 l2 : Layout) (v1 v2 : List Nat), l1.length = v1.length →
    encFields e (l1 ++ l2) (v1 ++ v2) = encFields e l1 v1 ++ encFields e l2 v2 := by
  intro l1
  induction l1 with
  | nil => intro l2 v1 v2 hl; cases v1 with
    | nil => simp [encFields]
    | cons v vs => simp at hl
  | cons f rest ih =>
    intro l2 v1 v2 hl
    obtain ⟨n, w⟩ := f
    cases v1 with
    | nil => simp at hl
    | cons v vs =>
      simp only [List.cons_append, encFields, List.append_assoc, List.append_cancel_left_eq]
      exact ih l2 vs v2 (by simpa using hl)

def CvFits : MCv → Prop
  | .pdb70 d1 d2 d3 d4 age _ => d1 < 2 ^ 32 ∧ d2 < 2 ^ 16 ∧ d3 < 2 ^ 16 ∧ d4.length = 8 ∧ age < 2 ^ 32
  | .pdb20 off sig age _ => off < 2 ^ 32 ∧ sig < 2 ^ 32 ∧ age < 2 ^ 32
  | .elf _ => True
  | .unknown sig _ =>
    sig < 2 ^ 32 ∧ sig ≠ CV_SIGNATURE_PDB70 ∧ sig ≠ CV_SIGNATURE_PDB20 ∧ sig ≠ CV_SIGNATURE_ELF

theorem encCv_length (e : Endian) (cv : MCv) : (encCv e cv).length = cvSize cv := by
  cases cv <;> simp [encCv, cvSize] <;> omega

theorem cvSize_pos (cv : MCv) : 4 ≤ cvSize cv := by
  cases cv <;> simp [cvSize] <;> omega

theorem res_cvTail {src : Bytes} {fixed : Nat} (h : fixed ≤ src.size) :
    (cvTail src fixed).res = .ok (src.extract fixed src.size) := by
  unfold cvTail
  rw [res_bind_ok (res_usizeSub h), res_bind_ok (res_alloc _ _ _)]
  rfl

theorem extract_tail {src : Bytes} {pre tail : List UInt8} (h : src.toList = pre ++ tail) :
    (src.extract pre.length src.size).toList = tail := by
  have hh : Has src.toList pre.length tail := ⟨pre, [], by simp [h], rfl⟩
  have hsz : src.size = pre.length + tail.length := by
    have := congrArg List.length h
    simpa using this
  exact hsz ▸ hh.extract

theorem cvFixed_src {src : Bytes} {e : Endian} {l : Layout} {vals : List Nat} {tail : List UInt8}
    (hfit : Fits l vals) (hsrc : src.toList = encFields e l vals ++ tail) :
    readFields l src 0 e = some vals ∧ (cvTail src (Layout.size l)).res = .ok (src.extract (Layout.size l) src.size) ∧
      (src.extract (Layout.size l) src.size).toList = tail := by
  have hlen := encFields_length e l vals
  have hle : Layout.size l ≤ src.size := by
    have := congrArg List.length hsrc
    simp only [Array.length_toList, List.length_append, hlen] at this
    omega
  exact ⟨readFields_has hfit (Has.prefix0 hsrc), res_cvTail hle, hlen ▸ extract_tail hsrc⟩

theorem readCodeview_enc {all : Bytes} {e : Endian} {cv : MCv} {o : Nat} (hf : CvFits cv)
    (h : Has all.toList o (encCv e cv)) (hall : all.size < 2 ^ 32) :
    ∃ c, (readCodeview all e ⟨cvSize cv, o⟩).res = .ok (some c) ∧ mcvOf e c = cv := by
  obtain ⟨src, hs1, hsrc⟩ := locationSlice_has h hall
  rw [encCv_length] at hs1
  unfold readCodeview
  simp only [hs1]
  cases cv with
  | pdb70 d1 d2 d3 d4 age file =>
    obtain ⟨h1, h2, h3, h4, h5⟩ := hf
    match d4, h4 with
    | [b0, b1, b2, b3, b4, b5, b6, b7], _ =>
    obtain ⟨vals, hvals⟩ : ∃ vals, vals = [CV_SIGNATURE_PDB70, d1, d2, d3, b0.toNat, b1.toNat, b2.toNat, b3.toNat,
      b4.toNat, b5.toNat, b6.toNat, b7.toNat, age] := ⟨_, rfl⟩
    have hfit : Fits CV_PDB70_FIXED vals := hvals ▸
      ⟨by decide, pow_256_4 ▸ h1, pow_256_2 ▸ h2, pow_256_2 ▸ h3, b0.toNat_lt, b1.toNat_lt, b2.toNat_lt, b3.toNat_lt,
        b4.toNat_lt, b5.toNat_lt, b6.toNat_lt, b7.toNat_lt, pow_256_4 ▸ h5, trivial⟩
    obtain ⟨hrd, hcvt, htail⟩ := cvFixed_src (src := src) (e := e) (tail := file) hfit
      (by simp [hsrc, hvals, encCv, CV_PDB70_FIXED, GUID, encFields, encNat_one])
    refine ⟨.pdb70 ((vals.drop 1).take 11) (fld vals 12) (src.extract (Layout.size CV_PDB70_FIXED) src.size), ?_, ?_⟩
    · simp only [show readU32 src 0 e = _ from readFields_head (hvals ▸ hrd), if_true, hrd]
      rw [res_bind_ok hcvt]
      rfl
    · simp only [mcvOf]; rw [htail, hvals]; simp [fld]
  | pdb20 off sig age file =>
    obtain ⟨h1, h2, h3⟩ := hf
    have hfit : Fits CV_PDB20_FIXED [CV_SIGNATURE_PDB20, off, sig, age] :=
      ⟨by decide, pow_256_4 ▸ h1, pow_256_4 ▸ h2, pow_256_4 ▸ h3, trivial⟩
    obtain ⟨hrd, hcvt, htail⟩ := cvFixed_src (src := src) (e := e) (tail := file) hfit (by simp [hsrc, encCv, CV_PDB20_FIXED, encFields])
    have hne : ¬ (CV_SIGNATURE_PDB20 = CV_SIGNATURE_PDB70) := by decide
    refine ⟨.pdb20 off sig age (src.extract (Layout.size CV_PDB20_FIXED) src.size), ?_, ?_⟩
    · simp only [show readU32 src 0 e = _ from readFields_head hrd, hne, if_false, if_true, hrd]
      rw [res_bind_ok hcvt]
      rfl
    · simp only [mcvOf]; rw [htail]
  | elf bid =>
    obtain ⟨hrd, hcvt, htail⟩ := cvFixed_src (src := src) (e := e) (l := [("cv_signature", 4)]) (tail := bid)
      (vals := [CV_SIGNATURE_ELF]) ⟨by decide, trivial⟩ (by simp [hsrc, encCv, encFields])
    have hne1 : ¬ (CV_SIGNATURE_ELF = CV_SIGNATURE_PDB70) := by decide
    have hne2 : ¬ (CV_SIGNATURE_ELF = CV_SIGNATURE_PDB20) := by decide
    refine ⟨.elf (src.extract 4 src.size), ?_, ?_⟩
    · simp only [show readU32 src 0 e = _ from readFields_head hrd, hne1, hne2, if_false, if_true]
      rw [res_bind_ok (show (cvTail src 4).res = _ from hcvt)]
      rfl
    · simp only [mcvOf]; rw [show (src.extract 4 src.size).toList = bid from htail]
  | unknown sig rest =>
    obtain ⟨h1, h2, h3, h4⟩ := hf
    simp only [encCv] at hsrc
    have hsig : readU32 src 0 e = some sig := readScalar_has (Has.prefix0 hsrc) (by rw [pow_256_4]; exact h1)
    refine ⟨.unknown src, ?_, ?_⟩
    · simp only [hsig, h2, h3, h4, if_false]
      rw [res_bind_ok (res_alloc _ _ _)]
      rfl
    · simp only [mcvOf, hsrc, List.take_left' (encNat_length e 4 sig), List.drop_left' (encNat_length e 4 sig),
        decodeNat_encNat e 4 sig (by rw [pow_256_4]; exact h1)]

def ModuleFits (m : MModule) : Prop :=
  m.base < 2 ^ 64 ∧ m.size < 2 ^ 32 ∧ m.checksum < 2 ^ 32 ∧ m.time < 2 ^ 32 ∧ m.ver.length = 13 ∧
  (∀ v ∈ m.ver, v < 2 ^ 32) ∧ ValidName m.name ∧ (∀ cv, m.cv = some cv → CvFits cv)

theorem moduleRecs_length (off : Nat) (ms : List MModule) : (moduleRecs off ms).length = ms.length := by
  induction ms generalizing off <;> simp [moduleRecs, *]

theorem oobModule_length (e : Endian) (m : MModule) : (oobModule e m).length = oobModuleSize m := by
  unfold oobModule oobModuleSize
  cases m.cv <;> simp [encString_length, encCv_length]

theorem moduleRec_eq (off : Nat) (m : MModule) (h13 : m.ver.length = 13) :
    moduleRec off m = [m.base, m.size, m.checksum, m.time, off] ++ (m.ver ++ ((match m.cv with
      | none => [0, 0]
      | some cv => [cvSize cv, off + stringSize m.name]) ++ [0, 0, 0, 0, 0, 0])) := by
  unfold moduleRec
  -- the encoder pads a fixed-length field with zeros and cuts it: nothing happens to one of the right length
  rw [List.take_left' h13, List.append_assoc, List.append_assoc]
  rfl

theorem moduleRec_fits {all : List UInt8} (hall : all.length < 2 ^ 32) (e : Endian) (m : MModule) (off : Nat)
    (hf : ModuleFits m) (h : Has all off (oobModule e m)) : Fits MINIDUMP_MODULE (moduleRec off m) := by
  obtain ⟨h1, h2, h3, h4, h5, h6, _, _⟩ := hf
  have hle := h.length_le
  rw [oobModule_length] at hle
  rw [moduleRec_eq off m h5]
  refine Fits.split 5 ?_ (Fits.split 13 ?_ ?_)
  · simp only [MINIDUMP_MODULE, List.take, Fits, pow_256_4, pow_256_8]
    exact ⟨h1, h2, h3, h4, by omega, trivial⟩
  · exact Fits.uniform (w := 4) (by rw [h5]; rfl) (by decide) (fun v hv => pow_256_4 ▸ h6 v hv)
  · unfold oobModuleSize at hle
    cases hcv : m.cv with
    | none => simp only [MINIDUMP_MODULE, List.drop, Fits, List.cons_append, List.nil_append]; decide
    | some cv =>
      simp only [hcv] at hle
      simp only [MINIDUMP_MODULE, List.drop, Fits, List.cons_append, List.nil_append, pow_256_4]
      have := cvSize_pos cv
      refine ⟨by omega, by omega, by decide, by decide, by decide, by decide, by decide, by decide, trivial⟩

theorem moduleRecs_fits {all : List UInt8} (hall : all.length < 2 ^ 32) (e : Endian) :
    ∀ (ms : List MModule) (off : Nat), (∀ m ∈ ms, ModuleFits m) → Has all off (oobModules e ms) →
      ∀ r ∈ moduleRecs off ms, Fits MINIDUMP_MODULE r
  | [], _, _, _, _, hr => by cases hr
  | m :: ms, off, hf, h, r, hr => by
    rw [moduleRecs, List.mem_cons] at hr
    rcases hr with rfl | hr
    · exact moduleRec_fits hall e m off (hf m (by simp)) h.left
    · exact moduleRecs_fits hall e ms _ (fun m' hm' => hf m' (by simp [hm'])) (h.after (oobModule_length e m)) r hr

theorem moduleRec_view (off : Nat) (m : MModule) (h13 : m.ver.length = 13) :
    let v := moduleRec off m
    fld v 0 = m.base ∧ fld v 1 = m.size ∧ fld v 2 = m.checksum ∧ fld v 3 = m.time ∧ fld v 4 = off ∧
    (v.drop 5).take 13 = m.ver ∧
    fld v 18 = (match m.cv with | none => 0 | some cv => cvSize cv) ∧
    fld v 19 = (match m.cv with | none => 0 | some _ => off + stringSize m.name) := by
  intro v
  rw [show v = _ from moduleRec_eq off m h13]
  refine ⟨rfl, rfl, rfl, rfl, rfl, List.take_left' h13, ?_, ?_⟩
  · exact ((fld_append_right 13 rfl).trans (fld_append_right 0 h13)).trans (by cases m.cv <;> rfl)
  · exact ((fld_append_right 14 rfl).trans (fld_append_right 1 h13)).trans (by cases m.cv <;> rfl)

theorem readModule_enc {all : Bytes} (hall : all.size < 2 ^ 32) (e : Endian) (m : MModule) (off : Nat)
    (hf : ModuleFits m) (h : Has all.toList off (oobModule e m)) :
    ∃ r, (readModule all e (RawModule.ofVals (moduleRec off m))).res = .ok r ∧ mmoduleOf e r = m := by
  obtain ⟨_, _, _, _, h13, _, hname, hcvf⟩ := hf
  obtain ⟨e0, e1, e2, e3, e4, ever, e18, e19⟩ := moduleRec_view off m h13
  unfold oobModule at h
  have hstr := readStringUtf16_enc hname h.left hall
  unfold readModule
  simp only [RawModule.ofVals, e4]
  rw [res_bind_ok hstr]
  simp only [e18, e19]
  cases hcv : m.cv with
  | none =>
    refine ⟨_, rfl, ?_⟩
    simp only [mmoduleOf, e0, e1, e2, e3, ever, Option.map_none]
    rw [← hcv]
  | some cv =>
    have hpos := cvSize_pos cv
    have hne : ¬ (cvSize cv = 0) := by omega
    simp only [hne, if_false]
    rw [hcv] at h
    obtain ⟨c, hc1, hc2⟩ := readCodeview_enc (hcvf cv hcv) (h.after (encString_length e m.name)) hall
    rw [res_bind_ok hc1]
    refine ⟨_, rfl, ?_⟩
    simp only [mmoduleOf, e0, e1, e2, e3, ever, Option.map_some, hc2]
    rw [← hcv]

theorem readModules_enc {all : Bytes} (hall : all.size < 2 ^ 32) (e : Endian) :
    ∀ (ms : List MModule) (off : Nat), (∀ m ∈ ms, ModuleFits m) → Has all.toList off (oobModules e ms) →
      ∃ r, (readModules all e ((moduleRecs off ms).map RawModule.ofVals)).res = .ok r ∧
        r.map (mmoduleOf e) = ms.filter fun x => !badImageSize x.base x.size
  | [], _, _, _ => ⟨[], rfl, rfl⟩
  | m :: ms, off, hf, h => by
    obtain ⟨r, hr1, hr2⟩ := readModules_enc hall e ms _ (fun m' hm' => hf m' (by simp [hm']))
      (h.after (oobModule_length e m))
    have hm := hf m (by simp)
    obtain ⟨e0, e1, _⟩ := moduleRec_view off m hm.2.2.2.2.1
    simp only [moduleRecs, List.map_cons, readModules]
    rw [show (RawModule.ofVals (moduleRec off m)).base = m.base from e0,
      show (RawModule.ofVals (moduleRec off m)).size = m.size from e1]
    by_cases hbad : badImageSize m.base m.size = true
    · simp only [hbad, if_true]
      exact ⟨r, hr1, by simp [hbad, hr2]⟩
    · simp only [hbad, Bool.false_eq_true, if_false]
      obtain ⟨x, hx1, hx2⟩ := readModule_enc hall e m off hm h.left
      rw [res_bind_ok hx1, res_bind_ok hr1]
      exact ⟨x :: r, rfl, by simp [hbad, hr2, hx2]⟩

theorem readModuleList_enc (ms : MemSizes) {s all : Bytes} {e : Endian} {pad : Bool} {off : Nat} {mods : List MModule}
    (hs : s.toList = encModuleList e pad off mods) (hf : ∀ m ∈ mods, ModuleFits m)
    (hoob : Has all.toList off (oobModules e mods)) (hall : all.size < 2 ^ 32) (hsz : s.size < 2 ^ 32) :
    ∃ r, (readModuleList ms s all e).res = .ok r ∧
      r.map (mmoduleOf e) = mods.filter fun x => !badImageSize x.base x.size := by
  have hrd := readStreamList_enc (memSz := ms.rawModule) hs (moduleRecs_length off mods)
    (moduleRecs_fits (by simpa using hall) e mods off hf hoob) (by decide) hsz
  obtain ⟨r, hr1, hr2⟩ := readModules_enc hall e mods off hf hoob
  refine ⟨r, ?_, hr2⟩
  unfold readModuleList
  rw [res_bind_ok hrd, res_bind_ok (res_alloc _ _ _)]
  exact hr1

def ExcFits (x : MException) : Prop :=
  x.threadId < 2 ^ 32 ∧ x.code < 2 ^ 32 ∧ x.flags < 2 ^ 32 ∧ x.record < 2 ^ 64 ∧ x.address < 2 ^ 64 ∧
  x.numberParameters < 2 ^ 32 ∧ x.info.length = 15 ∧ ∀ v ∈ x.info, v < 2 ^ 64

theorem exceptionRec_eq (off : Nat) (x : MException) (h15 : x.info.length = 15) :
    exceptionRec off x = [x.threadId, 0, x.code, x.flags, x.record, x.address, x.numberParameters, 0] ++
      (x.info ++ [x.ctx.length, off]) := by
  unfold exceptionRec
  rw [List.take_left' h15, List.append_assoc]

theorem exceptionRec_fits {all : List UInt8} (hall : all.length < 2 ^ 32) (x : MException) (off : Nat)
    (hf : ExcFits x) (h : Has all off x.ctx) : Fits MINIDUMP_EXCEPTION_STREAM (exceptionRec off x) := by
  obtain ⟨h1, h2, h3, h4, h5, h6, h7, h8⟩ := hf
  have hle := h.length_le
  rw [exceptionRec_eq off x h7]
  refine Fits.split 8 ?_ (Fits.split 15 ?_ ?_)
  · simp only [MINIDUMP_EXCEPTION_STREAM, List.take, Fits, pow_256_4, pow_256_8]
    exact ⟨h1, by decide, h2, h3, h4, h5, h6, by decide, trivial⟩
  · exact Fits.uniform (w := 8) (by rw [h7]; rfl) (by decide) (fun v hv => pow_256_8 ▸ h8 v hv)
  · simp only [MINIDUMP_EXCEPTION_STREAM, List.drop, Fits, pow_256_4]
    exact ⟨by omega, by omega, trivial⟩

theorem exceptionRec_view (off : Nat) (x : MException) (h15 : x.info.length = 15) :
    let v := exceptionRec off x
    fld v 0 = x.threadId ∧ fld v 2 = x.code ∧ fld v 3 = x.flags ∧ fld v 4 = x.record ∧ fld v 5 = x.address ∧
    fld v 6 = x.numberParameters ∧ (v.drop 8).take 15 = x.info ∧ fld v 23 = x.ctx.length ∧ fld v 24 = off := by
  intro v
  rw [show v = _ from exceptionRec_eq off x h15]
  exact ⟨rfl, rfl, rfl, rfl, rfl, rfl, List.take_left' h15,
    (fld_append_right 15 rfl).trans (fld_append_right 0 h15), (fld_append_right 16 rfl).trans (fld_append_right 1 h15)⟩

theorem readException_enc {s all : Bytes} {e : Endian} {off : Nat} {x : MException}
    (hs : s.toList = encException e off x) (hf : ExcFits x) (hoob : Has all.toList off x.ctx)
    (hall : all.size < 2 ^ 32) :
    ∃ r, (readException s all e).res = .ok r ∧ rexceptionOf all r = reportException x := by
  have hfit := exceptionRec_fits (by simpa using hall) x off hf hoob
  have hrd : readFields MINIDUMP_EXCEPTION_STREAM s 0 e = some (exceptionRec off x) :=
    readFields_has hfit (Has.prefix0 (rest := []) (by simpa [encException] using hs))
  obtain ⟨e0, e2, e3, e4, e5, e6, einfo, e23, e24⟩ := exceptionRec_view off x hf.2.2.2.2.2.2.1
  refine ⟨_, by unfold readException; simp only [hrd]; rfl, ?_⟩
  simp only [rexceptionOf, reportException, e0, e2, e3, e4, e5, e6, einfo, e23, e24, locationRange_has hoob hall,
    Option.map_some, sliceList_has hoob]

def SysInfoFits (s : MSysInfo) : Prop :=
  s.arch < 2 ^ 16 ∧ s.level < 2 ^ 16 ∧ s.revision < 2 ^ 16 ∧ s.nproc < 256 ∧ s.productType < 256 ∧
  s.major < 2 ^ 32 ∧ s.minor < 2 ^ 32 ∧ s.build < 2 ^ 32 ∧ s.platform < 2 ^ 32 ∧ s.suite < 2 ^ 16 ∧
  s.cpu.length = 24 ∧ ValidName s.csd

theorem sysInfoRec_fits {all : List UInt8} (hall : all.length < 2 ^ 32) (e : Endian) (s : MSysInfo) (off : Nat)
    (hf : SysInfoFits s) (h : Has all off (encString e s.csd)) : Fits SYSTEM_INFO_LAYOUT (sysInfoRec off s) := by
  obtain ⟨h1, h2, h3, h4, h5, h6, h7, h8, h9, h10, h11, _⟩ := hf
  have hle := h.length_le
  unfold SYSTEM_INFO_LAYOUT sysInfoRec cpuBytes
  rw [List.take_left' h11]
  refine Fits.append ?_ (Fits.uniform (w := 1) (by simp [h11]) ?_ fun v hv => ?_)
  · simp only [Fits, pow_256_4, pow_256_2, pow_256_1]
    exact ⟨h1, h2, h3, h4, h5, h6, h7, h8, h9, by omega, h10, by decide, trivial⟩
  · intro f hf
    obtain ⟨i, _, rfl⟩ := List.mem_map.mp hf
    rfl
  · obtain ⟨b, _, rfl⟩ := List.mem_map.mp hv
    exact b.toNat_lt

theorem readSystemInfo_enc {s all : Bytes} {e : Endian} {off : Nat} {x : MSysInfo}
    (hs : s.toList = encSysInfo e off x) (hf : SysInfoFits x) (hoob : Has all.toList off (encString e x.csd))
    (hall : all.size < 2 ^ 32) :
    (readSystemInfo s all e).res = .ok (reportSysInfo x) := by
  have hfit := sysInfoRec_fits (by simpa using hall) e x off hf hoob
  have hrd : readFields SYSTEM_INFO_LAYOUT s 0 e = some (sysInfoRec off x) :=
    readFields_has hfit (Has.prefix0 (rest := []) (by simpa [encSysInfo] using hs))
  obtain ⟨_, _, _, _, _, _, _, _, _, _, h24, hcsd⟩ := hf
  have hstr := readStringUtf16_enc hcsd hoob hall
  unfold readSystemInfo
  simp only [hrd]
  rw [show fld (sysInfoRec off x) 9 = off from rfl, res_bind_ok hstr]
  have hcpu : (((sysInfoRec off x).drop 12).take 24).map UInt8.ofNat = x.cpu := by
    unfold sysInfoRec cpuBytes
    rw [List.take_left' h24]
    show ((x.cpu.map (·.toNat)).take 24).map UInt8.ofNat = x.cpu
    rw [List.take_of_length_le (by simp [h24])]
    simp [Function.comp_def]
  simp only [hcpu]
  rfl

end MdModel.Encode
