/-
  The walker's three range tables (`MdModel/Walk/Sym.lean`: modules, FUNC records, STACK CFI records) as tables
  over their lists (`Lemmas/RangeMapIdx`): what a lookup returns, and the table of a single module.
-/
import MdProofs.Lemmas.RangeMapIdx
import MdModel.Walk.Sym
namespace MdModel.Walk
open MdModel MdModel.RangeMap

theorem funcTable_eq (sf : SymFile) :
    funcTable sf = safeVec (idx (fun f : FuncRec => mkRange f.addr f.size) sf.funcs) :=
  safeVecP_zipIdx_filterMap (fun f : FuncRec => mkRange f.addr f.size) sf.funcs

theorem cfiTable_eq (sf : SymFile) :
    cfiTable sf = safeVec (idx (fun c : CfiRec => mkRange c.addr c.size) sf.cfis) :=
  safeVecP_zipIdx_filterMap (fun c : CfiRec => mkRange c.addr c.size) sf.cfis

theorem moduleAt_sound (mods : List Module) (a i : Nat) (h : moduleAt (modTable mods) a = some i) :
    ∃ m, mods[i]? = some m ∧ m.base ≤ a ∧ a < m.base + m.size := by
  obtain ⟨m, hm, _, _, h1, h2⟩ := get_idx_mkRange_sound (base := Module.base) (size := Module.size) h
  exact ⟨m, hm, h1, h2⟩

theorem funcTable_sound {sf : SymFile} {a i : Nat} (h : RangeMap.get (funcTable sf) a = some i) :
    ∃ f, sf.funcs[i]? = some f ∧ 0 < f.size ∧ f.addr + f.size ≤ U64MAX ∧ f.addr ≤ a ∧ a < f.addr + f.size :=
  get_idx_mkRange_sound (base := FuncRec.addr) (size := FuncRec.size) (funcTable_eq sf ▸ h)

theorem cfiTable_sound {sf : SymFile} {a i : Nat} (h : RangeMap.get (cfiTable sf) a = some i) :
    ∃ c, sf.cfis[i]? = some c ∧ 0 < c.size ∧ c.addr + c.size ≤ U64MAX ∧ c.addr ≤ a ∧ a < c.addr + c.size :=
  get_idx_mkRange_sound (base := CfiRec.addr) (size := CfiRec.size) (cfiTable_eq sf ▸ h)

theorem modTable_singleton {m : Module} {r : Rng} (h : mkRange m.base m.size = some r) :
    modTable [m] = [(r, 0)] := by
  have hw := mkRange_wf h
  simp only [modTable, List.zipIdx_cons, List.zipIdx_nil, List.map_cons, List.map_nil, h]
  exact (safeVecP_validOnly [(some r, 0)]).symm.trans (safeVecP_of_sep [(r, 0)] ⟨hw.1, hw.2.1⟩)

theorem cfiTable_of_sep {sf : SymFile} {tbl : List RangeMap.Entry} (hsep : Sep tbl)
    (hl : (sf.cfis.zipIdx.filterMap fun (c, i) => (mkRange c.addr c.size).map fun r => (r, i)) = tbl) :
    cfiTable sf = tbl := by
  rw [cfiTable, hl, safeVecP_of_sep tbl hsep]

end MdModel.Walk
