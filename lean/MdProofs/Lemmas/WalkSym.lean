/-
  For C05's last clause ("a frame's module and function, when present, cover its
  address"): soundness of the module lookup and of `fill_symbol` as the walker uses them, on top of
  C08's soundness of the range tables as `Lemmas/WalkTables` states it of the module and FUNC lists.
-/
import MdProofs.Lemmas.WalkTables
import MdModel.Walk.WinWalk
import MdProofs.Lemmas.Walk
import MdProofs.Lemmas.MaxFold
namespace MdModel.Walk
open MdModel

theorem nearestPublic_eq_foldl (pubs : List PubRec) (a : Nat) :
    nearestPublic pubs a = pubs.foldl (Symbolize.maxStep pubLe fun q => q.addr ≤ a) none := by
  unfold nearestPublic
  congr 1
  funext best p
  unfold Symbolize.maxStep
  cases best <;> rfl

theorem nearestPublic_spec (pubs : List PubRec) (addr : Nat) (p : PubRec)
    (h : nearestPublic pubs addr = some p) : p ∈ pubs ∧ p.addr ≤ addr :=
  (Symbolize.foldl_maxStep_mem pubs none (nearestPublic_eq_foldl pubs addr ▸ h)).resolve_right nofun

def FuncCovers (sf : SymFile) (modBase instr : Nat) (g : FuncInfo) : Prop :=
  modBase ≤ instr ∧ g.base ≤ instr ∧
  ((∃ f ∈ sf.funcs, g.name = f.name ∧ g.base = f.addr + modBase ∧ f.addr ≤ instr - modBase ∧
      instr - modBase < f.addr + f.size)
   ∨ (∃ p ∈ sf.pubs, g.name = p.name ∧ g.base = p.addr + modBase ∧ p.addr ≤ instr - modBase))

theorem fillSymbol_covers (sf : SymFile) (modBase instr : Nat) {g : FuncInfo}
    (h : fillSymbol sf (funcTable sf) modBase instr = some g) :
    modBase ≤ instr ∧
    ((∃ f ∈ sf.funcs, g.name = f.name ∧ g.base = f.addr + modBase ∧ 0 < f.size ∧
        f.addr + f.size ≤ U64MAX ∧ f.addr ≤ instr - modBase ∧ instr - modBase < f.addr + f.size) ∨
     (RangeMap.get (funcTable sf) (instr - modBase) = none ∧
        ∃ p ∈ sf.pubs, g.name = p.name ∧ g.base = p.addr + modBase ∧ g.psize = p.psize ∧
          p.addr ≤ instr - modBase)) := by
  unfold fillSymbol at h
  split at h
  · cases h
  · refine ⟨by omega, ?_⟩
    simp only at h
    split at h
    · rename_i i hget
      split at h
      · rename_i f hf
        cases h
        obtain ⟨f', hm, h1, h2, h3, h4⟩ := funcTable_sound hget
        obtain rfl : f' = f := Option.some.inj (hm.symm.trans hf)
        exact .inl ⟨f', List.mem_of_getElem? hm, rfl, rfl, h1, h2, h3, h4⟩
      · cases h
    · rename_i hget
      split at h
      · cases h
      · rename_i p hp
        obtain ⟨hpm, hpa⟩ := nearestPublic_spec _ _ _ hp
        split at h
        · cases h
        · cases h
          exact .inr ⟨hget, p, hpm, rfl, rfl, rfl, hpa⟩

theorem fillSymbol_sound (sf : SymFile) (modBase instr : Nat) (g : FuncInfo)
    (h : fillSymbol sf (funcTable sf) modBase instr = some g) : FuncCovers sf modBase instr g := by
  obtain ⟨hge, hc⟩ := fillSymbol_covers sf modBase instr h
  refine ⟨hge, ?_, ?_⟩
  · rcases hc with ⟨f, _, _, hb, _, _, h3, _⟩ | ⟨_, p, _, _, hb, _, h3⟩ <;> omega
  · rcases hc with ⟨f, hf, hn, hb, _, _, h3, h4⟩ | ⟨_, p, hp, hn, hb, _, h3⟩
    · exact .inl ⟨f, hf, hn, hb, h3, h4⟩
    · exact .inr ⟨p, hp, hn, hb, h3⟩

theorem symbOf_fst (w : World) (mt : List RangeMap.Entry) (ft : List (List RangeMap.Entry)) (instr : Nat) :
    (symbOf w mt ft instr).1 = moduleAt mt instr := by
  unfold symbOf
  cases moduleAt mt instr with
  | none => rfl
  | some i => simp only; split <;> rfl

theorem symbOfW_fst (w : World) (mt : List RangeMap.Entry) (ft : List (List RangeMap.Entry))
    (wts : List WinTables) (instr : Nat) : (symbOfW w mt ft wts instr).1 = moduleAt mt instr := by
  unfold symbOfW
  cases moduleAt mt instr with
  | none => rfl
  | some i => simp only; split <;> rfl

end MdModel.Walk
