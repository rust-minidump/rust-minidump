/-
  For C18 (MdModel.Regs): `memoize_register` as a lookup in its alias arms, and the checks (`nameOk`,
  `classOk`, …) that `Lemmas/RegsTables` has the kernel decide over the generated tables, each with
  the lemma that says what it buys.
-/
import MdModel.Regs
import MdProofs.Lemmas.Assoc
namespace MdModel.Regs
open MdModel MdModel.Gen.Regs

deriving instance DecidableEq for Outcome

theorem assoc_eq_lookup {β : Type} (l : List (String × β)) (k : String) : assoc l k = l.lookup k := by
  induction l with
  | nil => rfl
  | cons p t ih =>
    obtain ⟨a, b⟩ := p
    simp only [assoc, List.lookup]
    by_cases h : a = k
    · subst h; simp
    · have : (k == a) = false := by rw [beq_eq_false_iff_ne]; exact fun e => h e.symm
      rw [if_neg h, this]; exact ih

theorem assoc_some_mem {β : Type} {l : List (String × β)} {k : String} {b : β}
    (h : assoc l k = some b) : (k, b) ∈ l :=
  List.mem_of_lookup_eq_some (assoc_eq_lookup l k ▸ h)

theorem assoc_none_of_not_mem {β : Type} {l : List (String × β)} {k : String}
    (h : k ∉ l.map (·.1)) : assoc l k = none :=
  assoc_eq_lookup l k ▸ List.lookup_eq_none_iff_not_mem_keys.mpr h

theorem assoc_some_key_mem {β : Type} {l : List (String × β)} {k : String} {b : β}
    (h : assoc l k = some b) : k ∈ l.map (·.1) :=
  List.mem_map.mpr ⟨(k, b), assoc_some_mem h, rfl⟩

theorem assoc_map {β γ : Type} (f : β → γ) (l : List (String × β)) (k : String) :
    assoc (l.map fun p => (p.1, f p.2)) k = (assoc l k).map f := by
  rw [assoc_eq_lookup, assoc_eq_lookup, List.lookup_map_snd]

theorem defaultMemo_ite (regs : List String) (n : String) :
    defaultMemo regs n = if regs.contains n then some n else none := by
  unfold defaultMemo
  induction regs with
  | nil => rfl
  | cons a t ih =>
    rw [List.find?_cons, List.contains_cons]
    by_cases h : a = n
    · simp [h]
    · have : (n == a) = false := by rw [beq_eq_false_iff_ne]; exact fun e => h e.symm
      simp only [h, decide_false, this, Bool.false_or]; exact ih

theorem defaultMemo_some {regs : List String} {n r : String} (h : defaultMemo regs n = some r) :
    r = n ∧ n ∈ regs := by
  rw [defaultMemo_ite] at h
  split at h
  · exact ⟨(Option.some.inj h).symm, by simpa using ‹regs.contains n = true›⟩
  · cases h

theorem defaultMemo_none {regs : List String} {n : String} (h : n ∉ regs) :
    defaultMemo regs n = none := by
  rw [defaultMemo_ite, if_neg (by simpa using h)]

theorem defaultMemo_mem {regs : List String} {n : String} (h : n ∈ regs) :
    defaultMemo regs n = some n := by
  rw [defaultMemo_ite, if_pos (by simpa using h)]

theorem mem_dedup {a : String} {l : List String} : a ∈ dedup l ↔ a ∈ l := by
  induction l with
  | nil => simp [dedup]
  | cons b t ih =>
    simp only [dedup]
    split
    · rename_i hc
      rw [ih, List.mem_cons, or_iff_right_of_imp]
      rintro rfl
      exact List.contains_iff_mem.mp hc
    · simp [ih]

/-- `knownNames` before `dedup` -/
def tableNames (c : Ctx) : List String :=
  registers c ++ (getArms c).map (·.1) ++ (setArms c).map (·.1) ++ memoKeys c ++ validKeys c
    ++ [spName c, ipName c]

theorem mem_knownNames {c : Ctx} {n : String} : n ∈ knownNames c ↔ n ∈ tableNames c := mem_dedup

theorem knownNames_contains (c : Ctx) (n : String) : (knownNames c).contains n = (tableNames c).contains n := by
  rw [Bool.eq_iff_iff, List.contains_iff_mem, List.contains_iff_mem]
  exact mem_knownNames

theorem known_of_registers {c : Ctx} {n : String} (h : n ∈ registers c) : n ∈ knownNames c :=
  mem_knownNames.mpr (by simp [tableNames, h])
theorem known_of_getKey {c : Ctx} {n : String} (h : n ∈ (getArms c).map (·.1)) : n ∈ knownNames c :=
  mem_knownNames.mpr (by simp only [tableNames, List.mem_append]; simp [h])
theorem known_of_setKey {c : Ctx} {n : String} (h : n ∈ (setArms c).map (·.1)) : n ∈ knownNames c :=
  mem_knownNames.mpr (by simp only [tableNames, List.mem_append]; simp [h])
theorem known_of_memoKey {c : Ctx} {n : String} (h : n ∈ memoKeys c) : n ∈ knownNames c :=
  mem_knownNames.mpr (by simp [tableNames, h])
theorem known_of_validKey {c : Ctx} {n : String} (h : n ∈ validKeys c) : n ∈ knownNames c :=
  mem_knownNames.mpr (by simp [tableNames, h])
theorem spName_known (c : Ctx) : spName c ∈ knownNames c := mem_knownNames.mpr (by simp [tableNames])
theorem ipName_known (c : Ctx) : ipName c ∈ knownNames c := mem_knownNames.mpr (by simp [tableNames])

theorem aliasIndex_some_mem {sa : SparcAlias} {n : String} {i : Nat}
    (h : aliasIndex sa n = some i) : n ∈ sparcAliasNames sa := by
  unfold aliasIndex at h
  split at h
  · rename_i c0 c1 hl
    split at h
    · rename_i hr
      split at h
      · rename_i b hb
        have hb1 := List.find?_some hb
        have hb2 := List.mem_of_find?_eq_some hb
        simp at hb1
        unfold sparcAliasNames
        rw [List.mem_flatMap]
        refine ⟨b, hb2, ?_⟩
        rw [List.mem_map]
        refine ⟨c1.toNat - sa.digitLo.toNat, ?_, ?_⟩
        · rw [List.mem_range]; omega
        · have : sa.digitLo.toNat + (c1.toNat - sa.digitLo.toNat) = c1.toNat := by omega
          rw [this, Char.ofNat_toNat, hb1, ← hl, String.ofList_toList]
      · cases h
    · cases h
  · cases h

/-- canonical name as a plain option (`none` also for a panic; `memoize_total` shows there is none) -/
def memoName (c : Ctx) (n : String) : Option String :=
  match memoize c n with
  | .ok r => r
  | .panic _ => none

def sameReg (c : Ctx) (n m : String) : Bool :=
  (getCell c n).isSome && (getCell c n == getCell c m)

theorem memoize_of_memoName {c : Ctx} {n r : String} (h : memoName c n = some r) :
    memoize c n = .ok (some r) := by
  unfold memoName at h
  split at h
  · rename_i x hx; rw [hx, h]
  · cases h

theorem memoName_of_memoize {c : Ctx} {n : String} {r : Option String} (h : memoize c n = .ok r) :
    memoName c n = r := by
  unfold memoName; rw [h]

def memoArms (c : Ctx) : Option (List (String × String)) :=
  match memoRule c with
  | .default => some []
  | .arms as => some as
  | .sparcIndex => none

theorem memoName_of_arms {c : Ctx} {as : List (String × String)} (h : memoArms c = some as) (n : String) :
    memoName c n = match as.lookup n with
                   | some r => some r
                   | none => if (registers c).contains n then some n else none := by
  unfold memoArms at h
  unfold memoName memoize
  split at h
  · cases h; rename_i hr; rw [hr]; exact defaultMemo_ite _ _
  · cases h
    rename_i hr
    rw [hr]
    simp only [assoc_eq_lookup]
    cases as.lookup n
    · exact defaultMemo_ite _ _
    · rfl
  · cases h

theorem memoKeys_of_arms {c : Ctx} {as : List (String × String)} (h : memoArms c = some as) :
    memoKeys c = as.map (·.1) := by
  unfold memoArms at h
  unfold memoKeys
  split at h <;> cases h <;> rename_i hr <;> rw [hr] <;> rfl

theorem arm_of_cell {arms : List (String × CellRef)} {n : String} {cell : Cell}
    (h : (match assoc arms n with | some r => resolve r | none => none) = some cell) :
    ∃ r, assoc arms n = some r ∧ resolve r = some cell := by
  split at h
  · exact ⟨_, ‹_›, h⟩
  · cases h

theorem place_of_cell {c : Ctx} {r : CellRef} {cell : Cell} (h : resolve r = some cell)
    (hb : inBounds c cell = true) : place c r = .ok cell := by
  simp only [place, h, hb, if_true]

theorem getAlways_of_cell {c : Ctx} {n : String} {cell : Cell} (st : State)
    (h : getCell c n = some cell) (hb : inBounds c cell = true) :
    getAlways c st n = .ok (st cell) := by
  obtain ⟨r, hr, hc⟩ := arm_of_cell h
  simp only [getAlways, hr, place_of_cell hc hb]

theorem setRegister_of_cell {c : Ctx} {n : String} {cell : Cell} (st : State) (v : Nat)
    (h : setCell c n = some cell) (hb : inBounds c cell = true) :
    setRegister c st n v = .ok (some (st.write cell v)) := by
  obtain ⟨r, hr, hc⟩ := arm_of_cell h
  simp only [setRegister, hr, place_of_cell hc hb]

theorem getAlways_unknown {c : Ctx} {n : String} (st : State) (h : n ∉ (getArms c).map (·.1)) :
    getAlways c st n = .panic "unreachable: invalid register" := by
  unfold getAlways; rw [assoc_none_of_not_mem h]

theorem setRegister_unknown {c : Ctx} {n : String} (st : State) (v : Nat)
    (h : n ∉ (setArms c).map (·.1)) : setRegister c st n v = .ok none := by
  unfold setRegister; rw [assoc_none_of_not_mem h]

theorem memoize_unknown {c : Ctx} {n : String} (h : n ∉ knownNames c) :
    memoize c n = .ok none := by
  have hr : n ∉ registers c := fun hh => h (known_of_registers hh)
  have hk : n ∉ memoKeys c := fun hh => h (known_of_memoKey hh)
  unfold memoize
  unfold memoKeys at hk
  split
  · rw [defaultMemo_none hr]
  · rename_i as hrule
    rw [hrule] at hk
    rw [assoc_none_of_not_mem hk]
    simp only [defaultMemo_none hr]
  · rename_i hrule
    rw [hrule] at hk
    cases hi : aliasIndex sparcAlias n with
    | some i => exact absurd (aliasIndex_some_mem hi) hk
    | none => simp only [defaultMemo_none hr]

theorem memoize_some_known {c : Ctx} {n r : String} (h : memoize c n = .ok (some r)) :
    n ∈ knownNames c := by
  by_cases hk : n ∈ knownNames c
  · exact hk
  · rw [memoize_unknown hk] at h; cases h

theorem isValid_some_foreign {c : Ctx} {n : String} (h : n ∉ knownNames c) (S : List String) :
    isValid c n (.some S) = .ok (S.contains n) := by
  have hv : n ∉ validKeys c := fun hh => h (known_of_validKey hh)
  simp only [isValid]
  unfold validKeys at hv
  split
  · rfl
  · rename_i gs hrule
    rw [hrule] at hv
    have : gs.find? (fun g => g.1.contains n) = none := by
      rw [List.find?_eq_none]
      intro g hg hcon
      exact hv (List.mem_flatMap.mpr ⟨g, hg, List.mem_append_left _ (by simpa using hcon)⟩)
    rw [this]
  · rw [memoize_unknown h]; cases S.contains n <;> rfl
  · rw [memoize_unknown h]; cases S.contains n <;> rfl

/-- a name is served by the tables: the getter has an arm for it whose cell exists in the struct (no
    index panic), and `memoize_register` gives it a canonical name that denotes the same cell -/
def nameOk (c : Ctx) (n : String) : Prop :=
  ∃ cell ∈ getCell c n, ∃ r ∈ memoName c n, inBounds c cell = true ∧ getCell c r = some cell

instance (c : Ctx) (n : String) : Decidable (nameOk c n) := by unfold nameOk; infer_instance

def armTargetsOk (c : Ctx) : Bool :=
  match memoRule c with
  | .arms as => as.all fun p => (registers c).contains p.2
  | _ => true

theorem memoName_mem_registers {c : Ctx} (ha : armTargetsOk c = true) {n r : String}
    (h : memoName c n = some r) : r ∈ registers c := by
  have hd : ∀ {x}, defaultMemo (registers c) n = some x → x ∈ registers c := fun e => by
    obtain ⟨rfl, hm⟩ := defaultMemo_some e; exact hm
  have h := memoize_of_memoName h
  unfold memoize at h
  unfold armTargetsOk at ha
  split at h
  · exact hd (Outcome.ok.inj h)
  · rename_i as hr
    rw [hr] at ha
    split at h
    · rename_i r' hl
      cases h
      simpa using List.all_eq_true.mp ha _ (assoc_some_mem hl)
    · exact hd (Outcome.ok.inj h)
  · split at h
    · split at h
      · rename_i hi; cases h; exact List.mem_of_getElem? hi
      · cases h
    · exact hd (Outcome.ok.inj h)

def pairwiseDistinctCells (c : Ctx) : List String → Bool
  | [] => true
  | a :: t => t.all (fun b => a != b && getCell c a != getCell c b) && pairwiseDistinctCells c t

theorem cell_inj_of_distinct {c : Ctx} {l : List String} (h : pairwiseDistinctCells c l = true)
    {a b : String} (ha : a ∈ l) (hb : b ∈ l) (e : getCell c a = getCell c b) : a = b := by
  induction l with
  | nil => cases ha
  | cons x t ih =>
    simp only [pairwiseDistinctCells, Bool.and_eq_true, List.all_eq_true, bne_iff_ne, ne_eq] at h
    rcases List.mem_cons.mp ha with rfl | ha' <;> rcases List.mem_cons.mp hb with rfl | hb'
    · rfl
    · exact absurd e (h.1 b hb').2
    · exact absurd e.symm (h.1 a ha').2
    · exact ih h.2 ha' hb'

/-- the names whose presence in the validity set makes `n` valid, read off `register_is_valid`
    (for the list-shaped rules; the `sparcCanon` rule compares canonical names instead) -/
def validNames (c : Ctx) (n : String) : List String :=
  match validRule c with
  | .default => [n]
  | .groups gs =>
    (match gs.find? (fun g => g.1.contains n) with
     | some g => g.2
     | none => [n])
  | .sparcMemo =>
    (match memoName c n with
     | some r => [n, r]
     | none => [n])
  | .sparcCanon => [n]

def isCanonRule (c : Ctx) : Bool :=
  match validRule c with
  | .sparcCanon => true
  | _ => false

/-- under a list-shaped rule the list of `n` is the alias class of `n` -/
def classOk (c : Ctx) (n : String) : Prop :=
  isCanonRule c = true ∨ ∃ r ∈ memoName c n, validNames c n = validNames c r ∧ n ∈ validNames c r ∧
    ∀ m ∈ validNames c r, memoName c m = some r

instance (c : Ctx) (n : String) : Decidable (classOk c n) := by unfold classOk; infer_instance

end MdModel.Regs
