/-
  C02: the misc-info stream reads back: the reader picks the revision by the stream's length alone
  (`do_read!`), then reads that struct.
-/
import MdProofs.Lemmas.Encode
import MdProofs.Lemmas.BytesLayout
namespace MdModel.Encode
open MdModel MdModel.Dump MdModel.Gen.Layouts MdModel.Gen.LayoutsC02

/-- executable form of `Fits` (for `decide` on concrete records) -/
def fitsB : Layout → List Nat → Bool
  | [], [] => true
  | (_, w) :: l, v :: vs => decide (v < 256 ^ w) && fitsB l vs
  | _, _ => false

theorem fits_of_fitsB : ∀ {l : Layout} {vs : List Nat}, fitsB l vs = true → Fits l vs := by
  intro l vs h
  fun_induction fitsB l vs with
  | case1 => trivial
  | case2 _ w l v vs ih =>
    simp only [Bool.and_eq_true, decide_eq_true_eq] at h
    exact ⟨h.1, ih h.2⟩
  | case3 => cases h

/-- a misc-info model the wire format can carry: a known revision, values that fit their fields,
    and a tail too short to make the stream as long as the next revision -/
def MiscFits (x : MMiscInfo) : Prop :=
  1 ≤ x.ver ∧ x.ver ≤ 5 ∧ Fits (miscLayout x.ver) x.vals ∧
  (x.ver < 5 → miscInfoSize x < Layout.size (miscLayout (x.ver + 1)))

theorem readMiscInfoGo_skip (b : Bytes) (e : Endian) (v : Nat) (l : Layout) (rest : List (Nat × Layout))
    (h : b.size < Layout.size l) : readMiscInfoGo b e ((v, l) :: rest) = readMiscInfoGo b e rest := by
  simp only [readMiscInfoGo]
  rw [if_neg (by omega)]

theorem readMiscInfoGo_hit (b : Bytes) (e : Endian) (v : Nat) (l : Layout) (rest : List (Nat × Layout)) (vs : List Nat)
    (h : Layout.size l ≤ b.size) (hr : readFields l b 0 e = some vs) :
    (readMiscInfoGo b e ((v, l) :: rest)).res = .ok ⟨v, vs⟩ := by
  simp only [readMiscInfoGo]
  rw [if_pos (by omega), hr]
  rfl

theorem readMiscInfo_enc {s : Bytes} {e : Endian} {x : MMiscInfo} (hs : s.toList = encMiscInfo e x) (hf : MiscFits x) :
    (readMiscInfo s e).res = .ok ⟨x.ver, x.vals⟩ := by
  obtain ⟨h1, h5, hfit, hnext⟩ := hf
  obtain ⟨s1, s2, s3, s4, s5⟩ := misc_sizes
  have hrd : readFields (miscLayout x.ver) s 0 e = some x.vals := readFields_has hfit (Has.prefix0 hs)
  have hsize : s.size = miscInfoSize x := by
    have := congrArg List.length hs
    simpa [encMiscInfo, miscInfoSize] using this
  have e1 : Layout.size (miscLayout 1) = 24 := s1
  have e2 : Layout.size (miscLayout 2) = 44 := s2
  have e3 : Layout.size (miscLayout 3) = 232 := s3
  have e4 : Layout.size (miscLayout 4) = 832 := s4
  have e5 : Layout.size (miscLayout 5) = 1364 := s5
  unfold miscInfoSize at hsize hnext
  unfold readMiscInfo MISC_LAYOUTS
  have hv : x.ver = 1 ∨ x.ver = 2 ∨ x.ver = 3 ∨ x.ver = 4 ∨ x.ver = 5 := by omega
  rcases hv with hv | hv | hv | hv | hv <;> rw [hv] at hrd hsize hnext ⊢ <;>
    simp only [Nat.reduceAdd, e1, e2, e3, e4, e5] at hsize hnext
  -- the stream is as long as its own struct and shorter than the next: the longer structs are skipped one by one
  all_goals
    repeat rw [readMiscInfoGo_skip _ _ _ _ _ (by omega)]
    exact readMiscInfoGo_hit _ _ _ _ _ _ (by omega) hrd

end MdModel.Encode
