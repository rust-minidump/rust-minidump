/-
  The panic sites of the symbol parser are unreachable:
    * `insert_win_stack_info`'s `as u32` + `memory_range().unwrap()` (C08: safe when sizes are u32 —
      they are, `hex_str::<u32>` reads at most 8 digits),
    * `into_rangemap_safe(..)`'s final `try_from_iter(..).unwrap()` (C08: never fires on valid ranges),
    * `Range::new` (`mkRange*` only build ordered ranges), `&input[..consumed]`,
    * the model's own loop fuel.
-/
import MdProofs.C08
import MdProofs.Lemmas.SymParseLocal
import MdProofs.Lemmas.SymStream
namespace MdModel.Sym
open MdModel MdModel.RangeMap MdModel.Stream

def Ensures {α} (p : P α) (Q : α → Prop) : Prop := ∀ i r v, p i = .ok r v → Q v

theorem Ensures.bind {α β} {p : P α} {f : α → P β} {Q1 : α → Prop} {Q : β → Prop}
    (hp : Ensures p Q1) (hf : ∀ v, Q1 v → Ensures (f v) Q) : Ensures (p.bind f) Q := by
  intro i r v h
  unfold P.bind at h
  split at h
  · next hpi => exact hf _ (hp i _ _ hpi) _ r v h
  all_goals cases h

theorem Ensures.bind' {α β} {p : P α} {f : α → P β} {Q : β → Prop}
    (hf : ∀ v, Ensures (f v) Q) : Ensures (p.bind f) Q :=
  Ensures.bind (Q1 := fun _ => True) (fun _ _ _ _ => trivial) (fun v _ => hf v)

theorem Ensures.pure {α} {v : α} {Q : α → Prop} (h : Q v) : Ensures (P.pure v) Q := by
  intro i r w hw; cases hw; exact h

theorem Ensures.cut {α} {p : P α} {Q : α → Prop} (hp : Ensures p Q) : Ensures (cut p) Q := by
  intro i r v h
  unfold Sym.cut at h
  split at h
  · next hpi => cases h; exact hp i _ _ hpi
  all_goals cases h

theorem Ensures.terminated {α β} {p : P α} {q : P β} {Q : α → Prop} (hp : Ensures p Q) :
    Ensures (terminated p q) Q :=
  Ensures.bind hp fun _ hv => Ensures.bind' fun _ => Ensures.pure hv

theorem Ensures.orElse {α} {p q : P α} {Q : α → Prop} (hp : Ensures p Q) (hq : Ensures q Q) :
    Ensures (orElse p q) Q := by
  intro i r v h
  unfold Sym.orElse at h
  split at h
  · next hpi => cases h; exact hp i _ _ hpi
  · exact hq i r v h
  · cases h

theorem hexDigitVal_lt (d : UInt8) (h : isHexDigit d = true) : hexDigitVal d < 16 := by
  simp only [isHexDigit, Bool.or_eq_true, Bool.and_eq_true, decide_eq_true_eq, UInt8.le_iff_toNat_le,
    UInt8.toNat_ofNat] at h
  simp only [hexDigitVal, Bool.and_eq_true, decide_eq_true_eq, UInt8.le_iff_toNat_le, UInt8.toNat_ofNat]
  split
  · omega
  · split <;> omega

theorem hexVal_lt (ds : Bytes) (h : ∀ d ∈ ds, isHexDigit d = true) : hexVal ds < 16 ^ ds.length := by
  -- started from `acc`, every digit multiplies the bound `acc + 1` by 16
  suffices ∀ acc, ds.foldl (fun acc d => acc * 16 + hexDigitVal d) acc < (acc + 1) * 16 ^ ds.length by
    simpa [hexVal] using this 0
  induction ds with
  | nil => intro acc; simp
  | cons d rest ih =>
    intro acc
    have hd := hexDigitVal_lt d (h d List.mem_cons_self)
    refine Nat.lt_of_lt_of_le (ih (fun x hx => h x (List.mem_cons_of_mem _ hx)) (acc * 16 + hexDigitVal d)) ?_
    rw [List.length_cons, Nat.pow_succ', ← Nat.mul_assoc]
    exact Nat.mul_le_mul_right _ (by omega)

/-- `hex_str::<u32>` yields a `u32`, `hex_str::<u64>` a `u64` -/
theorem hexStr_bound (n : Nat) : Ensures (hexStr n) (fun v => v < 16 ^ n) := by
  intro i r v h
  unfold Sym.hexStr at h
  dsimp only at h
  split at h
  · cases h
  · cases h
    have hlen : ((i.take n).takeWhile isHexDigit).length ≤ n :=
      Nat.le_trans (List.takeWhile_prefix _).length_le (List.length_take_le n i)
    exact Nat.lt_of_lt_of_le (hexVal_lt _ fun d hd => List.all_eq_true.mp List.all_takeWhile d hd)
      (Nat.pow_le_pow_right (by decide) hlen)

def WinSizeOk : Line → Prop
  | .stackWin (.frameData s) => s.size ≤ U32MAX
  | .stackWin (.fpo s) => s.size ≤ U32MAX
  | _ => True

theorem mkWin_sizeOk (ty : UInt8) (a c p e pa sa lo mx : Nat) (hp : Bool) (rest : Bytes)
    (hc : c < 16 ^ 8) : WinSizeOk (.stackWin (mkWin ty a c p e pa sa lo mx hp rest)) := by
  have hc' : c ≤ U32MAX := Nat.le_of_lt_succ hc
  unfold mkWin
  dsimp only
  cases (ty == 0x34) != hp
  · cases ty == 0x34
    · cases ty == 0x30
      · trivial
      · exact hc'
    · exact hc'
  · trivial

theorem Ensures.record {α} {p : P α} {Q : α → Prop} (w : String) (hp : Ensures p Q) :
    Ensures ((keyword w).bind fun _ => Sym.cut p) Q :=
  Ensures.bind' fun _ => Ensures.cut hp

theorem Ensures.lastField {α β γ} {p : P α} {q : P γ} {Q : β → Prop} (g : α → β) (h : ∀ v, Q (g v)) :
    Ensures ((Sym.terminated p q).bind fun v => P.pure (g v)) Q :=
  Ensures.bind' fun v => Ensures.pure (h v)

/-- the size field is read by `hex_str::<u32>` -/
theorem stackWinLine_sizeOk : Ensures stackWinLine WinSizeOk :=
  .record _ <| .bind' fun _ => .bind' fun _ =>
    .bind (.terminated (hexStr_bound 8)) fun _ hcs =>
    .bind' fun _ => .bind' fun _ => .bind' fun _ => .bind' fun _ => .bind' fun _ => .bind' fun _ =>
    .bind' fun _ => .lastField _ fun _ => mkWin_sizeOk _ _ _ _ _ _ _ _ _ _ _ hcs

/-- every other record parser builds a value that is not a STACK WIN record -/
theorem line_sizeOk : Ensures line WinSizeOk :=
  .orElse (.record _ <| .lastField _ fun _ => trivial) <|
  .orElse (.record _ <| .lastField _ fun _ => trivial) <|
  .orElse (.record _ <| .bind' fun _ => .lastField _ fun _ => trivial) <|
  .orElse (.bind' fun (_, _) => .pure trivial) <|
  .orElse (.record _ <| .bind' fun _ => .bind' fun _ => .bind' fun _ => .lastField _ fun _ => trivial) <|
  .orElse (.record _ <| .bind' fun _ => .bind' fun _ => .bind' fun _ => .bind' fun _ =>
    .lastField _ fun _ => trivial) <|
  .orElse stackWinLine_sizeOk <|
  .orElse (.record _ <| .bind' fun _ => .bind' fun _ => .lastField _ fun _ => trivial)
    (.record _ <| .bind' fun _ => .bind' fun _ => .bind' fun _ => .lastField _ fun _ => trivial)

/-- `insert_win_stack_info`, one record at a time -/
def foldWin : List (Rng × Rec) → List Rec → Outcome (List (Rng × Rec))
  | acc, [] => .ok acc
  | acc, r :: rest =>
    match insertWin acc r with
    | .panic s => .panic s
    | .ok acc' => foldWin acc' rest

theorem foldWin_snoc (acc : List (Rng × Rec)) (xs : List Rec) (r : Rec) :
    foldWin acc (xs ++ [r]) = match foldWin acc xs with
      | .ok a => insertWin a r
      | .panic s => .panic s := by
  induction xs generalizing acc with
  | nil =>
    simp only [List.nil_append, foldWin]
    cases insertWin acc r <;> rfl
  | cons x rest ih =>
    simp only [List.cons_append, foldWin]
    cases insertWin acc x with
    | panic s => rfl
    | ok acc' => exact ih acc'

def WinOK (acc : List (Rng × Rec)) : Prop :=
  ∃ recs, (∀ r ∈ recs, r.size ≤ U32MAX) ∧ foldWin [] recs = .ok acc

theorem WinOK.nil : WinOK [] := ⟨[], fun _ h => (by cases h), rfl⟩

/-- the vector was built from `u32`-sized records, so it satisfies C08's step invariant -/
theorem WinOK.inv {acc : List (Rng × Rec)} (h : WinOK acc) : SymBridge.WInv (fun _ => True) acc := by
  obtain ⟨recs, hs, hf⟩ := h
  suffices ∀ a, SymBridge.WInv (fun _ => True) a → foldWin a recs = .ok acc → SymBridge.WInv (fun _ => True) acc from
    this [] (fun _ hp => nomatch hp) hf
  clear hf
  induction recs with
  | nil => intro a ha hf; cases hf; exact ha
  | cons r rest ih =>
    intro a ha hf
    obtain ⟨a', hi, ha'⟩ := insertWin_ok a r ha (Nat.lt_succ_of_le (hs r List.mem_cons_self)) trivial
    rw [foldWin, hi] at hf
    exact ih (fun x hx => hs x (List.mem_cons_of_mem _ hx)) a' ha' hf

theorem insertWin_step (acc : List (Rng × Rec)) (r : Rec) (h : WinOK acc) (hr : r.size ≤ U32MAX) :
    ∃ acc', insertWin acc r = .ok acc' ∧ WinOK acc' := by
  obtain ⟨acc', hi, _⟩ := insertWin_ok acc r h.inv (Nat.lt_succ_of_le hr) trivial
  obtain ⟨recs, hs, hf⟩ := h
  exact ⟨acc', hi, recs ++ [r], List.forall_mem_append.mpr ⟨hs, List.forall_mem_singleton.mpr hr⟩,
    by rw [foldWin_snoc, hf]; exact hi⟩

/-- a range as `Range::new` accepts it, inside `u64` -/
def RWF (r : Rng) : Prop := r.lo ≤ r.hi ∧ r.hi ≤ U64MAX

theorem mkRange_rwf {b s : Nat} {r : Rng} (h : mkRange b s = some r) : RWF r :=
  ⟨(mkRange_wf h).1, (mkRange_wf h).2.1⟩

/-- every range of the vector is the `memory_range()` of its record -/
theorem WinOK.rwf {acc : List (Rng × Rec)} (h : WinOK acc) : ∀ p ∈ acc, RWF p.1 :=
  fun p hp => mkRange_rwf (h.inv p hp).1

theorem tableP_ok {α} [DecidableEq α] (xs : List (Rng × α)) (h : ∀ e ∈ xs, RWF e.1) :
    ∃ m, tableP xs = .ok m := by
  unfold tableP
  dsimp only
  rw [safeP_ok _ (List.forall_mem_map.mpr h)]
  exact ⟨_, rfl⟩

theorem tableOpt_ok {α} [DecidableEq α] (xs : List (Option Rng × α))
    (h : ∀ e ∈ xs, ∀ r, e.1 = some r → RWF r) : ∃ m, tableOpt xs = .ok m := by
  unfold tableOpt
  dsimp only
  rw [safe_ok _ (List.forall_mem_map.mpr h)]
  exact ⟨_, rfl⟩

/-- the parser-state invariant that keeps every panic site unreachable -/
structure PInv (st : PState) : Prop where
  fdOK : WinOK st.winFd
  fpoOK : WinOK st.winFpo
  fdR : ∀ p ∈ st.winFd, RWF p.1
  fpoR : ∀ p ∈ st.winFpo, RWF p.1
  funR : ∀ p ∈ st.functions, RWF p.1
  cfiR : ∀ p ∈ st.cfi, RWF p.1

theorem PInv.init : PInv {} :=
  ⟨WinOK.nil, WinOK.nil, fun _ h => (by cases h), fun _ h => (by cases h), fun _ h => (by cases h),
   fun _ h => (by cases h)⟩

/-! The invariant reads six fields of the state. After a record update of the state, `{ h with .. }`
    restates it: the fields not named keep their proofs, their types agree by projection. -/

theorem finishFunc_ok (st : PState) (f : Function) (ls : List SourceLine) (inl : List Inlinee)
    (h : PInv st) : ∃ st', finishFunc st f ls inl = .ok st' ∧ PInv st' := by
  unfold finishFunc
  dsimp only
  obtain ⟨tbl, htbl⟩ := tableOpt_ok
    ((ls.reverse.filter fun l => l.size > 0).map fun l => (mkRangeLine l.address l.size, l))
    (List.forall_mem_map.mpr fun _ _ _ hr => ⟨(mkRangeLine_wf hr).1, (mkRangeLine_wf hr).2.1⟩)
  rw [htbl]
  dsimp only
  split
  · next r hr =>
    exact ⟨_, rfl, { h with funR := List.forall_mem_cons.mpr ⟨mkRange_rwf hr, h.funR⟩ }⟩
  · exact ⟨_, rfl, h⟩

theorem finishCfi_inv (st : PState) (c : StackInfoCfi) (h : PInv st) : PInv (finishCfi st c) := by
  unfold finishCfi
  dsimp only
  split
  · next r hr =>
    exact { h with cfiR := List.forall_mem_cons.mpr ⟨mkRange_rwf hr, h.cfiR⟩ }
  · exact h

theorem finishCur_ok (st : PState) (h : PInv st) : ∃ st', finishCur st = .ok st' ∧ PInv st' := by
  unfold finishCur
  split
  · exact ⟨_, rfl, h⟩
  · exact finishFunc_ok _ _ _ _ { h with }
  · exact ⟨_, rfl, finishCfi_inv _ _ { h with }⟩

theorem applyLine_ok (st : PState) (v : Line) (h : PInv st) (hv : WinSizeOk v) :
    (∃ k n, applyLine st v = .error (k, n)) ∨ (∃ st', applyLine st v = .ok (.ok st') ∧ PInv st') := by
  cases v with
  | module os cpu id file =>
    by_cases hl : st.lines ≠ 0
    · exact Or.inl ⟨Stream.errModuleLate, st.lines, by simp only [applyLine, if_pos hl]⟩
    · exact Or.inr ⟨{ st with moduleId := id, debugFile := file }, by simp only [applyLine, if_neg hl],
        { h with }⟩
  | stackWin w =>
    cases w with
    | unhandled => exact Or.inr ⟨_, rfl, h⟩
    | frameData s =>
      obtain ⟨acc', hi, hok⟩ := insertWin_step st.winFd ⟨s.address, s.size, st.winFdInfos.length⟩ h.fdOK hv
      exact Or.inr ⟨{ st with winFd := acc', winFdInfos := s :: st.winFdInfos }, by simp only [applyLine, hi],
        { h with fdOK := hok, fdR := hok.rwf }⟩
    | fpo s =>
      obtain ⟨acc', hi, hok⟩ := insertWin_step st.winFpo ⟨s.address, s.size, st.winFpoInfos.length⟩ h.fpoOK hv
      exact Or.inr ⟨{ st with winFpo := acc', winFpoInfos := s :: st.winFpoInfos }, by simp only [applyLine, hi],
        { h with fpoOK := hok, fpoR := hok.rwf }⟩
  -- every other record only touches fields the invariant does not mention
  | _ => exact Or.inr ⟨_, rfl, { h with }⟩

theorem topLevel_ok (st : PState) (i : Bytes) (h : PInv st) :
    (∃ rest st', topLevel st i = .ok rest st' ∧ PInv st') ∨ (∃ k n, topLevel st i = .err k n) := by
  unfold topLevel
  cases myEol i with
  | ok rest v => exact Or.inl ⟨_, _, rfl, { h with }⟩
  | error | failure =>
    cases hl : line i with
    | ok rest v =>
      rcases applyLine_ok st v h (line_sizeOk i rest v hl) with ⟨k, n, ha⟩ | ⟨st', ha, hp⟩
      · simp only [ha]; exact Or.inr ⟨_, _, rfl⟩
      · simp only [ha]; exact Or.inl ⟨_, _, rfl, { hp with }⟩
    | error | failure => exact Or.inr ⟨_, _, rfl⟩

theorem stepLine_ok (st : PState) (i : Bytes) (h : PInv st) :
    (∃ rest st', stepLine st i = .ok rest st' ∧ PInv st') ∨ (∃ k n, stepLine st i = .err k n) := by
  obtain ⟨st1, hf, hp⟩ := finishCur_ok st h
  unfold stepLine
  split
  · exact topLevel_ok st i h
  · split
    iterate 3 exact Or.inl ⟨_, _, rfl, { h with }⟩
    rw [hf]; exact topLevel_ok st1 i hp
  · split
    · exact Or.inl ⟨_, _, rfl, { h with }⟩
    · rw [hf]; exact topLevel_ok st1 i hp

theorem foldL_ok (ls : List Bytes) : ∀ (st : PState), PInv st →
    (∃ st', foldL Lsym st ls = .ok st' ∧ PInv st') ∨ (∃ k n, foldL Lsym st ls = .err k n) := by
  induction ls with
  | nil => intro st h; exact Or.inl ⟨st, rfl, h⟩
  | cons l rest ih =>
    intro st h
    rcases stepLine_ok st l h with ⟨_, st', hs, hp⟩ | ⟨k, n, hs⟩
    · simp only [foldL, Lsym, hs]; exact ih st' hp
    · simp only [foldL, Lsym, hs]; exact Or.inr ⟨k, n, rfl⟩

theorem parseMore_ok (st : PState) (w : Bytes) (h : PInv st) :
    (∃ n st', parseMore st w = .ok n st' ∧ n ≤ w.length ∧ PInv st') ∨ (∃ k l, parseMore st w = .err k l) := by
  rw [parseMore_eq]
  unfold pmSpec
  rcases foldL_ok (linesOf w).1 st h with ⟨st', hs, hp⟩ | ⟨k, n, hs⟩
  · rw [hs]
    refine Or.inl ⟨_, st', rfl, ?_, hp⟩
    have := congrArg List.length (linesOf_flatten w)
    simp only [List.length_append] at this
    omega
  · rw [hs]; exact Or.inr ⟨k, n, rfl⟩

/-- the symbol parser, as the loop sees it, never panics, never reports more bytes than the window
    holds, and keeps the invariant `PInv` (STACK WIN sizes are `u32`s, every stored range is a
    valid `Range`) under which none of its panic sites is reachable -/
theorem symOps_parserSafe : ParserSafe symOps PInv :=
  ⟨parseMore_ok, fun _ h => { h with }⟩

theorem winBack_rwf (infos : List StackInfoWin) (v : List (Rng × Rec)) (h : ∀ p ∈ v, RWF p.1) :
    ∀ e ∈ winBack infos v, RWF e.1 := by
  intro e he
  unfold winBack at he
  simp only [List.mem_filterMap, List.mem_reverse] at he
  obtain ⟨p, hp, hpe⟩ := he
  obtain ⟨r, c⟩ := p
  simp only [Option.map_eq_some_iff] at hpe
  obtain ⟨i, _, rfl⟩ := hpe
  exact h _ hp

theorem finish_ok (st : PState) (h : PInv st) : ∃ f, finish st = .ok f := by
  unfold finish
  obtain ⟨st1, hf, hp⟩ := finishCur_ok st h
  rw [hf]
  dsimp only
  obtain ⟨m1, h1⟩ := tableP_ok st1.functions.reverse (fun e he => hp.funR e (List.mem_reverse.mp he))
  obtain ⟨m2, h2⟩ := tableP_ok st1.cfi.reverse (fun e he => hp.cfiR e (List.mem_reverse.mp he))
  obtain ⟨m3, h3⟩ := tableP_ok (winBack st1.winFdInfos st1.winFd) (winBack_rwf _ _ hp.fdR)
  obtain ⟨m4, h4⟩ := tableP_ok (winBack st1.winFpoInfos st1.winFpo) (winBack_rwf _ _ hp.fpoR)
  rw [h1, h2, h3, h4]
  exact ⟨_, rfl⟩

end MdModel.Sym
