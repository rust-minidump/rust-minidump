/-
  For C06, `walk_with_stack_cfi` and `walk_frame`: lookups in the caller's register list; the one law a
  rule obeys at one register (`ruleView`) and C06's loop over the remaining rules read through it
  (`get_foldl_applyOther`); the laws of the two sort orders; which delta
  lines reach the evaluator (`linesAt_eq_filter`); a line's rules laid over the map (`parseLoop_overlay`);
  the walk stage by stage (`walkCfi_eq`; `Stages`: the stages of a successful walk, as both bridges state them);
  for C06's totality theorem `walkCfiO_eq`, the map without its two mandatory rules and the loop over it with the
  panic sites explicit (`remove_cfa_ra_eq`, `foldO_applyOtherO`).
-/
import MdProofs.Lemmas.Sort
import MdProofs.Lemmas.Assoc
namespace MdModel.Cfi
open MdModel

theorem lookupName_cons {α} (l : List (Name × α)) (k n : Name) (v : α) :
    lookupName ((k, v) :: l) n = if k = n then some v else lookupName l n := by
  unfold lookupName
  by_cases h : k = n <;> simp [h]

theorem lookupName_eq_lookup {α} (l : List (Name × α)) (n : Name) : lookupName l n = l.lookup n := by
  rw [← List.find?_fst_beq_eq_lookup]
  exact congrArg (fun q => (l.find? q).map (·.2)) (funext fun p => (Bool.beq_eq_decide_eq p.1 n).symm)

theorem RuleMap.get_eq_lookup (m : RuleMap) (k : CfiReg) : m.get k = m.lookup k :=
  List.find?_fst_eq_eq_lookup m k

theorem find?_filter_ne {α κ} [DecidableEq κ] (key : α → κ) (l : List α) (n r : κ) :
    (l.filter (fun p => key p ≠ n)).find? (fun p => key p = r) =
      if n = r then none else l.find? (fun p => key p = r) := by
  rw [List.find?_filter]
  by_cases h : n = r
  · subst h
    rw [if_pos rfl, List.find?_eq_none]
    intro p _; simp
  · rw [if_neg h]
    congr 1; funext p
    by_cases hp : key p = r
    · subst hp; simpa using fun e : key p = n => h e.symm
    · simp [hp]

theorem lookupName_erase_same (l : List (Name × UInt64)) (n : Name) :
    lookupName (eraseName l n) n = none := by
  unfold lookupName eraseName
  rw [find?_filter_ne Prod.fst l n n, if_pos rfl]; rfl

theorem lookupName_erase_ne (l : List (Name × UInt64)) (n r : Name) (h : n ≠ r) :
    lookupName (eraseName l n) r = lookupName l r := by
  unfold lookupName eraseName
  rw [find?_filter_ne Prod.fst l n r, if_neg h]

/-- What a rule whose label resolves to register `reg` (or to none) and whose expression evaluated to
    `val` makes of caller register `s`: untouched unless the label denotes `s`; then the value if there
    is one and it fits, unknown otherwise. Every implementation of the caller half of a `FrameWalker`
    (C06's `Caller`, the walker model's `CfiOut`, the real `CfiStackWalker`) obeys this one law, each
    with its own register names and values. -/
def ruleView {ρ ν : Type} [DecidableEq ρ] (fits : ν → Bool) (reg : Option ρ) (s : ρ) (val old : Option ν) :
    Option ν :=
  if reg = some s then val.filter fits else old

theorem ruleView_comm {ρ ν : Type} [DecidableEq ρ] (fits : ν → Bool) (s : ρ) (r₁ r₂ : Option ρ)
    (v₁ v₂ z : Option ν) (h : r₁ = some s → r₂ = some s → v₁ = v₂) :
    ruleView fits r₂ s v₂ (ruleView fits r₁ s v₁ z) = ruleView fits r₁ s v₁ (ruleView fits r₂ s v₂ z) := by
  unfold ruleView
  by_cases h1 : r₁ = some s <;> by_cases h2 : r₂ = some s <;> simp only [h1, h2, if_true, if_false]
  rw [h h1 h2]

/-- the law on C06's `Caller` (as `Caller.get` sees register `r`), as a step of the loop over the
    remaining rules `p = (label, expr)` -/
def upd (w : Walker) (cfa : UInt64) (r : Name) (cur : Option UInt64) (p : Name × Expr) : Option UInt64 :=
  ruleView w.fits (w.memo p.1) r (evalCfi w.env (some cfa) p.2) cur

theorem get_clearReg (w : Walker) (c : Caller) (n r : Name) :
    lookupName (w.clearReg c n).regs r = if w.memo n = some r then none else lookupName c.regs r := by
  simp only [Walker.clearReg]
  cases hm : w.memo n with
  | none => simp
  | some m =>
    by_cases hmr : m = r
    · subst hmr; simp [lookupName_erase_same]
    · simp [hmr, lookupName_erase_ne _ _ _ hmr]

theorem clearReg_cfa_ra (w : Walker) (c : Caller) (n : Name) :
    (w.clearReg c n).cfa = c.cfa ∧ (w.clearReg c n).ra = c.ra := by
  simp only [Walker.clearReg]
  cases w.memo n <;> simp

theorem get_applyOther (w : Walker) (cfa : UInt64) (c : Caller) (p : Name × Expr) (r : Name) :
    (applyOther w cfa c p).get r = upd w cfa r (c.get r) p := by
  unfold applyOther upd ruleView Caller.get
  cases he : evalCfi w.env (some cfa) p.2 with
  | none =>
    simp only [get_clearReg, Option.filter_none]
  | some v =>
    simp only [Walker.setReg, Option.filter_some]
    cases hm : w.memo p.1 with
    | none => simp [get_clearReg, hm]
    | some m =>
      by_cases hf : w.fits v = true
      · by_cases hmr : m = r
        · subst hmr; simp [hf, lookupName_cons]
        · simp [hf, hmr, lookupName_cons, lookupName_erase_ne _ _ _ hmr]
      · by_cases hmr : m = r
        · subst hmr; simp [hf, get_clearReg, hm]
        · simp [hf, get_clearReg, hm, hmr]

theorem applyOther_cfa_ra (w : Walker) (cfa : UInt64) (c : Caller) (p : Name × Expr) :
    (applyOther w cfa c p).cfa = c.cfa ∧ (applyOther w cfa c p).ra = c.ra := by
  unfold applyOther
  cases evalCfi w.env (some cfa) p.2 with
  | none => exact clearReg_cfa_ra w c p.1
  | some v =>
    simp only [Walker.setReg]
    cases w.memo p.1 with
    | none => exact clearReg_cfa_ra w c p.1
    | some m =>
      by_cases hf : w.fits v = true
      · simp [hf]
      · simp only [hf, Bool.false_eq_true, if_false]; exact clearReg_cfa_ra w c p.1

theorem get_foldl_applyOther (w : Walker) (cfa : UInt64) (l : List (Name × Expr)) (c : Caller) (r : Name) :
    (l.foldl (applyOther w cfa) c).get r = l.foldl (upd w cfa r) (c.get r) :=
  (List.foldl_hom (·.get r) (H := fun c p => (get_applyOther w cfa c p r).symm)).symm

theorem foldl_applyOther_cfa_ra (w : Walker) (cfa : UInt64) (l : List (Name × Expr)) (c : Caller) :
    (l.foldl (applyOther w cfa) c).cfa = c.cfa ∧ (l.foldl (applyOther w cfa) c).ra = c.ra :=
  l.foldlRecOn _ (motive := fun c' => c'.cfa = c.cfa ∧ c'.ra = c.ra) ⟨rfl, rfl⟩ fun c' h p _ =>
    ⟨(applyOther_cfa_ra w cfa c' p).1.trans h.1, (applyOther_cfa_ra w cfa c' p).2.trans h.2⟩

theorem bytesLe_iff (a b : Bytes) : bytesLe a b = true ↔ a ≤ b := by
  induction a generalizing b with
  | nil => simp [bytesLe]
  | cons x xs ih =>
    cases b with
    | nil => simp [bytesLe]
    | cons y ys =>
      rw [List.cons_le_cons_iff, bytesLe]
      by_cases h1 : x < y
      · simp [h1]
      · by_cases h2 : y < x
        · have : x ≠ y := fun e => by subst e; exact h1 h2
          simp [h1, h2, this]
        · have : x = y := UInt8.le_antisymm (UInt8.not_lt.mp h2) (UInt8.not_lt.mp h1)
          simp [this, ih]

theorem bytesLe_refl (a : Bytes) : bytesLe a a = true := (bytesLe_iff a a).mpr (List.le_refl a)

theorem bytesLe_total (a b : Bytes) : bytesLe a b = true ∨ bytesLe b a = true := by
  rw [bytesLe_iff, bytesLe_iff]; exact List.le_total a b

theorem bytesLe_antisymm (a b : Bytes) (h1 : bytesLe a b = true) (h2 : bytesLe b a = true) : a = b :=
  List.le_antisymm ((bytesLe_iff a b).mp h1) ((bytesLe_iff b a).mp h2)

theorem bytesLe_trans (a b c : Bytes) (h1 : bytesLe a b = true) (h2 : bytesLe b c = true) :
    bytesLe a c = true :=
  (bytesLe_iff a c).mpr (List.le_trans ((bytesLe_iff a b).mp h1) ((bytesLe_iff b c).mp h2))

theorem ruleLe_total (a b : Nat × Bytes) : ruleLe a b = true ∨ ruleLe b a = true := by
  unfold ruleLe
  rcases Nat.lt_trichotomy a.1 b.1 with h | h | h
  · left; simp [h]
  · rcases bytesLe_total a.2 b.2 with hb | hb
    · left; simp [h, hb]
    · right; simp [h, hb]
  · right; simp [h]

theorem ruleLe_trans (a b c : Nat × Bytes) (h1 : ruleLe a b = true) (h2 : ruleLe b c = true) :
    ruleLe a c = true := by
  unfold ruleLe at *
  simp only [Bool.or_eq_true, decide_eq_true_eq, Bool.and_eq_true, beq_iff_eq] at *
  rcases h1 with h1 | ⟨h1, h1'⟩
  · rcases h2 with h2 | ⟨h2, _⟩
    · left; omega
    · left; omega
  · rcases h2 with h2 | ⟨h2, h2'⟩
    · left; omega
    · right; exact ⟨by omega, bytesLe_trans _ _ _ h1' h2'⟩

theorem ruleLe_addr (a b : Nat × Bytes) (h : ruleLe a b = true) : a.1 ≤ b.1 := by
  unfold ruleLe at h
  simp only [Bool.or_eq_true, decide_eq_true_eq, Bool.and_eq_true, beq_iff_eq] at h
  rcases h with h | ⟨h, _⟩ <;> omega

theorem ruleLe_antisymm (a b : Nat × Bytes) (h1 : ruleLe a b = true) (h2 : ruleLe b a = true) : a = b := by
  unfold ruleLe at h1 h2
  simp only [Bool.or_eq_true, decide_eq_true_eq, Bool.and_eq_true, beq_iff_eq] at h1 h2
  obtain ⟨a1, a2⟩ := a
  obtain ⟨b1, b2⟩ := b
  simp only at h1 h2
  rcases h1 with h1 | ⟨h1, h1'⟩
  · rcases h2 with h2 | ⟨h2, _⟩ <;> omega
  · rcases h2 with h2 | ⟨_, h2'⟩
    · omega
    · rw [h1, bytesLe_antisymm _ _ h1' h2']

theorem sortAdds_sorted (l : List (Nat × Bytes)) : (sortAdds l).Pairwise (fun x y => ruleLe x y = true) :=
  sortBy_pairwise ruleLe ruleLe_total ruleLe_trans l

theorem linesAt_eq_filter (r : CfiRec) (a : Nat) :
    linesAt r a = r.init :: ((sortAdds r.adds).filter (fun d => decide (d.1 ≤ a))).map (·.2) := by
  unfold linesAt selectAdds
  rw [List.takeWhile_eq_filter_of_pairwise ((sortAdds_sorted _).imp fun {x y} h hy => by
    have := ruleLe_addr x y h; simp only [decide_eq_true_eq] at hy ⊢; omega)]

theorem linesAt_append_above (r : CfiRec) (a : Nat) (extra : List (Nat × Bytes)) (h : ∀ d ∈ extra, a < d.1) :
    linesAt { r with adds := r.adds ++ extra } a = linesAt r a := by
  rw [linesAt_eq_filter, linesAt_eq_filter]
  congr 2
  have hx : extra.filter (fun d => decide (d.1 ≤ a)) = [] :=
    List.filter_eq_nil_iff.mpr fun d hd => by have := h d hd; simp; omega
  -- two sorted arrangements of the same deltas, under an antisymmetric order
  refine List.Perm.eq_of_pairwise (le := fun x y => ruleLe x y = true) (fun x y _ _ => ruleLe_antisymm x y)
    ((sortAdds_sorted _).filter _) ((sortAdds_sorted _).filter _) ?_
  refine ((sortBy_perm _ _).filter _).trans (.trans ?_ ((sortBy_perm _ _).filter _).symm)
  rw [List.filter_append, hx, List.append_nil]

theorem get_remove_ne (m : RuleMap) (k k' : CfiReg) (h : k ≠ k') : (m.remove k').get k = m.get k := by
  unfold RuleMap.remove RuleMap.get
  rw [find?_filter_ne Prod.fst m k' k, if_neg h.symm]

theorem get_insert (m : RuleMap) (r k : CfiReg) (e : Expr) :
    (m.insert r e).get k = if k = r then some e else m.get k := by
  unfold RuleMap.insert RuleMap.get
  rw [List.find?_cons, find?_filter_ne Prod.fst m r k]
  by_cases h : r = k
  · simp [h]
  · simp [h, show ¬ k = r from fun e => h e.symm]

def overlay (own out : RuleMap) (k : CfiReg) : Option Expr :=
  match own.get k with
  | some e => some e
  | none => out.get k

/-- relates two parses of the same tokens, into `out` and into the empty map: they fail together, or the first result
    is the second laid over `out` -/
def OverlayRel (out : RuleMap) : Option RuleMap → Option RuleMap → Prop
  | some m', some own => ∀ k, m'.get k = overlay own out k
  | none, none => True
  | _, _ => False

theorem OverlayRel.cases {out : RuleMap} {A B : Option RuleMap} (h : OverlayRel out A B) :
    (A = none ∧ B = none) ∨ ∃ a b, A = some a ∧ B = some b ∧ ∀ k, a.get k = overlay b out k :=
  match A, B, h with
  | none, none, _ => .inl ⟨rfl, rfl⟩
  | some _, some _, h => .inr ⟨_, _, rfl, rfl, h⟩
  | none, some _, h => h.elim
  | some _, none, h => h.elim

theorem overlay_insert_nil (out : RuleMap) (r k : CfiReg) (e : Expr) :
    overlay (RuleMap.insert [] r e) out k = (out.insert r e).get k := by
  simp only [overlay, get_insert]
  by_cases hk : k = r
  · simp [hk]
  · simp [hk, RuleMap.get]

/-- `parse_cfi_exprs` into a non-empty map = its own rules laid over the map: success does not
    depend on the map, and every register the line defines overrides the earlier rule. -/
theorem parseLoop_overlay (toks : List Bytes) (cur : Option CfiReg) (expr : Expr) (out : RuleMap) :
    OverlayRel out (parseLoop toks cur expr out) (parseLoop toks cur expr []) := by
  induction toks generalizing cur expr out with
  | nil =>
    simp only [parseLoop]
    split
    · trivial
    · cases cur with
      | none => trivial
      | some r => exact fun k => (overlay_insert_nil out r k expr).symm
  | cons tok rest ih =>
    simp only [parseLoop]
    cases stripColon tok with
    | none =>
      cases cur with
      | none => trivial
      | some r => exact ih (some r) (expr ++ [tok]) out
    | some name =>
      cases cur with
      | none => exact ih (some (labelOf name)) [] out
      | some r =>
        simp only []
        split
        · trivial
        · -- the rest of the line parsed into three maps: `out` with the finished rule, that rule alone, nothing
          rcases (ih (some (labelOf name)) [] (out.insert r expr)).cases with ⟨hA, hB⟩ | ⟨a, b, hA, hB, h1⟩
          · rcases (ih (some (labelOf name)) [] (RuleMap.insert [] r expr)).cases with
              ⟨hC, _⟩ | ⟨c, b', _, hB', _⟩
            · rw [hA, hC]; trivial
            · rw [hB] at hB'; cases hB'
          · rcases (ih (some (labelOf name)) [] (RuleMap.insert [] r expr)).cases with
              ⟨_, hB'⟩ | ⟨c, b', hC, hB', h2⟩
            · rw [hB] at hB'; cases hB'
            · rw [hB] at hB'; cases hB'
              rw [hA, hC]
              intro k
              rw [h1 k]
              simp only [overlay, h2 k]
              cases b.get k with
              | some e => rfl
              | none => exact (overlay_insert_nil out r k expr).symm

theorem parseAll_app (ls ls' : List Bytes) (m : RuleMap) :
    parseAll (ls ++ ls') m = match parseAll ls m with
                             | some m' => parseAll ls' m'
                             | none => none := by
  induction ls generalizing m with
  | nil => rfl
  | cons x xs ih =>
    simp only [List.cons_append, parseAll]
    cases parseCfiExprs x m with
    | none => rfl
    | some m' => exact ih m'

/-- `walk_with_stack_cfi` stage by stage: parse, the two mandatory rules, the CFA without a CFA, the
    return address with it, the width of both, then the loop over the remaining rules. -/
theorem walkCfi_eq (w : Walker) (lines : List Bytes) :
    walkCfi w lines =
      (parseAll lines []).bind fun m => (m.get .cfa).bind fun cfaE => (m.get .ra).bind fun raE =>
      (evalCfi w.env none cfaE).bind fun cfa => (evalCfi w.env (some cfa) raE).bind fun ra =>
      if w.fits cfa = true ∧ w.fits ra = true then
        some ((sortOthers (others m)).foldl (applyOther w cfa) ⟨some cfa, some ra, w.fwd⟩)
      else none := by
  unfold walkCfi
  cases parseAll lines [] with
  | none => rfl
  | some m =>
    simp only [Option.bind_some]
    cases m.get .cfa with
    | none => cases m.get .ra <;> rfl
    | some cfaE =>
      cases m.get .ra with
      | none => rfl
      | some raE =>
        simp only [Option.bind_some]
        cases evalCfi w.env none cfaE with
        | none => rfl
        | some cfa =>
          simp only [Option.bind_some]
          cases evalCfi w.env (some cfa) raE with
          | none => rfl
          | some ra =>
            simp only [Option.bind_some, Walker.setCfa, Walker.setRa, Walker.caller0]
            by_cases h1 : w.fits cfa = true <;> by_cases h2 : w.fits ra = true <;> simp [h1, h2]

theorem walkCfi_of_not_fits (w : Walker) (lines : List Bytes) (m : RuleMap) (cfaE raE : Expr) (cfa ra : UInt64)
    (hm : parseAll lines [] = some m) (hc : m.get .cfa = some cfaE) (hr : m.get .ra = some raE)
    (h1 : evalCfi w.env none cfaE = some cfa) (h2 : evalCfi w.env (some cfa) raE = some ra)
    (hf : ¬ (w.fits cfa = true ∧ w.fits ra = true)) : walkCfi w lines = none := by
  simp only [walkCfi_eq, hm, hc, hr, h1, h2, Option.bind_some, hf, if_false]

/-- The stages of a successful `walk_with_stack_cfi` with their intermediate values. It depends on
    `w` through `w.env` and `w.fits` only, and determines its five values. -/
def Stages (w : Walker) (lines : List Bytes) (m : RuleMap) (cfaE raE : Expr) (cfa ra : UInt64) : Prop :=
  parseAll lines [] = some m ∧ m.get .cfa = some cfaE ∧ m.get .ra = some raE ∧
    evalCfi w.env none cfaE = some cfa ∧ evalCfi w.env (some cfa) raE = some ra ∧
    w.fits cfa = true ∧ w.fits ra = true

theorem Stages.walk {w : Walker} {lines : List Bytes} {m : RuleMap} {cfaE raE : Expr} {cfa ra : UInt64}
    (h : Stages w lines m cfaE raE cfa ra) :
    walkCfi w lines = some ((sortOthers (others m)).foldl (applyOther w cfa) ⟨some cfa, some ra, w.fwd⟩) := by
  obtain ⟨hm, hc, hr, h1, h2, hf1, hf2⟩ := h
  simp only [walkCfi_eq, hm, hc, hr, h1, h2, Option.bind_some, hf1, hf2, and_self, if_true]

theorem Stages.unique {w : Walker} {lines : List Bytes} {m m' : RuleMap} {cfaE raE cfaE' raE' : Expr}
    {cfa ra cfa' ra' : UInt64} (h : Stages w lines m cfaE raE cfa ra) (h' : Stages w lines m' cfaE' raE' cfa' ra') :
    m = m' ∧ cfaE = cfaE' ∧ raE = raE' ∧ cfa = cfa' ∧ ra = ra' := by
  obtain ⟨a, b, c, d, e, _⟩ := h
  obtain ⟨a', b', c', d', e', _⟩ := h'
  cases a.symm.trans a'; cases b.symm.trans b'; cases c.symm.trans c'
  cases d.symm.trans d'; cases e.symm.trans e'
  exact ⟨rfl, rfl, rfl, rfl, rfl⟩

theorem walkCfi_of_stages {w : Walker} {lines : List Bytes} {m : RuleMap} {cfaE raE : Expr} {cfa ra : UInt64}
    (h : Stages w lines m cfaE raE cfa ra) :
    ∃ c, walkCfi w lines = some c ∧ c.cfa = some cfa ∧ c.ra = some ra ∧
      ∀ r, c.get r = (sortOthers (others m)).foldl (upd w cfa r) (lookupName w.fwd r) :=
  ⟨_, h.walk, (foldl_applyOther_cfa_ra w cfa _ _).1, (foldl_applyOther_cfa_ra w cfa _ _).2,
    get_foldl_applyOther w cfa _ _⟩

theorem foldl_upd_unique (w : Walker) (cfa : UInt64) (r : Name) (p : Name × Expr) (l : List (Name × Expr))
    (cur : Option UInt64) (hp : p ∈ l) (hmemo : w.memo p.1 = some r)
    (huniq : ∀ q ∈ l, w.memo q.1 = some r → q = p) :
    (sortOthers l).foldl (upd w cfa r) cur = (evalCfi w.env (some cfa) p.2).filter w.fits :=
  have hperm := sortBy_perm (fun a b : Name × Expr => bytesLe a.1 b.1) l
  List.foldl_ite_unique (fun q : Name × Expr => w.memo q.1 = some r) _ (hperm.mem_iff.mpr hp) hmemo
    (fun q hq => huniq q (hperm.mem_iff.mp hq)) cur

theorem foldl_upd_of_not_memo (w : Walker) (cfa : UInt64) (r : Name) (l : List (Name × Expr))
    (cur : Option UInt64) (h : ∀ q ∈ l, w.memo q.1 ≠ some r) : (sortOthers l).foldl (upd w cfa r) cur = cur :=
  List.foldl_ite_untouched (fun q : Name × Expr => w.memo q.1 = some r) _
    (fun q hq => h q ((sortBy_perm _ l).mem_iff.mp hq)) cur

def otherEntry (p : Name × Expr) : CfiReg × Expr := (.other p.1, p.2)

theorem remove_cfa_ra_eq (m : RuleMap) :
    (m.remove .cfa).remove .ra = (others m).map otherEntry := by
  unfold RuleMap.remove
  induction m with
  | nil => rfl
  | cons p m ih =>
    obtain ⟨k, e⟩ := p
    cases k with
    | cfa => simpa [others] using ih
    | ra => simpa [others] using ih
    | other n => simpa [others, otherEntry] using ih

theorem foldO_applyOtherO (w : Walker) (cfa : UInt64) (evalEq : ∀ e, evalCfiO w.env (some cfa) e = .ok (evalCfi w.env (some cfa) e))
    (l : List (Name × Expr)) (c : Caller) :
    foldO (applyOtherO w cfa) (l.map otherEntry) c = .ok (l.foldl (applyOther w cfa) c) := by
  induction l generalizing c with
  | nil => rfl
  | cons p l ih =>
    simp only [List.map_cons, foldO, List.foldl_cons, applyOtherO, otherEntry, evalEq, applyOther]
    cases evalCfi w.env (some cfa) p.2 with
    | none => exact ih _
    | some v =>
      simp only []
      cases w.setReg c p.1 v with
      | none => exact ih _
      | some c' => exact ih _

end MdModel.Cfi
