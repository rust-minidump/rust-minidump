/-
  C02: the thread-name stream and the unloaded-module list read back (records + the out-of-band
  strings at the cited offsets).
-/
import MdProofs.Lemmas.EncodeStreams
namespace MdModel.Encode
open MdModel MdModel.Dump MdModel.Gen.Layouts

theorem nameRecs_length (off : Nat) (ns : List (Nat × List Nat)) : (nameRecs off ns).length = ns.length := by
  induction ns generalizing off <;> simp [nameRecs, *]

theorem unloadedRecs_length (off : Nat) (us : List MUnloaded) : (unloadedRecs off us).length = us.length := by
  induction us generalizing off <;> simp [unloadedRecs, *]

theorem nameRecs_fits {all : List UInt8} (hall : all.length < 2 ^ 32) (e : Endian) :
    ∀ (ns : List (Nat × List Nat)) (off : Nat), (∀ n ∈ ns, n.1 < 2 ^ 32) → Has all off (oobNames e (ns.map (·.2))) →
      ∀ r ∈ nameRecs off ns, Fits MINIDUMP_THREAD_NAME r
  | [], _, _, _, _, hr => by cases hr
  | (id, nm) :: ns, off, hf, h, r, hr => by
    rw [nameRecs, List.mem_cons] at hr
    rcases hr with rfl | hr
    · have hle := h.left.length_le
      simp only [MINIDUMP_THREAD_NAME, Fits, pow_256_4, pow_256_8]
      exact ⟨hf (id, nm) (by simp), by omega, trivial⟩
    · exact nameRecs_fits hall e ns _ (fun n' hn' => hf n' (by simp [hn'])) (h.after (encString_length e nm)) r hr

theorem readNames_enc {all : Bytes} (hall : all.size < 2 ^ 32) (e : Endian) :
    ∀ (ns : List (Nat × List Nat)) (off : Nat) (acc : List (Nat × List Nat)), (∀ n ∈ ns, ValidName n.2) →
      Has all.toList off (oobNames e (ns.map (·.2))) →
      (readNames all e (nameRecs off ns) acc).res = .ok (ns.foldl (fun a p => mapInsert p.1 p.2 a) acc)
  | [], _, _, _, _ => rfl
  | (id, nm) :: ns, off, acc, hv, h => by
    simp only [nameRecs, readNames, fld, List.getD_cons_zero, List.getD_cons_succ]
    rw [res_bind_ok (readStringUtf16_enc (hv (id, nm) (by simp)) h.left hall)]
    exact readNames_enc hall e ns _ _ (fun n' hn' => hv n' (by simp [hn'])) (h.after (encString_length e nm))

theorem readThreadNames_enc (ms : MemSizes) {s all : Bytes} {e : Endian} {pad : Bool} {off : Nat}
    {ns : List (Nat × List Nat)} (hs : s.toList = encThreadNames e pad off ns)
    (hid : ∀ n ∈ ns, n.1 < 2 ^ 32) (hv : ∀ n ∈ ns, ValidName n.2)
    (hoob : Has all.toList off (oobNames e (ns.map (·.2)))) (hall : all.size < 2 ^ 32) (hsz : s.size < 2 ^ 32) :
    (readThreadNames ms s all e).res = .ok (namesMap ns) := by
  have hrd := readStreamList_enc (memSz := ms.rawThreadName) hs (nameRecs_length off ns)
    (nameRecs_fits (by simpa using hall) e ns off hid hoob) (by decide) hsz
  unfold readThreadNames
  rw [res_bind_ok hrd]
  exact readNames_enc hall e ns off [] hv hoob

def UnloadedFits (u : MUnloaded) : Prop :=
  u.base < 2 ^ 64 ∧ u.size < 2 ^ 32 ∧ u.checksum < 2 ^ 32 ∧ u.time < 2 ^ 32 ∧ badImageSize u.base u.size = false ∧
  ValidName u.name

theorem unloadedRecs_fits {all : List UInt8} (hall : all.length < 2 ^ 32) (e : Endian) :
    ∀ (us : List MUnloaded) (off : Nat), (∀ u ∈ us, UnloadedFits u) → Has all off (oobNames e (us.map (·.name))) →
      ∀ r ∈ unloadedRecs off us, Fits MINIDUMP_UNLOADED_MODULE r
  | [], _, _, _, _, hr => by cases hr
  | u :: us, off, hf, h, r, hr => by
    rw [unloadedRecs, List.mem_cons] at hr
    rcases hr with rfl | hr
    · have hle := h.left.length_le
      obtain ⟨h1, h2, h3, h4, _, _⟩ := hf u (by simp)
      simp only [MINIDUMP_UNLOADED_MODULE, Fits, pow_256_4, pow_256_8]
      exact ⟨h1, h2, h3, h4, by omega, trivial⟩
    · exact unloadedRecs_fits hall e us _ (fun u' hu' => hf u' (by simp [hu'])) (h.after (encString_length e u.name)) r hr

theorem readUnloadedModules_enc {all : Bytes} (hall : all.size < 2 ^ 32) (e : Endian) :
    ∀ (us : List MUnloaded) (off : Nat), (∀ u ∈ us, UnloadedFits u) →
      Has all.toList off (oobNames e (us.map (·.name))) →
      ∃ r, (readUnloadedModules all e (unloadedRecs off us)).res = .ok r ∧ r.map munloadedOf = us
  | [], _, _, _ => ⟨[], rfl, rfl⟩
  | u :: us, off, hf, h => by
    obtain ⟨_, _, _, _, hbad, hname⟩ := hf u (by simp)
    obtain ⟨r, hr1, hr2⟩ := readUnloadedModules_enc hall e us _ (fun u' hu' => hf u' (by simp [hu']))
      (h.after (encString_length e u.name))
    refine ⟨⟨u.base, u.size, u.checksum, u.time, off, u.name⟩ :: r, ?_, by rw [List.map_cons, hr2]; rfl⟩
    simp only [unloadedRecs, readUnloadedModules, fld, List.getD_cons_zero, List.getD_cons_succ, hbad,
      Bool.false_eq_true, if_false]
    rw [res_bind_ok (readStringUtf16_enc hname h.left hall)]
    simp only
    rw [res_bind_ok hr1]
    rfl

theorem readUnloadedModuleList_enc (ms : MemSizes) {s all : Bytes} {e : Endian} {off : Nat} {us : List MUnloaded}
    (hs : s.toList = encUnloadedList e off us) (hf : ∀ u ∈ us, UnloadedFits u)
    (hoob : Has all.toList off (oobNames e (us.map (·.name)))) (hall : all.size < 2 ^ 32) (hsz : s.size < 2 ^ 32) :
    ∃ r, (readUnloadedModuleList ms s all e).res = .ok r ∧ r.map munloadedOf = us := by
  have hrd := readExStreamList_enc (memSz := ms.rawUnloaded) hs (unloadedRecs_length off us)
    (unloadedRecs_fits (by simpa using hall) e us off hf hoob) (by decide) (by decide) hsz
  obtain ⟨r, hr1, hr2⟩ := readUnloadedModules_enc hall e us off hf hoob
  refine ⟨r, ?_, hr2⟩
  unfold readUnloadedModuleList
  rw [res_bind_ok hrd, res_bind_ok (res_alloc _ _ _)]
  exact hr1

end MdModel.Encode
