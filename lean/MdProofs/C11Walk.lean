/-
  C11 bridge — the stack-walk model symbolises exactly as the C11 model.

  The framework has two hand-written Lean models of `SymbolFile::fill_symbol`
  (breakpad-symbols/src/sym_file/mod.rs:341-494): `MdModel.Symbolize.fillSymbol` (C11's subject: FUNC
  via the range table, parameter size from STACK WIN, source line, inline frames, PUBLIC fallback;
  tied to the code by engine `symb`) and `MdModel.Walk.fillSymbol` / `fillSymbolW` (the walker
  model's own: function name, base and parameter size of every frame of `walk (mkEnv …)`, and the
  by-symbols validation of scanned return addresses; tied by engines `walk`/`chain`/`index`).
  C11's theorems are about the first only. This file proves the two equal on everything the
  walker model reports, and carries C11's guarantees over to the frames of the walks.

  Property text (C11): "For every symbol file and instruction address, the reported function is a
  FUNC record of that file whose range contains the address or, if none does, the nearest preceding
  PUBLIC symbol not cut off by an intervening FUNC; reported function and line base addresses never
  exceed the instruction."

  Translation (`MdProofs/Lemmas/SymBridge*.lean`): names `nm` = UTF-8 bytes of the `String`;
  `FileRel sf r` = same FUNC records (address, size, parameter size, name) and same PUBLIC records in
  file order, C11's line / INLINE sub-records and FILE / INLINE_ORIGIN maps arbitrary;
  `recsOf sf` = the canonical related record list; `projW` = the walker model's answer as the
  `(name, base, parameter size)` of `set_function`.
-/
import MdProofs.Lemmas.SymBridgeWalk
namespace MdModel.SymBridge
open MdModel MdModel.RangeMap

/-- **`walk_fillW_eq_c11`** — symbol files WITH STACK WIN records: for every walker-model symbol file
    `sf` with STACK WIN records `wins` (whole lines, any number ≤ 2^64, any type / program-string
    flag — C07's `classifyRec` decides frame data / FPO / ignored —, overlapping, nested, truncated
    by the parser's repair, zero-size, overflowing; sizes `< 2^32` as the `u32` field the parser
    reads) and every C11 record list `r` describing the same FUNC / PUBLIC records (`FileRel`) and
    the same STACK WIN records (`WinRel`: C11's `win4` / `win0` are the `(address, size,
    parameter_size)` of the frame-data / FPO lines, in file order), every module base and
    instruction address: whenever C11's `fill_symbol` answers, the walker model's `fillSymbolW`
    over its own tables returns exactly C11's `(name, base, parameter size)` — the parameter size
    of a FUNC overridden by frame data, else FPO, exactly when C11 overrides it — and nothing when
    C11 reports no function. -/
theorem walk_fillW_eq_c11 {sf : Walk.SymFile} {r : Symbolize.Recs} (hrel : FileRel sf r)
    {wins : List Win.Rec} (hwin : WinRel wins r)
    (hsz : ∀ w ∈ wins, w.size < 2 ^ 32) (hlen : wins.length ≤ 2 ^ 64)
    {csf : Symbolize.SymFile} (hb : Symbolize.build r = .ok csf)
    {base instr : Nat} {fr : Symbolize.Frame} (h : Symbolize.fillSymbol csf base instr = .ok fr) :
    (Walk.fillSymbolW sf (Walk.funcTable sf) (Walk.winTables wins) base instr).map projW = fr.fn :=
  fillSymbolW_eq_c11 hrel hwin hsz hlen hb h

/-- **`walk_fill_eq_c11`** — for EVERY walker-model symbol file `sf` and every C11 record list `r`
    describing the same FUNC and PUBLIC records (any number of records, any values: zero-size and
    overflowing FUNCs, duplicate and overlapping FUNCs, PUBLICs sharing an address; any line /
    INLINE sub-records on the C11 side), without STACK WIN records, every module base and every
    instruction address (below the module base included): whenever C11's `fill_symbol` answers
    (it always does for a `u64` instruction: `fill_no_panic`), the walker model's `fillSymbol`
    over its own function table returns exactly the `(name, base, parameter size)` C11 reports —
    and nothing when C11 reports no function. -/
theorem walk_fill_eq_c11 {sf : Walk.SymFile} {r : Symbolize.Recs} (hrel : FileRel sf r)
    (h4 : r.win4 = []) (h0 : r.win0 = []) {csf : Symbolize.SymFile}
    (hb : Symbolize.build r = .ok csf) {base instr : Nat} {fr : Symbolize.Frame}
    (h : Symbolize.fillSymbol csf base instr = .ok fr) :
    (Walk.fillSymbol sf (Walk.funcTable sf) base instr).map projW = fr.fn := by
  have := walk_fillW_eq_c11 hrel (wins := []) ⟨h4, h0⟩ (fun _ hw => absurd hw List.not_mem_nil)
    (Nat.zero_le _) hb h
  rwa [winTables_nil, fillSymbolW_empty] at this

/-- **name and base for ANY STACK WIN records** — for every `FileRel`-related pair, whatever STACK
    WIN records C11's side carries: the walker model's `fillSymbol` (the one `instrOkOf` runs, and
    the name / base part of `fillSymbolW`) reports C11's function name and base, none iff none -/
theorem walk_fill_name_base_eq_c11 {sf : Walk.SymFile} {r : Symbolize.Recs} (hrel : FileRel sf r)
    {csf : Symbolize.SymFile} (hb : Symbolize.build r = .ok csf) {base instr : Nat}
    {fr : Symbolize.Frame} (h : Symbolize.fillSymbol csf base instr = .ok fr) :
    (Walk.fillSymbol sf (Walk.funcTable sf) base instr).map (fun g => (nm g.name, g.base)) =
      fr.fn.map fun t => (t.1, t.2.1) := by
  rcases fill_core hrel hb h with ⟨g, w, _, _, _, hw, hcore, hfn⟩ | ⟨_, hres⟩
  · rw [hw, hfn]
    simp only [wcore, Prod.mk.injEq] at hcore
    obtain ⟨c1, _, _, c4⟩ := hcore
    simp only [Option.map_some, c1, c4]
  · rw [← hres]
    cases Walk.fillSymbol sf (Walk.funcTable sf) base instr with
    | none => rfl
    | some g => rfl

theorem fillSymbolW_name_base (sf : Walk.SymFile) (wt : Walk.WinTables) (base instr : Nat) :
    (Walk.fillSymbolW sf (Walk.funcTable sf) wt base instr).map (fun g => (g.name, g.base)) =
      (Walk.fillSymbol sf (Walk.funcTable sf) base instr).map (fun g => (g.name, g.base)) := by
  rw [fillSymbolW_eq, Option.map_map]
  refine congrArg (Option.map · _) (funext fun f => ?_)
  simp only [Function.comp]
  split <;> rfl

/-- the hypotheses of `walk_fill_eq_c11` can be met for every walker-model file: `recsOf sf` is
    related to `sf` (`recsOf_rel`), C11's model builds it and answers on it -/
theorem c11_answers (sf : Walk.SymFile) (base instr : Nat) (hi : instr ≤ U64MAX) :
    ∃ csf fr, Symbolize.build (recsOf sf) = .ok csf ∧ Symbolize.fillSymbol csf base instr = .ok fr :=
  c11_answersW sf [] (fun _ hx => absurd hx List.not_mem_nil) base instr hi

/-- `walk_fill_eq_c11` without hypotheses about C11: for EVERY walker-model symbol file, base and
    `u64` instruction address, C11's model builds the file, answers, and the walker model's answer
    is that answer's function -/
theorem walk_fill_eq_c11_total (sf : Walk.SymFile) (base instr : Nat) (hi : instr ≤ U64MAX) :
    ∃ csf fr, Symbolize.build (recsOf sf) = .ok csf ∧ Symbolize.fillSymbol csf base instr = .ok fr ∧
      (Walk.fillSymbol sf (Walk.funcTable sf) base instr).map projW = fr.fn := by
  obtain ⟨csf, fr, hb, hfr⟩ := c11_answers sf base instr hi
  exact ⟨csf, fr, hb, hfr, walk_fill_eq_c11 (recsOf_rel sf) rfl rfl hb hfr⟩

/-- **`walk_func_covers`** (C11.1 `func_covers`, in the walker model) — "the reported function is a
    FUNC record of that file whose range contains the address or, if none does, [a] PUBLIC symbol
    [at or below the address]": whatever the walker model reports for a frame is a FUNC record of
    the walker's symbol file with a valid range containing the module-relative address (reported
    with its own name and `address + module base`), or — only when the walker's function table has
    no entry at the address — a PUBLIC record at or below it, with its own parameter size.
    (`Walk.fillSymbol_covers`; the bound on `instr` is not needed.) -/
theorem walk_func_covers (sf : Walk.SymFile) (base instr : Nat) (hi : instr ≤ U64MAX)
    {g : Walk.FuncInfo} (hg : Walk.fillSymbol sf (Walk.funcTable sf) base instr = some g) :
    base ≤ instr ∧
    ((∃ f ∈ sf.funcs, g.name = f.name ∧ g.base = f.addr + base ∧ 0 < f.size ∧
        f.addr + f.size ≤ U64MAX ∧ f.addr ≤ instr - base ∧ instr - base < f.addr + f.size) ∨
     (get (Walk.funcTable sf) (instr - base) = none ∧
        ∃ p ∈ sf.pubs, g.name = p.name ∧ g.base = p.addr + base ∧ g.psize = p.psize ∧
          p.addr ≤ instr - base)) :=
  Walk.fillSymbol_covers sf base instr hg

def WNearest (pubs : List Walk.PubRec) (a : Nat) (p : Walk.PubRec) : Prop :=
  p ∈ pubs ∧ p.addr ≤ a ∧ ∀ q ∈ pubs, q.addr ≤ a → Walk.pubLe q p = true

theorem WNearest_iff (pubs : List Walk.PubRec) (a : Nat) (p : Walk.PubRec) :
    WNearest pubs a p ↔ Symbolize.NearestPublic (pubs.map pubOf) a (pubOf p) ∧ p ∈ pubs := by
  constructor
  · exact fun h => ⟨nearest_pubOf h, h.1⟩
  · rintro ⟨⟨_, h2, h3⟩, h1⟩
    refine ⟨h1, h2, ?_⟩
    intro q hq hqa
    rw [pubLe_sim]
    exact h3 (pubOf q) (List.mem_map_of_mem hq) hqa

/-- **`walk_public_rule`** (C11.2 `public_rule` in the walker model) — "or, if none does, the nearest
    preceding PUBLIC symbol not cut off by an intervening FUNC", as the code decides it: when the
    walker's function table has no entry containing `a = instr - base`, the walker model reports
    * `(p.name, p.addr + base, p.psize)` for the nearest preceding PUBLIC `p` — and then every FUNC
      of the table starting at or below `a` starts strictly below `p`; or
    * nothing — and then no PUBLIC lies at or below `a`, or the nearest preceding PUBLIC is cut off:
      some FUNC of the table starts in `[p.addr, a]`. -/
theorem walk_public_rule (sf : Walk.SymFile) (base instr : Nat) (hge : base ≤ instr)
    (hnf : get (Walk.funcTable sf) (instr - base) = none) :
    (∃ p, WNearest sf.pubs (instr - base) p ∧
        (∀ e ∈ Walk.funcTable sf, e.1.lo ≤ instr - base → e.1.lo < p.addr) ∧
        Walk.fillSymbol sf (Walk.funcTable sf) base instr =
          some { name := p.name, base := p.addr + base, psize := p.psize }) ∨
    (Walk.fillSymbol sf (Walk.funcTable sf) base instr = none ∧
      ((∀ q ∈ sf.pubs, instr - base < q.addr) ∨
       ∃ p, WNearest sf.pubs (instr - base) p ∧
         ∃ e ∈ Walk.funcTable sf, e.1.lo ≤ instr - base ∧ p.addr ≤ e.1.lo)) := by
  obtain ⟨w1, w2⟩ := nearestPublic_max sf.pubs (instr - base)
  unfold Walk.fillSymbol
  rw [if_neg (by omega)]
  simp only [hnf]
  cases hp : Walk.nearestPublic sf.pubs (instr - base) with
  | none => exact .inr ⟨rfl, .inl fun q hq => Nat.lt_of_not_le (w2 hp q hq)⟩
  | some p =>
    have hn : WNearest sf.pubs (instr - base) p := w1 p hp
    have hcut := pubTruncated_iff sf (instr - base) p hnf
    simp only
    by_cases ht : Walk.pubTruncated sf (Walk.funcTable sf) (instr - base) p = true
    · rw [if_pos ht]
      exact .inr ⟨rfl, .inr ⟨p, hn, hcut.mp ht⟩⟩
    · rw [if_neg ht]
      exact .inl ⟨p, hn, Symbolize.not_startsIn.mp (mt hcut.mpr ht), rfl⟩

/-- **`walk_public_rule_from_c11`** — the statement of `walk_public_rule` DERIVED from C11's
    `public_rule`, not proved on the walker model: for a `u64` instruction C11's model answers on the
    canonical related file and its answer is the walker model's (`walk_fill_eq_c11_total`), the two
    function tables have the same entry ranges and miss together (`ftab_sim`), and C11's
    `NearestPublic` of the translated records is `WNearest` (`WNearest_iff`). So C11.2 as proved about
    `MdModel.Symbolize` is a theorem about the walker model's `fillSymbol`. (`walk_public_rule` needs
    no bound on `instr`; this one has it because C11's model answers only for `u64` instructions.) -/
theorem walk_public_rule_from_c11 (sf : Walk.SymFile) (base instr : Nat) (hi : instr ≤ U64MAX)
    (hge : base ≤ instr) (hnf : get (Walk.funcTable sf) (instr - base) = none) :
    (∃ p, WNearest sf.pubs (instr - base) p ∧
        (∀ e ∈ Walk.funcTable sf, e.1.lo ≤ instr - base → e.1.lo < p.addr) ∧
        Walk.fillSymbol sf (Walk.funcTable sf) base instr =
          some { name := p.name, base := p.addr + base, psize := p.psize }) ∨
    (Walk.fillSymbol sf (Walk.funcTable sf) base instr = none ∧
      ((∀ q ∈ sf.pubs, instr - base < q.addr) ∨
       ∃ p, WNearest sf.pubs (instr - base) p ∧
         ∃ e ∈ Walk.funcTable sf, e.1.lo ≤ instr - base ∧ p.addr ≤ e.1.lo)) := by
  obtain ⟨csf, fr, hb, hfr, heq⟩ := walk_fill_eq_c11_total sf base instr hi
  obtain ⟨t1, _, t3⟩ := ftab_sim (recsOf_rel sf) (Symbolize.build_built hb) (instr - base)
  have hnf' : Symbolize.funcAt csf.funcs csf.ftab (instr - base) = none := by
    cases hg : Symbolize.funcAt csf.funcs csf.ftab (instr - base) with
    | none => rfl
    | some g =>
      obtain ⟨i, w, _, hget, _⟩ := t1 g hg
      rw [hnf] at hget; cases hget
  have hst := fun lo => Symbolize.StartsIn.congr t3 (lo := lo) (a := instr - base)
  have hnear : ∀ p, Symbolize.NearestPublic (recsOf sf).pubs (instr - base) p →
      ∃ q, WNearest sf.pubs (instr - base) q ∧ p = pubOf q := by
    intro p hn
    obtain ⟨q, hq, rfl⟩ := List.mem_map.mp hn.1
    exact ⟨q, (WNearest_iff _ _ q).mpr ⟨hn, hq⟩, rfl⟩
  rcases Symbolize.public_rule hb hge hfr hnf' with ⟨p, hn, hcut, hfn⟩ | ⟨hfn, hrest⟩
  · obtain ⟨q, hq, rfl⟩ := hnear p hn
    refine .inl ⟨q, hq, ?_, ?_⟩
    · exact Symbolize.not_startsIn.mp (mt (hst _).mpr (Symbolize.not_startsIn.mpr hcut))
    · rw [hfn] at heq
      obtain ⟨⟨gn, gb, gp⟩, hw, hg⟩ := Option.map_eq_some_iff.mp heq
      simp only [projW, pubOf, Prod.mk.injEq] at hg
      rw [hw, nm_inj hg.1, hg.2.1, hg.2.2]
  · rw [hfn] at heq
    refine .inr ⟨Option.map_eq_none_iff.mp heq, ?_⟩
    rcases hrest with hall | ⟨p, hn, hs⟩
    · exact .inl fun q hq => hall (pubOf q) (List.mem_map_of_mem hq)
    · obtain ⟨q, hq, rfl⟩ := hnear p hn
      exact .inr ⟨q, hq, (hst _).mp hs⟩

/-- **`walk_bases_le`** (C11.3 `bases_le`, in the walker model) — "reported function … base addresses
    never exceed the instruction": the base of the function the walker model puts on a frame is at
    most the frame's lookup address (so `function_base ≤ instruction` on every frame; the bound on
    `instr` is not needed) -/
theorem walk_bases_le (sf : Walk.SymFile) (base instr : Nat) (hi : instr ≤ U64MAX)
    {g : Walk.FuncInfo} (hg : Walk.fillSymbol sf (Walk.funcTable sf) base instr = some g) :
    g.base ≤ instr :=
  (Walk.fillSymbol_sound sf base instr g hg).2.1

/-- **`walk_frames_follow_c11`** — for every architecture, OS, module list with symbol records,
    stack memory and context: every frame of `walk (mkEnv …)` whose lookup address lies in a module
    `m` that has a symbol file `sf` carries EXACTLY the function C11's `fill_symbol` reports for that
    address in that module — name, base, parameter size — and no function when C11 reports none;
    for every C11 record list describing `sf`'s records (any sub-records). -/
theorem walk_frames_follow_c11 (arch : Walk.Arch) (os : Walk.Os) (w : Walk.World) (mem0 : Walk.Mem)
    (mem : Option Walk.Mem) (ctx : Walk.Ctx) :
    ∀ f ∈ Walk.walk (Walk.mkEnv arch os w mem0) mem ctx,
      ∀ i m sf, f.module = some i → w.mods[i]? = some m → w.syms[i]? = some (some sf) →
        ∀ (r : Symbolize.Recs) (csf : Symbolize.SymFile) (fr : Symbolize.Frame),
          FileRel sf r → r.win4 = [] → r.win0 = [] → Symbolize.build r = .ok csf →
          Symbolize.fillSymbol csf m.base f.instruction = .ok fr →
          f.func.map projW = fr.fn := by
  intro f hf i m sf hmod hm hsf r csf fr hrel h4 h0 hb hfr
  exact (symbEnv_mkEnv arch os w mem0 (wins := []) rfl).follows_c11 hf hmod hm hsf hrel (wins := []) ⟨h4, h0⟩
    (fun _ hw => absurd hw List.not_mem_nil) (Nat.zero_le _) hb hfr

/-- the same, starting from a frame that carries a function: module, symbol file and C11's answer
    exist (C05 `walk_covered`, `c11_answers`), and the frame carries exactly that answer -/
theorem walk_func_frames_follow_c11 (arch : Walk.Arch) (os : Walk.Os) (w : Walk.World) (mem0 : Walk.Mem)
    (mem : Option Walk.Mem) (ctx : Walk.Ctx) :
    ∀ f ∈ Walk.walk (Walk.mkEnv arch os w mem0) mem ctx, ∀ g, f.func = some g →
      f.instruction ≤ U64MAX →
      ∃ i m sf csf fr, f.module = some i ∧ w.mods[i]? = some m ∧ w.syms[i]? = some (some sf) ∧
        Symbolize.build (recsOf sf) = .ok csf ∧
        Symbolize.fillSymbol csf m.base f.instruction = .ok fr ∧
        fr.fn = some (nm g.name, g.base, g.psize) := by
  intro f hf g hg hi
  exact (symbEnv_mkEnv arch os w mem0 (wins := []) rfl).func_is_c11 (fun _ h => absurd h List.not_mem_nil)
    (fun _ h => absurd h List.not_mem_nil) hf hg hi

/-- **`walk_frames_follow_c11W`** — the same for walks over symbol files WITH STACK WIN records
    (`mkEnvW`: x86 frames found by STACK WIN, the parameter size of a FUNC taken from the frame-data /
    FPO record at the address): for every architecture, OS, module list with symbol records and per
    module STACK WIN lines, stack memory and context, every frame of `walk (mkEnvW …)` whose module
    `m` has a symbol file `sf` carries EXACTLY `fr.fn` of C11's `fill_symbol` — name, base, parameter
    size; none iff none — for every C11 record list describing `sf`'s FUNC / PUBLIC records and the
    module's STACK WIN records (`u32` sizes, at most `2^64` records). Together with
    `walk_frames_follow_c11` this covers both environments C14's `stacks_are_walks` uses. -/
theorem walk_frames_follow_c11W (arch : Walk.Arch) (os : Walk.Os) (w : Walk.World)
    (wins : List (List Win.Rec)) (mem0 : Walk.Mem) (mem : Option Walk.Mem) (ctx : Walk.Ctx) :
    ∀ f ∈ Walk.walk (Walk.mkEnvW arch os w wins mem0) mem ctx,
      ∀ i m sf, f.module = some i → w.mods[i]? = some m → w.syms[i]? = some (some sf) →
        ∀ (r : Symbolize.Recs) (csf : Symbolize.SymFile) (fr : Symbolize.Frame),
          FileRel sf r → WinRel (winsAt wins i) r →
          (∀ x ∈ winsAt wins i, x.size < 2 ^ 32) → (winsAt wins i).length ≤ 2 ^ 64 →
          Symbolize.build r = .ok csf →
          Symbolize.fillSymbol csf m.base f.instruction = .ok fr →
          f.func.map projW = fr.fn := by
  intro f hf i m sf hmod hm hsf r csf fr hrel hwin hsz hlen hb hfr
  exact (symbEnv_mkEnvW arch os w wins mem0).follows_c11 hf hmod hm hsf hrel hwin hsz hlen hb hfr

/-- starting from a frame of `walk (mkEnvW …)` that carries a function: module, symbol file, built
    C11 file (with the module's STACK WIN records) and C11's answer exist, and the frame carries
    exactly that answer -/
theorem walk_func_frames_follow_c11W (arch : Walk.Arch) (os : Walk.Os) (w : Walk.World)
    (wins : List (List Win.Rec)) (mem0 : Walk.Mem) (mem : Option Walk.Mem) (ctx : Walk.Ctx)
    (hsz : ∀ ws ∈ wins, ∀ x ∈ ws, x.size < 2 ^ 32) (hlen : ∀ ws ∈ wins, ws.length ≤ 2 ^ 64) :
    ∀ f ∈ Walk.walk (Walk.mkEnvW arch os w wins mem0) mem ctx, ∀ g, f.func = some g →
      f.instruction ≤ U64MAX →
      ∃ i m sf csf fr, f.module = some i ∧ w.mods[i]? = some m ∧ w.syms[i]? = some (some sf) ∧
        Symbolize.build (recsOfW sf (winsAt wins i)) = .ok csf ∧
        Symbolize.fillSymbol csf m.base f.instruction = .ok fr ∧
        fr.fn = some (nm g.name, g.base, g.psize) := by
  intro f hf g hg hi
  exact (symbEnv_mkEnvW arch os w wins mem0).func_is_c11 hsz hlen hf hg hi

/-- what C11's `fill_symbol` must report for a scanned word to pass
    `instruction_seems_valid_by_symbols` (minidump-unwind/src/lib.rs:825-906): a function with a
    non-empty name (`DummyFrame::set_function`: `has_name = !name.is_empty()`) -/
def C11Named (fr : Symbolize.Frame) : Prop := ∃ n b p, fr.fn = some (n, b, p) ∧ n ≠ []

theorem mkEnv_instrOk (arch : Walk.Arch) (os : Walk.Os) (w : Walk.World) (wins : List (List Win.Rec))
    (mem0 : Walk.Mem) :
    (Walk.mkEnv arch os w mem0).instrOk = Walk.instrOkOf w (Walk.modTable w.mods) (ftblsOf w) ∧
    (Walk.mkEnvW arch os w wins mem0).instrOk = Walk.instrOkOf w (Walk.modTable w.mods) (ftblsOf w) :=
  ⟨rfl, rfl⟩

private theorem instrOkOf_sym {w : Walk.World} {ip i : Nat} {m : Walk.Module} {sf : Walk.SymFile}
    (h0 : ip - 1 ≠ 0) (hma : Walk.moduleAt (Walk.modTable w.mods) (ip - 1) = some i)
    (hm : w.mods[i]? = some m) (hsf : w.syms[i]? = some (some sf)) :
    Walk.instrOkOf w (Walk.modTable w.mods) (ftblsOf w) ip = true ↔
      ∃ g, Walk.fillSymbol sf (Walk.funcTable sf) m.base (ip - 1) = some g ∧ g.name ≠ "" := by
  unfold Walk.instrOkOf ftblsOf
  simp only [if_neg h0, hma, hm, hsf, Option.join_some, List.getElem?_map, Option.map_some]
  cases Walk.fillSymbol sf (Walk.funcTable sf) m.base (ip - 1) with
  | none => exact ⟨fun h => (nomatch h), fun ⟨_, h, _⟩ => (nomatch h)⟩
  | some g =>
    simp only [decide_eq_true_eq]
    exact ⟨fun h => ⟨g, rfl, h⟩, fun ⟨_, h, hn⟩ => Option.some.inj h ▸ hn⟩

private theorem c11Named_iff {sf : Walk.SymFile} {r : Symbolize.Recs} (hrel : FileRel sf r)
    {csf : Symbolize.SymFile} (hb : Symbolize.build r = .ok csf) {base instr : Nat}
    {fr : Symbolize.Frame} (h : Symbolize.fillSymbol csf base instr = .ok fr) :
    C11Named fr ↔ ∃ g, Walk.fillSymbol sf (Walk.funcTable sf) base instr = some g ∧ g.name ≠ "" := by
  have hname := walk_fill_name_base_eq_c11 hrel hb h
  have hne : ∀ s : String, nm s ≠ [] ↔ s ≠ "" := fun s => by
    rw [show ([] : List Nat) = nm "" by decide, Ne, nm_eq_iff]
  constructor
  · rintro ⟨n, b, p, hfn, hn⟩
    rw [hfn] at hname
    obtain ⟨g, hg, heq⟩ := Option.map_eq_some_iff.mp hname
    simp only [Prod.mk.injEq] at heq
    exact ⟨g, hg, (hne _).mp (heq.1 ▸ hn)⟩
  · rintro ⟨g, hg, hn⟩
    rw [hg] at hname
    obtain ⟨⟨n, b, p⟩, hfn, heq⟩ := Option.map_eq_some_iff.mp hname.symm
    simp only [Prod.mk.injEq] at heq
    exact ⟨n, b, p, hfn, heq.1 ▸ (hne _).mpr hn⟩

/-- **`instr_ok_follows_c11`** — the by-symbols validation of a scanned word `ip` (the walker model's
    `instrOkOf`, used by `mkEnv` and `mkEnvW` for every scan candidate), stated through C11's
    `fill_symbol`. With `a = ip - 1` (`saturating_sub(1)`):
    * a word is accepted only if `a ≠ 0` and a module of the list covers `a`;
    * if that module has no symbol file, the word is accepted;
    * if it has the symbol file `sf`, the word is accepted IFF C11's `fill_symbol` — on ANY C11
      record list describing `sf`'s FUNC / PUBLIC records (any sub-records, any STACK WIN records),
      at the module's base and `a` — reports a function with a non-empty name (`C11Named`).
    So C11's `func_covers` / `public_rule` say exactly which scanned words pass: those for which a
    FUNC of the table contains `a - base`, or the nearest preceding PUBLIC is not cut off by a
    FUNC — with a non-empty name. -/
theorem instr_ok_follows_c11 (w : Walk.World) (ip : Nat) :
    (Walk.instrOkOf w (Walk.modTable w.mods) (ftblsOf w) ip = true →
      ip - 1 ≠ 0 ∧ ∃ i m, Walk.moduleAt (Walk.modTable w.mods) (ip - 1) = some i ∧
        w.mods[i]? = some m ∧ m.base ≤ ip - 1 ∧ ip - 1 < m.base + m.size) ∧
    (∀ i, ip - 1 ≠ 0 → Walk.moduleAt (Walk.modTable w.mods) (ip - 1) = some i →
      ((w.syms[i]?).join = none → Walk.instrOkOf w (Walk.modTable w.mods) (ftblsOf w) ip = true) ∧
      (∀ m sf, w.mods[i]? = some m → w.syms[i]? = some (some sf) →
        ∀ (r : Symbolize.Recs) (csf : Symbolize.SymFile) (fr : Symbolize.Frame),
          FileRel sf r → Symbolize.build r = .ok csf →
          Symbolize.fillSymbol csf m.base (ip - 1) = .ok fr →
          (Walk.instrOkOf w (Walk.modTable w.mods) (ftblsOf w) ip = true ↔ C11Named fr))) := by
  constructor
  · intro h
    unfold Walk.instrOkOf at h
    simp only at h
    by_cases h0 : ip - 1 = 0
    · rw [if_pos h0] at h; cases h
    · refine ⟨h0, ?_⟩
      rw [if_neg h0] at h
      cases hma : Walk.moduleAt (Walk.modTable w.mods) (ip - 1) with
      | none => rw [hma] at h; cases h
      | some i =>
        obtain ⟨m, hm, h1, h2⟩ := Walk.moduleAt_sound _ _ _ hma
        exact ⟨i, m, rfl, hm, h1, h2⟩
  · intro i h0 hma
    obtain ⟨m, hm, _, _⟩ := Walk.moduleAt_sound _ _ _ hma
    constructor
    · intro hj
      unfold Walk.instrOkOf
      simp only [if_neg h0, hma, hm, hj]
    · intro m' sf hm' hsf r csf fr hrel hb hfr
      exact (instrOkOf_sym h0 hma hm' hsf).trans (c11Named_iff hrel hb hfr).symm

/-- an accepted scanned word in a module with symbols, in C11's terms (`func_covers` in the walker
    model, `Walk.fillSymbol_covers`; the bound on `ip - 1` is not needed): `ip - 1` lies in a FUNC
    record of the file with a valid range (its name non-empty), or no FUNC of the table contains it
    and a PUBLIC with a non-empty name lies at or below it -/
theorem instr_ok_covered (w : Walk.World) (ip i : Nat) (m : Walk.Module) (sf : Walk.SymFile)
    (hip : ip - 1 ≤ U64MAX)
    (hok : Walk.instrOkOf w (Walk.modTable w.mods) (ftblsOf w) ip = true)
    (hma : Walk.moduleAt (Walk.modTable w.mods) (ip - 1) = some i)
    (hm : w.mods[i]? = some m) (hsf : w.syms[i]? = some (some sf)) :
    m.base ≤ ip - 1 ∧
    ((∃ f ∈ sf.funcs, f.name ≠ "" ∧ 0 < f.size ∧ f.addr + f.size ≤ U64MAX ∧
        f.addr ≤ ip - 1 - m.base ∧ ip - 1 - m.base < f.addr + f.size) ∨
     (RangeMap.get (Walk.funcTable sf) (ip - 1 - m.base) = none ∧
        ∃ p ∈ sf.pubs, p.name ≠ "" ∧ p.addr ≤ ip - 1 - m.base)) := by
  obtain ⟨h0, _⟩ := (instr_ok_follows_c11 w ip).1 hok
  obtain ⟨g, hw, hgn⟩ := (instrOkOf_sym h0 hma hm hsf).mp hok
  obtain ⟨hge, hc⟩ := Walk.fillSymbol_covers sf m.base (ip - 1) hw
  refine ⟨hge, ?_⟩
  rcases hc with ⟨f, hf, c1, _, c3, c4, c5, c6⟩ | ⟨hnone, q, hq, c1, _, _, c4⟩
  · exact .inl ⟨f, hf, by rw [← c1]; exact hgn, c3, c4, c5, c6⟩
  · exact .inr ⟨hnone, q, hq, by rw [← c1]; exact hgn, c4⟩

/-- `FUNC 10 20 4 f`, `PUBLIC 8 0 p`, `PUBLIC 40 8 q` (hex) -/
def exSf : Walk.SymFile :=
  { funcs := [⟨0x10, 0x20, 4, "f"⟩], pubs := [⟨8, 0, "p"⟩, ⟨0x40, 8, "q"⟩] }

/-- the same file as C11 records with a line record and an INLINE record under the FUNC -/
def exRecs : Symbolize.Recs :=
  { files := [(1, [97])], origins := [(2, [98])],
    funcs := [⟨0x10, 0x20, 4, [102], [⟨0x10, 0x20, 1, 7⟩], [⟨0, 0x18, 4, 1, 9, 2⟩]⟩],
    pubs := [⟨8, [112], 0⟩, ⟨0x40, [113], 8⟩] }

theorem ex_rel : FileRel exSf exRecs := ⟨by decide, by decide⟩

theorem ex_funcTable : Walk.funcTable exSf = [(⟨0x10, 0x2f⟩, 0)] := by
  unfold Walk.funcTable safeVecP sortEntries
  simp [exSf, mkRange, U64MAX, pass, keep]

/-- the walker model computed: inside the FUNC; below it the PUBLIC `p`; just after the FUNC `p`
    is cut off by the FUNC at 0x10; from 0x40 the PUBLIC `q`; below the module base nothing -/
theorem ex_walk :
    Walk.fillSymbol exSf (Walk.funcTable exSf) 0x1000 0x1018 = some ⟨"f", 0x1010, 4⟩ ∧
    Walk.fillSymbol exSf (Walk.funcTable exSf) 0x1000 0x100c = some ⟨"p", 0x1008, 0⟩ ∧
    Walk.fillSymbol exSf (Walk.funcTable exSf) 0x1000 0x1034 = none ∧
    Walk.fillSymbol exSf (Walk.funcTable exSf) 0x1000 0x1044 = some ⟨"q", 0x1040, 8⟩ ∧
    Walk.fillSymbol exSf (Walk.funcTable exSf) 0x1000 0xfff = none := by
  rw [ex_funcTable]
  refine ⟨by decide, by decide, by decide, by decide, by decide⟩

/-- C11's model on the same file (with its sub-records), for every answer it can give: by the
    bridge, the function it reports is the one the walker model computed above -/
example (csf : Symbolize.SymFile) (hb : Symbolize.build exRecs = .ok csf) (fr1 fr2 fr3 fr4 fr5 : Symbolize.Frame)
    (h1 : Symbolize.fillSymbol csf 0x1000 0x1018 = .ok fr1)
    (h2 : Symbolize.fillSymbol csf 0x1000 0x100c = .ok fr2)
    (h3 : Symbolize.fillSymbol csf 0x1000 0x1034 = .ok fr3)
    (h4 : Symbolize.fillSymbol csf 0x1000 0x1044 = .ok fr4)
    (h5 : Symbolize.fillSymbol csf 0x1000 0xfff = .ok fr5) :
    fr1.fn = some ([102], 0x1010, 4) ∧ fr2.fn = some ([112], 0x1008, 0) ∧ fr3.fn = none ∧
    fr4.fn = some ([113], 0x1040, 8) ∧ fr5.fn = none := by
  obtain ⟨w1, w2, w3, w4, w5⟩ := ex_walk
  rw [← walk_fill_eq_c11 ex_rel rfl rfl hb h1, ← walk_fill_eq_c11 ex_rel rfl rfl hb h2,
    ← walk_fill_eq_c11 ex_rel rfl rfl hb h3, ← walk_fill_eq_c11 ex_rel rfl rfl hb h4,
    ← walk_fill_eq_c11 ex_rel rfl rfl hb h5, w1, w2, w3, w4, w5]
  decide

/-- … and such a built file and answers exist -/
example : ∃ csf fr, Symbolize.build exRecs = .ok csf ∧ Symbolize.fillSymbol csf 0x1000 0x1018 = .ok fr := by
  obtain ⟨csf, hb⟩ := Symbolize.build_ok exRecs rfl rfl
  obtain ⟨fr, hfr⟩ := Symbolize.fill_no_panic hb 0x1000 0x1018 (by decide)
    (by intro f hf; simp only [exRecs, List.mem_singleton] at hf; subst hf; decide)
  exact ⟨csf, fr, hb, hfr⟩

/-- `walk_bases_le` on the concrete file -/
example : ∃ g, Walk.fillSymbol exSf (Walk.funcTable exSf) 0x1000 0x1018 = some g ∧ g.base ≤ 0x1018 :=
  ⟨_, ex_walk.1, walk_bases_le exSf 0x1000 0x1018 (by decide) ex_walk.1⟩

def exWorld : Walk.World := { mods := [⟨0x1000, 0x100, "m"⟩], syms := [some exSf] }

theorem ex_modTable : Walk.modTable exWorld.mods = [(⟨0x1000, 0x10ff⟩, 0)] :=
  Walk.modTable_singleton (by decide)

/-- the only frame of the walk of a context at 0x1018 (no stack memory) lies in module 0 and
    carries `f @ 0x1010 / 4` — which is, by `walk_frames_follow_c11`, what C11's model answers on
    `exRecs` (the records with their line / INLINE sub-records) -/
example (csf : Symbolize.SymFile) (hb : Symbolize.build exRecs = .ok csf) (fr : Symbolize.Frame)
    (h : Symbolize.fillSymbol csf 0x1000 0x1018 = .ok fr) :
    ∀ f ∈ Walk.walk (Walk.mkEnv .amd64 .other exWorld ⟨0, #[], false⟩) none { ip := 0x1018, sp := 0 },
      f.module = some 0 ∧ f.func = some ⟨"f", 0x1010, 4⟩ ∧ fr.fn = some ([102], 0x1010, 4) := by
  intro f hf
  have hw := walk_frames_follow_c11 .amd64 .other exWorld ⟨0, #[], false⟩ none { ip := 0x1018, sp := 0 } f hf
  obtain ⟨h1, h2⟩ := Walk.walk_symbolised _ _ _ f hf
  have hi : f.instruction = 0x1018 := by
    rw [Walk.walk_none, List.mem_singleton] at hf
    subst hf; rfl
  have e : (Walk.mkEnv .amd64 .other exWorld ⟨0, #[], false⟩).symb 0x1018 =
      (some 0, Walk.fillSymbol exSf (Walk.funcTable exSf) 0x1000 0x1018) := by
    show Walk.symbOf exWorld (Walk.modTable exWorld.mods) _ 0x1018 = _
    rw [ex_modTable]
    rfl
  rw [hi, e] at h1 h2
  simp only [Option.isSome_some, if_true, ex_walk.1] at h2
  have := hw 0 ⟨0x1000, 0x100, "m"⟩ exSf h1 rfl rfl exRecs csf fr ex_rel rfl rfl hb (by rw [hi]; exact h)
  rw [h2] at this
  exact ⟨h1, h2, this.symm⟩

/-- `STACK WIN 4 10 8 … 8 … 1 $eip 4 + ^ =` (frame data, parameter size 8),
    `STACK WIN 0 10 20 … c … 0 1` (FPO, parameter size 12), and a line whose type and
    `has_program_string` disagree (ignored by the parser) -/
def exWins : List Win.Rec :=
  [ ⟨'4', 0x10, 8, 8, 0, 0, '1', "$eip 4 + ^ =".toList⟩,
    ⟨'0', 0x10, 0x20, 12, 0, 0, '0', ['1']⟩,
    ⟨'4', 0x10, 0x20, 16, 0, 0, '0', ['1']⟩ ]

/-- `exRecs` (with its line / INLINE sub-records) plus C11's reading of those STACK WIN lines -/
def exRecsW : Symbolize.Recs := { exRecs with win4 := [⟨0x10, 8, 8⟩], win0 := [⟨0x10, 0x20, 12⟩] }

theorem ex_winRel : WinRel exWins exRecsW := ⟨by decide, by decide⟩

theorem ex_relW : FileRel exSf exRecsW := ⟨by decide, by decide⟩

theorem ex_winTables : Walk.winTables exWins =
    { typed := exWins.map Win.classifyRec,
      fd := [(⟨0x10, 0x17⟩, (Rec.mk 0x10 8 0).enc)], fpo := [(⟨0x10, 0x2f⟩, (Rec.mk 0x10 0x20 1).enc)] } := by
  have e4 : wFd exWins = [(0x10, 8, 0)] := by decide
  have e0 : wFpo exWins = [(0x10, 0x20, 1)] := by decide
  have b4 : Win.buildTable [(0x10, 8, 0)] = .ok [(⟨0x10, 0x17⟩, (Rec.mk 0x10 8 0).enc)] := by
    unfold Win.buildTable
    simp [insertWinAll, insertWin, mkRange, U64MAX, safeP, tryFromIter, safeVecP, sortEntries, pass, keep, disc]
  have b0 : Win.buildTable [(0x10, 0x20, 1)] = .ok [(⟨0x10, 0x2f⟩, (Rec.mk 0x10 0x20 1).enc)] := by
    unfold Win.buildTable
    simp [insertWinAll, insertWin, mkRange, U64MAX, safeP, tryFromIter, safeVecP, sortEntries, pass, keep, disc]
  rw [winTables_eq, e4, e0, b4, b0]

/-- the walker model computed: at 0x18 only the FPO record covers ⇒ 12; at 0x10 frame data wins ⇒ 8
    (the FUNC says 4); the PUBLIC at 0x0c keeps its own 0 -/
theorem ex_walkW :
    Walk.fillSymbolW exSf (Walk.funcTable exSf) (Walk.winTables exWins) 0x1000 0x1018 = some ⟨"f", 0x1010, 12⟩ ∧
    Walk.fillSymbolW exSf (Walk.funcTable exSf) (Walk.winTables exWins) 0x1000 0x1010 = some ⟨"f", 0x1010, 8⟩ ∧
    Walk.fillSymbolW exSf (Walk.funcTable exSf) (Walk.winTables exWins) 0x1000 0x100c = some ⟨"p", 0x1008, 0⟩ := by
  rw [ex_winTables, ex_funcTable]
  refine ⟨by decide, by decide, by decide⟩

/-- `walk_fillW_eq_c11` on the concrete file: every hypothesis holds, C11's model (records WITH
    sub-records and STACK WIN triples) answers exactly what the walker model computed -/
example (csf : Symbolize.SymFile) (hb : Symbolize.build exRecsW = .ok csf) (fr1 fr2 fr3 : Symbolize.Frame)
    (h1 : Symbolize.fillSymbol csf 0x1000 0x1018 = .ok fr1)
    (h2 : Symbolize.fillSymbol csf 0x1000 0x1010 = .ok fr2)
    (h3 : Symbolize.fillSymbol csf 0x1000 0x100c = .ok fr3) :
    fr1.fn = some ([102], 0x1010, 12) ∧ fr2.fn = some ([102], 0x1010, 8) ∧ fr3.fn = some ([112], 0x1008, 0) := by
  have hs : ∀ w ∈ exWins, w.size < 2 ^ 32 := by decide
  have hl : exWins.length ≤ 2 ^ 64 := by decide
  obtain ⟨w1, w2, w3⟩ := ex_walkW
  rw [← walk_fillW_eq_c11 ex_relW ex_winRel hs hl hb h1, ← walk_fillW_eq_c11 ex_relW ex_winRel hs hl hb h2,
    ← walk_fillW_eq_c11 ex_relW ex_winRel hs hl hb h3, w1, w2, w3]
  decide

/-- … and such a built file and answer exist -/
example : ∃ csf fr, Symbolize.build exRecsW = .ok csf ∧ Symbolize.fillSymbol csf 0x1000 0x1018 = .ok fr := by
  obtain ⟨csf, hb⟩ := Symbolize.build_okW exRecsW (by decide) (by decide)
  obtain ⟨fr, hfr⟩ := Symbolize.fill_no_panic hb 0x1000 0x1018 (by decide)
    (by intro f hf
        have hf' : f ∈ exRecs.funcs := hf
        simp only [exRecs, List.mem_singleton] at hf'; subst hf'; decide)
  exact ⟨csf, fr, hb, hfr⟩

/-- a walk of `mkEnvW` (module 0 with `exSf` and `exWins`): the context frame at 0x1018 carries
    `f @ 0x1010` with the FPO record's parameter size 12 — by `walk_frames_follow_c11W` C11's answer
    on `exRecsW` -/
example (csf : Symbolize.SymFile) (hb : Symbolize.build exRecsW = .ok csf) (fr : Symbolize.Frame)
    (h : Symbolize.fillSymbol csf 0x1000 0x1018 = .ok fr) :
    ∀ f ∈ Walk.walk (Walk.mkEnvW .amd64 .other exWorld [exWins] ⟨0, #[], false⟩) none { ip := 0x1018, sp := 0 },
      f.module = some 0 ∧ f.func = some ⟨"f", 0x1010, 12⟩ ∧ fr.fn = some ([102], 0x1010, 12) := by
  intro f hf
  have hw := walk_frames_follow_c11W .amd64 .other exWorld [exWins] ⟨0, #[], false⟩ none { ip := 0x1018, sp := 0 } f hf
  obtain ⟨h1, h2⟩ := Walk.walk_symbolised _ _ _ f hf
  have hi : f.instruction = 0x1018 := by
    rw [Walk.walk_none, List.mem_singleton] at hf
    subst hf; rfl
  have e : (Walk.mkEnvW .amd64 .other exWorld [exWins] ⟨0, #[], false⟩).symb 0x1018 =
      (some 0, Walk.fillSymbolW exSf (Walk.funcTable exSf) (Walk.winTables exWins) 0x1000 0x1018) := by
    show Walk.symbOfW exWorld (Walk.modTable exWorld.mods) _ _ 0x1018 = _
    rw [ex_modTable]
    rfl
  rw [hi, e] at h1 h2
  simp only [Option.isSome_some, if_true, ex_walkW.1] at h2
  have := hw 0 ⟨0x1000, 0x100, "m"⟩ exSf h1 rfl rfl exRecsW csf fr ex_relW ex_winRel
    (by decide) (by decide) hb (by rw [hi]; exact h)
  rw [h2] at this
  exact ⟨h1, h2, this.symm⟩

theorem ex_instrOk :
    Walk.instrOkOf exWorld (Walk.modTable exWorld.mods) (ftblsOf exWorld) 0x1019 = true ∧
    Walk.instrOkOf exWorld (Walk.modTable exWorld.mods) (ftblsOf exWorld) 0x1035 = false ∧
    Walk.instrOkOf exWorld (Walk.modTable exWorld.mods) (ftblsOf exWorld) 0x2001 = false := by
  have e : ftblsOf exWorld = [Walk.funcTable exSf] := rfl
  rw [e, ex_modTable, ex_funcTable]
  refine ⟨by decide, by decide, by decide⟩

/-- `instr_ok_follows_c11` on the concrete module: the scanned word 0x1019 (inside the FUNC) passes
    and C11 reports a named function there; 0x1035 (the PUBLIC cut off by the FUNC) is rejected and
    C11 reports nothing there -/
example (csf : Symbolize.SymFile) (hb : Symbolize.build exRecs = .ok csf) (fr1 fr2 : Symbolize.Frame)
    (h1 : Symbolize.fillSymbol csf 0x1000 0x1018 = .ok fr1)
    (h2 : Symbolize.fillSymbol csf 0x1000 0x1034 = .ok fr2) : C11Named fr1 ∧ ¬ C11Named fr2 := by
  have m1 : Walk.moduleAt (Walk.modTable exWorld.mods) (0x1019 - 1) = some 0 := by rw [ex_modTable]; decide
  have m2 : Walk.moduleAt (Walk.modTable exWorld.mods) (0x1035 - 1) = some 0 := by rw [ex_modTable]; decide
  have a1 := ((instr_ok_follows_c11 exWorld 0x1019).2 0 (by decide) m1).2 ⟨0x1000, 0x100, "m"⟩ exSf rfl rfl
    exRecs csf fr1 ex_rel hb h1
  have a2 := ((instr_ok_follows_c11 exWorld 0x1035).2 0 (by decide) m2).2 ⟨0x1000, 0x100, "m"⟩ exSf rfl rfl
    exRecs csf fr2 ex_rel hb h2
  refine ⟨a1.mp ex_instrOk.1, fun hn => ?_⟩
  have := a2.mpr hn
  rw [ex_instrOk.2.1] at this
  cases this

end MdModel.SymBridge
