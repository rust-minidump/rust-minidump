/-
  C15 — JSON output is always valid, schema-conformant and self-consistent.

  Property text: "For every process state, the JSON report is valid UTF-8 JSON matching the
  documented schema: field names, types, enumerations, and hex-string addresses padded to the
  crashing platform's pointer width. Its redundant fields agree: thread_count and frame_count
  equal the array lengths, frame numbers are their positions, the crashing-thread copy is the
  indexed thread plus its registers, module and function offsets equal address minus base, and
  the modules array mirrors the module list."

  The theorems are about `MdModel.Json` (`printJson`, `render`, `parse`, `Conforms`), the model
  that the compiled driver executes and that the `json` engine compares byte for byte with
  `ProcessState::print_json` on every run.
-/
import MdProofs.Lemmas.JsonParse
import MdProofs.Lemmas.JsonSchema
import MdProofs.Lemmas.Json
import MdProofs.Lemmas.Word
namespace MdModel.Json
open MdModel
open MdModel.Process (mapO_length mapO_getElem? mapO_mem mapO_ok)

/-- **counts_agree** — `thread_count` is the length of `threads`, which has one entry per call
    stack in order; every entry's `frame_count` is the length of its `frames`, which has one entry
    per frame in order; the `frame` member of the `k`-th entry is `k`. -/
theorem counts_agree (s : StateModel) (j : Json) (h : printJson s = .ok j) :
    ∃ ts, j.get "threads" = some (.arr ts) ∧
      j.get "thread_count" = some (.nat ts.length) ∧ ts.length = s.threads.length ∧
      ∀ (i : Nat) (t : ThreadM) (tj : Json), s.threads[i]? = some t → ts[i]? = some tj →
        ∃ fs, tj.get "frames" = some (.arr fs) ∧
          tj.get "frame_count" = some (.nat fs.length) ∧ fs.length = t.frames.length ∧
          ∀ (k : Nat) (fj : Json), fs[k]? = some fj → fj.get "frame" = some (.nat k) := by
  obtain ⟨ms, ts, us, _, hts, _, hj⟩ := printJson_ok s j h
  have hlen := mapO_length _ _ _ hts
  refine ⟨ts, report_threads s ms ts us j hj, ?_, hlen, ?_⟩
  · rw [addCrashing_get s ts _ j hj "thread_count" (by decide)]; simp [baseFields, lookupLast, hlen]
  · intro i t tj hti htj
    obtain ⟨tj', htj', htok⟩ := mapO_getElem? hts hti
    rw [htj] at htj'
    cases htj'
    obtain ⟨fs, hfs, hcount, hframes⟩ := threadJson_shape _ t tj htok
    obtain ⟨hfl, hfk⟩ := framesJson_ok _ _ _ _ hfs
    refine ⟨fs, hframes, by rw [hcount, hfl], hfl, ?_⟩
    intro k fj hk
    have hk' : k < t.frames.length := by
      rw [← hfl]; exact (List.getElem?_eq_some_iff.mp hk).1
    obtain ⟨fj', h1, h2⟩ := hfk k t.frames[k] (by simp [hk'])
    rw [hk] at h1
    cases h1
    obtain ⟨_, _, rfl⟩ := (frameJson_ok _ _ _ _).mp h2
    simp [get_mkObj, frameLits, lookupLast]

/-- **crashing_thread_copy** — when the requesting thread has at least one frame, the top-level
    `crashing_thread` is the `threads` entry at that index with `registers` (the valid general
    purpose registers of frame 0's context) inserted into its first frame and `threads_index`
    added; nothing else differs. Otherwise there is no `crashing_thread` member. -/
theorem crashing_thread_copy (s : StateModel) (j : Json) (h : printJson s = .ok j) :
    (∀ i t f0 rest, s.requestingThread = some i → s.threads[i]? = some t → t.frames = f0 :: rest →
      ∃ ts kvs fj0 fjs, j.get "threads" = some (.arr ts) ∧ ts[i]? = some (.obj kvs) ∧
        getKV "frames" kvs = some (.arr (.obj fj0 :: fjs)) ∧
        j.get "crashing_thread" = some (.obj (insertKV "threads_index" (.nat i)
          (insertKV "frames" (.arr (.obj (insertKV "registers" (registersJson f0.ctx) fj0) :: fjs)) kvs)))) ∧
    ((s.requestingThread = none ∨
      ∃ i t, s.requestingThread = some i ∧ s.threads[i]? = some t ∧ t.frames = []) →
      j.get "crashing_thread" = none) := by
  obtain ⟨ms, ts, us, _, _, _, hj⟩ := printJson_ok s j h
  have hthreads := report_threads s ms ts us j hj
  obtain ⟨extra, rfl, hex⟩ := addCrashing_ok s ts _ j hj
  rw [get_mkObj "crashing_thread", lookupLast_append]
  -- the two cases of `addCrashing_ok` exclude each other: the state decides which one holds
  rcases hex with ⟨rfl, hno⟩ | ⟨i, t, tj, f0, rest, c, hreq, hti, htj, hfr, hc, rfl⟩
  · refine ⟨fun i t f0 rest hreq hti hfr => ?_, fun _ => by simp [baseFields, lookupLast]⟩
    rcases hno with hn | ⟨i', t', hreq', hti', hfr'⟩
    · simp [hn] at hreq
    · cases hreq'.symm.trans hreq; cases hti'.symm.trans hti; simp [hfr'] at hfr
  · obtain ⟨kvs, fj0, fjs, rfl, hfr', rfl⟩ := (crashingCopy_eq_some _ _ _ _).mp hc
    constructor
    · intro i' t' f0' rest' hreq' hti' hfr''
      cases hreq.symm.trans hreq'; cases hti.symm.trans hti'; cases hfr.symm.trans hfr''
      exact ⟨ts, kvs, fj0, fjs, hthreads, htj, hfr', by simp [lookupLast]⟩
    · rintro (hn | ⟨i', t', hreq', hti', hfr''⟩)
      · simp [hn] at hreq
      · cases hreq.symm.trans hreq'; cases hti.symm.trans hti'; simp [hfr] at hfr''

/-- Read through `get`: the copy agrees with the indexed thread on every member except `frames`
    and `threads_index`; `threads_index` is the index. -/
theorem crashing_thread_members (s : StateModel) (j : Json) (h : printJson s = .ok j)
    (i : Nat) (t : ThreadM) (f0 : FrameM) (rest : List FrameM)
    (hreq : s.requestingThread = some i) (hti : s.threads[i]? = some t) (hfr : t.frames = f0 :: rest) :
    ∃ ts tj c, j.get "threads" = some (.arr ts) ∧ ts[i]? = some tj ∧
      j.get "crashing_thread" = some c ∧
      c.get "threads_index" = some (.nat i) ∧
      ∀ k, k ≠ "threads_index" → k ≠ "frames" → c.get k = tj.get k := by
  obtain ⟨ts, kvs, fj0, fjs, h1, h2, _, h4⟩ := (crashing_thread_copy s j h).1 i t f0 rest hreq hti hfr
  refine ⟨ts, .obj kvs, _, h1, h2, h4, ?_, ?_⟩
  · simp [Json.get, getKV_insertKV]
  · intro k hk1 hk2
    simp [Json.get, getKV_insertKV, hk1, hk2]

/-! `Consistent` (MdModel/Json.lean §8b) is a predicate on a JSON document: it recomputes
  `thread_count`, every `frame_count`, every `frame`, every `missing_symbols`, `num_records` and
  the `crashing_thread` copy from the rest of the document. The engine evaluates it on the REAL
  bytes of `print_json` (protocol field `R:`); this theorem says the model's report satisfies it
  for every state on which `print_json` returns. -/

/-- **consistent** — "Its redundant fields agree: thread_count and frame_count equal the array
    lengths, frame numbers are their positions, the crashing-thread copy is the indexed thread
    plus its registers" (plus `missing_symbols` ⇔ `function` is null, `num_records` = number of
    `records`, `threads_index` = `crash_info.crashing_thread`), as ONE decidable predicate of
    the report. No hypothesis on the state. -/
theorem consistent (s : StateModel) (j : Json) (h : printJson s = .ok j) : Consistent j = true := by
  obtain ⟨ms, ts, us, _, hts, _, hj⟩ := printJson_ok s j h
  have hget := addCrashing_get s ts _ j hj
  have hthreads := report_threads s ms ts us j hj
  have hcount : isNatJ (j.get "thread_count") ts.length = true := by
    rw [hget "thread_count" (by decide)]
    simp [baseFields, lookupLast, mapO_length _ _ _ hts]
  have hall : ts.all threadConsistent = true := List.all_eq_true.mpr fun tj htj => by
    obtain ⟨t, _, hok⟩ := mapO_mem hts tj htj
    exact threadJson_consistent _ _ _ hok
  have hcrash : crashingConsistent j ts = true := by
    obtain ⟨_, _, hex⟩ := addCrashing_ok s ts _ j hj
    rcases hex with ⟨_, hno⟩ | ⟨i, t, _, f0, rest, _, hreq, hti, _, hfr, _, _⟩
    · simp [crashingConsistent, (crashing_thread_copy s j h).2 hno]
    · obtain ⟨ts', kvs, fj0, fjs, hts', htj, hfr', hc⟩ :=
        (crashing_thread_copy s j h).1 i t f0 rest hreq hti hfr
      obtain rfl : ts = ts' := by rw [hthreads] at hts'; cases hts'; rfl
      -- written with `simp`: `exact`/`rw` up to unification would evaluate the `crash_info` literal
      have hidx : (j.get "crash_info").bind (Json.get "crashing_thread") = some (.nat i) := by
        rw [hget "crash_info" (by decide)]
        simp [baseFields, crashInfoJson, get_mkObj, lookupLast, hreq, optNat, optJ]
      have hcopy := copyOf_crashingCopy kvs fj0 fjs (registersJson f0.ctx) i hfr'
      unfold crashingConsistent
      rw [hc, hidx]
      simp only [Json.get, getKV_insertKV, if_true, Json.nat, JNum.ofNat, htj] at hcopy ⊢
      rw [hcopy]
      simp [optBeq, Json.beq]
  have hmac : macConsistent j = true := by
    unfold macConsistent
    rw [hget "mac_crash_info" (by decide)]
    cases hm : s.macCrashInfo <;> simp [baseFields, lookupLast, hm, optJ, mkObj, getKV_insertKV]
  simp only [Consistent, hthreads, hcount, hall, hcrash, hmac, Bool.and_true]

/-! "enumerations": the strings the model can emit are exactly the listed ones.
  `…Documented` are the lists of json-schema.md verbatim, `…Undocumented` the extra values of
  `FrameTrust::as_str` / `Cpu` Display (MdModel/Json.lean §8). Both directions: nothing outside
  the lists is ever emitted, and no listed string is dead. -/

/-- **enumerations_exact** — `trust`, `cpu_arch`, `crash_inconsistencies[]`,
    `memory_accesses[].access_type`, `adjusted_address.kind` and (for known platforms)
    `system_info.os` range over exactly the listed strings. -/
theorem enumerations_exact :
    (∀ t : Trust, t.name ∈ trustDocumented ++ trustUndocumented) ∧
    (∀ v ∈ trustDocumented ++ trustUndocumented, ∃ t : Trust, t.name = v) ∧
    (∀ c : Cpu, c.name ∈ cpuDocumented ++ cpuUndocumented) ∧
    (∀ v ∈ cpuDocumented ++ cpuUndocumented, ∃ c : Cpu, c.name = v) ∧
    (∀ i : Inconsistency, i.name ∈ inconsistencyDocumented) ∧
    (∀ v ∈ inconsistencyDocumented, ∃ i : Inconsistency, i.name = v) ∧
    (∀ a : AccessType, a ≠ .underivable → a.lower ∈ accessTypeDocumented) ∧
    (∀ v ∈ accessTypeDocumented, ∃ a : AccessType, a ≠ .underivable ∧ a.lower = v) ∧
    (∀ o : Os, (∀ n, o ≠ .unknown n) → o.longName ∈ osDocumented) ∧
    (∀ v ∈ osDocumented, ∃ o : Os, o.longName = v) ∧
    (∀ pw (a : Adjusted), ∃ k, (adjustedJson pw a).get "kind" = some (.str k) ∧ k ∈ adjustedKindDocumented) := by
  refine ⟨Trust.name_mem, exists_of_mem_map trust_names, Cpu.name_mem, exists_of_mem_map cpu_names,
    Inconsistency.name_mem, exists_of_mem_map inconsistency_names, AccessType.lower_mem, ?_,
    Os.longName_mem, exists_of_mem_map os_names, ?_⟩
  · intro v hv
    obtain ⟨a, ha, h⟩ := List.mem_map.mp (accessType_names ▸ hv)
    exact ⟨a, by rintro rfl; simp at ha, h⟩
  · intro pw a
    cases a <;> simp [adjustedJson, get_mkObj, lookupLast, adjustedKindDocumented]

/-- **memory_accesses_shape** — `crash_info.memory_accesses[k]` of every state (no hypothesis):
    `address` is the access address as a platform-width hex string, `size` the size or `null`,
    `is_likely_guard_page` is present only as `true`, and `access_type` is absent exactly for an
    underivable access and otherwise one of "read" | "write" | "readwrite". -/
theorem memory_accesses_shape (pw : PW) (a : MemAccess) :
    (memAccessJson pw a).get "address" = some (.str (hexAddr pw a.address)) ∧
    (memAccessJson pw a).get "size" = some (optNat a.size) ∧
    (memAccessJson pw a).get "is_likely_guard_page" = (if a.guard then some (.bool true) else none) ∧
    (memAccessJson pw a).get "access_type" =
      (match a.ty with
       | .read => some (.str "read") | .write => some (.str "write")
       | .readWrite => some (.str "readwrite") | .underivable => none) := by
  unfold memAccessJson
  cases hg : a.guard <;> cases ht : a.ty <;>
    simp [get_mkObj, lookupLast, AccessType.lower]

/-! `WF` is what the producers of a `ProcessState` establish (each clause is another property's
  conclusion, so C15 assumes exactly what the pipeline proves elsewhere):
  * `req`      — `requesting_thread` is a position in `threads` (processor.rs: it is taken from
                 `threads.len()` while the vector is filled; C14 `requesting_thread_rule`);
  * `modEnd`/`unlEnd` — `base + size` fits `u64` (module list drops, unloaded list rejects such
                 entries: minidump.rs `from_modules` / C08 `mkRange`);
  * `frameMod` — a frame's module covers its instruction, so `base ≤ instruction`
                 (`module_at_address` lookup, C08 `get_sound`);
  * `frameFn`  — `function_base ≤ instruction` (C11 "bases ≤ instruction").
  Outside `WF` the real code panics on the unchecked `u64` subtraction/addition (overflow checks
  on) or on the `threads[requesting_thread]` index, and so does the model (engine `json`
  exercises these states too). -/
structure WF (s : StateModel) : Prop where
  req : ∀ i, s.requestingThread = some i → i < s.threads.length
  modEnd : ∀ m ∈ s.modules, m.base + m.size ≤ U64MAX
  unlEnd : ∀ m ∈ s.unloaded, m.base + m.size ≤ U64MAX
  frameMod : ∀ t ∈ s.threads, ∀ f ∈ t.frames, ∀ nm base, f.module = some (nm, base) → base ≤ f.instruction
  frameFn : ∀ t ∈ s.threads, ∀ f ∈ t.frames, ∀ fb, f.functionBase = some fb → fb ≤ f.instruction

theorem threadJson_total (pw : PW) (t : ThreadM)
    (hm : ∀ f ∈ t.frames, ∀ nm base, f.module = some (nm, base) → base ≤ f.instruction)
    (hf : ∀ f ∈ t.frames, ∀ fb, f.functionBase = some fb → fb ≤ f.instruction) :
    ∃ tj, threadJson pw t = .ok tj := by
  obtain ⟨fs, hfs⟩ := framesJson_total pw t.frames
    (fun f hfm i => ⟨_, (frameJson_ok pw i f _).mpr ⟨hm f hfm, hf f hfm, rfl⟩⟩) 0
  exact ⟨_, (threadJson_ok pw t _).mpr ⟨fs, hfs, rfl⟩⟩

theorem crashingCopy_threadJson (pw : PW) (t : ThreadM) (tj : Json) (f0 : FrameM) (rest : List FrameM)
    (h : threadJson pw t = .ok tj) (hfr : t.frames = f0 :: rest) (regs : Json) (i : Nat) :
    ∃ c, crashingCopy tj regs i = some c := by
  obtain ⟨fs, hfs, rfl⟩ := (threadJson_ok pw t tj).mp h
  obtain ⟨hl, hk⟩ := framesJson_ok _ _ _ _ hfs
  rw [hfr] at hl hk
  obtain ⟨fj, hfj, hok⟩ := hk 0 f0 rfl
  obtain ⟨_, _, rfl⟩ := (frameJson_ok _ _ _ _).mp hok
  cases fs with
  | nil => simp at hl
  | cons a fs' =>
    cases hfj
    exact ⟨_, (crashingCopy_eq_some _ _ _ _).mpr ⟨_, _, fs', rfl, by rw [getKV_lits]; rfl, rfl⟩⟩

/-- **no panic under `WF`**: the unchecked `-`/`+` and the index in `print_json` cannot fire. -/
theorem printJson_total (s : StateModel) (wf : WF s) : ∃ j, printJson s = .ok j := by
  obtain ⟨ms, hms⟩ := mapO_ok (moduleJson s.sys.cpu.pw s.certInfo s.symbolStats) s.modules
    (fun m hm => by simp only [Process.NoPanic, moduleJson, obind_ok, checkedAdd_ok]; exact ⟨_, _, ⟨wf.modEnd m hm, rfl⟩, rfl⟩)
  obtain ⟨ts, hts⟩ := mapO_ok (threadJson s.sys.cpu.pw) s.threads
    (fun t ht => threadJson_total _ t (wf.frameMod t ht) (wf.frameFn t ht))
  obtain ⟨us, hus⟩ := mapO_ok (unloadedJson s.sys.cpu.pw s.certInfo) s.unloaded
    (fun m hm => by simp only [Process.NoPanic, unloadedJson, obind_ok, checkedAdd_ok]; exact ⟨_, _, ⟨wf.unlEnd m hm, rfl⟩, rfl⟩)
  simp only [printJson, omapM_eq_mapO, obind, hms, hts, hus, addCrashing]
  cases hreq : s.requestingThread with
  | none => exact ⟨_, rfl⟩
  | some i =>
    have hi := wf.req i hreq
    have h1 : s.threads[i]? = some s.threads[i] := by simp [hi]
    obtain ⟨tj, htj, htok⟩ := mapO_getElem? hts h1
    simp only [h1, htj]
    cases hfr : s.threads[i].frames with
    | nil => exact ⟨_, rfl⟩
    | cons f0 rest =>
      obtain ⟨c, hc⟩ := crashingCopy_threadJson _ _ tj f0 rest htok hfr (registersJson f0.ctx) i
      simp only [hc]
      exact ⟨_, rfl⟩

/-- **offsets_agree** — under `WF` the report exists and, for every frame of every thread, the
    frame's entry carries `offset = instruction`, `module_offset = instruction − module base`
    (`null` without a module) and `function_offset = instruction − function base` (`null`
    without a function), with `base ≤ instruction` so that `−` is the true difference. -/
theorem offsets_agree (s : StateModel) (wf : WF s) :
    ∃ j ts, printJson s = .ok j ∧ j.get "threads" = some (.arr ts) ∧
      ∀ (i : Nat) (t : ThreadM), s.threads[i]? = some t →
        ∃ tj fs, ts[i]? = some tj ∧ tj.get "frames" = some (.arr fs) ∧
          ∀ (k : Nat) (f : FrameM), t.frames[k]? = some f →
            ∃ fj, fs[k]? = some fj ∧
              fj.get "offset" = some (.str (hexAddr s.sys.cpu.pw f.instruction)) ∧
              (∀ nm base, f.module = some (nm, base) → base ≤ f.instruction ∧
                fj.get "module_offset" = some (.str (hexAddr s.sys.cpu.pw (f.instruction - base)))) ∧
              (f.module = none → fj.get "module_offset" = some .null) ∧
              (∀ fb, f.functionBase = some fb → fb ≤ f.instruction ∧
                fj.get "function_offset" = some (.str (hexAddr s.sys.cpu.pw (f.instruction - fb)))) ∧
              (f.functionBase = none → fj.get "function_offset" = some .null) := by
  obtain ⟨j, hj⟩ := printJson_total s wf
  obtain ⟨ts, h⟩ := offsets_of_report s j hj
  exact ⟨j, ts, hj, h⟩

theorem moduleJson_members (pw : PW) (ci : List (String × String)) (ss : List (String × Stats))
    (m : ModuleM) (j : Json) (h : moduleJson pw ci ss m = .ok j) :
    m.base + m.size ≤ U64MAX ∧
    j.get "base_addr" = some (.str (hexAddr pw m.base)) ∧
    j.get "end_addr" = some (.str (hexAddr pw (m.base + m.size))) ∧
    j.get "filename" = some (.str (basename m.name)) ∧
    j.get "code_id" = some (.str m.codeId) := by
  simp only [moduleJson, obind_ok, checkedAdd_ok, Outcome.ok.injEq] at h
  obtain ⟨_, ⟨hle, rfl⟩, rfl⟩ := h
  refine ⟨hle, ?_, ?_, ?_, ?_⟩ <;> simp [get_mkObj, lookupLast]

theorem unloadedJson_members (pw : PW) (ci : List (String × String))
    (m : UnloadedM) (j : Json) (h : unloadedJson pw ci m = .ok j) :
    m.base + m.size ≤ U64MAX ∧
    j.get "base_addr" = some (.str (hexAddr pw m.base)) ∧
    j.get "end_addr" = some (.str (hexAddr pw (m.base + m.size))) ∧
    j.get "filename" = some (.str m.name) := by
  simp only [unloadedJson, obind_ok, checkedAdd_ok, Outcome.ok.injEq] at h
  obtain ⟨_, ⟨hle, rfl⟩, rfl⟩ := h
  refine ⟨hle, ?_, ?_, ?_⟩ <;> simp [get_mkObj, lookupLast]

/-- **modules_mirror** — `modules` (and `unloaded_modules`) has exactly one entry per module of
    the list, in the list's order; the entry at position `i` carries that module's base address,
    end address (`base + size`, inside `u64`), file name (`basename` of the path for loaded
    modules, the raw name for unloaded ones) and code id; `main_module` is 0. -/
theorem modules_mirror (s : StateModel) (j : Json) (h : printJson s = .ok j) :
    ∃ ms us, j.get "modules" = some (.arr ms) ∧ ms.length = s.modules.length ∧
      j.get "unloaded_modules" = some (.arr us) ∧ us.length = s.unloaded.length ∧
      j.get "main_module" = some (.nat 0) ∧
      (∀ (i : Nat) (m : ModuleM), s.modules[i]? = some m → ∃ mj, ms[i]? = some mj ∧
        mj.get "base_addr" = some (.str (hexAddr s.sys.cpu.pw m.base)) ∧
        mj.get "end_addr" = some (.str (hexAddr s.sys.cpu.pw (m.base + m.size))) ∧
        m.base + m.size ≤ U64MAX ∧
        mj.get "filename" = some (.str (basename m.name)) ∧
        mj.get "code_id" = some (.str m.codeId)) ∧
      (∀ (i : Nat) (m : UnloadedM), s.unloaded[i]? = some m → ∃ mj, us[i]? = some mj ∧
        mj.get "base_addr" = some (.str (hexAddr s.sys.cpu.pw m.base)) ∧
        mj.get "end_addr" = some (.str (hexAddr s.sys.cpu.pw (m.base + m.size))) ∧
        m.base + m.size ≤ U64MAX ∧
        mj.get "filename" = some (.str m.name)) := by
  obtain ⟨ms, ts, us, hms, _, hus, hadd⟩ := printJson_ok s j h
  refine ⟨ms, us, ?_, mapO_length _ _ _ hms, ?_, mapO_length _ _ _ hus, ?_, ?_, ?_⟩
  · rw [addCrashing_get s ts _ j hadd "modules" (by decide)]; simp [baseFields, lookupLast]
  · rw [addCrashing_get s ts _ j hadd "unloaded_modules" (by decide)]; simp [baseFields, lookupLast]
  · rw [addCrashing_get s ts _ j hadd "main_module" (by decide)]; simp [baseFields, lookupLast]
  · intro i m hi
    obtain ⟨mj, hmj, hok⟩ := mapO_getElem? hms hi
    obtain ⟨a, b, c, d, e⟩ := moduleJson_members _ _ _ m mj hok
    exact ⟨mj, hmj, b, c, a, d, e⟩
  · intro i m hi
    obtain ⟨mj, hmj, hok⟩ := mapO_getElem? hus hi
    obtain ⟨a, b, c, d⟩ := unloadedJson_members _ _ m mj hok
    exact ⟨mj, hmj, b, c, a, d⟩

/-- **hex_width** — an address is `0x` followed by lower-case hex digits only: at least the
    platform's digit count (8 on 32-bit CPUs, 16 on 64-bit and unknown CPUs), and exactly that
    many whenever the value fits the platform's pointers (always, for a `u64` on a 64-bit or
    unknown platform: 18 characters). -/
theorem hex_width (pw : PW) (v : Nat) :
    ∃ ds, (hexAddr pw v).toList = '0' :: 'x' :: ds ∧ ds.all isHexLower = true ∧
      pw.digits ≤ ds.length ∧ (v < 16 ^ pw.digits → ds.length = pw.digits) :=
  hexPad_width pw.digits v (by cases pw <;> decide)

theorem hex_width_u64 (pw : PW) (v : Nat) (hv : v ≤ U64MAX) (h : pw ≠ .b32) :
    (hexAddr pw v).toList.length = 18 := by
  obtain ⟨ds, h1, _, _, h4⟩ := hex_width pw v
  have hd : pw.digits = 16 := by cases pw <;> simp_all [PW.digits]
  rw [h1, List.length_cons, List.length_cons, h4 (by rw [hd]; simp [U64MAX] at hv; omega), hd]

theorem hex_width_u32 (v : Nat) (hv : v ≤ U32MAX) : (hexAddr .b32 v).toList.length = 10 := by
  obtain ⟨ds, h1, _, _, h4⟩ := hex_width .b32 v
  rw [h1, List.length_cons, List.length_cons, h4 (by simp [PW.digits, U32MAX] at *; omega)]
  rfl

/-- reading the digits after `0x` back gives the number, at every pad width: addresses
    (`hex_roundtrip`), register values (`format_register`, width = register size) and the microcode
    version (`{:#x}`, width 0) -/
theorem hexPad_roundtrip (w v : Nat) : parseHexStr (hexPad w v) = some v := by
  obtain ⟨hne, hall, _, hval⟩ := padLeft_hexDigits w v
  simp only [parseHexStr, hexPad_toList, hne, ne_eq, not_false_eq_true, hall, and_self, if_true, hval]

/-- **hex_roundtrip** — reading the digits after `0x` back gives the address. -/
theorem hex_roundtrip (pw : PW) (v : Nat) : parseHexStr (hexAddr pw v) = some v :=
  hexPad_roundtrip pw.digits v

/-- **render_parses** — for EVERY value (strings over all Unicode scalar values incl. quotes,
    backslashes, controls, non-BMP; every number token; any nesting), the compact rendering is
    accepted by the strict RFC 8259 parser and denotes the value it was rendered from. -/
theorem render_parses (j : Json) : parse (render j) = some j := by
  have := parseValue_render j ((render j).length + 1) [] (by omega) (fun _ _ h => nomatch h)
  simp only [List.append_nil] at this
  simp [parse, this, skipWs]

/-- the bytes written are valid UTF-8 (they are the UTF-8 encoding of a character sequence)
    and parse back to the value -/
theorem render_parses_bytes (j : Json) :
    (renderBytes j).IsValidUTF8 ∧ parseBytes (renderBytes j) = some j := by
  refine ⟨(String.ofList (render j)).isValidUTF8, ?_⟩
  have : String.fromUTF8? (String.ofList (render j)).toUTF8 = some (String.ofList (render j)) :=
    String.fromUTF8?_eq_some_iff.mpr rfl
  simp only [parseBytes, renderBytes, this, String.toList_ofList]
  exact render_parses j

/-- in particular the report of every state on which `print_json` returns -/
theorem report_valid_json (s : StateModel) (j : Json) (_h : printJson s = .ok j) :
    (renderBytes j).IsValidUTF8 ∧ parseBytes (renderBytes j) = some j := render_parses_bytes j

/-! `Conforms` (MdModel/Json.lean §8) is the transcription of json-schema.md. Besides `WF` the
  theorem needs
  * `Typed s`      — every number is inside the width of the Rust field it comes from (`u64`
                     addresses, `u32` ids/lines/counts, `u8` sizes …) and the `BTreeSet`s of
                     unloaded-module offsets are non-empty and ascending; these are facts of the
                     Rust types / of the processor, not restrictions on the dump;
  * `Documented s` — (a) the OS id is a known one: for `Os::Unknown` the code prints `0x0x…`,
                     which is not the documented `<hexstring>` (KNOWN FINDING, see
                     `os_unknown_not_hexstring` and notes/C15.md); (b) `soft_errors`, when
                     present, is an array of objects (or nulls): `print_json` passes the public
                     field through unchanged, and it is the PROCESSOR that establishes this
                     (processor.rs keeps the parsed stream only if it is an array of objects,
                     /repo 7c77347; engine `json` checks that on processed synthetic dumps).
                     `handles[].handle` is a `<u64>` in the document since /repo b67afac and is
                     covered by `Typed`. -/

structure Typed (s : StateModel) : Prop where
  pid : ∀ n, s.pid = some n → n ≤ U32MAX
  nthreads : s.threads.length ≤ U32MAX
  cpuCount : s.sys.cpuCount ≤ U32MAX
  microcode : ∀ n, s.sys.microcode = some n → n ≤ U64MAX
  mapCount : ∀ n, s.memoryMapCount = some n → n ≤ U32MAX
  threads : ∀ t ∈ s.threads, ThreadTyped t
  regs : ∀ t ∈ s.threads, ∀ f ∈ t.frames, RegsTyped f.ctx
  exc : ∀ e, s.exc = some e → ExcTyped e
  mac : ∀ rs, s.macCrashInfo = some rs → rs.length ≤ U32MAX ∧ ∀ r ∈ rs,
    (∀ n, r.thread = some n → n ≤ U64MAX) ∧ (∀ n, r.dialogMode = some n → n ≤ U64MAX) ∧
    (∀ n, r.abortCause = some n → n ≤ U64MAX)
  handles : ∀ hs, s.handles = some hs → ∀ h ∈ hs, h.handle ≤ U64MAX

structure Documented (s : StateModel) : Prop where
  os : ∀ v, s.sys.os ≠ .unknown v
  soft : ∀ j, s.softErrors = some j → ∃ xs, j = .arr xs ∧ ∀ x ∈ xs, x = .null ∨ ∃ kvs, x = .obj kvs

theorem widthOf_report (s : StateModel) (j : Json)
    (hsys : j.get "system_info" = some (systemInfoJson s.sys)) : widthOf j = s.sys.cpu.pw.digits := by
  simp only [widthOf, hsys, Option.bind_some, systemInfoJson, get_mkObj]
  cases s.sys.cpu <;> simp [lookupLast, Cpu.name, Cpu.pw, PW.digits]

theorem check_base (s : StateModel) (ms ts us : List Json)
    (hreq : ∀ i, s.requestingThread = some i → i < s.threads.length) (ty : Typed s) (doc : Documented s)
    (hms : ∀ x ∈ ms, ∀ q, check s.sys.cpu.pw.digits (.obj moduleFields) x q = none)
    (hts : ∀ x ∈ ts, ∀ q, check s.sys.cpu.pw.digits (.obj threadFields) x q = none)
    (hus : ∀ x ∈ us, ∀ q, check s.sys.cpu.pw.digits (.obj unloadedFields) x q = none) :
    check s.sys.cpu.pw.digits schema (mkObj (baseFields s.sys.cpu.pw s ms ts us)) "$" = none := by
  have hreq : ∀ n, s.requestingThread = some n → n ≤ U32MAX := fun n hn => by
    have := hreq n hn; have := ty.nthreads; omega
  -- one fact per optional member; the printed value (the `fun` of `optJ`) is found by unification
  have hlsb := fun q => check_optJ s.sys.cpu.pw.digits (.obj lsbFields) _ s.lsb q fun l _ => check_lsb _ l q
  have hsoft := fun q => check_optJ s.sys.cpu.pw.digits (.arr (.obj [])) id s.softErrors q fun j hs => by
    obtain ⟨xs, rfl, hxs⟩ := doc.soft j hs
    exact check_arr _ _ xs q fun x hx q' => by
      rcases hxs x hx with rfl | ⟨kvs, rfl⟩ <;> simp [check, checkFields]
  have hmac := fun q => check_optJ s.sys.cpu.pw.digits (.obj macFields)
      (fun rs : List MacRecord => mkObj [("num_records", .nat rs.length),
        ("records", .arr (rs.map (macRecordJson s.sys.cpu.pw)))]) s.macCrashInfo q fun rs hm => by
    obtain ⟨hn, hr⟩ := ty.mac rs hm
    have hrec := fun q' => check_arr_map _ (.obj macRecordFields) (macRecordJson s.sys.cpu.pw) rs q'
      fun r hrm q'' => check_macRecord _ r q'' (hr r hrm).1 (hr r hrm).2.1 (hr r hrm).2.2
    simp [macFields, checkFields_mkObj, checkFields, getKV_insertKV, check_u32 _ _ _ hn, hrec]
  have hboot := fun q => check_optJ s.sys.cpu.pw.digits .str optStr s.macBootArgs q
    fun o _ => check_optStr _ o q
  have hhandles := fun q => check_optJ s.sys.cpu.pw.digits (.arr (.obj handleFields))
      (fun hs : List HandleM => .arr (hs.map handleJson)) s.handles q fun hs hh =>
    check_arr_map _ _ _ hs q fun h hm q' => check_handleJson _ h (ty.handles hs hh h hm) q'
  have hsys := fun q => check_systemInfo s.sys.cpu.pw.digits s.sys doc.os ty.cpuCount ty.microcode q
  have hci := fun q => check_crashInfo s.sys.cpu.pw s q ty.exc hreq
  have hmods := fun q => check_arr _ _ ms q hms
  have hthreads := fun q => check_arr _ _ ts q hts
  have hunl := fun q => check_arr _ _ us q hus
  unfold schema
  rw [checkFields_mkObj]
  simp only [checkFields, getKV_lits]
  simp [baseFields, lookupLast, check_optNat_u32 _ _ _ ty.pid, check_optNat_u32 _ _ _ ty.mapCount,
    check_u32 _ _ _ ty.nthreads, check_u32 _ 0 _ (by decide), hlsb, hsoft, hmac, hboot, hhandles, hsys, hci,
    hmods, hthreads, hunl]

/-- whatever `print_json` returns for a well-typed state outside the two documented departures satisfies the schema
    predicate: well-formedness (`WF`) only matters for `print_json` returning at all -/
private theorem conforms_of_report (s : StateModel) (j : Json) (hj : printJson s = .ok j) (ty : Typed s)
    (doc : Documented s) : Conforms j = true := by
  obtain ⟨ms, ts, us, hms, hts, hus, hadd⟩ := printJson_ok s j hj
  have hms' : ∀ x ∈ ms, ∀ q, check s.sys.cpu.pw.digits _ x q = none := fun x hx q => by
    obtain ⟨m, _, hok⟩ := mapO_mem hms x hx
    exact check_moduleJson _ _ _ m x hok q
  have hts' : ∀ x ∈ ts, ∀ q, check s.sys.cpu.pw.digits (.obj threadFields) x q = none := fun x hx q => by
    obtain ⟨t, ht, hok⟩ := mapO_mem hts x hx
    exact check_threadJson _ t x hok (ty.threads t ht) q
  have hus' : ∀ x ∈ us, ∀ q, check s.sys.cpu.pw.digits _ x q = none := fun x hx q => by
    obtain ⟨m, _, hok⟩ := mapO_mem hus x hx
    exact check_unloadedJson _ _ m x hok q
  have hw := widthOf_report s j (by
    rw [addCrashing_get s ts _ j hadd "system_info" (by decide)]; simp [baseFields, lookupLast])
  have hbase := check_base s ms ts us (req_of_report s _ hj) ty doc hms' hts' hus'
  obtain ⟨extra, rfl, hex⟩ := addCrashing_ok s ts _ j hadd
  simp only [Conforms, conformsAt, mkObj] at hw hbase ⊢
  rw [hw, Option.isNone_iff_eq_none]
  rcases hex with ⟨rfl, _⟩ | ⟨i, t, tj, f0, rest, c, hreq, hti, htj, hfr, hc, rfl⟩
  · rw [List.append_nil]
    exact hbase
  · -- the copy is one more `insert` into the object of the base members
    rw [schema, check_obj] at hbase ⊢
    rw [List.foldl_append, List.foldl_cons, List.foldl_nil]
    refine checkFields_insert _ _ _ _ _ _ hbase fun kty hkt => ?_
    obtain rfl : kty = .obj (("threads_index", .u32) :: threadFields) := by simpa using hkt
    have htm : t ∈ s.threads := List.mem_of_getElem? hti
    obtain ⟨tj', htj', htok⟩ := mapO_getElem? hts hti
    rw [htj] at htj'; cases htj'
    obtain ⟨fs, hfs, _, hframes⟩ := threadJson_shape _ t tj htok
    have hfsc := check_framesJson s.sys.cpu.pw t.frames 0 fs hfs (ty.threads t htm).frames
      (by have := (ty.threads t htm).nframes; omega)
    have hi : i ≤ U32MAX := by
      have := (List.getElem?_eq_some_iff.mp hti).1; have := ty.nthreads; omega
    exact check_crashingCopy s.sys.cpu.pw.digits tj c (registersJson f0.ctx) i fs hc
      (hts' tj (List.mem_of_getElem? htj)) hframes hfsc
      (fun q' => check_registers _ f0.ctx (ty.regs t htm f0 (by rw [hfr]; simp)) q') hi _

/-- **conforms** — for every well-formed, well-typed state outside the two documented
    departures, `print_json` returns and its value satisfies the schema predicate: every
    documented member has its documented JSON type (or is `null`), enumerations hold, every
    address is a `0x` hex string of at least the platform's pointer width, `offsets` arrays are
    non-empty and ascending, `registers` maps names to hex strings. -/
theorem conforms (s : StateModel) (wf : WF s) (ty : Typed s) (doc : Documented s) :
    ∃ j, printJson s = .ok j ∧ Conforms j = true := by
  obtain ⟨j, hj⟩ := printJson_total s wf
  exact ⟨j, hj, conforms_of_report s j hj ty doc⟩

/-- Necessity of `Documented.os`: the unknown-OS spelling `0x0x…` is not a `<hexstring>`. -/
theorem os_unknown_not_hexstring (v : Nat) (w : Nat) : isHexString w (Os.longName (.unknown v)) = false := by
  simp [Os.longName, isHexString, hexPad, String.toList_append, isHexLower, isDigit]

def exFrame : FrameM :=
  { instruction := 0x401234, module := some ("C:\\bin\\app \"x\".exe", 0x400000),
    unloaded := [("old.dll", [0x10, 0x20])], functionName := some "main\n", functionBase := some 0x401000,
    sourceFile := some "a.c", sourceLine := some 7, inlines := [⟨"inl", none, some 3⟩],
    trust := .context, ctx := ⟨4, [("eip", 0x401234), ("esp", 0xff00)], some ["eip"]⟩ }

/-- non-vacuity: a state that satisfies every hypothesis set (`WF`, `Typed`, `Documented`) -/
def exState : StateModel :=
  { pid := some 42, certInfo := [], exc := some ⟨"SIGSEGV", 0x10, some (.nullOffset 0x10), some "add dword [rbx], eax",
      some [⟨0x10, some 4, true, .readWrite⟩, ⟨0xff00, none, false, .underivable⟩], some (.update 0x401000 false),
      [⟨0x10, some "rbx", false, false, false, 2, true, some ⟨false, 0, [2, 5], none⟩⟩],
      [.crashingAccessNotFoundInMemoryAccesses]⟩,
    assertion := none, requestingThread := some 0,
    threads := [⟨[exFrame], 7, some "t", none⟩, ⟨[], 8, none, none⟩],
    sys := ⟨.linux, some "5.4", none, .x86, none, 4, some 0x1f⟩, lsb := none, procLimits := none,
    macCrashInfo := none, macBootArgs := none,
    modules := [⟨0x400000, 0x10000, "C:\\bin\\app \"x\".exe", none, "0", "", none⟩],
    unloaded := [⟨0x10000, 0x1000, "old.dll", "5f00"⟩], handles := some [⟨3, some "File", none⟩],
    symbolStats := [], memoryMapCount := some 12, softErrors := some (.arr [.obj []]) }

private theorem exState_wf : WF exState := by
  constructor <;> simp [exState, exFrame, U64MAX]

example : WF exState := exState_wf

example : Typed exState := by
  constructor <;> simp [exState, exFrame, U32MAX, U64MAX]
  · exact ⟨⟨by simp [U32MAX], by simp [U32MAX], by simp; constructor <;> simp [U64MAX, U32MAX, ascending]⟩,
      ⟨by simp [U32MAX], by simp [U32MAX], by simp⟩⟩
  · simp [RegsTyped, U64MAX]
  · constructor <;> simp [U64MAX, U32MAX]

example : Documented exState := by
  constructor
  · simp [exState]
  · intro j hj
    simp [exState] at hj; subst hj
    exact ⟨_, rfl, by simp⟩

/-- the hypothesis of `consistent` is inhabited: the example state has a report -/
example : ∃ j, printJson exState = .ok j ∧ Consistent j = true := by
  obtain ⟨j, hj⟩ := printJson_total exState exState_wf
  exact ⟨j, hj, consistent exState j hj⟩

/-- `Consistent` is not trivially true: a document whose `thread_count` disagrees with `threads` -/
example : Consistent (.obj [("thread_count", .nat 1), ("threads", .arr [])]) = false := by
  simp [Consistent, Json.get, getKV, isNatJ, JNum.ofNat]

/-- `Conforms` rejects an `access_type` outside the documented enumeration (the seeded C15-2a
    regression prints "read/write") -/
example : check 16 (.obj memAccessFields) (.obj [("access_type", .str "read/write")]) "$" =
    some "$.access_type" := by
  simp [memAccessFields, check, checkFields, getKV, accessTy, accessTypeDocumented]

/-- a state outside `WF` on which the model (like the code) panics: instruction below the module base -/
example : printJson { exState with threads := [⟨[{ exFrame with instruction := 0x3fffff }], 7, none, none⟩] } =
    .panic "module_offset: frame.instruction - module.raw.base_of_image" := by
  rfl

end MdModel.Json
