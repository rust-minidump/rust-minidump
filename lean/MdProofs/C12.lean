/-
  C12 — A module's symbols are located once, however concurrent lookups interleave.

  Property text: "Whatever the interleaving of concurrent symbolication and unwinding requests on one
  symbolizer (absent cancellation), the symbol supplier is asked at most once per distinct module
  and every requester of that module observes the same outcome, including a remembered failure. No
  request is lost or deadlocks, and the pending counters end with requested = processed = number of
  distinct modules asked for."

  The theorems are about `MdModel.Once` (the model the compiled driver executes and the `once`
  engine compares, after every poll, with one real `Symbolizer` driven by the same schedule).
  They quantify over EVERY configuration (any number of tasks, programs of any length over any keys,
  any supplier table) and EVERY schedule `sched : List Nat` — any poll order, including spurious
  polls of tasks that cannot progress and polls of ids that are no task.
-/
import MdProofs.Lemmas.OnceReq
namespace MdModel.Once
open MdModel

/-! ## 1. "the symbol supplier is asked at most once per distinct module" -/

/-- **C12.1** in every reachable state the supplier call log holds at most one call per key. -/
theorem at_most_once (cfg : Cfg) (sched : List Nat) (k : Nat) :
    callCount k (exec cfg sched (init cfg)).log ≤ 1 := by
  rw [(countInv_reach cfg sched k).1]; split <;> simp

/-- non-vacuity: a concrete contended run in which the call happens (count = 1, not 0):
    two tasks ask for key 7, the supplier suspends twice; task 1 is polled while task 0 holds
    the lock. -/
example :
    let cfg : Cfg := ⟨[[7], [7]], fun _ => ⟨2, .ok⟩⟩
    callCount 7 (exec cfg [0, 1, 1, 0, 1, 0, 1] (init cfg)).log = 1 := by decide +kernel

/-! ## 2. "every requester of that module observes the same outcome, including a remembered
      failure" -/

/-- **C12.2a** whatever a requester observes for key `k` is the outcome the supplier gave for `k`
    (`ok`, `notFound` or `parseError` alike — failures are remembered, not retried). -/
theorem remembered_outcome (cfg : Cfg) (sched : List Nat) (t k : Nat) (r : Res)
    (hm : Event.seen t k r ∈ (exec cfg sched (init cfg)).log) : r = cfg.outcome k :=
  (seen_mem_expected (invA_reach cfg sched) hm).2

/-- **C12.2** agreement: any two observations of the same key, by any tasks at any time, are
    equal. -/
theorem agreement (cfg : Cfg) (sched : List Nat) (t₁ t₂ k : Nat) (r₁ r₂ : Res)
    (h₁ : Event.seen t₁ k r₁ ∈ (exec cfg sched (init cfg)).log)
    (h₂ : Event.seen t₂ k r₂ ∈ (exec cfg sched (init cfg)).log) : r₁ = r₂ := by
  rw [remembered_outcome cfg sched t₁ k r₁ h₁, remembered_outcome cfg sched t₂ k r₂ h₂]

/-- non-vacuity: two tasks observe the remembered `parseError` of key 3 (one of them was blocked
    on the lock while the other was inside the supplier call). -/
example :
    let cfg : Cfg := ⟨[[3], [3]], fun _ => ⟨1, .parseError⟩⟩
    let s := exec cfg [0, 1, 0, 1] (init cfg)
    Event.seen 0 3 .parseError ∈ s.log ∧ Event.seen 1 3 .parseError ∈ s.log := by decide +kernel

/-! ## 3. results are a function of the programs and the supplier table only (used by C13) -/

/-- **C12.6a** at every moment, what task `t` has seen is a prefix of
    `(prog t).map (k ↦ (k, outcome k))` — no schedule can change an answer or its position. -/
theorem results_prefix (cfg : Cfg) (sched : List Nat) (t : Nat) :
    seenBy t (exec cfg sched (init cfg)).log <+: (cfg.prog t).map (expected cfg) :=
  ⟨_, (invA_reach cfg sched).results t⟩

/-- **C12.6b** once task `t` has finished it has seen exactly that list: no request is lost. -/
theorem results_final (cfg : Cfg) (sched : List Nat) (t : Nat)
    (hfin : isFin (exec cfg sched (init cfg)) t = true) :
    seenBy t (exec cfg sched (init cfg)).log = (cfg.prog t).map (expected cfg) := by
  have h := (invA_reach cfg sched).results t
  simp only [isFin, beq_iff_eq] at hfin
  simpa [todo, hfin] using h

/-- **C12.6** `results_schedule_free`: two schedules that both let task `t` finish give it the
    same sequence of results. -/
theorem results_schedule_free (cfg : Cfg) (sched₁ sched₂ : List Nat) (t : Nat)
    (h₁ : isFin (exec cfg sched₁ (init cfg)) t = true)
    (h₂ : isFin (exec cfg sched₂ (init cfg)) t = true) :
    seenBy t (exec cfg sched₁ (init cfg)).log = seenBy t (exec cfg sched₂ (init cfg)).log := by
  rw [results_final cfg sched₁ t h₁, results_final cfg sched₂ t h₂]

/-- non-vacuity: two different schedules, same (non-empty) results for task 1. -/
example :
    let cfg : Cfg := ⟨[[0, 1], [1, 0]], fun k => if k = 0 then ⟨1, .ok⟩ else ⟨2, .notFound⟩⟩
    isFin (exec cfg [0, 1, 0, 1, 0, 1, 0, 1] (init cfg)) 1 = true ∧
    isFin (exec cfg [1, 1, 1, 1, 1, 0, 0] (init cfg)) 1 = true ∧
    seenBy 1 (exec cfg [1, 1, 1, 1, 1, 0, 0] (init cfg)).log = [(1, .notFound), (0, .ok)] := by
  decide +kernel

/-! ## 4. "the pending counters end with requested = processed = number of distinct modules" -/

/-- **C12.3a** `counters`, at every moment:
    `processed ≤ requested ≤ #distinct keys started ≤ #distinct keys of all programs`. -/
theorem counters (cfg : Cfg) (sched : List Nat) :
    let s := exec cfg sched (init cfg)
    s.processed ≤ s.requested ∧ s.requested ≤ (startedKeys cfg s).length ∧
      (startedKeys cfg s).length ≤ (allKeys cfg).length := by
  intro s
  have h : InvA cfg s := invA_reach cfg sched
  refine ⟨?_, ?_, List.length_filter_le _ _⟩
  · rw [h.proc_eq, h.req_eq]
    exact filter_length_mono _ _ _ fun k hk => Slot.nonEmpty_of_isDone hk
  · rw [h.req_eq]
    exact filter_length_mono _ _ _ (fun k hk => nonEmpty_started h k hk)

/-- **C12.3** once every task has finished: `requested = processed = number of distinct keys`. -/
theorem counters_final (cfg : Cfg) (sched : List Nat)
    (hfin : allFin cfg (exec cfg sched (init cfg)) = true) :
    (exec cfg sched (init cfg)).requested = (allKeys cfg).length ∧
    (exec cfg sched (init cfg)).processed = (allKeys cfg).length := by
  have h : InvA cfg (exec cfg sched (init cfg)) := invA_reach cfg sched
  have hdone := fun k hk => all_done_of_allFin h hfin (k := k) hk
  constructor
  · rw [h.req_eq, List.filter_eq_self.mpr]
    intro k hk
    obtain ⟨r, hr⟩ := hdone k hk
    simp [hr, Slot.nonEmpty]
  · rw [h.proc_eq, List.filter_eq_self.mpr]
    intro k hk
    obtain ⟨r, hr⟩ := hdone k hk
    simp [hr, Slot.isDone]

/-- non-vacuity: three tasks over two distinct keys finish with requested = processed = 2. -/
example :
    let cfg : Cfg := ⟨[[0, 1], [1], [0]], fun k => ⟨k + 1, .ok⟩⟩
    let s := exec cfg [0, 1, 2, 0, 1, 2, 0, 1, 2, 0, 1, 2] (init cfg)
    allFin cfg s = true ∧ s.requested = 2 ∧ s.processed = 2 ∧ (allKeys cfg).length = 2 := by
  decide +kernel

/-! ## 5. "No request is lost or deadlocks" -/

/-- **C12.4** `progress` (no deadlock): in every reachable state in which some task is unfinished,
    there is a task whose poll strictly decreases the measure
    `Σ_tasks (remaining lookups weighted by the supplier's suspensions)`. -/
theorem progress (cfg : Cfg) (sched : List Nat)
    (hnf : allFin cfg (exec cfg sched (init cfg)) = false) :
    ∃ t, t < cfg.ntasks ∧
      measure cfg (poll cfg t (exec cfg sched (init cfg))) < measure cfg (exec cfg sched (init cfg)) := by
  obtain ⟨t, ht, hf, hnb⟩ := exists_unblocked (invA_reach cfg sched) hnf
  exact ⟨t, ht, measure_poll_lt cfg t _ ht hf hnb⟩

/-- **C12.4b** no poll — spurious or not — ever increases the measure (so spurious polls can delay
    completion but never undo progress). -/
theorem poll_never_regresses (cfg : Cfg) (t : Nat) (s : State) :
    measure cfg (poll cfg t s) ≤ measure cfg s := measure_poll_le cfg t s

/-- **C12.4c** every fair schedule finishes: after ANY schedule `sched`, any continuation made of
    at least `measure` rounds, each of which polls every task at least once (in any order, with
    any repetitions and spurious polls in between), ends with every task finished. -/
theorem fair_schedule_finishes (cfg : Cfg) (sched : List Nat) (rounds : List (List Nat))
    (hfair : ∀ r ∈ rounds, ∀ t, t < cfg.ntasks → t ∈ r)
    (hlen : measure cfg (exec cfg sched (init cfg)) ≤ rounds.length) :
    allFin cfg (exec cfg (sched ++ rounds.flatten) (init cfg)) = true := by
  rw [exec_append]
  exact rounds_finish rounds hfair (invA_reach cfg sched) hlen

/-- the completion phase of the model driver (plain round-robin, `measure (init cfg) + 1` rounds,
    started after any schedule) ends with every task finished — so the `final …` summary the tie
    compares is always taken in a final state. -/
theorem round_robin_finishes (cfg : Cfg) (sched : List Nat) :
    allFin cfg (finish cfg (measure cfg (init cfg) + 1) (exec cfg sched (init cfg))) = true :=
  finish_allFin _ (invA_reach cfg sched)
    (Nat.le_succ_of_le (measure_exec_le cfg sched (init cfg)))

/-- **C12.5b** the completion phase of a WAKER-RESPECTING executor (rounds that poll only the tasks
    whose waker fired, `measure (init cfg) + 1` of them, started after any schedule) ends with every
    task finished: `join_all`, tokio or any executor that polls only woken tasks completes. -/
theorem waker_rounds_finish (cfg : Cfg) (sched : List Nat) :
    allFin cfg (finishW cfg (measure cfg (init cfg) + 1) (exec cfg sched (init cfg))) = true :=
  finishW_allFin _ (invA_reach cfg sched) (invW_reach cfg sched)
    (Nat.le_succ_of_le (measure_exec_le cfg sched (init cfg)))

/-- the number of rounds needed is bounded by the initial measure, a function of the
    configuration only: `Σ_tasks (1 + Σ_lookups (suspensions + 3))`. -/
theorem measure_bounded (cfg : Cfg) (sched : List Nat) :
    measure cfg (exec cfg sched (init cfg)) ≤ measure cfg (init cfg) :=
  measure_exec_le cfg sched _

/-- non-vacuity of `progress` and `fair_schedule_finishes`: a contended unfinished state, and
    fair rounds (with spurious polls) finishing it. -/
example :
    let cfg : Cfg := ⟨[[0, 1], [1, 0]], fun _ => ⟨1, .ok⟩⟩
    allFin cfg (exec cfg [0, 1, 1, 0] (init cfg)) = false ∧
    measure cfg (exec cfg [0, 1, 1, 0] (init cfg)) ≤ 6 ∧
    allFin cfg (exec cfg ([0, 1, 1, 0] ++ [[1, 1, 0], [0, 1], [1, 0, 0], [0, 1], [0, 1], [1, 0]].flatten)
      (init cfg)) = true := by decide +kernel

/-! ## 6. no lost wake-up: executors that only poll woken tasks cannot stall

  The model carries, per task, the flag "my waker has fired since my last poll", set exactly as
  `futures_util::lock::Mutex` does (unlock wakes the first slab entry if it is still `Waiting`; a
  failed poll re-registers) and as a suspending supplier does (it wakes its own task). -/

/-- **C12.5** `no_lost_wakeup`: in every reachable state in which some task is unfinished there is
    a task that is WOKEN, unfinished, and whose poll strictly decreases the measure. Hence
    `join_all`, tokio, or any executor that polls only woken tasks always has a task to poll,
    and polling it makes progress. -/
theorem no_lost_wakeup (cfg : Cfg) (sched : List Nat)
    (hnf : allFin cfg (exec cfg sched (init cfg)) = false) :
    ∃ t, t < cfg.ntasks ∧ ((exec cfg sched (init cfg)).task t).woken = true ∧
      isFin (exec cfg sched (init cfg)) t = false ∧
      measure cfg (poll cfg t (exec cfg sched (init cfg))) < measure cfg (exec cfg sched (init cfg)) := by
  obtain ⟨t, ht, hw, hf, hnb⟩ :=
    exists_woken_unblocked (invA_reach cfg sched) (invW_reach cfg sched) hnf
  exact ⟨t, ht, hw, by simp [isFin, hf], measure_poll_lt cfg t _ ht hf hnb⟩

/-- the set a waker-respecting executor chooses from is never empty before the end -/
theorem runnable_nonempty (cfg : Cfg) (sched : List Nat)
    (hnf : allFin cfg (exec cfg sched (init cfg)) = false) :
    runnable cfg (exec cfg sched (init cfg)) ≠ [] := by
  obtain ⟨t, ht, hw, hf, _⟩ := no_lost_wakeup cfg sched hnf
  exact List.ne_nil_of_mem (mem_runnable.mpr ⟨ht, hw, by simpa [isFin] using hf⟩)

/-- non-vacuity: three tasks contend for one key; after the holder finished, the first waiter
    (task 1) is the woken one, task 2 is not — and the chain of wake-ups continues when 1 runs. -/
example :
    let cfg : Cfg := ⟨[[5], [5], [5]], fun _ => ⟨1, .notFound⟩⟩
    let s := exec cfg [0, 1, 2, 0] (init cfg)
    allFin cfg s = false ∧ runnable cfg s = [1] ∧ runnable cfg (poll cfg 1 s) = [2] := by decide +kernel

/-! ## 7. Programs whose continuation depends on what a lookup observed (`MdModel.OnceG`)

  `MultiSymbolProvider::walk_frame` decides from the answer it has just received whether it
  consults the next provider. `MdModel.OnceG` is the machine of sections 1–6 over such programs:
  an item names a cache slot and how many following items are dropped when the observed result
  is `ok`. The decision is taken from the OBSERVED value. `g_simulation`: for every schedule it is
  in lock step with the machine of sections 1–6 on the statically compiled programs — so
  everything proved above holds for it. -/

/-- **C12.7** simulation, for every configuration and every schedule -/
theorem g_simulation (cfg : ICfg) (sched : List Nat) :
    absS cfg (gexec cfg sched (ginit cfg)) = exec (compile cfg) sched (init (compile cfg)) :=
  sim_exec cfg sched

theorem g_doneOk (cfg : ICfg) (sched : List Nat) : DoneOk cfg (gexec cfg sched (ginit cfg)) :=
  (sim_gexec cfg sched (doneOk_ginit cfg)).2

def gmeasure (cfg : ICfg) (s : GState) : Nat := measure (compile cfg) (absS cfg s)

/-- **C12.7a** at most one supplier call per slot -/
theorem g_at_most_once (cfg : ICfg) (sched : List Nat) (k : Nat) :
    callCount k (gexec cfg sched (ginit cfg)).log ≤ 1 := by
  rw [sim_log]; exact at_most_once (compile cfg) sched k

/-- **C12.7b** what a requester observes is the supplier's outcome for that slot; hence agreement -/
theorem g_remembered_outcome (cfg : ICfg) (sched : List Nat) (t k : Nat) (r : Res)
    (hm : Event.seen t k r ∈ (gexec cfg sched (ginit cfg)).log) : r = cfg.outcome k := by
  rw [sim_log] at hm; exact remembered_outcome (compile cfg) sched t k r hm

theorem g_agreement (cfg : ICfg) (sched : List Nat) (t₁ t₂ k : Nat) (r₁ r₂ : Res)
    (h₁ : Event.seen t₁ k r₁ ∈ (gexec cfg sched (ginit cfg)).log)
    (h₂ : Event.seen t₂ k r₂ ∈ (gexec cfg sched (ginit cfg)).log) : r₁ = r₂ := by
  rw [g_remembered_outcome cfg sched t₁ k r₁ h₁, g_remembered_outcome cfg sched t₂ k r₂ h₂]

/-- **C12.7c** a finished task has looked up exactly the statically compiled keys, each with the
    supplier's outcome: the DYNAMIC choices coincide with the static reading, whatever the schedule -/
theorem g_results_final (cfg : ICfg) (sched : List Nat) (t : Nat)
    (hfin : gisFin (gexec cfg sched (ginit cfg)) t = true) :
    seenBy t (gexec cfg sched (ginit cfg)).log =
      (compS cfg 0 (cfg.prog t)).map (expected (compile cfg)) := by
  rw [sim_isFin cfg, g_simulation] at hfin
  rw [sim_log, results_final (compile cfg) sched t hfin, compile_prog]

theorem g_results_schedule_free (cfg : ICfg) (sched₁ sched₂ : List Nat) (t : Nat)
    (h₁ : gisFin (gexec cfg sched₁ (ginit cfg)) t = true)
    (h₂ : gisFin (gexec cfg sched₂ (ginit cfg)) t = true) :
    seenBy t (gexec cfg sched₁ (ginit cfg)).log = seenBy t (gexec cfg sched₂ (ginit cfg)).log := by
  rw [g_results_final cfg sched₁ t h₁, g_results_final cfg sched₂ t h₂]

/-- **C12.7d** progress and no lost wake-up -/
theorem g_no_lost_wakeup (cfg : ICfg) (sched : List Nat)
    (hnf : gallFin cfg (gexec cfg sched (ginit cfg)) = false) :
    ∃ t, t < cfg.ntasks ∧ ((gexec cfg sched (ginit cfg)).task t).woken = true ∧
      gisFin (gexec cfg sched (ginit cfg)) t = false ∧
      gmeasure cfg (gpoll cfg t (gexec cfg sched (ginit cfg))) <
        gmeasure cfg (gexec cfg sched (ginit cfg)) := by
  rw [sim_allFin, g_simulation] at hnf
  obtain ⟨t, ht, hw, hf, hm⟩ := no_lost_wakeup (compile cfg) sched hnf
  refine ⟨t, by simpa using ht, ?_, ?_, ?_⟩
  · rw [← g_simulation] at hw; simpa using hw
  · rw [sim_isFin cfg, g_simulation]; exact hf
  · unfold gmeasure
    rw [(sim_gpoll cfg t (g_doneOk cfg sched)).1, g_simulation]
    exact hm

theorem g_runnable_nonempty (cfg : ICfg) (sched : List Nat)
    (hnf : gallFin cfg (gexec cfg sched (ginit cfg)) = false) :
    grunnable cfg (gexec cfg sched (ginit cfg)) ≠ [] := by
  rw [sim_allFin, g_simulation] at hnf
  rw [sim_runnable, g_simulation]
  exact runnable_nonempty (compile cfg) sched hnf

/-- **C12.7e** the round-robin completion phase of the driver ends with every task finished, after
    any schedule; and so does any fair continuation -/
theorem g_round_robin_finishes (cfg : ICfg) (sched : List Nat) :
    gallFin cfg (gfinish cfg (gfuel cfg) (gexec cfg sched (ginit cfg))) = true := by
  rw [sim_allFin, (sim_gfinish cfg _ (g_doneOk cfg sched)).1, g_simulation]
  exact round_robin_finishes (compile cfg) sched

/-- the same for the completion phase of a waker-respecting executor -/
theorem g_waker_rounds_finish (cfg : ICfg) (sched : List Nat) :
    gallFin cfg (gfinishW cfg (gfuel cfg) (gexec cfg sched (ginit cfg))) = true := by
  rw [sim_allFin, sim_gfinishW cfg _ (g_doneOk cfg sched), g_simulation]
  exact waker_rounds_finish (compile cfg) sched

theorem gexec_append (cfg : ICfg) (a b : List Nat) (s : GState) :
    gexec cfg (a ++ b) s = gexec cfg b (gexec cfg a s) := by
  induction a generalizing s with
  | nil => rfl
  | cons t ts ih => simp only [List.cons_append, gexec]; exact ih _

theorem g_fair_schedule_finishes (cfg : ICfg) (sched : List Nat) (rounds : List (List Nat))
    (hfair : ∀ r ∈ rounds, ∀ t, t < cfg.ntasks → t ∈ r)
    (hlen : gmeasure cfg (gexec cfg sched (ginit cfg)) ≤ rounds.length) :
    gallFin cfg (gexec cfg (sched ++ rounds.flatten) (ginit cfg)) = true := by
  rw [sim_allFin, g_simulation]
  apply fair_schedule_finishes (compile cfg) sched rounds
  · intro r hr t ht; exact hfair r hr t (by simpa using ht)
  · unfold gmeasure at hlen; rw [g_simulation] at hlen; exact hlen

/-- **C12.7f** once every task has finished, every slot some compiled program mentions has been
    asked for EXACTLY once -/
theorem g_exactly_once_final (cfg : ICfg) (sched : List Nat)
    (hfin : gallFin cfg (gexec cfg sched (ginit cfg)) = true) (k : Nat)
    (hk : k ∈ allKeys (compile cfg)) :
    callCount k (gexec cfg sched (ginit cfg)).log = 1 := by
  rw [sim_allFin, g_simulation] at hfin
  rw [sim_log]
  obtain ⟨r, hr⟩ := all_done_of_allFin (invA_reach (compile cfg) sched) hfin hk
  have := (countInv_reach (compile cfg) sched k).1
  rw [this, hr]; rfl

/-- non-vacuity: two tasks walk key 0 through two providers (slots 0 and 1); provider 0 has no CFI
    (its item skips nothing), provider 1 has (`skipOk` irrelevant, it is the last); a third item
    (slot 2) follows. Task 1 is blocked on slot 0 while task 0 is inside the supplier; with
    provider 0 GOOD (second configuration) slot 1 is never asked for. -/
example :
    let cfg : ICfg := ⟨[[⟨0, 0⟩, ⟨1, 0⟩, ⟨2, 0⟩], [⟨0, 0⟩, ⟨1, 0⟩]], fun _ => ⟨1, .ok⟩⟩
    let s := gexec cfg [0, 1, 0, 1, 0, 1, 0, 1, 0, 0] (ginit cfg)
    gallFin cfg s = true ∧ callCount 0 s.log = 1 ∧ callCount 1 s.log = 1 ∧
      seenBy 1 s.log = [(0, .ok), (1, .ok)] := by decide +kernel

example :
    let cfg : ICfg := ⟨[[⟨0, 1⟩, ⟨1, 0⟩, ⟨2, 0⟩], [⟨0, 1⟩, ⟨1, 0⟩]], fun _ => ⟨1, .ok⟩⟩
    let s := gexec cfg [0, 1, 0, 1, 0, 1, 0, 1, 0, 0] (ginit cfg)
    gallFin cfg s = true ∧ callCount 0 s.log = 1 ∧ callCount 1 s.log = 0 ∧
      seenBy 1 s.log = [(0, .ok)] ∧ compS cfg 0 (cfg.prog 0) = [0, 2] := by decide +kernel

/-- the decision is dynamic: with a supplier that does NOT find the symbols the very same program
    goes on to slot 1 -/
example :
    let cfg : ICfg := ⟨[[⟨0, 1⟩, ⟨1, 0⟩, ⟨2, 0⟩], [⟨0, 1⟩, ⟨1, 0⟩]], fun k => ⟨1, if k = 0 then .notFound else .ok⟩⟩
    let s := gexec cfg [0, 1, 0, 1, 0, 1, 0, 1, 0, 0] (ginit cfg)
    gallFin cfg s = true ∧ seenBy 1 s.log = [(0, .notFound), (1, .ok)] ∧
      compS cfg 0 (cfg.prog 0) = [0, 1, 2] := by decide +kernel

/-! ## 8. The requests of the symbolizer API (`MdModel.OnceReq`)

  Module identity → `module_key` → cache slot; `fill_symbol` / `walk_frame` go through the `symbols`
  slot of the key, `get_file_path` straight to the supplier (a slot of its own file cache if it has
  one, a plain call otherwise); several providers behind a `MultiSymbolProvider`. -/

/-! ### 8.1 "per distinct module": what `module_key` distinguishes -/

/-- **C12.8a** `same_key_iff`: two modules have the same key iff their code file STRINGS, code ids,
    debug files and debug ids all agree — all four components take part. -/
theorem same_key_iff (m₁ m₂ : ModId) :
    moduleKey m₁ = moduleKey m₂ ↔
      m₁.codeFile.str = m₂.codeFile.str ∧ m₁.codeId = m₂.codeId ∧
      m₁.debugFile = m₂.debugFile ∧ m₁.debugId = m₂.debugId := by
  simp [moduleKey, Prod.ext_iff]

/-- the code file takes part as the string `Module::code_file()` returns: "no code file" and "empty
    code file" are the same, every other difference is a difference -/
theorem code_file_same_iff (a b : CodeFile) :
    a.str = b.str ↔ a = b ∨ ((a = .absent ∨ a = .empty) ∧ (b = .absent ∨ b = .empty)) := by
  cases a <;> cases b <;> simp [CodeFile.str]

/-- a difference in any ONE component makes two different modules (non-vacuity of `same_key_iff`
    in each component, incl. `None` against `Some`) -/
example :
    let m : ModId := ⟨.path 0 0, some 0, some 0, some 0⟩
    moduleKey m ≠ moduleKey { m with codeFile := .path 1 0 } ∧
    moduleKey m ≠ moduleKey { m with codeFile := .empty } ∧
    moduleKey m ≠ moduleKey { m with codeId := some 1 } ∧
    moduleKey m ≠ moduleKey { m with codeId := none } ∧
    moduleKey m ≠ moduleKey { m with debugFile := some 1 } ∧
    moduleKey m ≠ moduleKey { m with debugFile := none } ∧
    moduleKey m ≠ moduleKey { m with debugId := some 1 } ∧
    moduleKey m ≠ moduleKey { m with debugId := none } ∧
    moduleKey { m with codeFile := .absent } = moduleKey { m with codeFile := .empty } := by
  intro m; simp [m, moduleKey, CodeFile.str]

/-- **C12.8b** two requests use the same `symbols` slots iff their modules have the same key: the
    table name of a key (`RCfg.key`) is equal exactly for equal keys, and slots of different
    (provider, key) never coincide, nor do slots of different kinds -/
theorem same_module_same_slot (rc : RCfg) {i j : Nat} (hi : i < rc.M) (hj : j < rc.M) (p : Nat) :
    symSlot rc p (rc.key i) = symSlot rc p (rc.key j) ↔
      moduleKey rc.mods[i] = moduleKey rc.mods[j] := by
  rw [← keyIx_eq_iff hi hj]
  constructor
  · intro h; exact (symSlot_inj (keyIx_lt hi) (keyIx_lt hj) h).2
  · intro h; unfold RCfg.key; rw [h]

theorem slots_distinct (rc : RCfg) :
    (∀ p k p' k', k < rc.M → k' < rc.M → symSlot rc p k = symSlot rc p' k' → p = p' ∧ k = k') ∧
    (∀ p k fk p' k' fk', k < rc.M → k' < rc.M → fk < 3 → fk' < 3 →
      fileSlot rc p k fk = fileSlot rc p' k' fk' → p = p' ∧ k = k' ∧ fk = fk') ∧
    (∀ t j p t' j' p', t < rc.T → t' < rc.T → p < rc.P → p' < rc.P →
      privSlot rc t j p = privSlot rc t' j' p' → t = t' ∧ j = j' ∧ p = p') ∧
    (∀ p k p' k' fk, symSlot rc p k ≠ fileSlot rc p' k' fk) ∧
    (∀ p k t j p', symSlot rc p k ≠ privSlot rc t j p') ∧
    (∀ p k fk t j p', fileSlot rc p k fk ≠ privSlot rc t j p') :=
  ⟨fun _ _ _ _ hk hk' h => symSlot_inj hk hk' h,
   fun _ _ _ _ _ _ hk hk' hf hf' h => fileSlot_inj hk hk' hf hf' h,
   fun _ _ _ _ _ _ ht ht' hp hp' h => privSlot_inj ht ht' hp hp' h,
   fun p k p' k' fk => sym_ne_file rc p k p' k' fk,
   fun p k t j p' => sym_ne_priv rc p k t j p',
   fun p k fk t j p' => file_ne_priv rc p k fk t j p'⟩

/-! ### 8.2 "the supplier is asked at most once per distinct module" — per request kind -/

/-- **C12.8c** `locate_symbols`: at most once per (provider, module key), for every mix of
    `fill_symbol` / `walk_frame` / `get_file_path` requests and every schedule -/
theorem locate_symbols_at_most_once (rc : RCfg) (sched : List Nat) (p k : Nat) :
    callCount (symSlot rc p k) (rexec rc sched).log ≤ 1 :=
  g_at_most_once (toICfg rc) sched _

/-- **C12.8d** `locate_file` of a supplier WITH its own cache (`HttpSymbolSupplier`): at most one
    request sequence per (module key, file kind) -/
theorem locate_file_cached_at_most_once (rc : RCfg) (sched : List Nat) (p k fk : Nat) :
    callCount (fileSlot rc p k fk) (rexec rc sched).log ≤ 1 :=
  g_at_most_once (toICfg rc) sched _

/-- `HttpSymbolSupplier`'s `FileKey = (ModuleKey, FileKind)`: two lookups share a slot iff they are
    for the same module key AND the same kind -/
theorem file_key_iff (rc : RCfg) {i j fk fk' : Nat} (hi : i < rc.M) (hj : j < rc.M) (hf : fk < 3)
    (hf' : fk' < 3) (p : Nat) :
    fileSlot rc p (rc.key i) fk = fileSlot rc p (rc.key j) fk' ↔
      moduleKey rc.mods[i] = moduleKey rc.mods[j] ∧ fk = fk' := by
  rw [← keyIx_eq_iff hi hj]
  constructor
  · intro h
    have := fileSlot_inj (keyIx_lt hi) (keyIx_lt hj) hf hf' h
    exact ⟨this.2.1, this.2.2⟩
  · rintro ⟨h1, h2⟩; unfold RCfg.key; rw [h1, h2]

/-- **C12.8e** `locate_file` of a supplier WITHOUT a cache: `Symbolizer::get_file_path` does not
    cache — every `get_file_path` request performs its own supplier call, exactly one per
    provider, shared with nobody (the slot is private: `slots_distinct`) -/
theorem locate_file_uncached_once_per_request {rc : RCfg} (hwf : rc.WF) (sched : List Nat)
    (hfin : gallFin (toICfg rc) (rexec rc sched) = true)
    {t j p fk m : Nat} (ht : t < rc.T) (hp : p < rc.P)
    (hq : (rc.prog t)[j]? = some ⟨.file fk, m⟩) (hc : (rc.prov p).cached = false) :
    callCount (privSlot rc t j p) (rexec rc sched).log = 1 := by
  apply g_exactly_once_final (toICfg rc) sched hfin
  apply mem_allKeys_of_prog (t := t)
  rw [compile_prog, toICfg_prog rc ht, compS_prog hwf ht]
  rw [List.mem_flatMap]
  refine ⟨(⟨.file fk, m⟩, j), List.mem_zipIdx_iff_getElem?.mpr hq, ?_⟩
  rw [List.mem_map]
  refine ⟨p, by simp [specConsulted, hp], ?_⟩
  simp [reqItem, hc]

/-- **C12.8e'** the private slot of a `get_file_path` request is never contended: no task is ever
    suspended on its lock, in any schedule — the modelled lookup is a plain call of
    `supplier.locate_file`, exactly what `Symbolizer::get_file_path` does -/
theorem uncached_call_is_plain (rc : RCfg) (sched : List Nat) {t j p : Nat} (ht : t < rc.T)
    (hp : p < rc.P) (u : Nat) (i : Item) (hw : ((rexec rc sched).task u).ctl = .waiting i) :
    i.slot ≠ privSlot rc t j p := by
  intro he
  have h := private_slot_never_waited (rc := rc) sched (j := j) ht hp u
  rw [← rexec_abs] at h
  apply h
  simp only [absS_task, absT, hw, he]

/-- non-vacuity, and the contrast between the two: two tasks ask for the same file of the same
    module. A supplier without a cache is called twice (two private slots), one with a cache once. -/
example :
    let prov (c : Bool) : Prov := ⟨fun _ => ⟨0, .notFound⟩, fun _ => false, fun _ _ => ⟨1, .ok⟩, c⟩
    let rc (c : Bool) : RCfg := ⟨[⟨.path 0 0, some 0, some 0, some 0⟩], [prov c], [[⟨.file 1, 0⟩], [⟨.file 1, 0⟩]]⟩
    let s (c : Bool) := rexec (rc c) [0, 1, 0, 1, 0, 1]
    gallFin (toICfg (rc false)) (s false) = true ∧ gallFin (toICfg (rc true)) (s true) = true ∧
    callCount (privSlot (rc false) 0 0 0) (s false).log = 1 ∧
    callCount (privSlot (rc false) 1 0 0) (s false).log = 1 ∧
    callCount (fileSlot (rc true) 0 0 1) (s true).log = 1 ∧
    (s false).log.length = 6 ∧ (s true).log.length = 4 := by decide +kernel

/-! ### 8.3 "every requester observes the same outcome, including a remembered failure" -/

/-- **C12.8f** whatever a request observes at provider `p` for a module is the outcome that
    provider's supplier gave for the module's key (symbols), resp. for (key, kind) (cached files) -/
theorem requester_observes_supplier_outcome (rc : RCfg) (sched : List Nat) (t p k : Nat) (r : Res)
    (hk : k < rc.M) (hm : Event.seen t (symSlot rc p k) r ∈ (rexec rc sched).log) :
    r = ((rc.prov p).sym k).res := by
  have := g_remembered_outcome (toICfg rc) sched t _ r hm
  rw [this, toICfg_outcome, slotSup_sym rc hk]

theorem requester_observes_file_outcome (rc : RCfg) (sched : List Nat) (t p k fk : Nat) (r : Res)
    (hk : k < rc.M) (hf : fk < 3) (hm : Event.seen t (fileSlot rc p k fk) r ∈ (rexec rc sched).log) :
    r = ((rc.prov p).file k fk).res := by
  have := g_remembered_outcome (toICfg rc) sched t _ r hm
  rw [this, toICfg_outcome, slotSup_file rc hk hf]

/-! ### 8.4 several providers: consulted in order, first success wins, whatever the schedule -/

theorem rexec_seen_final {rc : RCfg} (sched : List Nat) {t : Nat} (ht : t < rc.T)
    (hfin : gisFin (rexec rc sched) t = true) :
    seenBy t (rexec rc sched).log =
      (compS (toICfg rc) 0 (expandFrom rc t 0 (rc.prog t))).map (expected (compile (toICfg rc))) := by
  have := g_results_final (toICfg rc) sched t hfin
  rw [toICfg_prog rc ht] at this
  exact this

/-- **C12.8g** the answers a finished task got for its requests are those the providers' supplier
    tables determine (`specOut`): `walk_frame` — the first provider, in the order they were added,
    whose supplier finds symbols with usable CFI; `get_file_path` — the first whose supplier finds
    the file; `fill_symbol` — `Ok` iff some provider finds symbols (the frame keeps the LAST such
    provider's data, as the code's loop leaves it). Independent of the interleaving. -/
theorem outcomes_final {rc : RCfg} (hwf : rc.WF) (sched : List Nat) {t : Nat} (ht : t < rc.T)
    (hfin : gisFin (rexec rc sched) t = true) :
    outcomes rc t (rexec rc sched).log = (rc.prog t).map (specOut rc) := by
  unfold outcomes
  rw [rexec_seen_final sched ht hfin]
  exact outcomesFrom_static hwf ht 0 (rc.prog t) fun _ hx => List.mem_zipIdx_iff_getElem?.mp hx

theorem outcomes_schedule_free {rc : RCfg} (hwf : rc.WF) (sched₁ sched₂ : List Nat) {t : Nat}
    (ht : t < rc.T) (h₁ : gisFin (rexec rc sched₁) t = true) (h₂ : gisFin (rexec rc sched₂) t = true) :
    outcomes rc t (rexec rc sched₁).log = outcomes rc t (rexec rc sched₂).log := by
  rw [outcomes_final hwf sched₁ ht h₁, outcomes_final hwf sched₂ ht h₂]

/-- **C12.8h** the cache slots a finished task has looked up, in order: request by request, the
    providers `specConsulted` names, in provider order — every provider for `fill_symbol` and
    `get_file_path`; for `walk_frame` the providers up to AND INCLUDING the first that succeeds,
    no later one. -/
theorem consulted_in_provider_order {rc : RCfg} (hwf : rc.WF) (sched : List Nat) {t : Nat}
    (ht : t < rc.T) (hfin : gisFin (rexec rc sched) t = true) :
    (seenBy t (rexec rc sched).log).map Prod.fst =
      ((rc.prog t).zipIdx 0).flatMap fun x =>
        (specConsulted rc x.1).map fun p => (reqItem rc t x.2 x.1 p).slot := by
  rw [rexec_seen_final sched ht hfin, map_fst_expected]
  exact compS_prog hwf ht

theorem walk_consults_up_to_first_success (rc : RCfg) (m : Nat) :
    specConsulted rc ⟨.walk, m⟩ =
      match (List.range rc.P).find? fun p =>
          ((rc.prov p).sym (rc.key m)).res == .ok && (rc.prov p).cfi (rc.key m) with
      | some p => List.range (p + 1)
      | none => List.range rc.P := rfl

/-- non-vacuity: two providers; provider 0 finds symbols WITHOUT CFI for module 0 and nothing for
    module 1, provider 1 finds symbols with CFI for both. Whatever the interleaving: the walk of
    module 0 is answered by provider 1, fill_symbol is `Ok` with provider 1's data, the file
    comes from provider 0; each supplier is asked once per module although two tasks ask. -/
example :
    let p0 : Prov := ⟨fun k => ⟨1, if k = 0 then .ok else .notFound⟩, fun _ => false, fun _ _ => ⟨0, .ok⟩, false⟩
    let p1 : Prov := ⟨fun _ => ⟨2, .ok⟩, fun _ => true, fun _ _ => ⟨1, .ok⟩, false⟩
    let rc : RCfg := ⟨[⟨.path 0 0, some 0, some 0, some 0⟩, ⟨.path 0 1, some 1, some 1, some 1⟩], [p0, p1],
      [[⟨.walk, 0⟩, ⟨.fill, 1⟩], [⟨.fill, 0⟩, ⟨.file 1, 1⟩, ⟨.walk, 1⟩]]⟩
    let s₁ := rexec rc [0, 1, 0, 1, 0, 1, 0, 1, 0, 1, 0, 1, 0, 1, 0, 1, 0, 1]
    let s₂ := rexec rc [1, 1, 1, 1, 1, 1, 1, 1, 1, 1, 1, 1, 0, 0, 0, 0, 0, 0, 0, 0]
    gallFin (toICfg rc) s₁ = true ∧ gallFin (toICfg rc) s₂ = true ∧
    outcomes rc 0 s₁.log = [.walkOk 1, .fillOk 1] ∧ outcomes rc 0 s₂.log = [.walkOk 1, .fillOk 1] ∧
    outcomes rc 1 s₁.log = [.fillOk 1, .fileOk 0, .walkOk 1] ∧
    callCount (symSlot rc 0 0) s₁.log = 1 ∧ callCount (symSlot rc 1 0) s₁.log = 1 ∧
    callCount (symSlot rc 0 1) s₂.log = 1 ∧ callCount (symSlot rc 1 1) s₂.log = 1 := by decide +kernel

/-- …and with CFI at provider 0 the walk stops there: provider 1's supplier is never asked -/
example :
    let p0 : Prov := ⟨fun _ => ⟨1, .ok⟩, fun _ => true, fun _ _ => ⟨0, .ok⟩, false⟩
    let p1 : Prov := ⟨fun _ => ⟨2, .ok⟩, fun _ => true, fun _ _ => ⟨1, .ok⟩, false⟩
    let rc : RCfg := ⟨[⟨.path 0 0, some 0, some 0, some 0⟩], [p0, p1], [[⟨.walk, 0⟩], [⟨.walk, 0⟩]]⟩
    let s := rexec rc [0, 1, 0, 1, 0, 1]
    gallFin (toICfg rc) s = true ∧ outcomes rc 0 s.log = [.walkOk 0] ∧ outcomes rc 1 s.log = [.walkOk 0] ∧
    callCount (symSlot rc 0 0) s.log = 1 ∧ callCount (symSlot rc 1 0) s.log = 0 := by decide +kernel

/-! ### 8.5 "the pending counters end with requested = processed = number of distinct modules asked for" -/

/-- the `symbols` slots of provider `p` that the (compiled) programs mention: one per distinct
    module key that some `fill_symbol` / `walk_frame` request brings to provider `p` -/
def symKeys (rc : RCfg) (p : Nat) : List Nat :=
  (allKeys (compile (toICfg rc))).filter (isSym rc p)

theorem reqCount_eq_callsOf (rc : RCfg) (p : Nat) (log : List Event) :
    reqCount rc p log = callsOf (isSym rc p) log := rfl
theorem procCount_eq_retsOf (rc : RCfg) (p : Nat) (log : List Event) :
    procCount rc p log = retsOf (isSym rc p) log := rfl

/-- **C12.8i** every provider's counters, at every moment: `processed ≤ requested ≤` number of
    distinct module keys brought to it. `get_file_path` requests never count. -/
theorem provider_counters (rc : RCfg) (sched : List Nat) (p : Nat) :
    procCount rc p (rexec rc sched).log ≤ reqCount rc p (rexec rc sched).log ∧
    reqCount rc p (rexec rc sched).log ≤ (symKeys rc p).length := by
  have hA := invA_reach (compile (toICfg rc)) sched
  have hC := countInv_reach (compile (toICfg rc)) sched
  rw [reqCount_eq_callsOf, procCount_eq_retsOf, rexec_log, callsOf_eq_filter hA hC,
    retsOf_eq_filter hA hC]
  constructor
  · apply filter_length_mono
    intro k hk
    simp only [Bool.and_eq_true] at hk ⊢
    exact ⟨hk.1, Slot.nonEmpty_of_isDone hk.2⟩
  · apply filter_length_mono
    intro k hk
    simp only [Bool.and_eq_true] at hk
    exact hk.1

/-- **C12.8j** once every task has finished: `requested = processed =` that number, per provider -/
theorem provider_counters_final (rc : RCfg) (sched : List Nat) (p : Nat)
    (hfin : gallFin (toICfg rc) (rexec rc sched) = true) :
    reqCount rc p (rexec rc sched).log = (symKeys rc p).length ∧
    procCount rc p (rexec rc sched).log = (symKeys rc p).length := by
  have hA := invA_reach (compile (toICfg rc)) sched
  have hC := countInv_reach (compile (toICfg rc)) sched
  rw [sim_allFin, rexec_abs] at hfin
  rw [reqCount_eq_callsOf, procCount_eq_retsOf, rexec_log, callsOf_eq_filter hA hC,
    retsOf_eq_filter hA hC]
  unfold symKeys
  constructor
  · congr 1
    apply List.filter_congr
    intro k hk
    obtain ⟨r, hr⟩ := all_done_of_allFin hA hfin hk
    simp [hr, Slot.nonEmpty]
  · congr 1
    apply List.filter_congr
    intro k hk
    obtain ⟨r, hr⟩ := all_done_of_allFin hA hfin hk
    simp [hr, Slot.isDone]

/-- the distinct module keys some `fill_symbol` / `walk_frame` request asks for -/
def askedKeys (rc : RCfg) : List Nat :=
  dedup ((rc.progs.flatten.filter fun q => match q.kind with
    | .file _ => false
    | _ => true).map fun q => rc.key q.mod)

theorem zero_mem_specConsulted (rc : RCfg) (q : Req) (hP : 0 < rc.P) : 0 ∈ specConsulted rc q := by
  unfold specConsulted
  split
  · split <;> simp [hP]
  · simp [hP]

/-- **C12.8k** the property's wording for the first provider — in particular for a plain
    `Symbolizer`: the number its counters end with is the number of DISTINCT MODULES (distinct
    `module_key`s) asked for through `fill_symbol` / `walk_frame` -/
theorem counters_are_distinct_modules {rc : RCfg} (hwf : rc.WF) (hP : 0 < rc.P) :
    (symKeys rc 0).length = (askedKeys rc).length := by
  have hnA : (symKeys rc 0).Nodup := List.Nodup.sublist List.filter_sublist (nodup_dedup _)
  have hkeys : ∀ k ∈ askedKeys rc, k < rc.M := by
    intro k hk
    simp only [askedKeys, mem_dedup, List.mem_map, List.mem_filter] at hk
    obtain ⟨q, ⟨hq, _⟩, rfl⟩ := hk
    obtain ⟨t, _, hqt⟩ := mem_flatten_prog hq
    exact key_lt hwf hqt
  have hnB : ((askedKeys rc).map (symSlot rc 0)).Nodup :=
    List.pairwise_map.mpr ((nodup_dedup _).imp_of_mem fun ha hb hne h =>
      hne (symSlot_inj (hkeys _ ha) (hkeys _ hb) h).2)
  have hmem : ∀ s, s ∈ symKeys rc 0 ↔ s ∈ (askedKeys rc).map (symSlot rc 0) := by
    intro s
    have hfile : ∀ q : Req, (match q.kind with | .file _ => false | _ => true) = true ↔
        ∀ fk, q.kind ≠ .file fk := fun q => by cases q.kind <;> simp
    simp only [symKeys, List.mem_filter, sym_slot_iff hwf, askedKeys, List.mem_map, mem_dedup, hfile]
    constructor
    · rintro ⟨t, q, hq, hnf, _, rfl⟩
      exact ⟨_, ⟨q, ⟨List.mem_flatten.mpr ⟨_, rc_prog_mem hq, hq⟩, hnf⟩, rfl⟩, rfl⟩
    · rintro ⟨_, ⟨q, ⟨hq, hnf⟩, rfl⟩, rfl⟩
      obtain ⟨t, _, hqt⟩ := mem_flatten_prog hq
      exact ⟨t, q, hqt, hnf, zero_mem_specConsulted rc q hP, rfl⟩
  rw [((List.perm_ext_iff_of_nodup hnA hnB).mpr hmem).length_eq, List.length_map]

/-- non-vacuity: a plain symbolizer; three tasks, four modules of which two have the same key
    (no code file / empty code file) and one is only asked for through `get_file_path`:
    requested = processed = 2 distinct modules. -/
example :
    let prov : Prov := ⟨fun _ => ⟨1, .ok⟩, fun _ => true, fun _ _ => ⟨1, .notFound⟩, false⟩
    let rc : RCfg := ⟨[⟨.absent, some 0, some 0, some 0⟩, ⟨.empty, some 0, some 0, some 0⟩,
        ⟨.path 0 1, some 1, some 1, some 1⟩, ⟨.path 0 2, some 2, some 2, some 2⟩], [prov],
      [[⟨.fill, 0⟩, ⟨.walk, 2⟩], [⟨.walk, 1⟩, ⟨.file 1, 3⟩], [⟨.fill, 2⟩]]⟩
    let s := rexec rc [0, 1, 2, 0, 1, 2, 0, 1, 2, 0, 1, 2, 0, 1, 2, 0, 1]
    gallFin (toICfg rc) s = true ∧ reqCount rc 0 s.log = 2 ∧ procCount rc 0 s.log = 2 ∧
      (askedKeys rc).length = 2 ∧ (symKeys rc 0).length = 2 := by decide +kernel

/-! ### 8.6 "No request is lost or deadlocks" at the level of requests -/

/-- **C12.8l** after any schedule the completion phase ends with every task finished: every
    request of every kind, through any number of providers, is answered -/
theorem requests_finish (rc : RCfg) (sched : List Nat) :
    gallFin (toICfg rc) (gfinish (toICfg rc) (gfuel (toICfg rc)) (rexec rc sched)) = true :=
  g_round_robin_finishes (toICfg rc) sched

theorem requests_finish_waker_respecting (rc : RCfg) (sched : List Nat) :
    gallFin (toICfg rc) (gfinishW (toICfg rc) (gfuel (toICfg rc)) (rexec rc sched)) = true :=
  g_waker_rounds_finish (toICfg rc) sched

theorem requests_no_lost_wakeup (rc : RCfg) (sched : List Nat)
    (hnf : gallFin (toICfg rc) (rexec rc sched) = false) :
    grunnable (toICfg rc) (rexec rc sched) ≠ [] :=
  g_runnable_nonempty (toICfg rc) sched hnf

/-! ### 8.7 `stats()` after the run

  Keyed by `leafname(code_file)` (NOT by the module key); one insert-overwrite per returned
  `locate_symbols`, inside the `get_symbols` closure. -/

/-- **C12.8m** `stats_match_outcomes`: if distinct module keys have distinct code-file leaf names,
    then at every moment (a) the entry of a module whose `locate_symbols` has returned is the one
    outcome that supplier gave — which is what every requester observed (C12.8f) — and (b) there
    is no other entry. (Without the hypothesis this fails: finding F16, owned by C13.) -/
theorem stats_match_outcomes {rc : RCfg} (hwf : rc.WF) (hdist : rc.LeafDistinct) (sched : List Nat)
    (p : Nat) :
    (∀ t q, q ∈ rc.prog t → Event.ret (symSlot rc p (rc.key q.mod)) ∈ (rexec rc sched).log →
      statGet (statWrites rc p (rexec rc sched).log) (leafOfKey rc (rc.key q.mod)) =
        some ((rc.prov p).sym (rc.key q.mod)).res) ∧
    (∀ l r, statGet (statWrites rc p (rexec rc sched).log) l = some r →
      ∃ t q, q ∈ rc.prog t ∧ Event.ret (symSlot rc p (rc.key q.mod)) ∈ (rexec rc sched).log ∧
        l = leafOfKey rc (rc.key q.mod) ∧ r = ((rc.prov p).sym (rc.key q.mod)).res) := by
  constructor
  · intro t q hq hret
    refine statGet_of_unique ⟨_, (mem_statWrites_req hwf sched p).mpr ⟨t, q, hq, hret, rfl, rfl⟩⟩ ?_
    intro r' hm
    obtain ⟨t', q', hq', _, hl, hr⟩ := (mem_statWrites_req hwf sched p).mp hm
    rw [hr, hdist q.mod q'.mod (hwf _ (rc_prog_mem hq) q hq).1 (hwf _ (rc_prog_mem hq') q' hq').1 hl]
  · intro l r h
    exact (mem_statWrites_req hwf sched p).mp (statGet_some_mem h)

/-- non-vacuity (two modules, distinct leaves, one `ParseError`, one `Ok`; both hypotheses hold) and
    the reason for the hypothesis: with the SAME leaf name and different outcomes the entry
    depends on which call returned last. -/
example :
    let prov : Prov := ⟨fun k => ⟨1, if k = 0 then .parseError else .ok⟩, fun _ => true, fun _ _ => ⟨0, .notFound⟩, false⟩
    let rc : RCfg := ⟨[⟨.path 0 0, some 0, some 0, some 0⟩, ⟨.path 0 1, some 1, some 1, some 1⟩], [prov],
      [[⟨.fill, 0⟩], [⟨.walk, 1⟩, ⟨.fill, 0⟩]]⟩
    let s := rexec rc [0, 1, 0, 1, 1]
    gallFin (toICfg rc) s = true ∧
    statGet (statWrites rc 0 s.log) (some 0) = some .parseError ∧
    statGet (statWrites rc 0 s.log) (some 1) = some .ok ∧
    statGet (statWrites rc 0 s.log) none = none := by decide +kernel

example :
    let prov : Prov := ⟨fun k => ⟨1, if k = 0 then .parseError else .ok⟩, fun _ => true, fun _ _ => ⟨0, .notFound⟩, false⟩
    -- same leaf `m0.so` in two directories: two different modules, one statistics key
    let rc : RCfg := ⟨[⟨.path 0 0, some 0, some 0, some 0⟩, ⟨.path 1 0, some 1, some 1, some 1⟩], [prov],
      [[⟨.fill, 0⟩], [⟨.fill, 1⟩]]⟩
    statGet (statWrites rc 0 (rexec rc [0, 1, 0, 1]).log) (some 0) = some .ok ∧
    statGet (statWrites rc 0 (rexec rc [1, 0, 1, 0]).log) (some 0) = some .parseError := by decide +kernel

end MdModel.Once
