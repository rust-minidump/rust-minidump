/-
  C04 — Stack walking recovers the true call chain of well-formed stacks: x86 stacks described by
  STACK WIN records.

  Property text: "For every synthetic thread whose stack is laid out by the platform calling
  convention (frame-pointer chains), described by STACK CFI or STACK WIN records, or findable only
  by scanning for return addresses, on x86 … the walker returns exactly the generated call chain.
  Each generated call yields one frame with the right return address, stack pointer, recovered
  callee-saved registers, technique label, module and function name, and the walk stops at the
  generated end of stack."

  What is a theorem here (the hypothesis is `PreW`, MdModel/Walk/LayoutMixed.lean — exactly what the
  `chain` engine has the compiled model evaluate on every generated `win` / `mixed` case; the walk
  is `walk (mkEnvW .x86 …)`, the model the engine compares with `walk_stack` frame by frame):

  * `walk_layout_win` — x86 chains of ANY depth in which every frame is found through a STACK WIN
    record: frame data with the standard prologue program (0–3 saved registers, with or without
    MSVC's `$L`/`$P` temporaries), `.raSearch` frame data (`$ebp` restored from the frame or
    assigned to itself; the `@` variant whose search start is `$ebp + 4`), FPO records with and
    without `allocates_base_pointer`, grand-callee parameter sizes, the leftover-return-address
    skip on the context frame only. The walker returns the context frame followed by exactly one
    frame per generated call, labelled `cfi` (as the code labels STACK WIN frames), with the
    generated return address, `esp`, `ebp` and claimed saved registers, lookup address `ret − 1`,
    and stops at the generated end.
  * `walk_layout_mixed_x86_partial` — the x86 part of `walk_layout_mixed`: per-frame alternation of
    STACK WIN frames, frame-pointer frames and scanned frames (incl. the x86 scanner's `%ebp`
    recovery), any order, any depth. PARTIAL with respect to `walk_layout_mixed`: x86 only, and
    frames found through canonical STACK CFI records are excluded (`techOK`). (The full statement,
    with STACK CFI frames and for every context kind, is `walk_layout_mixed` / `walk_layout_mixed_x86`
    in `MdProofs/C04Mixed.lean`.)
  * `FrameIs.spec` — what "one frame per generated call with …" means, read off a frame.

  Evaluation of the programs is C07's (`MdModel.Win`, theorems of `MdProofs/C07.lean` and
  `MdProofs/Lemmas/Win.lean` reused:
  `consts_table`, `ra_search_*`, `winFrameSize_some`, `walkFramedata_ok`, `mem_outputs`,
  `fpo_formulae`, `fpo_leftover_skip`, `fpoEbp_*`, `fpoPre_spec`, `runPlan_ok`, `runPlan_caller`).
-/
import MdProofs.Lemmas.WalkMixedX86
namespace MdModel.Walk
open MdModel MdModel.Win

/-- **what one produced frame is** — "Each generated call yields one frame with the right return
    address, stack pointer, recovered callee-saved registers, technique label, module and function
    name": the symbolised frame has `ip = ret`, `sp`, the technique label, lookup address `ret − 1`,
    `eip`/`esp` valid, `ebp` valid exactly when the chain claims a frame pointer and then with the
    generated value, every claimed callee-saved register valid with its generated value, and module
    / function as symbolication of `ret − 1` gives them. -/
theorem FrameIs.spec (env : Env) {t : Trust} {e : Exp} {f : Frame} (h : FrameIs t e f) :
    (symbolise env f).ctx.ip = e.ret ∧ (symbolise env f).ctx.sp = e.sp ∧ (symbolise env f).trust = t ∧
    (symbolise env f).instruction = e.ret - 1 ∧
    (symbolise env f).ctx.get .x86 "eip" = some e.ret ∧ (symbolise env f).ctx.get .x86 "esp" = some e.sp ∧
    (symbolise env f).ctx.get .x86 "ebp" = e.fp ∧
    (∀ p ∈ e.regs, (symbolise env f).ctx.get .x86 p.1 = some p.2) ∧
    (symbolise env f).module = (env.symb (e.ret - 1)).1 ∧
    (symbolise env f).func = (if (env.symb (e.ret - 1)).1.isSome then (env.symb (e.ret - 1)).2 else none) := by
  refine ⟨h.ip, h.sp, h.trust, h.instr, ?_, ?_, ?_, ?_, ?_, ?_⟩
  · rw [symbolise_ctx, get_x86 f.ctx (by decide), h.vip, raw_x86_eip, h.ip]; rfl
  · rw [symbolise_ctx, get_x86 f.ctx (by decide), h.vsp, raw_x86_esp, h.sp]; rfl
  · rw [symbolise_ctx, get_x86 f.ctx (by decide), h.fp]
  · intro p hp
    obtain ⟨h1, h2, h3⟩ := h.regs p hp
    rw [symbolise_ctx, get_x86 f.ctx h1, h2, h3]; rfl
  · simp only [symbolise, h.instr]
  · simp only [symbolise, h.instr]

/-- **C04, x86, technique changing from frame to frame (partial: STACK WIN / frame pointer / scan).**
    For an x86 context and a chain of `win`, `fp` and `scan` frames on
    which `PreW` holds, the walker returns the context frame followed by exactly one frame per
    generated call (`All2`: same length, related position by position), each the symbolisation of
    a frame that `FrameIs` the generated call with the label of its technique — and nothing after
    the generated end of stack. -/
theorem walk_layout_mixed_x86_partial (os : Os) (w : World) (wins : List (List Win.Rec)) (mem : Mem)
    (ctx : Ctx) (chain : List Exp)
    (htech : chain.all techOK = true)
    (hpre : PreW w wins (mkEnvW .x86 os w wins mem) .x86 os mem ctx chain = true) :
    ∃ frames, walk (mkEnvW .x86 os w wins mem) (some mem) ctx =
        symbolise (mkEnvW .x86 os w wins mem) (Frame.ofCtx ctx .context) :: frames ∧
      All2 (fun fr e => ∃ f', fr = symbolise (mkEnvW .x86 os w wins mem) f' ∧ FrameIs (x86Trust e) e f')
        frames chain := by
  obtain ⟨frames, hw, hall⟩ := walk_x86_chain4 os w wins mem ctx chain hpre
  exact ⟨frames, hw, hall.imp fun _ e he ⟨f', h1, h2⟩ =>
    ⟨f', h1, x86Trust_eq_techTrust (List.all_eq_true.mp htech e he) ▸ h2⟩⟩

/-- **C04, x86 STACK WIN chains (any depth): `walk_layout_win`.** "…described by … STACK WIN records
    … on x86 … the walker returns exactly the generated call chain": when every generated call is
    found through a STACK WIN record (`e.tech = "win"`: frame data with the standard prologue
    program or a `.raSearch` program, or FPO — the shapes `PreW` accepts), the walker returns the
    context frame and then exactly one frame per call, labelled `cfi`, with the generated return
    address, `esp`, `ebp` and claimed saved registers, lookup address `ret − 1` (`FrameIs`,
    `FrameIs.spec`), and stops at the generated end. -/
theorem walk_layout_win (os : Os) (w : World) (wins : List (List Win.Rec)) (mem : Mem)
    (ctx : Ctx) (chain : List Exp)
    (hwin : ∀ e ∈ chain, e.tech = "win")
    (hpre : PreW w wins (mkEnvW .x86 os w wins mem) .x86 os mem ctx chain = true) :
    ∃ frames, walk (mkEnvW .x86 os w wins mem) (some mem) ctx =
        symbolise (mkEnvW .x86 os w wins mem) (Frame.ofCtx ctx .context) :: frames ∧
      All2 (fun fr e => ∃ f', fr = symbolise (mkEnvW .x86 os w wins mem) f' ∧ FrameIs .cfi e f')
        frames chain := by
  have htech : chain.all techOK = true :=
    List.all_eq_true.mpr fun e he => by simp [techOK, hwin e he]
  obtain ⟨frames, hw, hall⟩ := walk_layout_mixed_x86_partial os w wins mem ctx chain htech hpre
  exact ⟨frames, hw, hall.imp fun _ e he ⟨f', h1, h2⟩ =>
    ⟨f', h1, (show x86Trust e = .cfi by simp [x86Trust, hwin e he]) ▸ h2⟩⟩

/-- frame count: no extra and no missing frame -/
theorem walk_layout_win_length (os : Os) (w : World) (wins : List (List Win.Rec)) (mem : Mem)
    (ctx : Ctx) (chain : List Exp)
    (htech : chain.all techOK = true)
    (hpre : PreW w wins (mkEnvW .x86 os w wins mem) .x86 os mem ctx chain = true) :
    (walk (mkEnvW .x86 os w wins mem) (some mem) ctx).length = chain.length + 1 := by
  obtain ⟨frames, hw, hall⟩ := walk_layout_mixed_x86_partial os w wins mem ctx chain htech hpre
  rw [hw, List.length_cons, hall.length_eq]

/-! ## non-vacuity: a two-call x86 chain through a frame-data record and an FPO record

  One module with one FUNC and two STACK WIN records. The context frame is in the frame-data
  function (standard prologue program saving `%ebx` 4 bytes below `$T0`): its caller's return
  address `0x400250`, `%ebp = 0x8030` and `%ebx = 0x99` come from the frame. That caller is covered
  by the FPO record (no base pointer; the frame below has parameter size 8, so the return address
  is `4 + 0 + 8` bytes above `esp`): `%ebp` and `%ebx` are passed through. The outermost frame has
  no record, its frame pointer points at `(0, 0)`, zero words follow. -/

def exWinWorld : World :=
  { mods := [{ base := 0x400000, size := 0x1000, name := "m0" }],
    syms := [some { funcs := [{ addr := 0x10, size := 0x300, psize := 0, name := "f" }] }] }

def exWinRecs : List (List Win.Rec) :=
  [[{ ty := '4', addr := 0x10, size := 0x100, par := 8, sav := 4, loc := 8, hp := '1',
      rest := "$T0 $ebp = $eip $T0 4 + ^ = $ebp $T0 ^ = $esp $T0 8 + = $ebx $T0 4 - ^ =".toList },
    { ty := '0', addr := 0x200, size := 0x100, par := 4, sav := 0, loc := 4, hp := '0', rest := ['0'] }]]

def exWinStack : Mem :=
  { base := 0x8000, bytes := #[
      0, 0, 0, 0,           0, 0, 0, 0,           0, 0, 0, 0,           0x99, 0, 0, 0,      -- 0x800c: saved ebx
      0x30, 0x80, 0, 0,     0x50, 0x02, 0x40, 0,  0, 0, 0, 0,           0, 0, 0, 0,         -- 0x8010: saved ebp, return address 0x400250
      0, 0, 0, 0,           0x00, 0x08, 0x40, 0,  0, 0, 0, 0,           0, 0, 0, 0,         -- 0x8024: return address 0x400800
      0, 0, 0, 0,           0, 0, 0, 0,           0, 0, 0, 0,           0, 0, 0, 0 ] }      -- 0x8030: (0, 0)

def exWinCtx : Ctx := { ip := 0x400050, sp := 0x8000, rest := [("ebp", 0x8010), ("ebx", 7)] }

def exWinChain : List Exp :=
  [ { ret := 0x400250, sp := 0x8018, fp := some 0x8030, tech := "win", regs := [("ebx", 0x99)] },
    { ret := 0x400800, sp := 0x8028, fp := some 0x8030, tech := "win", regs := [("ebx", 0x99)] } ]

abbrev exWinEnv : Env := mkEnvW .x86 .windows exWinWorld exWinRecs exWinStack

theorem exWin_pre : PreW exWinWorld exWinRecs exWinEnv .x86 .windows exWinStack exWinCtx exWinChain = true := by
  -- the program text as a character list (a literal is `String.ofList` of it): the kernel need not
  -- decode UTF-8
  unfold exWinEnv exWinRecs; rw [String.toList_ofList]
  decide +kernel

-- the hypotheses of `walk_layout_win` hold of the example, so its conclusion does …
example : ∃ frames, walk exWinEnv (some exWinStack) exWinCtx =
      symbolise exWinEnv (Frame.ofCtx exWinCtx .context) :: frames ∧
    All2 (fun fr e => ∃ f', fr = symbolise exWinEnv f' ∧ FrameIs .cfi e f') frames exWinChain :=
  walk_layout_win .windows exWinWorld exWinRecs exWinStack exWinCtx exWinChain (by decide) exWin_pre

example : (walk exWinEnv (some exWinStack) exWinCtx).length = 3 :=
  walk_layout_win_length .windows exWinWorld exWinRecs exWinStack exWinCtx exWinChain (by decide) exWin_pre

-- … which, read off frame by frame with `FrameIs.spec`, is the generated chain: technique labels,
-- return addresses, stack pointers, lookup addresses, `%ebp`, `%ebx`, function
example : (walk exWinEnv (some exWinStack) exWinCtx).map
      (fun f => (f.trust, f.ctx.ip, f.ctx.sp, f.instruction)) =
    [(.context, 0x400050, 0x8000, 0x400050), (.cfi, 0x400250, 0x8018, 0x40024f),
     (.cfi, 0x400800, 0x8028, 0x4007ff)] := by
  obtain ⟨frames, hw, hall⟩ :=
    walk_layout_win .windows exWinWorld exWinRecs exWinStack exWinCtx exWinChain (by decide) exWin_pre
  rw [hw, List.map_cons, hall.map_eq (g := fun e => (.cfi, e.ret, e.sp, e.ret - 1))]
  · rfl
  · rintro _ e _ ⟨f', rfl, h⟩
    obtain ⟨h1, h2, h3, h4, _⟩ := h.spec exWinEnv
    rw [h1, h2, h3, h4]

example : (walk exWinEnv (some exWinStack) exWinCtx).map
      (fun f => (f.ctx.get .x86 "ebp", f.ctx.get .x86 "ebx", f.func.map (·.name))) =
    [(some 0x8010, some 7, some "f"), (some 0x8030, some 0x99, some "f"), (some 0x8030, some 0x99, none)] := by
  obtain ⟨frames, hw, hall⟩ :=
    walk_layout_win .windows exWinWorld exWinRecs exWinStack exWinCtx exWinChain (by decide) exWin_pre
  rw [hw, List.map_cons, hall.map_eq (g := fun e => (e.fp, some 0x99,
    (if (exWinEnv.symb (e.ret - 1)).1.isSome then (exWinEnv.symb (e.ret - 1)).2 else none).map (·.name)))]
  · decide +kernel
  · rintro _ e he ⟨f', rfl, h⟩
    obtain ⟨_, _, _, _, _, _, h7, h8, _, h10⟩ := h.spec exWinEnv
    have hbx : ("ebx", 0x99) ∈ e.regs := by
      simp only [exWinChain, List.mem_cons, List.not_mem_nil, or_false] at he
      rcases he with rfl | rfl <;> exact List.mem_cons_self
    rw [h7, h8 _ hbx, h10]

/-! ## non-vacuity: STACK WIN, frame-pointer and scanned frames in one x86 stack

  The context frame is covered by a frame-data record (standard prologue program); its caller has
  no record and a live frame pointer (a frame-pointer record at `0x8020`, saved frame pointer 0);
  the frame above that has a zero frame pointer and is found by scanning (one junk word, then
  `0x400250`, a valid instruction by the FUNC record); zero words follow. -/

def exMixRecs : List (List Win.Rec) :=
  [[{ ty := '4', addr := 0x10, size := 0x100, par := 0, sav := 0, loc := 8, hp := '1',
      rest := "$T0 $ebp = $eip $T0 4 + ^ = $ebp $T0 ^ = $esp $T0 8 + =".toList }]]

def exMixStack : Mem :=
  { base := 0x8000, bytes := #[
      0, 0, 0, 0,           0, 0, 0, 0,           0, 0, 0, 0,           0, 0, 0, 0,
      0x20, 0x80, 0, 0,     0x00, 0x09, 0x40, 0,  0, 0, 0, 0,           0, 0, 0, 0,         -- 0x8010: saved ebp 0x8020, return address 0x400900
      0, 0, 0, 0,           0x00, 0x0a, 0x40, 0,  0, 0, 0, 0,           0x50, 0x02, 0x40, 0, -- 0x8020: (0, 0x400a00); 0x802c: 0x400250
      0, 0, 0, 0,           0, 0, 0, 0,           0, 0, 0, 0,           0, 0, 0, 0 ] }

def exMixCtx : Ctx := { ip := 0x400050, sp := 0x8000, rest := [("ebp", 0x8010)] }

def exMixChainX : List Exp :=
  [ { ret := 0x400900, sp := 0x8018, fp := some 0x8020, tech := "win" },
    { ret := 0x400a00, sp := 0x8028, fp := some 0, tech := "fp" },
    { ret := 0x400250, sp := 0x8030, fp := none, tech := "scan" } ]

abbrev exMixEnvX : Env := mkEnvW .x86 .other exWinWorld exMixRecs exMixStack

theorem exMix_pre : PreW exWinWorld exMixRecs exMixEnvX .x86 .other exMixStack exMixCtx exMixChainX = true := by
  unfold exMixEnvX exMixRecs; rw [String.toList_ofList]
  decide +kernel

example : ∃ frames, walk exMixEnvX (some exMixStack) exMixCtx =
      symbolise exMixEnvX (Frame.ofCtx exMixCtx .context) :: frames ∧
    All2 (fun fr e => ∃ f', fr = symbolise exMixEnvX f' ∧ FrameIs (x86Trust e) e f') frames exMixChainX :=
  walk_layout_mixed_x86_partial .other exWinWorld exMixRecs exMixStack exMixCtx exMixChainX
    (by decide) exMix_pre

example : (walk exMixEnvX (some exMixStack) exMixCtx).map (fun f => (f.trust, f.ctx.ip, f.ctx.sp, f.ctx.get .x86 "ebp")) =
    [(.context, 0x400050, 0x8000, some 0x8010), (.cfi, 0x400900, 0x8018, some 0x8020),
     (.fp, 0x400a00, 0x8028, some 0), (.scan, 0x400250, 0x8030, none)] := by
  obtain ⟨frames, hw, hall⟩ := walk_layout_mixed_x86_partial .other exWinWorld exMixRecs exMixStack exMixCtx
    exMixChainX (by decide) exMix_pre
  rw [hw, List.map_cons, hall.map_eq (g := fun e => (x86Trust e, e.ret, e.sp, e.fp))]
  · decide +kernel
  · rintro _ e _ ⟨f', rfl, h⟩
    obtain ⟨h1, h2, h3, _, _, _, h7, _⟩ := h.spec exMixEnvX
    rw [h1, h2, h3, h7]

end MdModel.Walk
