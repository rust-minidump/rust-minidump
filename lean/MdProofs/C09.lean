/-
  C09 — Parsing a symbol file is total and bounded.

  STATEMENT (properties.jsonl): "For every byte string, parsing it as a Breakpad symbol file returns a
  symbol table or a parse error: it never panics, never loops forever, and keeps only a fixed-size
  window of unparsed input in memory. A single over-long line is dropped as corrupt rather than
  failing the parse or exhausting memory."

  The theorems are about `MdModel.Sym.parseStream` (= `SymbolFile::parse(reader, callback)`, the
  reader being ANY chunk schedule; the empty schedule is `SymbolFile::from_bytes`), which is the
  buffer state machine `MdModel.Stream` instantiated with the byte-level parser model
  `MdModel.Sym.parseMore`.  The machine-level theorems hold for every parser (`Ops`).
-/
import MdModel.SymParse
import MdProofs.Lemmas.SymStream
import MdProofs.Lemmas.SymNoPanic
import MdProofs.Lemmas.SymDrop
namespace MdModel.Sym
open MdModel MdModel.Stream MdModel.Gen.SymConsts

/-! ## "never loops forever" -/

/-- The streaming loop returns within `8·|input| + 3` iterations — for every input, every chunk
    schedule and EVERY line parser (the bound does not depend on the schedule: a read returns 0
    only at end of input or when the buffer is full). -/
theorem loop_terminates {σ} (maxCap initCap : Nat) (ops : Ops σ) (ps : σ) (input : Bytes) (sched : List Nat) :
    ∃ r, run maxCap ops (fuelFor input) (init initCap ps input sched) = some r :=
  run_terminates maxCap ops _ _ (measure_init initCap ps input sched)

/-- `SymbolFile::parse` always returns: the fuel `fuelFor input = 8·|input| + 3` handed to the
    model's loop is never exhausted. -/
theorem parse_terminates (input : Bytes) (sched : List Nat) :
    ∃ r, parseStream input sched = some r :=
  loop_terminates _ _ _ _ input sched

/-! ## "keeps only a fixed-size window of unparsed input in memory" -/

/-- In every state the loop can reach — for every input, schedule and parser — the buffer's
    capacity is at most `MAX_BUFFER_CAPACITY` and the window (the only unparsed input that is
    held) lies inside it: `position + |window| ≤ capacity ≤ MAX_BUFFER_CAPACITY`. -/
theorem window_bounded_machine {σ} (ops : Ops σ) (ps : σ) (input : Bytes) (sched : List Nat) (s : St σ)
    (h : Reach MAX_BUFFER_CAPACITY ops (init INITIAL_BUFFER_CAPACITY ps input sched) s) :
    s.buf.cap ≤ MAX_BUFFER_CAPACITY ∧ s.buf.pos + s.buf.data.length ≤ s.buf.cap := by
  have := reach_inv (init_inv MAX_BUFFER_CAPACITY INITIAL_BUFFER_CAPACITY ps input sched consts_ok.1 consts_ok.2) h
  exact ⟨this.capLe, this.buf.fits⟩

/-- … in particular for the symbol-file parser. -/
theorem window_bounded (input : Bytes) (sched : List Nat) (s : St PState)
    (h : Reach MAX_BUFFER_CAPACITY symOps (init INITIAL_BUFFER_CAPACITY {} input sched) s) :
    s.buf.cap ≤ MAX_BUFFER_CAPACITY ∧ s.buf.data.length ≤ s.buf.cap := by
  have := window_bounded_machine symOps {} input sched s h
  exact ⟨this.1, by omega⟩

/-- the state in which the loop returns (not a `Reach` state: `Reach` follows the iterations that go
    on) is bounded too -/
theorem window_bounded_final (input : Bytes) (sched : List Nat) (out : Out PState) (sf : St PState)
    (h : parseStream input sched = some (out, sf)) :
    sf.buf.cap ≤ MAX_BUFFER_CAPACITY ∧ sf.buf.data.length ≤ sf.buf.cap := by
  unfold parseStream at h
  have := (run_spec MAX_BUFFER_CAPACITY input symOps _ _ out sf
    (init_inv MAX_BUFFER_CAPACITY INITIAL_BUFFER_CAPACITY {} input sched consts_ok.1 consts_ok.2) h).1
  exact ⟨this.capLe, by have := this.buf.fits; omega⟩

/-- non-vacuity: a reachable state other than the initial one (a parser that accepts everything) -/
example : ∃ s, Reach MAX_BUFFER_CAPACITY (⟨fun _ w => .ok w.length (), id, fun _ => 0⟩ : Ops Unit)
    (init INITIAL_BUFFER_CAPACITY () [70, 10] []) s ∧ s.totalConsumed = 2 :=
  ⟨_, Reach.step Reach.refl rfl, rfl⟩


/-! ## "never panics" -/

/-- `SymbolFile::parse` never takes a panic outcome — for every input and every chunk schedule:
    neither the loop (`&input[..consumed]`, `parse_more`: `insert_win_stack_info`'s `as u32` +
    `unwrap`, `finish_item`'s `into_rangemap_safe().unwrap()`, `Range::new`, the model's own loop
    fuel) nor the final `parser.finish()` (four more `into_rangemap_safe().unwrap()`). -/
theorem parse_no_panic (input : Bytes) (sched : List Nat) :
    (∃ f, (parseResult input sched).1 = .ok f) ∨ (∃ k l, (parseResult input sched).1 = .err k l) := by
  obtain ⟨⟨out, sf⟩, hr⟩ := parse_terminates input sched
  have hsafe := run_safe MAX_BUFFER_CAPACITY symOps PInv symOps_parserSafe _ _ out sf PInv.init
    (by unfold parseStream at hr; exact hr)
  unfold parseResult
  rw [hr]
  cases out with
  | ok ps =>
    obtain ⟨f, hf⟩ := finish_ok ps (hsafe.2 ps rfl)
    exact Or.inl ⟨f, by simp only [hf]⟩
  | err k l => exact Or.inr ⟨k, l, rfl⟩
  | panic e => exact absurd rfl (hsafe.1 e)

/-- **C09, first sentence**: for every byte string and every chunk schedule, parsing returns a
    symbol table or a parse error — it is never a panic and never out of fuel. -/
theorem parse_total (input : Bytes) (sched : List Nat) :
    (∀ e, (parseResult input sched).1 ≠ .panic e) ∧ (parseResult input sched).1 ≠ .fuel := by
  rcases parse_no_panic input sched with ⟨f, h⟩ | ⟨k, l, h⟩
  · rw [h]; exact ⟨fun e he => (by cases he), fun he => (by cases he)⟩
  · rw [h]; exact ⟨fun e he => (by cases he), fun he => (by cases he)⟩


/-! ## "A single over-long line is dropped as corrupt rather than failing the parse or exhausting
       memory." -/

/-- **`SymbolFile::parse` computes the reference semantics with dropped lines, for EVERY chunk
    schedule**: if every line of the input (terminator included) is either at most
    `MAX_BUFFER_CAPACITY/2` long or longer than `MAX_BUFFER_CAPACITY` (and the unterminated rest is
    shorter than half or at least the limit), the outcome is `specOutM`: the per-line step folded
    over the lines, where an over-long line ONLY advances the line counter (it is never handed to a
    record parser, never fails the parse), an over-long unterminated rest is dropped (`Ok`), a short
    one is `unexpected EOF`. -/
theorem stream_eq_specM (input : Bytes) (sched : List Nat)
    (hmix : Mixed (MAX_BUFFER_CAPACITY / 2) MAX_BUFFER_CAPACITY input) :
    ∃ sf, parseStream input sched =
      some (specOutM Lsym symOps.bumpLine symOps.lines MAX_BUFFER_CAPACITY {} input, sf) :=
  machine_eq_specM MAX_BUFFER_CAPACITY INITIAL_BUFFER_CAPACITY input symOps Lsym {} sched
    parseMore_eq consts_drop.2.1 consts_drop.2.2 consts_drop.1 hmix

/-- the outcome of a file `pre ++ [dropped line] ++ post` (`withLine = true`) and of `pre ++ post`
    (`withLine = false`), `pre` being complete lines: they differ ONLY in the line counter being
    advanced by one before `post` -/
def dropOutcome (pre : List Bytes) (post : Bytes) (withLine : Bool) : Out PState :=
  match foldLM Lsym symOps.bumpLine MAX_BUFFER_CAPACITY {} pre with
  | .ok st1 =>
    specRestM Lsym symOps.bumpLine symOps.lines MAX_BUFFER_CAPACITY
      (if withLine then symOps.bumpLine st1 else st1) (withLine || !pre.isEmpty) post
  | .err k n => .err k n
  | .panic e => .panic e

/-- **long_line_dropped** (DESIGN §6.C09.4, for arbitrary chunk schedules on both sides): a line
    whose content is at least `MAX_BUFFER_CAPACITY` bytes is dropped — parsing
    `pre ++ long ++ "\n" ++ post` gives the outcome of parsing `pre ++ post` with the line counter
    advanced by one at that point, whatever the chunking of either parse.  Hypothesis: the other
    lines are short (≤ 80 KiB with terminator) or over-long themselves (`Mixed`); lines in between
    are alignment dependent in the code and are excluded. -/
theorem long_line_dropped (pre : List Bytes) (hpre : ∀ l ∈ pre, IsLine l) (long post : Bytes)
    (hnl : Stream.NL ∉ long) (hlen : long.length ≥ MAX_BUFFER_CAPACITY) (sched sched' : List Nat)
    (hmix : Mixed (MAX_BUFFER_CAPACITY / 2) MAX_BUFFER_CAPACITY (pre.flatten ++ ((long ++ [Stream.NL]) ++ post))) :
    ∃ sf sf',
      parseStream (pre.flatten ++ ((long ++ [Stream.NL]) ++ post)) sched = some (dropOutcome pre post true, sf) ∧
      parseStream (pre.flatten ++ post) sched' = some (dropOutcome pre post false, sf') := by
  have hline : ∀ l ∈ [long ++ [Stream.NL]], IsLine l := by
    intro l hl; simp only [List.mem_singleton] at hl; rw [hl]; exact ⟨long, hnl, rfl⟩
  have hlong : (long ++ [Stream.NL]).length > MAX_BUFFER_CAPACITY := by simp; omega
  have e1 : pre.flatten ++ ((long ++ [Stream.NL]) ++ post) = pre.flatten ++ ([long ++ [Stream.NL]].flatten ++ post) := by
    simp
  -- the shorter file has the same kinds of lines
  have hmix' : Mixed (MAX_BUFFER_CAPACITY / 2) MAX_BUFFER_CAPACITY (pre.flatten ++ post) := by
    rw [e1, Mixed.lines_append pre hpre, Mixed.lines_append _ hline] at hmix
    exact (Mixed.lines_append pre hpre post).mpr ⟨hmix.1, hmix.2.2⟩
  obtain ⟨sf, h⟩ := stream_eq_specM _ sched hmix
  obtain ⟨sf', h'⟩ := stream_eq_specM _ sched' hmix'
  have key1 : specOutM Lsym symOps.bumpLine symOps.lines MAX_BUFFER_CAPACITY {}
      (pre.flatten ++ ((long ++ [Stream.NL]) ++ post)) = dropOutcome pre post true := by
    unfold specOutM dropOutcome
    rw [e1, specRestM_lines _ _ _ _ _ _ pre hpre]
    cases foldLM Lsym symOps.bumpLine MAX_BUFFER_CAPACITY {} pre with
    | err k n => rfl
    | panic e => rfl
    | ok st1 =>
      dsimp only
      rw [specRestM_lines _ _ _ _ _ _ _ hline]
      simp only [foldLM, if_pos hlong]
      simp
  have key2 : specOutM Lsym symOps.bumpLine symOps.lines MAX_BUFFER_CAPACITY {}
      (pre.flatten ++ post) = dropOutcome pre post false := by
    unfold specOutM dropOutcome
    rw [specRestM_lines _ _ _ _ _ _ pre hpre]
    cases foldLM Lsym symOps.bumpLine MAX_BUFFER_CAPACITY {} pre <;> rfl
  exact ⟨sf, sf', by rw [h, key1], by rw [h', key2]⟩

/-- an over-long line is never handed to the record parsers: whatever `parse_more` is given fits
    the window, which never exceeds `MAX_BUFFER_CAPACITY` (`window_bounded`), and `parse_more` only
    parses the complete lines inside it (`parse_more_linewise`, in `MdProofs/C10.lean`). -/
theorem parsed_lines_fit (w : Bytes) (hw : w.length ≤ MAX_BUFFER_CAPACITY) :
    ∀ l ∈ (linesOf w).1, l.length ≤ MAX_BUFFER_CAPACITY :=
  fun l hl => Nat.le_trans (linesOf_length_le w l hl) hw

/-- the bytes of a literal keyword from its characters (`String.toList` on a literal makes the
    kernel decode the string's UTF-8 bytes) -/
private theorem kw_ofList (l : List Char) : kw (String.ofList l) = l.map fun c => c.toNat.toUInt8 := by
  rw [kw, String.toList_ofList]

/-- non-vacuity of the hypotheses of `long_line_dropped` / `stream_eq_specM` at the real limit: a
    MODULE line, then a line of `MAX_BUFFER_CAPACITY` bytes, then a short unterminated rest -/
example : Mixed (MAX_BUFFER_CAPACITY / 2) MAX_BUFFER_CAPACITY
    ([kw "MODULE a b c d\n"].flatten ++ ((List.replicate MAX_BUFFER_CAPACITY 120 ++ [Stream.NL]) ++ kw "FILE 1")) := by
  have hnl : Stream.NL ∉ List.replicate MAX_BUFFER_CAPACITY (120 : UInt8) := by
    intro h; have := List.eq_of_mem_replicate h; revert this; decide
  have h1 : ∀ l ∈ [kw "MODULE a b c d\n"], IsLine l := by
    intro l hl; simp only [List.mem_singleton] at hl; rw [hl]
    exact ⟨kw "MODULE a b c d", by rw [kw_ofList]; decide, by rw [kw_ofList, kw_ofList]; rfl⟩
  have h2 : ∀ l ∈ [List.replicate MAX_BUFFER_CAPACITY (120 : UInt8) ++ [Stream.NL]], IsLine l := by
    intro l hl; simp only [List.mem_singleton] at hl; rw [hl]; exact ⟨_, hnl, rfl⟩
  have e : (List.replicate MAX_BUFFER_CAPACITY (120 : UInt8) ++ [Stream.NL]) ++ kw "FILE 1" =
      [List.replicate MAX_BUFFER_CAPACITY (120 : UInt8) ++ [Stream.NL]].flatten ++ kw "FILE 1" := by simp
  rw [Mixed.lines_append _ h1, e, Mixed.lines_append _ h2, Mixed.noNL (by rw [kw_ofList]; decide)]
  exact ⟨fun l hl => Or.inl (by rw [List.mem_singleton.mp hl, kw_ofList]; decide),
    fun l hl => Or.inr (by rw [List.mem_singleton.mp hl]; simp), Or.inl (by rw [kw_ofList]; decide)⟩

/-- non-vacuity of `Mixed`: a file with a short line, an over-long line and a short unterminated
    rest (checked through the definition's decidable core on a scaled-down limit) -/
example : Mixed 4 8 (kw "ab\n0123456789\ncd") := by
  rw [Mixed, kw_ofList]
  decide

end MdModel.Sym
