/-
  C11 — Symbolication returns the record that really covers the address.

  Property text: "For every symbol file and instruction address, the reported function is a FUNC
  record of that file whose range contains the address or, if none does, the nearest preceding
  PUBLIC symbol not cut off by an intervening FUNC; reported function and line base addresses never
  exceed the instruction. The source line is that of the line record (or outermost inline call
  site) covering the address, and inline frames list the nested inlined calls covering it with
  their call sites, innermost first in the stack frame. For files whose records do not overlap,
  the result equals an independent linear-scan lookup over the file's records."

  The theorems are about `MdModel.Symbolize` (the model the compiled driver executes and the
  `symb` engine compares with `SymbolFile::from_bytes` + `SymbolFile::fill_symbol` and with
  `minidump_unwind::walk_stack` on every run). `r : Recs` are the records of an arbitrary symbol
  file (any number of FUNC/line/INLINE/PUBLIC/FILE/INLINE_ORIGIN/STACK WIN records, any values),
  `build r` is what the parser's `finish_item`/`finish` make of them, `base` the module's load
  address and `instr` the instruction address.

  Reading of "or, if none does": if the function *table* (the sorted, non-overlapping normal form
  that C08's builder makes of the FUNC records) has no entry containing the address. For files
  whose FUNC records do not overlap the two readings coincide (`eq_linear_scan`).
-/
import MdProofs.Lemmas.SymbolizeScan
namespace MdModel.Symbolize
open MdModel MdModel.RangeMap

theorem FuncCase.fn_eq {sf : SymFile} {f : BFunc} {base a : Nat} {fr : Frame}
    (h : FuncCase sf f base a fr) : fr.fn = some (f.name, f.addr + base, paramSize sf a f) := by
  cases h with
  | inlined x inl h0 hl hfr => rw [hfr]
  | plain h0 hfr => rw [hfr]

theorem findNearestPublic_some {pubs : List Pub} {a : Nat} {p : Pub}
    (h : findNearestPublic pubs a = some p) : p ∈ pubs ∧ p.addr ≤ a := by
  unfold findNearestPublic at h
  have h1 := List.mem_of_find?_eq_some h
  have h2 := List.find?_some h
  exact ⟨List.mem_reverse.mp h1, by simpa using h2⟩

theorem finOf_inls_length_le (f : Func) : (finOf f).inls.length ≤ f.inls.length := by
  show ((f.inls.filter fun x => x.size > 0).mergeSort inlLe).length ≤ _
  rw [List.length_mergeSort]
  exact List.length_filter_le _ _

/-- **C11.1 `func_covers`** — "the reported function is a FUNC record of that file whose range
    contains the address or, if none does, [a] PUBLIC symbol [at or below the address]".
    Every reported function is either a FUNC record of the file that contains the address
    (reported with its own name and `address + module base`), or — only when the function table has
    no entry for the address — a PUBLIC record of the file at or below the address
    (which one: `public_rule`). -/
theorem func_covers {r : Recs} {sf : SymFile} (hb : build r = .ok sf) {base instr : Nat}
    {fr : Frame} (h : fillSymbol sf base instr = .ok fr) {name : Name} {fbase ps : Nat}
    (hfn : fr.fn = some (name, fbase, ps)) :
    base ≤ instr ∧
    ((∃ f ∈ r.funcs, name = f.name ∧ fbase = f.addr + base ∧ f.Covers (instr - base)) ∨
     (funcAt sf.funcs sf.ftab (instr - base) = none ∧
        ∃ p ∈ r.pubs, name = p.name ∧ fbase = p.addr + base ∧ ps = p.psize ∧
          p.addr ≤ instr - base)) := by
  rcases fillSymbol_cases hb h with ⟨_, rfl⟩ | ⟨hge, f, hfm, hcov, _, hc⟩ | ⟨hge, hf⟩
  · cases hfn
  · rw [hc.fn_eq] at hfn
    simp only [Option.some.injEq, Prod.mk.injEq] at hfn
    obtain ⟨rfl, rfl, _⟩ := hfn
    exact ⟨hge, .inl ⟨f, hfm, rfl, rfl, hcov⟩⟩
  · refine ⟨hge, .inr ⟨hf, ?_⟩⟩
    rw [fillSymbol_nofunc hge hf h] at hfn
    split at hfn
    · rename_i p hp
      split at hfn
      · cases hfn
      · simp only [Option.some.injEq, Prod.mk.injEq] at hfn
        obtain ⟨rfl, rfl, rfl⟩ := hfn
        obtain ⟨hm, hle⟩ := findNearestPublic_some hp
        rw [(build_built hb).pubs] at hm
        exact ⟨p, List.mem_mergeSort.mp hm, rfl, rfl, rfl, hle⟩
    · cases hfn

/-- **C11.2 `public_rule`** — "or, if none does, the nearest preceding PUBLIC symbol not cut off
    by an intervening FUNC", stated exactly as the code decides it
    (`public.address <= prev_func.address ⇒ nothing`). When no table entry contains the address
    `a = instr - base`, the answer is
    * the function `(p.name, p.addr + base, p.psize)` and nothing else, where `p` is the nearest
      preceding PUBLIC (`NearestPublic`: greatest `(address, name, parameter size)` among the
      PUBLIC records at or below `a`) — and then every FUNC of the table that starts at or below
      `a` starts strictly below `p`; or
    * nothing at all — and then either no PUBLIC record lies at or below `a`, or the nearest
      preceding PUBLIC `p` is cut off: some FUNC of the table starts in `[p.addr, a]`.
    (Table entries are FUNC records of the file: `ftab_entry_is_record`; for files without
    overlapping FUNCs every valid FUNC record is a table entry: `eq_linear_scan`.) -/
theorem public_rule {r : Recs} {sf : SymFile} (hb : build r = .ok sf) {base instr : Nat}
    (hge : base ≤ instr) {fr : Frame} (h : fillSymbol sf base instr = .ok fr)
    (hnf : funcAt sf.funcs sf.ftab (instr - base) = none) :
    (∃ p, NearestPublic r.pubs (instr - base) p ∧
        (∀ e ∈ sf.ftab, e.1.lo ≤ instr - base → e.1.lo < p.addr) ∧
        fr = { fn := some (p.name, p.addr + base, p.psize) }) ∨
    (fr = {} ∧
      ((∀ q ∈ r.pubs, instr - base < q.addr) ∨
       ∃ p, NearestPublic r.pubs (instr - base) p ∧
         ∃ e ∈ sf.ftab, e.1.lo ≤ instr - base ∧ p.addr ≤ e.1.lo)) := by
  have B := build_built hb
  obtain ⟨hsome, hnone⟩ := findNearestPublic_spec r.pubs (instr - base)
  rw [← B.pubs] at hsome hnone
  have hcut := prevFunc_cut B (funcAt_none_get B hnf)
  rw [fillSymbol_nofunc hge hnf h]
  split
  · rename_i p hp
    split
    · rename_i hc; exact .inr ⟨rfl, .inr ⟨p, hsome p hp, (hcut p.addr).mp hc⟩⟩
    · rename_i hnc; exact .inl ⟨p, hsome p hp, not_startsIn.mp (mt (hcut p.addr).mpr hnc), rfl⟩
  · rename_i hn; exact .inr ⟨rfl, .inl fun q hq => Nat.lt_of_not_le (hnone hn q hq)⟩

/-- **C11.4 `line_covers`** — "the source line is that of the line record (or outermost inline
    call site) covering the address". A reported source location `(file, line, base)` belongs to a
    FUNC record of the file containing the address, and is either the call site stored in a
    depth-0 INLINE range of that FUNC that contains the address, or — only if no depth-0 inlinee is
    found — a line record of that FUNC whose range contains the address; `base` is that record's
    own start plus the module base, `file` the FILE record of its file id. -/
theorem line_covers {r : Recs} {sf : SymFile} (hb : build r = .ok sf) {base instr : Nat}
    {fr : Frame} (h : fillSymbol sf base instr = .ok fr) {file : Name} {line lbase : Nat}
    (hsrc : fr.src = some (file, line, lbase)) :
    ∃ f ∈ r.funcs, f.Covers (instr - base) ∧
      ((∃ x ∈ f.inls, x.depth = 0 ∧ x.Covers (instr - base) ∧
          mapGet r.files x.callFile = some file ∧ line = x.callLine ∧ lbase = x.addr + base) ∨
       (inlineeAt (finOf f).inls 0 (instr - base) = .ok none ∧
          ∃ l ∈ f.lines, l.Covers (instr - base) ∧
            mapGet r.files l.file = some file ∧ line = l.line ∧ lbase = l.addr + base)) := by
  rcases fillSymbol_cases hb h with ⟨_, rfl⟩ | ⟨hge, f, hfm, hcov, _, hc⟩ | ⟨hge, hf⟩
  · cases hsrc
  · refine ⟨f, hfm, hcov, ?_⟩
    rw [← (build_built hb).files]
    cases hc with
    | inlined x inl h0 hl hfr =>
      subst hfr
      obtain ⟨hm, hd, hxc⟩ := inlineeAt_covers h0
      obtain ⟨_, hfile, heq⟩ := Option.map_eq_some_iff.mp hsrc
      simp only [Prod.mk.injEq] at heq
      obtain ⟨rfl, rfl, rfl⟩ := heq
      exact .inl ⟨x, hm, hd, hxc, hfile, rfl, rfl⟩
    | plain h0 hfr =>
      subst hfr
      obtain ⟨l, hl, hsrc⟩ := Option.bind_eq_some_iff.mp hsrc
      obtain ⟨hm, hlc⟩ := lineAt_covers hl
      obtain ⟨_, hfile, heq⟩ := Option.map_eq_some_iff.mp hsrc
      simp only [Prod.mk.injEq] at heq
      obtain ⟨rfl, rfl, rfl⟩ := heq
      exact .inr ⟨h0, l, hm, hlc, hfile, rfl, rfl⟩
  · rw [fillSymbol_nofunc hge hf h] at hsrc
    split at hsrc
    · split at hsrc <;> cases hsrc
    · cases hsrc

/-- **C11.3 `bases_le`** — "reported function and line base addresses never exceed the
    instruction" (`function_base ≤ instruction`, `source_line_base ≤ instruction`), for every file,
    base and instruction. (That the `+ module base` additions cannot overflow: `fill_no_panic`.) -/
theorem bases_le {r : Recs} {sf : SymFile} (hb : build r = .ok sf) {base instr : Nat}
    {fr : Frame} (h : fillSymbol sf base instr = .ok fr) :
    (∀ name fbase ps, fr.fn = some (name, fbase, ps) → fbase ≤ instr) ∧
    (∀ file line lbase, fr.src = some (file, line, lbase) → lbase ≤ instr) := by
  constructor
  · intro name fbase ps hfn
    obtain ⟨hge, hc⟩ := func_covers hb h hfn
    rcases hc with ⟨f, _, _, rfl, _, _, h3, _⟩ | ⟨_, p, _, _, rfl, _, h3⟩ <;> omega
  · intro file line lbase hsrc
    have hge : base ≤ instr := Nat.le_of_not_lt fun hlt => by
      rw [fillSymbol_below hlt] at h
      cases h
      cases hsrc
    obtain ⟨f, _, _, hc⟩ := line_covers hb h hsrc
    rcases hc with ⟨x, _, _, ⟨_, hxa, _⟩, _, _, rfl⟩ | ⟨_, l, _, ⟨_, _, hla, _⟩, _, _, rfl⟩ <;> omega

/-- **C11.3b `fill_no_panic`** — for every file, every module base and every instruction address
    that fits `u64`, `fill_symbol` returns: `func.address + base`, `address + base` (source line)
    and `public.address + base` cannot overflow (each summand is at most `instruction - base`),
    `self.inlinees[index]` / `[index - 1]` are in range, and the `for depth in 1..` counter stays
    below `u32::MAX` (needs fewer than 2^32-2 INLINE ranges per FUNC — a file of > 40 GB). -/
theorem fill_no_panic {r : Recs} {sf : SymFile} (hb : build r = .ok sf) (base instr : Nat)
    (hinstr : instr ≤ U64MAX) (hn : ∀ f ∈ r.funcs, f.inls.length + 1 < U32MAX) :
    ∃ fr, fillSymbol sf base instr = .ok fr := by
  by_cases hlt : instr < base
  · exact ⟨_, fillSymbol_below hlt⟩
  · have hge : base ≤ instr := by omega
    unfold fillSymbol
    rw [if_neg hlt]
    simp only
    cases hf : funcAt sf.funcs sf.ftab (instr - base) with
    | some b =>
      obtain ⟨f, hfm, rfl, _, _, hle, _⟩ := funcAt_is_record hb hf
      simp only
      rw [checkedAdd_of_le _ (show (finOf f).addr + base ≤ U64MAX by
        show f.addr + base ≤ U64MAX; omega)]
      simp only
      obtain ⟨o, ho⟩ := inlineeAt_ok (finOf f).inls 0 (instr - base)
      rw [ho]
      cases o with
      | some x =>
        simp only
        obtain ⟨_, _, hx, _⟩ := inlineeAt_sound ho
        obtain ⟨fr0, hs⟩ := setSource_ne_panic sf
          { fn := some ((finOf f).name, (finOf f).addr + base, paramSize sf (instr - base) (finOf f)) }
          x.callFile x.callLine x.addr base (by omega)
        rw [hs]
        simp only
        have hlen := finOf_inls_length_le f
        have hfl := List.length_filter_le (fun y : Inl => decide (1 ≤ y.depth)) (finOf f).inls
        have := hn f hfm
        obtain ⟨o, hl, hok⟩ := inlineLoop_some sf (finOf f) (instr - base) ((finOf f).inls.length + 1)
          1 x.origin (by omega)
        obtain ⟨inl, rfl⟩ := hok (by omega)
        rw [hl]
        exact ⟨_, rfl⟩
      | none =>
        simp only
        cases hl : lineAt (finOf f) (instr - base) with
        | none => exact ⟨_, rfl⟩
        | some l =>
          simp only
          obtain ⟨_, _, _, hla, _⟩ := lineAt_covers hl
          exact setSource_ne_panic _ _ _ _ _ _ (by omega)
    | none =>
      simp only
      cases hp : findNearestPublic sf.pubs (instr - base) with
      | none => exact ⟨_, rfl⟩
      | some p =>
        simp only
        obtain ⟨_, hpa⟩ := findNearestPublic_some hp
        have hadd := checkedAdd_of_le "set_function: public.address + module.base_address()"
          (show p.addr + base ≤ U64MAX by omega)
        cases hprev : prevFunc sf (instr - base) with
        | none => simp only [hadd]; exact ⟨_, rfl⟩
        | some prev =>
          simp only [hadd]
          split <;> exact ⟨_, rfl⟩

/-- **C11.6 `inline_loop_terminates`** — the `for depth in 1..` loop of `fill_symbol` returns
    within `number of inlinees + 1` rounds (the fuel the model gives it), whatever the records:
    every round that goes on has found an inlinee of exactly the current depth. -/
theorem inline_loop_terminates (sf : SymFile) (f : BFunc) (addr depth origin : Nat) :
    inlineLoop sf f addr (f.inls.length + 1) depth origin ≠ none := by
  have := List.length_filter_le (fun x : Inl => decide (depth ≤ x.depth)) f.inls
  obtain ⟨o, h, _⟩ := inlineLoop_some sf f addr (f.inls.length + 1) depth origin (by omega)
  rw [h]
  exact Option.some_ne_none o

/-- **C11.5 `inline_chain`** — "inline frames list the nested inlined calls covering [the
    address] with their call sites". If a FUNC `f` is reported, then either no depth-0 inlinee
    is found and there are no inline frames, or there are INLINE ranges `x₀, x₁, …, x_m` of that
    FUNC record with depths `0, 1, …, m`, every one containing the address, no inlinee is found at
    depth `m+1`, the source location of the frame is `x₀`'s call site, and the inline frames are
    `chainFrames`: the frame for depth `k` is named by `x_k`'s origin and carries the call site
    stored in `x_{k+1}` (shifted by one depth); the last one carries the innermost line record
    (`lastInline`, see `lastInline_covers`). Order: outermost first (as passed to `add_inline_frame`). -/
theorem inline_chain {r : Recs} {sf : SymFile} (hb : build r = .ok sf) {base instr : Nat}
    {fr : Frame} (h : fillSymbol sf base instr = .ok fr) (hge : base ≤ instr) {b : BFunc}
    (hf : funcAt sf.funcs sf.ftab (instr - base) = some b) :
    ∃ f ∈ r.funcs, b = finOf f ∧
      ((inlineeAt b.inls 0 (instr - base) = .ok none ∧ fr.inl = []) ∨
       ∃ x0 xs,
         (∀ k x, (x0 :: xs)[k]? = some x → x ∈ f.inls ∧ x.depth = k ∧ x.Covers (instr - base)) ∧
         inlineeAt b.inls (xs.length + 1) (instr - base) = .ok none ∧
         fr.src = (mapGet r.files x0.callFile).map (fun file => (file, x0.callLine, x0.addr + base)) ∧
         fr.inl = chainFrames sf b (instr - base) x0.origin xs) := by
  have B := build_built hb
  obtain ⟨_, hc⟩ := fillSymbol_func hge hf h
  obtain ⟨f, hfm, rfl, hcov⟩ := funcAt_is_record hb hf
  refine ⟨f, hfm, rfl, ?_⟩
  cases hc with
  | inlined x inl h0 hl hfr =>
    subst hfr
    right
    obtain ⟨xs, h1, h2, h3⟩ := inlineLoop_chain _ _ _ _ _ _ _ hl
    refine ⟨x, xs, ?_, by rw [Nat.add_comm]; exact h2, by rw [← B.files], h3⟩
    intro k y hk
    cases k with
    | zero =>
      simp at hk; subst hk
      exact inlineeAt_covers h0
    | succ k =>
      simp at hk
      have := inlineeAt_covers (h1 k y hk)
      rw [Nat.add_comm] at this; exact this
  | plain h0 hfr => subst hfr; exact .inl ⟨h0, rfl⟩

theorem lastInline_covers (sf : SymFile) (f : Func) (a origin : Nat) (fr : InlineFrame)
    (h : fr ∈ lastInline sf (finOf f) a origin) :
    mapGet sf.origins origin = some fr.name ∧
    ((lineAt (finOf f) a = none ∧ fr.file = none ∧ fr.line = none) ∨
     ∃ l ∈ f.lines, l.Covers a ∧ fr.file = mapGet sf.files l.file ∧
       fr.line = if l.line ≠ 0 then some l.line else none) := by
  unfold lastInline at h
  cases hn : mapGet sf.origins origin with
  | none => rw [hn] at h; cases h
  | some name =>
    rw [hn] at h
    simp only [List.mem_singleton] at h
    subst h
    refine ⟨rfl, ?_⟩
    cases hl : lineAt (finOf f) a with
    | none => exact .inl ⟨rfl, rfl, rfl⟩
    | some l =>
      obtain ⟨hm, hc⟩ := lineAt_covers hl
      exact .inr ⟨l, hm, hc, rfl, rfl⟩

/-- **C11.5b `frames_innermost_first`** — "innermost first in the stack frame":
    `fill_source_line_info` (what `walk_stack` runs for every frame) yields, for a module
    `[base, base+msize)` containing the instruction, exactly `fill_symbol`'s answer with the inline
    frames reversed — the deepest inlined call comes first; outside the module nothing is filled. -/
theorem frames_innermost_first (sf : SymFile) (base msize instr : Nat) (fr' : Frame)
    (h : fillSourceLineInfo sf base msize instr = .ok fr') :
    (fr' = {} ∧ ¬ (0 < msize ∧ base + msize ≤ U64MAX ∧ base ≤ instr ∧ instr < base + msize)) ∨
    ∃ fr, fillSymbol sf base instr = .ok fr ∧ fr'.fn = fr.fn ∧ fr'.src = fr.src ∧
      fr'.inl = fr.inl.reverse ∧ fr'.inl.head? = fr.inl.getLast? := by
  unfold fillSourceLineInfo at h
  split at h
  · rename_i hr
    cases h
    left
    refine ⟨rfl, ?_⟩
    intro ⟨h1, h2, _, _⟩
    rw [mkRange_eq_some.mpr ⟨h1, h2, rfl⟩] at hr
    cases hr
  · rename_i rg hr
    split at h
    · rename_i hc
      split at h
      · cases h
      · rename_i fr hfr
        cases h
        right
        exact ⟨fr, hfr, rfl, rfl, rfl, by simp⟩
    · rename_i hc
      cases h
      left
      refine ⟨rfl, ?_⟩
      intro ⟨h1, h2, h3, h4⟩
      obtain ⟨_, _, w3, w4⟩ := mkRange_wf hr
      apply hc
      simp only [Rng.contains, Bool.and_eq_true, decide_eq_true_eq]
      omega

def Frame.noPsize (fr : Frame) : Frame := { fr with fn := fr.fn.map fun (n, b, _) => (n, b, 0) }

/-- The part of `eq_linear_scan` that needs no hypothesis on the STACK WIN records: the FUNC's
    parameter size is still taken from the model's STACK WIN tables (`paramSize`). -/
theorem eq_linear_scan_core {r : Recs} {sf : SymFile} (hb : build r = .ok sf)
    (hno : NonOverlapping r) {base instr : Nat} {fr : Frame}
    (h : fillSymbol sf base instr = .ok fr) :
    fr = scanFillWith (fun a f => paramSize sf a (finOf f)) r base instr := by
  have B := build_built hb
  by_cases hlt : instr < base
  · rw [fillSymbol_below hlt] at h; cases h
    unfold scanFillWith; rw [if_pos hlt]
  · have hge : base ≤ instr := by omega
    have hfa := funcAt_scan B hno (instr - base)
    unfold scanFillWith
    rw [if_neg hlt]
    simp only
    cases hs : scanFunc r (instr - base) with
    | some f =>
      rw [hs] at hfa
      simp only [Option.map_some] at hfa
      have hfm : f ∈ r.funcs := by unfold scanFunc at hs; exact List.mem_of_find?_eq_some hs
      have hl := hno.lines f hfm
      have hi := hno.inls f hfm
      obtain ⟨_, hc⟩ := fillSymbol_func hge hfa h
      simp only
      cases hc with
      | inlined x inl h0 hloop hfr =>
        rw [inlineeAt_scan hi] at h0
        rw [Outcome.ok.inj h0]
        have hinl := inlineLoop_scan B hl hi _ _ _ _ _ hloop
          (f.inls.length - (finOf f).inls.length)
        have hlen := finOf_inls_length_le f
        rw [show (finOf f).inls.length + 1 + (f.inls.length - (finOf f).inls.length) =
          f.inls.length + 1 by omega] at hinl
        rw [hfr, hinl, B.files]
        rfl
      | plain h0 hfr =>
        rw [inlineeAt_scan hi] at h0
        rw [Outcome.ok.inj h0, hfr, lineAt_scan hl, B.files]
        cases scanLine f (instr - base) <;> rfl
    | none =>
      rw [hs] at hfa
      simp only [Option.map_none] at hfa
      simp only
      -- both sides decide the cut-off by a table entry starting between the PUBLIC and the address
      have hcut : ∀ p : Pub, (prevFunc sf (instr - base)).any (fun prev => decide (p.addr ≤ prev.addr)) =
          scanCut r (instr - base) p := fun p => Bool.eq_iff_iff.mpr
        ((prevFunc_cut B (funcAt_none_get B hfa) p.addr).trans (scanCut_iff B hno (instr - base) p).symm)
      rw [fillSymbol_nofunc hge hfa h, B.pubs, scanPublic_eq]
      simp only [hcut]
      rfl

/-- **C11.7 `eq_linear_scan`** — "For files whose records do not overlap, the result equals an
    independent linear-scan lookup over the file's records." `scanFill`
    (MdProofs/Lemmas/SymbolizeScan.lean) looks the instruction up with `find?`/`foldl`/`any` over
    the records in file order — no range table, no sorting, no binary search: first FUNC record
    containing the address (parameter size: first covering STACK WIN frame-data record, else first
    covering fpo record, else the FUNC's), first depth-0, depth-1, … INLINE range containing it,
    first line record containing it; else the greatest PUBLIC at or below the address unless a
    valid FUNC record starts between it and the address. For every file satisfying
    `NonOverlapping` (valid FUNC ranges; line ranges within a FUNC; same-depth INLINE ranges
    within a FUNC, empty ranges aside: pairwise disjoint) and `WinNonOverlapping` (valid STACK WIN ranges of each type
    pairwise disjoint, fields within their `u32` types), every base and every instruction,
    `fill_symbol`'s whole answer — function name, base and parameter size, source file/line/base,
    inline frames — is exactly that of the scan. -/
theorem eq_linear_scan {r : Recs} {sf : SymFile} (hb : build r = .ok sf) (hno : NonOverlapping r)
    (hw4 : WinNonOverlapping r.win4) (hw0 : WinNonOverlapping r.win0)
    {base instr : Nat} {fr : Frame} (h : fillSymbol sf base instr = .ok fr) :
    fr = scanFill r base instr := by
  rw [eq_linear_scan_core hb hno h]
  unfold scanFill
  congr 1
  funext a f
  exact paramSize_scan (build_built hb) hw4 hw0 a f

/-- the same with ANY STACK WIN records (overlapping ones are repaired/dropped by the table
    builder, C08): everything but the parameter size equals the linear scan -/
theorem eq_linear_scan_any_win {r : Recs} {sf : SymFile} (hb : build r = .ok sf)
    (hno : NonOverlapping r) {base instr : Nat} {fr : Frame}
    (h : fillSymbol sf base instr = .ok fr) :
    fr.noPsize = (scanFill r base instr).noPsize := by
  rw [eq_linear_scan_core hb hno h]
  unfold scanFill scanFillWith
  split
  · rfl
  · simp only
    split
    · split
      · rfl
      · split <;> rfl
    · rfl

/-! ## empty INLINE ranges (finding `C11-zero-size-inlinee`, fixed by /repo 2be1766)

  `finish_item` used to keep size-0 INLINE ranges. Such a range is empty — it overlaps nothing and
  covers nothing — but in the sorted inlinee vector it sat between its sibling's start and the
  queried address, the `(depth, address)` binary search landed on it and `get_inlinee_at_depth`
  answered `None` for every address behind it. Since 2be1766 `finish_item` drops empty ranges like
  empty lines (`finOf` filters them), `NonOverlapping` speaks about non-empty ranges only, and the
  file that showed the fault is an instance of `inlineeAt_scan`: -/

/-- `FUNC 2b 37 28 f` with `INLINE 0 8 2 1 2b 6 2c 0`: ranges `[43,49)` and the empty `[44,44)` -/
def zeroInl : Func := ⟨43, 55, 40, [1], [], [⟨0, 43, 6, 2, 8, 1⟩, ⟨0, 44, 0, 2, 8, 1⟩]⟩

/-- the empty range at 44 does not hide its sibling: at address 48 the lookup on the stored
    inlinee list finds `[43,49)`, exactly what the linear scan finds -/
theorem zero_size_inlinee_dropped :
    inlineeAt (finOf zeroInl).inls 0 48 = .ok (some ⟨0, 43, 6, 2, 8, 1⟩) ∧
    scanInl zeroInl 0 48 = some ⟨0, 43, 6, 2, 8, 1⟩ := by
  have hs : scanInl zeroInl 0 48 = some ⟨0, 43, 6, 2, 8, 1⟩ := by decide
  refine ⟨?_, hs⟩
  rw [inlineeAt_scan (f := zeroInl) (by decide), hs]

/-- `SymbolParser::finish` cannot panic on a file without STACK WIN records: every
    `into_rangemap_safe(..)` ends in an `unwrap` that C08 proves safe. (With STACK WIN records whose
    sizes fit `u32` the same holds, `build_okW`, by `insertWinAll_ok` as in C08's
    `win_repair_no_panic`.) -/
theorem build_ok (r : Recs) (h4 : r.win4 = []) (h0 : r.win0 = []) : ∃ sf, build r = .ok sf :=
  build_okW r (h4 ▸ nofun) (h0 ▸ nofun)

/-- the same for files whose STACK WIN records do not overlap (for arbitrary STACK WIN records:
    C08's `win_repair_no_panic`) -/
theorem build_ok_win (r : Recs) (h4 : WinNonOverlapping r.win4) (h0 : WinNonOverlapping r.win0) :
    ∃ sf, build r = .ok sf :=
  build_okW r (fun x hx => (h4.bounds x hx).1) (fun x hx => (h0.bounds x hx).1)

/-- the file of the repository's `test_nested_inlines` (names abbreviated to numbers):
    `FUNC 1000 30 10 outer`, `INLINE 0 60 15 2 1000 20`, `INLINE 1 12 4 3 1000 10`,
    `INLINE 1 17 4 1 1010 10`, lines `1000 10 42 7`, `1010 10 52 8`, `1020 10 62 15`,
    plus a PUBLIC before (0x800) and one after the FUNC (0x1038) -/
def nested : Recs :=
  { files := [(15, [15]), (4, [4]), (7, [7]), (8, [8])],
    origins := [(1, [101]), (2, [102]), (3, [103])],
    pubs := [⟨0x800, [200], 0⟩, ⟨0x1038, [201], 4⟩],
    funcs := [⟨0x1000, 0x30, 0x10, [100],
      [⟨0x1000, 0x10, 7, 42⟩, ⟨0x1010, 0x10, 8, 52⟩, ⟨0x1020, 0x10, 15, 62⟩],
      [⟨0, 0x1000, 0x20, 15, 60, 2⟩, ⟨1, 0x1000, 0x10, 4, 12, 3⟩, ⟨1, 0x1010, 0x10, 4, 17, 1⟩]⟩] }

theorem nested_nonoverlapping : NonOverlapping nested := by
  refine ⟨by simp [nested], ?_, ?_⟩
  · intro f hf
    simp only [nested, List.mem_singleton] at hf
    subst hf
    simp only [List.pairwise_cons, List.mem_cons, List.not_mem_nil, or_false, forall_eq_or_imp,
      forall_eq, List.Pairwise.nil, and_true, false_imp_iff, implies_true]
    simp [mkRangeLine, U64MAX, RDisjoint]
  · intro f hf
    simp only [nested, List.mem_singleton] at hf
    subst hf
    decide

example : ∃ sf, build nested = .ok sf := build_ok nested rfl rfl

/-- at `0x1000 + base`: `outer @ file15:60 → mid @ file4:12 → inner_1 @ file7:42`, as in the
    repository's test — here for EVERY answer `fill_symbol` can give (and it gives one) -/
example (sf : SymFile) (hb : build nested = .ok sf) :
    ∃ fr, fillSymbol sf 0x7000 0x8000 = .ok fr ∧
      fr.noPsize = { fn := some ([100], 0x8000, 0), src := some ([15], 60, 0x8000),
                     inl := [⟨[102], some [4], some 12⟩, ⟨[103], some [7], some 42⟩] } := by
  obtain ⟨fr, hfr⟩ := fill_no_panic hb 0x7000 0x8000 (by decide)
    (by intro f hf; simp only [nested, List.mem_singleton] at hf; subst hf; decide)
  refine ⟨fr, hfr, ?_⟩
  rw [eq_linear_scan_any_win hb nested_nonoverlapping hfr]
  decide

/-- PUBLIC fallback on the same file: below the FUNC the PUBLIC at 0x800 is reported; just after
    the FUNC it is cut off (the FUNC at 0x1000 starts between it and the address) and nothing is
    reported; from 0x1038 on the second PUBLIC is reported -/
example (sf : SymFile) (hb : build nested = .ok sf) (fr1 fr2 fr3 : Frame)
    (h1 : fillSymbol sf 0 0x900 = .ok fr1) (h2 : fillSymbol sf 0 0x1034 = .ok fr2)
    (h3 : fillSymbol sf 0 0x1040 = .ok fr3) :
    fr1.noPsize = { fn := some ([200], 0x800, 0) } ∧ fr2.noPsize = {} ∧
    fr3.noPsize = { fn := some ([201], 0x1038, 0) } := by
  rw [eq_linear_scan_any_win hb nested_nonoverlapping h1,
    eq_linear_scan_any_win hb nested_nonoverlapping h2,
    eq_linear_scan_any_win hb nested_nonoverlapping h3]
  decide

/-- the same file with a frame-data record over the FUNC and an fpo record elsewhere: the full
    `eq_linear_scan` applies and the parameter size comes from the frame-data record -/
def nestedWin : Recs := { nested with win4 := [⟨0x1000, 0x30, 8⟩], win0 := [⟨0x2000, 4, 12⟩] }

theorem nestedWin_win : WinNonOverlapping nestedWin.win4 ∧ WinNonOverlapping nestedWin.win0 := by
  constructor <;> refine ⟨by simp [nestedWin], ?_⟩ <;>
    (intro w hw; simp only [nestedWin, List.mem_singleton] at hw; subst hw; decide)

example : ∃ sf, build nestedWin = .ok sf := build_ok_win _ nestedWin_win.1 nestedWin_win.2

example (sf : SymFile) (hb : build nestedWin = .ok sf) (fr : Frame)
    (h : fillSymbol sf 0 0x1020 = .ok fr) :
    fr = { fn := some ([100], 0x1000, 8), src := some ([15], 62, 0x1020) } := by
  have hno : NonOverlapping nestedWin :=
    ⟨nested_nonoverlapping.funcs, nested_nonoverlapping.lines, nested_nonoverlapping.inls⟩
  rw [eq_linear_scan hb hno nestedWin_win.1 nestedWin_win.2 h]
  decide

/-- the hypotheses of `public_rule`/`func_covers`/`line_covers`/`inline_chain` are those of the
    examples above (a built file and an answer); `frames_innermost_first` on the same file: -/
example (sf : SymFile) (fr' : Frame) (h : fillSourceLineInfo sf 0x7000 0x2000 0x8000 = .ok fr') :
    ∃ fr, fillSymbol sf 0x7000 0x8000 = .ok fr ∧ fr'.inl = fr.inl.reverse := by
  rcases frames_innermost_first sf _ _ _ fr' h with ⟨_, hn⟩ | ⟨fr, h1, _, _, h2, _⟩
  · exact absurd (by decide) hn
  · exact ⟨fr, h1, h2⟩

end MdModel.Symbolize
