/-
  C20 — writers and files. Theorems about `MdModel.Cli.run` (main.rs:274-541 as a state machine over
  a file system, standard output and the diagnostics), for ALL initial file-system states, report byte
  strings, logged-diagnostic renderings and failure points (size limits / failing sinks).

  Property text decided here:
    "… exits with status 0 having written to its primary output exactly the report the library
     produces for the same options (…; the combined mode writes both; an output file receives what
     standard output would), or exits with status 1 with a diagnostic on standard error and nothing
     on the primary output. It never ends by panic, abort or signal …"
-/
import MdProofs.Lemmas.CliIo
namespace MdModel.Cli

variable (render : Diag → Bytes) (cfg : Cfg) (inp : Input) (reps : Reports) (w : World)

/-- **C20.io.1** "an output file receives …": on status 0 the file named by `--output-file` holds
    EXACTLY the bytes the options prescribe for the primary output — whatever the path held before
    (`Regular`: an existing regular file of any content and length, or a creatable name): nothing of a
    pre-existing longer file survives. Side conditions: the path is not also the `--log-file` or the
    `--cyborg` path (see `same_path_clobbers` for what happens then). -/
theorem output_file_exact (p : Path)
    (hp : cfg.outputFile = some p) (hreg : Regular w.fs p) (hlog : cfg.logFile ≠ some p)
    (hcy : cfg.flags.cyborg = true → cfg.cyborgPath ≠ p) (hmd : cfg.helpMarkdown = false)
    (h0 : (run render cfg inp reps w).exit = 0) :
    (run render cfg inp reps w).world.fs.entry p = .file (primaryBytes cfg.flags reps) := by
  rcases run_seen_file render cfg inp reps w hmd hp hreg hlog hcy with ⟨hne, _⟩ | ⟨k, hseen, hz, _⟩
  · exact absurd h0 hne
  · rw [List.take_of_length_le (hz h0).1] at hseen
    exact hseen

/-- **C20.io.2** … and without `--output-file`, an unbounded standard output that starts empty has
    received exactly the same prescription on status 0. -/
theorem stdout_exact
    (hp : cfg.outputFile = none) (hs : w.stdout.cap = none) (he : w.stdout.out = [] ∧ w.stdout.buf = [])
    (hmd : cfg.helpMarkdown = false) (h0 : (run render cfg inp reps w).exit = 0) :
    (run render cfg inp reps w).world.stdout.out = primaryBytes cfg.flags reps := by
  rcases run_seen_stdout render cfg inp reps w hmd hp hs he with ⟨hne, _⟩ | ⟨k, hseen, hz, _⟩
  · exact absurd h0 hne
  · rw [List.take_of_length_le (hz h0).1] at hseen
    exact hseen

/-- **C20.io.3** `output_file_receives_stdout_bytes`: run the same command line once with
    `--output-file p` and once without (standard output unbounded and initially empty), in ANY two
    worlds: if both exit with status 0, the final content of `p` is byte for byte what standard
    output received. -/
theorem output_file_receives_stdout_bytes (p : Path) (w' : World)
    (hp : cfg.outputFile = some p) (hreg : Regular w.fs p) (hlog : cfg.logFile ≠ some p)
    (hcy : cfg.flags.cyborg = true → cfg.cyborgPath ≠ p) (hmd : cfg.helpMarkdown = false)
    (hs : w'.stdout.cap = none) (he : w'.stdout.out = [] ∧ w'.stdout.buf = [])
    (h0 : (run render cfg inp reps w).exit = 0)
    (h0' : (run render { cfg with outputFile := none } inp reps w').exit = 0) :
    (run render cfg inp reps w).world.fs.entry p
      = .file (run render { cfg with outputFile := none } inp reps w').world.stdout.out := by
  rw [output_file_exact render cfg inp reps w p hp hreg hlog hcy hmd h0,
    stdout_exact render { cfg with outputFile := none } inp reps w' rfl hs he hmd h0']

/-- **C20.io.4** `cyborg_split` ("the combined mode writes both … The --human output will be the
    'primary' output"): on status 0 with `--cyborg c`, the file `c` holds exactly the JSON report
    (pretty iff `--pretty`), whatever it held before, and the primary output — a regular
    `--output-file`, or an unbounded standard output — holds exactly the human report (brief iff
    `--brief`) and no JSON byte. (With a standard output that fails with a broken pipe the tool exits 0
    WITHOUT having written the JSON file.) -/
theorem cyborg_split
    (hc : cfg.flags.cyborg = true) (hrc : Regular w.fs cfg.cyborgPath)
    (hlog : cfg.logFile ≠ some cfg.cyborgPath) (hmd : cfg.helpMarkdown = false)
    (h0 : (run render cfg inp reps w).exit = 0) :
    primaryBytes cfg.flags reps = (humanRep cfg.flags reps).bytes ∧
    (∀ p, cfg.outputFile = some p → Regular w.fs p → cfg.logFile ≠ some p → cfg.cyborgPath ≠ p →
      (run render cfg inp reps w).world.fs.entry p = .file (humanRep cfg.flags reps).bytes ∧
      (run render cfg inp reps w).world.fs.entry cfg.cyborgPath = .file (jsonRep cfg.flags reps).bytes) ∧
    (cfg.outputFile = none → w.stdout.cap = none → w.stdout.out = [] ∧ w.stdout.buf = [] →
      (run render cfg inp reps w).world.stdout.out = (humanRep cfg.flags reps).bytes ∧
      (run render cfg inp reps w).world.fs.entry cfg.cyborgPath = .file (jsonRep cfg.flags reps).bytes) := by
  have hgrp : groupCount cfg.flags ≤ 1 := by
    rcases run_cases render cfg inp reps w hmd with ⟨c, _, hc0, hrun, _⟩ | ⟨_, _, _, hg, _⟩
    · rw [hrun] at h0; exact absurd h0 hc0
    · exact hg
  have hpb : primaryBytes cfg.flags reps = (humanRep cfg.flags reps).bytes :=
    primaryBytes_cyborg reps hc (cyborg_only hgrp hc).2.2
  refine ⟨hpb, fun p hp hreg hlogp hne => ?_, fun hp hs he => ?_⟩
  · rcases run_seen_file render cfg inp reps w hmd hp hreg hlogp (fun _ => hne) with ⟨hne, _⟩ | ⟨k, hseen, hz, _⟩
    · exact absurd h0 hne
    · rw [List.take_of_length_le (hz h0).1, hpb] at hseen
      exact ⟨hseen, (hz h0).2 ⟨hc, hrc, hlog⟩⟩
  · rcases run_seen_stdout render cfg inp reps w hmd hp hs he with ⟨hne, _⟩ | ⟨k, hseen, hz, _⟩
    · exact absurd h0 hne
    · rw [List.take_of_length_le (hz h0).1, hpb] at hseen
      exact ⟨hseen, (hz h0).2 ⟨hc, hrc, hlog⟩⟩

/-- **C20.io.5** `failure_no_report` — what the code really guarantees for "… or exits with status 1 …
    and nothing on the primary output", stated exactly. After ANY status other than 0 (no
    `--help-markdown`):
    * standard output as primary (unbounded, initially empty): it received NOTHING — or, in cyborg
      mode only, the COMPLETE human report (the JSON write to the cyborg file failed afterwards);
    * `--output-file p` as primary: `p` was not touched at all (the failure came before its creation:
      rejected options, log file, unreadable dump, cyborg file not creatable), or it was TRUNCATED and
      holds a prefix of the due bytes; when `p` is not size-limited that prefix is empty — the old
      content is gone — or, in cyborg mode only, the complete human report.
    So the property's "nothing on the primary output" holds for every failure of the options, the
    input, the creation of a file and the processing, and FAILS in exactly one situation with healthy
    primary: `--cyborg` whose own file cannot take the JSON report (`cyborg_write_failure_leaves_report`
    exhibits it). A primary that fails itself keeps the bytes it accepted before failing. -/
theorem failure_no_report (hmd : cfg.helpMarkdown = false)
    (hne : (run render cfg inp reps w).exit ≠ 0) :
    (cfg.outputFile = none → w.stdout.cap = none → w.stdout.out = [] ∧ w.stdout.buf = [] →
      (run render cfg inp reps w).world.stdout.out = [] ∨
      (cfg.flags.cyborg = true ∧
        (run render cfg inp reps w).world.stdout.out = (humanRep cfg.flags reps).bytes)) ∧
    (∀ p, cfg.outputFile = some p → Regular w.fs p → cfg.logFile ≠ some p →
      (cfg.flags.cyborg = true → cfg.cyborgPath ≠ p) →
      (run render cfg inp reps w).world.fs.entry p = w.fs.entry p ∨
      ∃ k, (run render cfg inp reps w).world.fs.entry p = .file ((primaryBytes cfg.flags reps).take k) ∧
        (w.fs.limit p = none →
          k = 0 ∨ (cfg.flags.cyborg = true ∧
            (primaryBytes cfg.flags reps).take k = (humanRep cfg.flags reps).bytes))) := by
  refine ⟨fun hp hs he => ?_, fun p hp hreg hlog hcy => ?_⟩
  · rcases run_seen_stdout render cfg inp reps w hmd hp hs he with ⟨_, hout⟩ | ⟨k, hseen, _, hk⟩
    · exact Or.inl hout
    · have hout : (run render cfg inp reps w).world.stdout.out = (primaryBytes cfg.flags reps).take k := hseen
      rcases hk hne trivial with rfl | ⟨hc, hh⟩
      · left; rw [hout, List.take_zero]
      · right; exact ⟨hc, hout.trans hh⟩
  · rcases run_seen_file render cfg inp reps w hmd hp hreg hlog hcy with ⟨_, hent⟩ | ⟨k, hseen, _, hk⟩
    · exact Or.inl hent
    · exact Or.inr ⟨k, hseen, hk hne⟩

/-- **C20.io.6** `exit_status_table`, part 1: the only statuses are 0, 1, 2 and 101; 2 is exactly clap's
    refusal of two output formats; 101 (a panic: `.expect("help-markdown failed")`) needs the hidden
    `--help-markdown` AND a standard output that fails. -/
theorem exit_status_table :
    ((run render cfg inp reps w).exit = 0 ∨ (run render cfg inp reps w).exit = 1 ∨
     (run render cfg inp reps w).exit = 2 ∨ (run render cfg inp reps w).exit = 101) ∧
    ((run render cfg inp reps w).exit = 2 ↔ groupCount cfg.flags + b2n cfg.helpMarkdown > 1) ∧
    ((run render cfg inp reps w).exit = 101 → cfg.helpMarkdown = true ∧ w.stdout.cap ≠ none) := by
  by_cases hg : groupCount cfg.flags + b2n cfg.helpMarkdown > 1
  · simp [run, hg]
  cases hlo : openOpt w cfg.logFile with
  | none => simp [run, hg, hlo]
  | some r =>
    obtain ⟨w0, lg⟩ := r
    rcases Bool.eq_false_or_eq_true cfg.helpMarkdown with hmd | hmd
    · simp only [run, hg, hlo, if_false, iff_false]
      simp only [hmd, if_true]
      cases he : (w0.stdout.write reps.helpMd).2 with
      | none => simp
      | some k =>
        refine ⟨by simp, by simp, fun _ => ⟨trivial, fun hcap => ?_⟩⟩
        rw [(stdout_write_healthy w0.stdout reps.helpMd (by rw [(openOpt_some hlo).1]; exact hcap)).1] at he
        cases he
    · -- without `--help-markdown`: the three tests and an unreadable file end with 1, the report stage with 0 or 1
      have hle : (run render cfg inp reps w).exit ≤ 1 := by
        rw [run_eq render cfg inp reps w hmd hlo, if_neg (by rw [hmd] at hg; exact hg)]
        split
        · exact Nat.le_refl 1
        split
        · exact Nat.le_refl 1
        · exact emitReports_exit_le ..
      simp only [hg, iff_false]
      exact ⟨by omega, by omega, fun h => by omega⟩

/-- **C20.io.7** `exit_status_table`, part 2: when nothing in the world fails (`Healthy`), the status is
    the decision table's (`cli`, proved equal to the documented `spec` in C20.1): 2 for two formats,
    1 for `--pretty` without JSON / `--brief` with JSON alone / an unreadable file / an
    unprocessable file outside `--dump`, else 0 — and 1 for `--use-local-debuginfo` on a dump of a CPU
    the debuginfo provider does not support (`localUnsupported`, outside `--dump`). -/
theorem exit_status_healthy (hmd : cfg.helpMarkdown = false) (hw : Healthy cfg w) :
    (run render cfg inp reps w).exit
      = if exitOf cfg.flags inp = 0 ∧ cfg.flags.dump = false ∧ cfg.localUnsupported = true then 1
        else exitOf cfg.flags inp := by
  obtain ⟨w0, hlo, hw0, _⟩ := openOpt_healthy hw hw.log
  rw [exitOf_eq, run_eq render cfg inp reps w hmd hlo]
  by_cases h1 : groupCount cfg.flags > 1
  · simp only [h1, if_true]; simp
  rw [if_neg h1, if_neg h1]
  cases optsDiag cfg.flags with
  | some d => simp
  | none =>
    by_cases h4 : inp = .unreadable
    · simp [h4]
    simp only [h4, if_false]
    rw [emitReports_exit_of_healthy render cfg inp reps _ w0 (by omega) hw0]
    by_cases hd : cfg.flags.dump = true <;> by_cases hl : cfg.localUnsupported = true <;>
      by_cases hu : inp = .unprocessable <;> simp [Stops, hd, hl, hu]

/-- **C20.io.8 (finding D1)** `--cyborg <file that cannot take the JSON report>` (`/dev/full`, a full
    disk): the tool writes the COMPLETE human report to standard output and THEN exits with status 1
    and `Error: …` — "status 1 … and nothing on the primary output" is false here. For every human and
    non-empty JSON report. -/
theorem cyborg_write_failure_leaves_report
    (hg : groupCount cfg.flags ≤ 1) (hc : cfg.flags.cyborg = true) (hmd : cfg.helpMarkdown = false)
    (hlu : cfg.localUnsupported = false) (hlog : cfg.logFile = none) (hout : cfg.outputFile = none)
    (hfull : w.fs.entry cfg.cyborgPath = .full) (hj : (jsonRep cfg.flags reps).bytes ≠ [])
    (hs : w.stdout.cap = none) (he : w.stdout.out = [] ∧ w.stdout.buf = []) :
    (run render cfg .ok reps w).exit = 1 ∧
    (run render cfg .ok reps w).world.stdout.out = (humanRep cfg.flags reps).bytes ∧
    (run render cfg .ok reps w).world.stderr = w.stderr ++ [.ioError] := by
  obtain ⟨_, _, hd⟩ := cyborg_only hg hc
  have hgn : ¬ groupCount cfg.flags > 1 := by omega
  have hcreate : w.fs.create cfg.cyborgPath = some (w.fs, ⟨cfg.cyborgPath, 0⟩) := by
    unfold Fs.create; rw [hfull]
  have hwr : ∀ bs : Bytes, bs ≠ [] → (w.fs.write ⟨cfg.cyborgPath, 0⟩ bs) = (w.fs, ⟨cfg.cyborgPath, 0⟩, false) := by
    intro bs hbs
    unfold Fs.write
    simp only [hfull]
    cases bs with
    | nil => exact absurd rfl hbs
    | cons => rfl
  obtain ⟨hwe, hwh, hwt⟩ := stdout_write_healthy w.stdout (humanRep cfg.flags reps) hs
  simp only [run, hmd, b2n, hgn, hlog, openOpt, humanOn, jsonOn, hc, hd, hout, emitReports, openPrimary,
    afterOpen, writeReports, writeJson, emitIf, emit_stdout, hwe, emitFile, hcreate, hlu, doneThen,
    hwr _ hj, Bool.false_eq_true, if_false, if_true, Nat.add_zero, Bool.not_true, Bool.and_false,
    Bool.true_or, Bool.not_false]
  refine ⟨rfl, ?_, rfl⟩
  show ((w.stdout.write (humanRep cfg.flags reps)).1.atExit).out = _
  rw [stdout_atExit_healthy _ hwh, hwt, he.1, he.2]
  rfl

/-- **C20.io.9 (finding D2)** the same path for `--cyborg` and `--output-file`: both `File::create`
    calls succeed, the two descriptors write from offset 0 over each other, and the tool exits with
    status 0. The file ends up holding the JSON report followed by whatever of the human report is
    longer than it — NOT "what standard output would" have received (the human report). -/
theorem same_path_clobbers (p : Path)
    (hg : groupCount cfg.flags ≤ 1) (hc : cfg.flags.cyborg = true) (hmd : cfg.helpMarkdown = false)
    (hlu : cfg.localUnsupported = false)
    (hlog : cfg.logFile = none) (hout : cfg.outputFile = some p) (hcp : cfg.cyborgPath = p)
    (hreg : Regular w.fs p) (hlim : w.fs.limit p = none)
    (hh : (humanRep cfg.flags reps).bytes ≠ []) (hj : (jsonRep cfg.flags reps).bytes ≠ []) :
    (run render cfg .ok reps w).exit = 0 ∧
    (run render cfg .ok reps w).world.fs.entry p
      = .file ((jsonRep cfg.flags reps).bytes ++
          (humanRep cfg.flags reps).bytes.drop (jsonRep cfg.flags reps).bytes.length) := by
  obtain ⟨_, _, hd⟩ := cyborg_only hg hc
  have hgn : ¬ groupCount cfg.flags > 1 := by omega
  have hc1 := create_regular hreg
  have hreg2 : Regular (w.fs.set p (.file [])) p := Or.inl ⟨[], by simp⟩
  have hc2 := create_regular hreg2
  have hw1 := write_file_unlimited ((w.fs.set p (.file [])).set p (.file [])) ⟨p, 0⟩ [] _ (by simp) hlim hh
  have hw2 := write_file_unlimited
    (((w.fs.set p (.file [])).set p (.file [])).set p (.file (writeAt [] 0 (humanRep cfg.flags reps).bytes)))
    ⟨p, 0⟩ (writeAt [] 0 (humanRep cfg.flags reps).bytes) _ (by simp) hlim hj
  simp only [run, hmd, b2n, hgn, hlog, openOpt, humanOn, jsonOn, hc, hd, hout, hcp, emitReports, openPrimary,
    afterOpen, writeReports, writeJson, emitIf, emit, emitFile, hc1, hc2, hw1, hw2, hlu, doneThen_file, done_none,
    Bool.false_eq_true, if_false, if_true, Nat.add_zero, Bool.not_true, Bool.and_false,
    Bool.true_or, Bool.not_false]
  refine ⟨rfl, ?_⟩
  simp [writeAt_zero]

/-- **C20.io.10** `final_flush_checked` (finding D3, repaired by 433988c `output.flush()?`): the report
    goes to standard output (no `--output-file`), standard output can take `c` bytes (a file on a disk
    that fills up, RLIMIT_FSIZE, …) and the shortfall lies entirely in the bytes the printer left in
    standard output's `LineWriter` (`pend` > 0: every JSON report — it does not end in a newline). The
    explicit flush before `Ok(())` reports it: status 1 and `Error: …` (status 0 and silence only for
    a broken pipe); the first `c` bytes stay written — a primary that fails itself keeps what it
    accepted. Before the fix this was status 0 without a diagnostic. -/
theorem final_flush_checked (c : Nat)
    (hacc : exitOf cfg.flags .ok = 0) (hcy : cfg.flags.cyborg = false) (hmd : cfg.helpMarkdown = false)
    (hlu : cfg.localUnsupported = false) (hlog : cfg.logFile = none) (hout : cfg.outputFile = none)
    (he : w.stdout.out = [] ∧ w.stdout.buf = []) (hcap : w.stdout.cap = some c)
    (hfit : (soleRep cfg.flags reps).bytes.length
              - min (soleRep cfg.flags reps).pend (soleRep cfg.flags reps).bytes.length ≤ c)
    (hshort : c < (soleRep cfg.flags reps).bytes.length) :
    (run render cfg .ok reps w).world.stdout.out = (soleRep cfg.flags reps).bytes.take c ∧
    (w.stdout.kind = .other →
      (run render cfg .ok reps w).exit = 1 ∧ (run render cfg .ok reps w).world.stderr = w.stderr ++ [.ioError]) ∧
    (w.stdout.kind = .brokenPipe →
      (run render cfg .ok reps w).exit = 0 ∧ (run render cfg .ok reps w).world.stderr = w.stderr) := by
  obtain ⟨h1, h2⟩ := run_sole_bounded render cfg reps w c hacc hcy hmd hlu hlog hout he hcap
  exact ⟨h1, h2 hshort⟩

/-- **C20.io.10b** the positive side: with standard output as the primary (any capacity, errors other
    than a broken pipe), status 0 means the COMPLETE report arrived — "exits with status 0 having
    written to its primary output exactly the report". -/
theorem stdout_exit0_complete
    (hacc : exitOf cfg.flags .ok = 0) (hcy : cfg.flags.cyborg = false) (hmd : cfg.helpMarkdown = false)
    (hlu : cfg.localUnsupported = false) (hlog : cfg.logFile = none) (hout : cfg.outputFile = none)
    (he : w.stdout.out = [] ∧ w.stdout.buf = []) (hkind : w.stdout.kind = .other)
    (h0 : (run render cfg .ok reps w).exit = 0) :
    (run render cfg .ok reps w).world.stdout.out = (soleRep cfg.flags reps).bytes := by
  cases hcap : w.stdout.cap with
  | none =>
    rw [stdout_exact render cfg .ok reps w hout hcap he hmd h0, primaryBytes_sole reps hcy]
  | some c =>
    obtain ⟨h1, h2⟩ := run_sole_bounded render cfg reps w c hacc hcy hmd hlu hlog hout he hcap
    by_cases hle : (soleRep cfg.flags reps).bytes.length ≤ c
    · rw [h1, List.take_of_length_le hle]
    · rw [((h2 (by omega)).1 hkind).1] at h0
      cases h0

/-- … whereas a shortfall before the pending tail is detected by the write itself: status 1, `Error: …` on standard
    error, and the first `c` bytes of the report on standard output. With a broken pipe instead
    (`kind = brokenPipe`): status 0 and no diagnostic. -/
theorem stdout_failure_detected (c : Nat)
    (hacc : exitOf cfg.flags .ok = 0) (hcy : cfg.flags.cyborg = false) (hmd : cfg.helpMarkdown = false)
    (hlu : cfg.localUnsupported = false) (hlog : cfg.logFile = none) (hout : cfg.outputFile = none)
    (he : w.stdout.out = [] ∧ w.stdout.buf = []) (hcap : w.stdout.cap = some c)
    (hover : c < (soleRep cfg.flags reps).bytes.length
              - min (soleRep cfg.flags reps).pend (soleRep cfg.flags reps).bytes.length) :
    (run render cfg .ok reps w).world.stdout.out = (soleRep cfg.flags reps).bytes.take c ∧
    (w.stdout.kind = .other →
      (run render cfg .ok reps w).exit = 1 ∧ (run render cfg .ok reps w).world.stderr = w.stderr ++ [.ioError]) ∧
    (w.stdout.kind = .brokenPipe →
      (run render cfg .ok reps w).exit = 0 ∧ (run render cfg .ok reps w).world.stderr = w.stderr) := by
  obtain ⟨h1, h2⟩ := run_sole_bounded render cfg reps w c hacc hcy hmd hlu hlog hout he hcap
  exact ⟨h1, h2 (by omega)⟩

/-- **C20.io.11** order of effects, 1: an unreadable file (missing, a directory, empty, not a minidump)
    leaves every path except the `--log-file` exactly as it was, and standard output untouched: the
    cyborg and output files are created only after `Minidump::read_path` succeeded. -/
theorem unreadable_touches_nothing (hmd : cfg.helpMarkdown = false) :
    (run render cfg .unreadable reps w).exit ≠ 0 ∧
    (run render cfg .unreadable reps w).world.stdout = w.stdout.atExit ∧
    ∀ q, cfg.logFile ≠ some q → (run render cfg .unreadable reps w).world.fs.entry q = w.fs.entry q := by
  rcases run_cases render cfg .unreadable reps w hmd with ⟨c, w', hc, hrun, hso, hent⟩ | ⟨_, _, _, _, hne, _⟩
  · rw [hrun]
    exact ⟨hc, by rw [finish_stdout, hso], fun q hq => by rw [finish_fs]; exact hent q hq⟩
  · exact absurd rfl hne

/-- **C20.io.12** order of effects, 2 — "what is on disk when processing later fails?": both files are
    created (TRUNCATED) before the dump is processed, so a file that is readable but cannot be
    processed (accepted options, not `--dump`) leaves the `--output-file` and the `--cyborg` file
    EMPTY, whatever they held before; status 1, nothing on standard output. -/
theorem processing_failure_truncates (p : Path)
    (hacc : exitOf cfg.flags .ok = 0) (hd : cfg.flags.dump = false) (hmd : cfg.helpMarkdown = false)
    (hlog : cfg.logFile = none) (hout : cfg.outputFile = some p) (hreg : Regular w.fs p)
    (hcy : cfg.flags.cyborg = true → Regular w.fs cfg.cyborgPath) :
    (run render cfg .unprocessable reps w).exit = 1 ∧
    (run render cfg .unprocessable reps w).world.fs.entry p = .file [] ∧
    (cfg.flags.cyborg = true → (run render cfg .unprocessable reps w).world.fs.entry cfg.cyborgPath = .file []) ∧
    (run render cfg .unprocessable reps w).world.stdout = w.stdout.atExit :=
  run_stops_truncates render cfg .unprocessable reps w p ⟨hd, Or.inl rfl⟩ (by simp) hacc hmd hlog hout hreg hcy

/-- **C20.io.12b** the debuginfo rule (finding D6, repaired by fb88910): `--use-local-debuginfo` on a
    processable dump whose CPU the debuginfo provider does not support ends like C20.io.12 — status 1, the
    `--output-file` and the `--cyborg` file created and EMPTY, nothing on standard output. -/
theorem local_debuginfo_unsupported_fails (p : Path) (hlu : cfg.localUnsupported = true)
    (hacc : exitOf cfg.flags .ok = 0) (hd : cfg.flags.dump = false) (hmd : cfg.helpMarkdown = false)
    (hlog : cfg.logFile = none) (hout : cfg.outputFile = some p) (hreg : Regular w.fs p)
    (hcy : cfg.flags.cyborg = true → Regular w.fs cfg.cyborgPath) :
    (run render cfg .ok reps w).exit = 1 ∧
    (run render cfg .ok reps w).world.fs.entry p = .file [] ∧
    (cfg.flags.cyborg = true → (run render cfg .ok reps w).world.fs.entry cfg.cyborgPath = .file []) ∧
    (run render cfg .ok reps w).world.stdout = w.stdout.atExit :=
  run_stops_truncates render cfg .ok reps w p ⟨hd, Or.inr hlu⟩ (by simp) hacc hmd hlog hout hreg hcy

/-- **C20.io.13** order of effects, 3: the cyborg file is created BEFORE the output file. When the
    output file cannot be created (a directory, a missing parent) the tool exits with status 1 and
    `Error: …`, nothing is printed — and the cyborg file has already been truncated to nothing. -/
theorem output_create_failure_after_cyborg (p : Path)
    (hacc : exitOf cfg.flags .ok = 0) (hc : cfg.flags.cyborg = true) (hmd : cfg.helpMarkdown = false)
    (hlog : cfg.logFile = none) (hout : cfg.outputFile = some p) (hne : cfg.cyborgPath ≠ p)
    (hbad : w.fs.entry p = .dir ∨ w.fs.entry p = .absent false)
    (hcy : Regular w.fs cfg.cyborgPath) (hin : inp ≠ .unreadable) :
    (run render cfg inp reps w).exit = 1 ∧
    (run render cfg inp reps w).world.fs.entry cfg.cyborgPath = .file [] ∧
    (run render cfg inp reps w).world.fs.entry p = w.fs.entry p ∧
    (run render cfg inp reps w).world.stdout = w.stdout.atExit ∧
    (run render cfg inp reps w).world.stderr = w.stderr ++ [.ioError] := by
  have hpe : (w.fs.set cfg.cyborgPath (.file [])).entry p = w.fs.entry p :=
    Fs.set_entry_other _ _ _ _ (Ne.symm hne)
  have hc2 : (w.fs.set cfg.cyborgPath (.file [])).create p = none := by
    unfold Fs.create; rw [hpe]
    rcases hbad with h | h <;> rw [h]
  have hrun : run render cfg inp reps w
      = failWith { w with fs := w.fs.set cfg.cyborgPath (.file []) } .other := by
    rw [run_accepted render cfg inp reps w hacc hmd hlog hin]
    simp only [emitReports, hc, if_true, openOpt_regular hcy, hout, openPrimary, hc2]
  rw [hrun]
  exact ⟨rfl, by simp, by rw [failWith_fs]; exact hpe, by simp, rfl⟩

/-- `out` is a pre-existing file LONGER than any report below; `d` a directory; `full` = `/dev/full` -/
def exFs : Fs where
  entry := fun p =>
    if p = "out" then .file [9, 9, 9, 9, 9, 9, 9, 9, 9, 9, 9, 9]
    else if p = "cy" then .file [8, 8, 8, 8, 8, 8, 8, 8]
    else if p = "d" then .dir else if p = "full" then .full else .absent true
  limit := fun _ => none

def exReps : Reports :=
  { human := ⟨[72, 10], 0⟩, humanBrief := ⟨[104, 10], 0⟩, json := ⟨[123, 125], 1⟩, jsonPretty := ⟨[123, 10, 125], 1⟩,
    dump := ⟨[68, 10], 0⟩, dumpBrief := ⟨[100, 10], 0⟩, helpMd := ⟨[35, 10], 0⟩ }

def exWorld : World := ⟨exFs, ⟨[], [], none, .other⟩, []⟩
def exRender : Diag → Bytes := fun _ => [69, 10]
def noFlags : Flags := ⟨false, false, false, false, false, false⟩
def exCfg : Cfg := { flags := noFlags, cyborgPath := "", helpMarkdown := false, outputFile := none, logFile := none, verboseOff := false, localUnsupported := false }

-- `--output-file out` over a longer pre-existing file: status 0 and exactly the 2 bytes of the report
example : (run exRender { exCfg with outputFile := some "out" } .ok exReps exWorld).exit = 0 ∧
    (run exRender { exCfg with outputFile := some "out" } .ok exReps exWorld).world.fs.entry "out" = .file [72, 10] ∧
    (run exRender exCfg .ok exReps exWorld).world.stdout.out = [72, 10] := by decide +kernel
example : Regular exFs "out" ∧ Regular exFs "cy" ∧ Regular exFs "new" :=
  ⟨Or.inl ⟨_, rfl⟩, Or.inl ⟨_, rfl⟩, Or.inr rfl⟩
-- `--cyborg cy --output-file out --brief --pretty`
example :
    let cfg := { exCfg with flags := { noFlags with cyborg := true, brief := true, pretty := true },
                            cyborgPath := "cy", outputFile := some "out" }
    (run exRender cfg .ok exReps exWorld).exit = 0 ∧
    (run exRender cfg .ok exReps exWorld).world.fs.entry "out" = .file [104, 10] ∧
    (run exRender cfg .ok exReps exWorld).world.fs.entry "cy" = .file [123, 10, 125] := by decide +kernel
-- finding D1: `--cyborg /dev/full`: status 1 AFTER the complete human report reached standard output
example :
    let cfg := { exCfg with flags := { noFlags with cyborg := true }, cyborgPath := "full" }
    (run exRender cfg .ok exReps exWorld).exit = 1 ∧
    (run exRender cfg .ok exReps exWorld).world.stdout.out = [72, 10] ∧
    (run exRender cfg .ok exReps exWorld).world.stderr = [.ioError] := by decide +kernel
-- finding D2: the same path twice: status 0, the file holds the JSON report (the human report is gone)
example :
    let cfg := { exCfg with flags := { noFlags with cyborg := true }, cyborgPath := "out", outputFile := some "out" }
    (run exRender cfg .ok exReps exWorld).exit = 0 ∧
    (run exRender cfg .ok exReps exWorld).world.fs.entry "out" = .file [123, 125] := by decide +kernel
-- finding D3 (repaired): `--json` to a standard output that takes 1 of the 2 bytes: the final flush
-- fails => status 1 with `Error:`; the byte that fitted stays
example :
    let cfg := { exCfg with flags := { noFlags with json := true } }
    let w : World := ⟨exFs, ⟨[], [], some 1, .other⟩, []⟩
    exitOf cfg.flags .ok = 0 ∧ (run exRender cfg .ok exReps w).exit = 1 ∧
    (run exRender cfg .ok exReps w).world.stdout.out = [123] ∧ (run exRender cfg .ok exReps w).world.stderr = [.ioError] := by
  decide +kernel
-- `--use-local-debuginfo` on a dump of an unsupported CPU: status 1, files created and empty, no report
example :
    let cfg := { exCfg with outputFile := some "out", localUnsupported := true }
    (run exRender cfg .ok exReps exWorld).exit = 1 ∧
    (run exRender cfg .ok exReps exWorld).world.fs.entry "out" = .file [] ∧
    (run exRender cfg .ok exReps exWorld).world.stdout.out = [] ∧
    (run exRender cfg .ok exReps exWorld).world.stderr = [.localDebuginfoError] := by decide +kernel
-- … the human report (ends in a newline, nothing pending) on the same standard output: detected
example :
    let w : World := ⟨exFs, ⟨[], [], some 1, .other⟩, []⟩
    (run exRender exCfg .ok exReps w).exit = 1 ∧ (run exRender exCfg .ok exReps w).world.stdout.out = [72] ∧
    (run exRender exCfg .ok exReps w).world.stderr = [.ioError] := by decide +kernel
-- a reader that went away: status 0, nothing written, no diagnostic
example :
    let w : World := ⟨exFs, ⟨[], [], some 0, .brokenPipe⟩, []⟩
    (run exRender exCfg .ok exReps w).exit = 0 ∧ (run exRender exCfg .ok exReps w).world.stdout.out = [] ∧
    (run exRender exCfg .ok exReps w).world.stderr = [] := by decide +kernel
-- processing fails: both files are left empty; the log file holds the diagnostic, standard error nothing
example :
    let cfg := { exCfg with flags := { noFlags with cyborg := true }, cyborgPath := "cy", outputFile := some "out",
                            logFile := some "log" }
    (run exRender cfg .unprocessable exReps exWorld).exit = 1 ∧
    (run exRender cfg .unprocessable exReps exWorld).world.fs.entry "out" = .file [] ∧
    (run exRender cfg .unprocessable exReps exWorld).world.fs.entry "cy" = .file [] ∧
    (run exRender cfg .unprocessable exReps exWorld).world.fs.entry "log" = .file [69, 10] ∧
    (run exRender cfg .unprocessable exReps exWorld).world.stderr = [] := by decide +kernel
-- the output file is a directory: status 1, the cyborg file is already truncated
example :
    let cfg := { exCfg with flags := { noFlags with cyborg := true }, cyborgPath := "cy", outputFile := some "d" }
    (run exRender cfg .ok exReps exWorld).exit = 1 ∧
    (run exRender cfg .ok exReps exWorld).world.fs.entry "cy" = .file [] ∧
    (run exRender cfg .ok exReps exWorld).world.stdout.out = [] := by decide +kernel
-- the statuses 2 and 101
example : (run exRender { exCfg with flags := { noFlags with json := true, dump := true } } .ok exReps exWorld).exit = 2 := by
  decide +kernel
example :
    let w : World := ⟨exFs, ⟨[], [], some 0, .other⟩, []⟩
    (run exRender { exCfg with helpMarkdown := true } .ok exReps w).exit = 101 := by decide +kernel
example : Healthy { exCfg with outputFile := some "out", logFile := some "log" } exWorld where
  stdout := rfl
  log := fun l h => by
    have : l = "log" := by simpa using h.symm
    subst this; exact Or.inr rfl
  cyborg := fun h => by simp [exCfg, noFlags] at h
  output := fun p h => by
    have : p = "out" := by simpa using h.symm
    subst this; exact ⟨Or.inl ⟨_, rfl⟩, rfl⟩

end MdModel.Cli
