/-
  C06, bridged to the stack walks — `MdModel.Walk.Cfi` evaluates STACK CFI exactly as `MdModel.Cfi`.

  The framework has two hand-written Lean models of the one Rust evaluator
  (`eval_cfi_expr`, `parse_cfi_exprs`, `walk_with_stack_cfi`, `SymbolFile::walk_frame`):
  `MdModel.Cfi` (bytes, `UInt64`; the subject of C06's theorems in `MdProofs.C06`) and
  `MdModel.Walk.Cfi` (characters, classified tokens, `Nat`; what the walks of C03/C04/C05 run).
  The theorems here say they are the same function, so that C06's property text

    "… unwinding yields exactly what the documented semantics prescribe: rules at or below the
     address are applied in address order with later ones overriding, the CFA is computed first
     and may not refer to itself, a return-address rule is mandatory, and each other register is
     set from its rule or marked unknown when its rule fails. Arithmetic is 64-bit wrapping, and
     stack underflow, leftover operands, division by zero, non-power-of-two alignment, unreadable
     memory, unknown registers and `.undef` make the affected rule fail …"

  also holds of the evaluator inside the walker model: first the bridge (`walk_cfi_eq_c06`,
  `walkCfi_eq_c06`, `walkFrame_eq_c06`, and `walkerOf_related`: the simulation relation is
  inhabited for every architecture), then C06's theorems transported along it.

  Relations (defined in `MdProofs.Lemmas.CfiBridge*`): text ↦ its UTF-8 bytes (`enc`, `utf8`);
  values by `UInt64.toNat`; `EnvSim` (callee registers, memory), `WalkerSim` (+ register names,
  register width), `OutSimAt` (a caller register valid with the same value on both sides).
-/
import MdProofs.C06
import MdProofs.Lemmas.CfiBridgeSpec
namespace MdModel.CfiBridge
open MdModel

/-- **`walk_cfi_eq_c06`** — "STACK CFI rules evaluate exactly as the documented postfix language",
    for the walker model's evaluator: on EVERY list of token texts (any characters, any length),
    every CFA (or none) and all related register files and memories, the walker model's
    `eval_cfi_expr` on the classified tokens is the C06 model's on the UTF-8 bytes of the same
    tokens — same success, same value. -/
theorem walk_cfi_eq_c06 (x : Walk.CfiIn) (env : Cfi.Env) (h : EnvSim x env) (cfa : Option UInt64)
    (toks : List (List Char)) :
    Walk.evalCfi x (cfa.map UInt64.toNat) (toks.map Walk.classifyL) [] =
      (Cfi.evalCfi env cfa (toks.map enc)).map UInt64.toNat := by
  refine evalCfi_bridge x env h cfa _ _ ?_ fun t ht => ?_
  · rw [List.map_map, List.map_map]
    exact List.map_congr_left fun tok _ => classify_enc tok
  · obtain ⟨tok, _, rfl⟩ := List.mem_map.mp ht
    exact classifyL_wf tok

theorem walk_cfi_eq_c06_text (x : Walk.CfiIn) (env : Cfi.Env) (h : EnvSim x env) (cfa : Option UInt64)
    (expr : String) :
    Walk.evalCfi x (cfa.map UInt64.toNat) ((Walk.splitWsL expr.toList).map Walk.classifyL) [] =
      (Cfi.evalCfi env cfa (Cfi.splitWs (utf8 expr))).map UInt64.toNat := by
  rw [walk_cfi_eq_c06 x env h]
  unfold utf8
  rw [splitWs_enc]

/-- the same for ANY list of classified tokens whose literals are 64-bit (not only lexer output) -/
theorem walk_cfi_eq_c06_toks (x : Walk.CfiIn) (env : Cfi.Env) (h : EnvSim x env) (cfa : Option UInt64)
    (ts : List Walk.ETok) (hwf : ∀ t ∈ ts, ETokWf t) :
    Walk.evalCfi x (cfa.map UInt64.toNat) ts [] = (Cfi.evalToks env cfa (ts.map tokOf)).map UInt64.toNat :=
  evalCfi_toks x env h cfa ts hwf

/-- **`walkCfi ≙ walkCfi`** (`walk_with_stack_cfi`): see `walkCfi_bridge`. Both models parse the
    same rules from the same lines (later definitions overriding), demand `.cfa` and `.ra`,
    evaluate the CFA without a CFA and the return address with it, apply the register-width test,
    process the remaining rules in the same (name) order, and set-or-clear the same registers
    through the same alias resolution. -/
theorem walkCfi_eq_c06 (x : Walk.CfiIn) (W : Cfi.Walker) (h : WalkerSim x W) (o0 : Walk.CfiOut)
    (init : String) (adds : List String) :
    match Cfi.walkCfi W ((init :: adds).map utf8) with
    | none => Walk.walkCfi x o0 init adds = none
    | some c =>
      ∃ cfa ra o c', c.cfa = some cfa ∧ c.ra = some ra ∧
        Walk.walkCfi x o0 init adds = some o ∧
        Cfi.walkCfi (seeded x.arch W cfa ra) ((init :: adds).map utf8) = some c' ∧
        c'.cfa = some cfa ∧ c'.ra = some ra ∧
        ∀ s, (s = x.arch.spName ∨ s = x.arch.ipName ∨ OutSimAt x.arch o0 W.caller0 s) →
          OutSimAt x.arch o c' s := by
  cases hres : Cfi.walkCfi W ((init :: adds).map utf8) with
  | none => exact (walkCfi_bridge x W h o0 init adds).1 hres
  | some c => exact (walkCfi_bridge x W h o0 init adds).2 c hres

/-- **`walkFrameCfi ≙ walkFrame`** (`SymbolFile::walk_frame`, STACK CFI part): INIT + delta
    selection by address, through the walker model's own range table (C08). -/
theorem walkFrame_eq_c06 (sf : Walk.SymFile) (modBase : Nat) (x : Walk.CfiIn) (o0 : Walk.CfiOut)
    (W : Cfi.Walker) (h : WalkerSim x W) :
    (W.instr < modBase → Walk.walkFrameCfi sf (Walk.cfiTable sf) modBase x o0 W.instr = none ∧
        ∀ r, Cfi.walkFrame r modBase W = none) ∧
    (RangeMap.get (Walk.cfiTable sf) (W.instr - modBase) = none →
        Walk.walkFrameCfi sf (Walk.cfiTable sf) modBase x o0 W.instr = none) ∧
    (∀ i rec, ¬ W.instr < modBase → RangeMap.get (Walk.cfiTable sf) (W.instr - modBase) = some i →
        sf.cfis[i]? = some rec →
        match Cfi.walkFrame (recOf rec) modBase W with
        | none => Walk.walkFrameCfi sf (Walk.cfiTable sf) modBase x o0 W.instr = none
        | some c =>
          ∃ cfa ra o c', c.cfa = some cfa ∧ c.ra = some ra ∧
            Walk.walkFrameCfi sf (Walk.cfiTable sf) modBase x o0 W.instr = some o ∧
            Cfi.walkFrame (recOf rec) modBase (seeded x.arch W cfa ra) = some c' ∧
            c'.cfa = some cfa ∧ c'.ra = some ra ∧
            ∀ s, (s = x.arch.spName ∨ s = x.arch.ipName ∨ OutSimAt x.arch o0 W.caller0 s) →
              OutSimAt x.arch o c' s) :=
  walkFrame_bridge sf modBase x o0 W h

/-- **The simulation relation is inhabited**: for every architecture, every callee context whose
    validity set names only registers of the context type and whose registers are 64-bit, every
    stack memory, lookup address and forwarded set, `walkerOf` is a related C06 `Walker`. -/
theorem walkerOf_related (x : Walk.CfiIn) (instr : Nat) (fwd : List (Cfi.Name × UInt64))
    (hvalid : ValidWf x.arch x.callee) (h64 : ∀ n v, x.reg n = some v → v < 2 ^ 64) :
    WalkerSim x (walkerOf x instr fwd) :=
  walkerOf_sim x instr fwd hvalid h64

theorem fwdOf_related (a : Walk.Arch) (o : Walk.CfiOut) (s : String)
    (h64 : o.valid.contains s = true → rawC a o.ctx s < 2 ^ 64) :
    OutSimAt a o ⟨none, none, fwdOf a o⟩ s :=
  fwdOf_sim a o s h64

/-- x86-64 callee: `rsp = 0x1000`, `rbp = 0x1010`, 32 bytes of stack holding a saved `rbp`
    (`0x2040` at `0x1010`) and a return address (`0x401234` at `0x1018`) -/
def exIn : Walk.CfiIn :=
  { arch := .amd64
    callee := { ip := 0x401000, sp := 0x1000, rest := [("rbp", 0x1010), ("rbx", 7)] }
    mem := { base := 0x1000,
             bytes := #[0,0,0,0,0,0,0,0, 0,0,0,0,0,0,0,0,
                        0x40,0x20,0,0,0,0,0,0, 0x34,0x12,0x40,0,0,0,0,0] } }

def exOut : Walk.CfiOut := { ctx := exIn.callee, valid := Walk.forwarded .amd64 exIn.callee }

def exW : Cfi.Walker := walkerOf exIn 0x401000 (fwdOf .amd64 exOut)

theorem exIn_reg64 : ∀ n v, exIn.reg n = some v → v < 2 ^ 64 :=
  reg64_of_ctx exIn (by decide) (by decide) (by decide)

/-- the hypotheses of the bridge theorems hold of a concrete pair -/
theorem exW_related : WalkerSim exIn exW := walkerOf_related exIn _ _ trivial exIn_reg64

example : EnvSim exIn exW.env := exW_related.env

/-- both evaluators computed on `.cfa 8 - ^` with CFA `0x1020`: the return address -/
example : Walk.evalCfi exIn (some 0x1020) ([['.', 'c', 'f', 'a'], ['8'], ['-'], ['^']].map Walk.classifyL) []
    = some 0x401234 := by decide
example : Cfi.evalCfi exW.env (some 0x1020) [Cfi.tCfa, [0x38], Cfi.tMinus, Cfi.tCaret] = some 0x401234 := by decide

/-- both `walk_with_stack_cfi` computed on a canonical rule set with a saved frame pointer -/
def exRule : String := ".cfa: $rsp 32 + .ra: .cfa 8 - ^ $rbp: .cfa 16 - ^"

private theorem exW_walk :
    (Cfi.walkCfi exW [utf8 exRule]).map (fun c => (c.cfa, c.ra, c.get (utf8 "rbp"), c.get (utf8 "rbx")))
      = some (some 0x1020, some 0x401234, some 0x2040, some 7) := by decide +kernel

example : (Cfi.walkCfi exW [utf8 exRule]).map (fun c => (c.cfa, c.ra, c.get (utf8 "rbp"), c.get (utf8 "rbx")))
    = some (some 0x1020, some 0x401234, some 0x2040, some 7) := exW_walk

/-- … and the bridge applied to it: the walker model's `walk_with_stack_cfi` succeeds on the same
    rule text, with the CFA in `rsp`, the return address in `rip`, the frame pointer restored
    from the stack and `rbx` forwarded (`Walk.walkCfi` sorts with `mergeSort`, which does not
    reduce in the kernel: the values come from the C06 side through `walkCfi_bridge`) -/
example : ∃ o, Walk.walkCfi exIn exOut exRule [] = some o ∧
    viewW .amd64 o "rsp" = some 0x1020 ∧ viewW .amd64 o "rip" = some 0x401234 ∧
    viewW .amd64 o "rbp" = some 0x2040 ∧ viewW .amd64 o "rbx" = some 7 := by
  obtain ⟨c, hc, hvals⟩ := Option.map_eq_some_iff.mp exW_walk
  obtain ⟨cfa, ra, o, c', h1, h2, h3, h4, _, _, h7⟩ :=
    (walkCfi_bridge exIn exW exW_related exOut exRule []).2 c hc
  simp only [Prod.mk.injEq] at hvals
  rw [hvals.1] at h1; rw [hvals.2.1] at h2
  cases h1; cases h2
  have hregs : (Cfi.walkCfi (seeded .amd64 exW 0x1020 0x401234) ([exRule].map utf8)).map
      (fun c => (c.get (utf8 "rsp"), c.get (utf8 "rip"), c.get (utf8 "rbp"), c.get (utf8 "rbx"))) =
      some (some 0x1020, some 0x401234, some 0x2040, some 7) := by decide +kernel
  have h4' : Cfi.walkCfi (seeded .amd64 exW 0x1020 0x401234) ([exRule].map utf8) = some c' := h4
  rw [h4'] at hregs
  simp only [Option.map_some, Option.some.injEq, Prod.mk.injEq] at hregs
  obtain ⟨r1, r2, r3, r4⟩ := hregs
  have read : ∀ s v, c'.get (utf8 s) = some v → OutSimAt .amd64 o c' s → viewW .amd64 o s = some v.toNat :=
    fun s v hv hs => by unfold OutSimAt at hs; rw [← hs, hv]; rfl
  exact ⟨o, h3, read _ _ r1 (h7 "rsp" (.inl rfl)), read _ _ r2 (h7 "rip" (.inr (.inl rfl))),
    read _ _ r3 (h7 "rbp" (.inr (.inr (fwdOf_related _ _ _ (by decide))))),
    read _ _ r4 (h7 "rbx" (.inr (.inr (fwdOf_related _ _ _ (by decide)))))⟩

/-- **`walk_eval_postfix`** (C06.1 transported) — the walker model's evaluator applied to the
    postfix form of ANY expression tree returns the tree's denotation (`wdenote`: structural
    recursion over the walker model's own register file and memory, `Nat` arithmetic modulo
    2^64): operand order, wrapping, failure propagation. -/
theorem walk_eval_postfix (x : Walk.CfiIn) (env : Cfi.Env) (h : EnvSim x env) (cfa : Option UInt64)
    (t : WTree) :
    Walk.evalCfi x (cfa.map UInt64.toNat) (wpostfix t) [] = wdenote x (cfa.map UInt64.toNat) t := by
  rw [walk_cfi_eq_c06_toks x env h cfa _ (wpostfix_wf t), wpostfix_tokOf, Cfi.eval_postfix, wdenote_eq x env h]

/-- `^(.cfa - 8)` on the concrete pair: evaluator on the postfix form = denotation = the return address -/
example : Walk.evalCfi exIn (some 0x1020) (wpostfix (.deref (.bin .sub .cfa (.lit 8)))) [] = some 0x401234 ∧
    wdenote exIn (some 0x1020) (.deref (.bin .sub .cfa (.lit 8))) = some 0x401234 := by decide

/-- **`walk_eval_shape`** (C06.2 transported) — a token list evaluates in the walker model iff
    it is (in C06's vocabulary) the postfix form of a tree with that value: underflow, leftover
    operands, the empty program and failing sub-expressions fail; nothing else does. -/
theorem walk_eval_shape (x : Walk.CfiIn) (env : Cfi.Env) (h : EnvSim x env) (cfa : Option UInt64)
    (ts : List Walk.ETok) (hwf : ∀ t ∈ ts, ETokWf t) (v : UInt64) :
    Walk.evalCfi x (cfa.map UInt64.toNat) ts [] = some v.toNat ↔
      ∃ t : Cfi.Tree, ts.map tokOf = Cfi.postfixOf t ∧ Cfi.denote env cfa t = some v := by
  rw [walk_cfi_eq_c06_toks x env h cfa ts hwf, ← Cfi.eval_shape, Option.map_eq_some_iff]
  exact ⟨fun ⟨w, he, hv⟩ => UInt64.toNat_inj.mp hv ▸ he, fun hv => ⟨v, hv, rfl⟩⟩

/-- `.undef` anywhere, `.cfa` without a CFA anywhere: the rule fails (C06.2 transported) -/
theorem walk_undef_cfa_fail (x : Walk.CfiIn) (env : Cfi.Env) (h : EnvSim x env) (cfa : Option UInt64)
    (pre post : List Walk.ETok) (hwf : ∀ t ∈ pre ++ post, ETokWf t) :
    Walk.evalCfi x (cfa.map UInt64.toNat) (pre ++ .undef :: post) [] = none ∧
    Walk.evalCfi x none (pre ++ .cfa :: post) [] = none := by
  rw [List.forall_mem_append] at hwf
  have hwf' : ∀ u, ETokWf u → ∀ t ∈ pre ++ u :: post, ETokWf t := fun u hu =>
    List.forall_mem_append.mpr ⟨hwf.1, List.forall_mem_cons.mpr ⟨hu, hwf.2⟩⟩
  have hwf1 := hwf' .undef trivial
  have hwf2 := hwf' .cfa trivial
  constructor
  · rw [walk_cfi_eq_c06_toks x env h cfa _ hwf1]
    simp only [List.map_append, List.map_cons, tokOf]
    rw [Cfi.undef_fails]; rfl
  · have := walk_cfi_eq_c06_toks x env h none _ hwf2
    simp only [Option.map_none] at this
    rw [this]
    simp only [List.map_append, List.map_cons, tokOf]
    rw [Cfi.cfa_unavailable_fails]; rfl

/-- **`walk_rules_override`** (C06.4 transported) — "rules at or below the address are applied in
    address order with later ones overriding": the lines the walker model's `walk_frame` hands to
    `walk_with_stack_cfi` for record `rec` at module-relative address `a` are (as UTF-8) exactly
    C06's `linesAt`: INIT, then exactly the deltas with address `≤ a`, in the order of the
    parser's sort (non-decreasing address), a permutation of the deltas as written. -/
theorem walk_rules_override (rec : Walk.CfiRec) (a : Nat) :
    (rec.init :: selOf rec a).map utf8 =
      utf8 rec.init :: ((Cfi.sortAdds (recOf rec).adds).filter (fun d => decide (d.1 ≤ a))).map (·.2) ∧
    (∀ d, d ∈ (Cfi.sortAdds (recOf rec).adds).filter (fun d => decide (d.1 ≤ a)) ↔
        d ∈ (recOf rec).adds ∧ d.1 ≤ a) ∧
    (Cfi.sortAdds (recOf rec).adds).Pairwise (fun p q => p.1 ≤ q.1) ∧
    (Cfi.sortAdds (recOf rec).adds).Perm (recOf rec).adds := by
  have h := Cfi.rules_override (recOf rec) a
  rw [linesAt_recOf] at h
  exact h

/-- deltas written out of order, lookup at the middle one: INIT, then the 0x11 and 0x12 deltas
    (`mergeSort` does not reduce: computed on the C06 side through the theorem) -/
example : (("i" : String) :: selOf ⟨0x10, 0x10, "i", [(0x12, "c"), (0x11, "b"), (0x13, "d")]⟩ 0x12).map utf8 =
    [utf8 "i", utf8 "b", utf8 "c"] := by
  rw [(walk_rules_override ⟨0x10, 0x10, "i", [(0x12, "c"), (0x11, "b"), (0x13, "d")]⟩ 0x12).1]
  decide

/-- … and within `walk_with_stack_cfi` a later line's rules are laid over the earlier ones in both
    models alike: parsing one more line into related rule maps gives related rule maps. -/
theorem walk_later_overrides (line : String) (rs : List (Walk.CfiReg × List Walk.ETok)) (m : Cfi.RuleMap)
    (h : MapRel rs m) :
    OptRel (Walk.parseRules (Walk.tokenize line) none [] rs) (Cfi.parseCfiExprs (utf8 line) m) :=
  parseLine_bridge line rs m h

/-- **`walk_cfa_first`** (C06.5a) — when the walker model's `walk_with_stack_cfi` succeeds, the
    lines parse (C06's parser) into a map with a `.cfa` and a `.ra` rule, the CFA is the `.cfa`
    rule evaluated with NO CFA, the return address the `.ra` rule evaluated with that CFA. -/
theorem walk_cfa_first (x : Walk.CfiIn) (W : Cfi.Walker) (h : WalkerSim x W) (o0 o : Walk.CfiOut)
    (init : String) (adds : List String) (hw : Walk.walkCfi x o0 init adds = some o) :
    ∃ m cfaE raE cfa ra, Cfi.parseAll ((init :: adds).map utf8) [] = some m ∧
      m.get .cfa = some cfaE ∧ m.get .ra = some raE ∧
      Cfi.evalCfi W.env none cfaE = some cfa ∧ Cfi.evalCfi W.env (some cfa) raE = some ra ∧
      W.fits cfa = true ∧ W.fits ra = true := by
  rcases walkCfi_view x W h o0 init adds with ⟨_, hn⟩ | ⟨m, cfaE, raE, cfa, ra, _, hst, _⟩
  · rw [hn] at hw; cases hw
  · exact ⟨m, cfaE, raE, cfa, ra, hst⟩

/-- **`walk_ra_mandatory`** (C06.5b/c `cfa_no_self`, `ra_mandatory` transported) — without a `.ra` rule, or a `.cfa`
    rule, or with a `.cfa` rule that mentions `.cfa`, or when a line does not parse, the walker
    model finds no caller. -/
theorem walk_ra_mandatory (x : Walk.CfiIn) (W : Cfi.Walker) (h : WalkerSim x W) (o0 : Walk.CfiOut)
    (init : String) (adds : List String) :
    (Cfi.parseAll ((init :: adds).map utf8) [] = none → Walk.walkCfi x o0 init adds = none) ∧
    (∀ m, Cfi.parseAll ((init :: adds).map utf8) [] = some m →
      (m.get .ra = none → Walk.walkCfi x o0 init adds = none) ∧
      (m.get .cfa = none → Walk.walkCfi x o0 init adds = none) ∧
      (∀ cfaE, m.get .cfa = some cfaE → Cfi.tCfa ∈ cfaE → Walk.walkCfi x o0 init adds = none)) := by
  have key := (walkCfi_bridge x W h o0 init adds).1
  refine ⟨fun hp => key (Cfi.parse_failure_fails W _ hp), fun m hm => ⟨?_, ?_, ?_⟩⟩
  · exact fun hr => key ((Cfi.ra_mandatory W _ m hm).1 hr)
  · exact fun hc => key ((Cfi.ra_mandatory W _ m hm).2.1 hc)
  · exact fun cfaE hc hself => key (Cfi.cfa_no_self W _ m cfaE hm hc hself)

/-- **`walk_reg_set_or_unknown`** (C06.6 transported) — "each other register is set from its rule
    or marked unknown when its rule fails", for the walker model's result `o`. With `m` the rule
    map, `cfa`/`ra` the computed CFA and return address, and `s` a register (canonical name) of
    the context:
    * if `p` is the one remaining rule whose label denotes `s` (directly or through an alias), `s`
      is valid with the rule's value when the rule evaluates (C06's evaluator, CFA available) and
      the value fits the register, and unknown otherwise;
    * if no remaining rule's label denotes `s`: the instruction pointer holds the return address,
      the stack pointer the CFA, any other register what was forwarded from the callee. -/
theorem walk_reg_set_or_unknown (x : Walk.CfiIn) (W : Cfi.Walker) (h : WalkerSim x W) (o0 o : Walk.CfiOut)
    (init : String) (adds : List String) (hw : Walk.walkCfi x o0 init adds = some o) :
    ∃ m cfa ra, Cfi.parseAll ((init :: adds).map utf8) [] = some m ∧
      (∃ c, Cfi.walkCfi W ((init :: adds).map utf8) = some c ∧ c.cfa = some cfa ∧ c.ra = some ra) ∧
      (∀ s p, p ∈ Cfi.others m → W.memo p.1 = some (utf8 s) →
          (∀ q ∈ Cfi.others m, W.memo q.1 = some (utf8 s) → q = p) →
          (s = x.arch.spName ∨ s = x.arch.ipName ∨ OutSimAt x.arch o0 W.caller0 s) →
          viewW x.arch o s = match Cfi.evalCfi W.env (some cfa) p.2 with
                             | some v => if W.fits v then some v.toNat else none
                             | none => none) ∧
      (∀ s, (∀ q ∈ Cfi.others m, W.memo q.1 ≠ some (utf8 s)) →
          (s = x.arch.spName ∨ s = x.arch.ipName ∨ OutSimAt x.arch o0 W.caller0 s) →
          viewW x.arch o s = if s = x.arch.ipName then some ra.toNat
                             else if s = x.arch.spName then some cfa.toNat
                             else viewW x.arch o0 s) := by
  rcases walkCfi_view x W h o0 init adds with ⟨_, hn⟩ | ⟨m, cfaE, raE, cfa, ra, o', hst, hw', hview⟩
  · rw [hn] at hw; cases hw
  obtain rfl : o' = o := Option.some.inj (hw'.symm.trans hw)
  obtain ⟨c, hC, hc1, hc2, _⟩ := Cfi.walkCfi_of_stages hst
  refine ⟨m, cfa, ra, hst.1, ⟨c, hC, hc1, hc2⟩, fun s p hp hmemo huniq hs => ?_, fun s hnone hs => ?_⟩
  · -- the one rule that denotes `s` decides, whatever stood there before
    rw [← hview s hs, Cfi.foldl_upd_unique W cfa _ p _ _ hp hmemo huniq]
    cases Cfi.evalCfi W.env (some cfa) p.2 with
    | none => rfl
    | some v => by_cases hf : W.fits v = true <;> simp [Option.filter_some, hf]
  · rw [← hview s hs, Cfi.foldl_upd_of_not_memo W cfa _ _ _ hnone]
    exact lookup_storeCfaRa_view x.arch.spName x.arch.ipName s W.fwd cfa ra _ hs

/-- **`walk_order_independent`** (C06.7 transported) — for rules that come from text (`lc`: the
    C06 model's entries, `lw₁`: their classification), one rule per label and no two labels
    denoting one register: the walker model's loop gives the same value-or-unknown for register
    `s` whatever the processing order (any permutation `lw₂`). -/
theorem walk_order_independent (x : Walk.CfiIn) (W : Cfi.Walker) (h : WalkerSim x W) (cfa : UInt64)
    (lc : List (Cfi.Name × Cfi.Expr)) (lw₁ lw₂ : List (String × List Walk.ETok))
    (hmap : lc.map fC = lw₁.map fW) (hwf : ∀ p ∈ lw₁, ∀ t ∈ p.2, ETokWf t) (hperm : lw₁.Perm lw₂)
    (hkeys : (lw₁.map (·.1)).Nodup)
    (hdistinct : ∀ p ∈ lw₁, ∀ q ∈ lw₁, x.arch.canon p.1 = x.arch.canon q.1 → x.arch.canon p.1 ≠ none → p.1 = q.1)
    (o : Walk.CfiOut) (s : String) (h64 : ∀ v, viewW x.arch o s = some v → v < 2 ^ 64) :
    viewW x.arch (lw₁.foldl (stepW x cfa.toNat) o) s = viewW x.arch (lw₂.foldl (stepW x cfa.toNat) o) s := by
  refine stepW_order_independent x cfa.toNat lw₁ lw₂ hperm o s fun p hp q hq h1 h2 => ?_
  exact List.eq_of_mem_of_fst_eq hkeys hp hq (hdistinct p hp q hq (h1.trans h2.symm) (by rw [h1]; simp))

/-- the hypotheses of `walk_order_independent` on a concrete rule set (`$rbx: 1`, `$rbp: .cfa`):
    processed in either order, `rbp` ends up with the same value -/
example : viewW .amd64 ([("rbx", [Walk.ETok.lit 1]), ("rbp", [Walk.ETok.cfa])].foldl (stepW exIn 0x1020) exOut) "rbp" =
    viewW .amd64 ([("rbp", [Walk.ETok.cfa]), ("rbx", [Walk.ETok.lit 1])].foldl (stepW exIn 0x1020) exOut) "rbp" := by
  refine walk_order_independent exIn exW exW_related 0x1020
    [(utf8 "rbx", [[0x31]]), (utf8 "rbp", [Cfi.tCfa])] _ _ (by decide) ?_ (List.Perm.swap _ _ _) (by decide) ?_
    exOut "rbp" ?_
  · intro p hp t ht
    simp only [List.mem_cons, List.not_mem_nil, or_false] at hp
    rcases hp with rfl | rfl <;>
      (simp only [List.mem_cons, List.not_mem_nil, or_false] at ht; subst ht; first | trivial | (show (1 : Nat) < 2 ^ 64; decide))
  · intro p hp q hq
    simp only [List.mem_cons, List.not_mem_nil, or_false] at hp hq
    rcases hp with rfl | rfl <;> rcases hq with rfl | rfl <;> decide
  · intro v hv
    have : viewW .amd64 exOut "rbp" = some 0x1010 := by decide
    have e : exIn.arch = .amd64 := rfl
    rw [e, this] at hv
    cases hv; decide

end MdModel.CfiBridge
