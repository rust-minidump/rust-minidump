/-
  C20 — The command-line tool exits cleanly and prints exactly what the library computes.

  Property text: "For every file given as the minidump and every accepted combination of output
  options, the command-line tool either exits with status 0 having written to its primary output
  exactly the report the library produces for the same options (text, brief text, JSON, pretty
  JSON, raw dump; the combined mode writes both; an output file receives what standard output
  would), or exits with status 1 with a diagnostic on standard error and nothing on the primary
  output. It never ends by panic, abort or signal, and rejected option combinations fail without
  producing a report."

  What a theorem can carry here is the *decision logic* of `main_result` (which reports go to which
  writer, for which options and which kind of input, and when the tool refuses). `cli` transcribes
  main.rs; `spec` is written from the option documentation. The flag space is finite, so the
  theorems quantify over ALL 2^6 flag sets × 3 input classes and are decided by evaluation.
  What no theorem here shows: that nothing below `main` panics for every file (that is C01 + C03),
  and that the bytes behind a `Report` are what the library prints — the engine `cli` runs the built
  binary over the whole option cross product on a corpus and compares with the library in-process.
-/
import MdModel.Cli
import MdProofs.C20Io
import MdProofs.C20Opts
import MdProofs.C20Dump
namespace MdModel.Cli

/-- a check on every flag set and every input class is a ∀-statement (the hypothesis is decidable) -/
theorem forall_of_table (P : Flags → Input → Bool)
    (hall : ∀ h j c d b p : Bool,
      (P ⟨h, j, c, d, b, p⟩ .unreadable && P ⟨h, j, c, d, b, p⟩ .unprocessable && P ⟨h, j, c, d, b, p⟩ .ok) = true) :
    ∀ f i, P f i = true := by
  intro ⟨h, j, c, d, b, p⟩ i
  have hf := hall h j c d b p
  simp only [Bool.and_eq_true] at hf
  cases i
  · exact hf.1.1
  · exact hf.1.2
  · exact hf.2

/-- **C20.1** the code's decision table is the documented one, for every flag set and input. -/
theorem cli_eq_spec : ∀ f i, cli f i = spec f i := by
  intro f i
  have := forall_of_table (fun f i => decide (cli f i = spec f i)) (by decide +kernel) f i
  simpa using this

/-- what the option documentation prescribes for an accepted command line on a processable file:
    which reports go to the primary output `p` and which to the cyborg file `c` -/
def prescribed (f : Flags) (p c : List Report) : Bool :=
  match modeOf f with
  | none => false
  | some .human => p == [if f.brief then .humanBrief else .human] && c == [] && !f.pretty
  | some .json => p == [if f.pretty then .jsonPretty else .json] && c == [] && !f.brief
  | some .cyborg => p == [if f.brief then .humanBrief else .human] &&
                    c == [if f.pretty then .jsonPretty else .json]
  | some .dump => p == [if f.brief then .dumpBrief else .dump] && c == [] && !f.pretty

/-- **C20.2** accepted options ⇒ exactly the prescribed reports on the prescribed writers.
    (`--output-file` only redirects the primary; it is not part of the decision.) -/
theorem accepted_reports (f : Flags) (p c : List Report) (h : cli f .ok = .exit0 p c) :
    prescribed f p c = true := by
  have ht := forall_of_table (fun f _ =>
    match cli f .ok with
    | .exit0 p c => prescribed f p c
    | _ => true) (by decide +kernel) f .ok
  rw [h] at ht
  exact ht

/-- … and conversely every prescribed outcome is produced (the tool does not refuse an accepted
    combination on a processable file). -/
theorem accepted_complete (f : Flags) (p c : List Report) (h : prescribed f p c = true) :
    cli f .ok = .exit0 p c := by
  -- `prescribed` and `spec` are both tables over the mode
  rw [cli_eq_spec]
  unfold prescribed at h
  unfold spec
  cases hm : modeOf f with
  | none => simp [hm] at h
  | some m =>
    rw [hm] at h
    cases m <;> simp_all

/-- **C20.3** rejected combinations never produce a report: `--pretty` without JSON output,
    `--brief` with JSON alone, and two formats at once. -/
theorem rejected_no_report (f : Flags) (i : Input) :
    (groupCount f > 1 → cli f i = .usage) ∧
    (groupCount f ≤ 1 → f.pretty = true → f.json = false → f.cyborg = false → cli f i = .exit1) ∧
    (groupCount f ≤ 1 → f.brief = true → f.json = true → cli f i = .exit1) := by
  have h := forall_of_table (fun f i =>
    (decide (groupCount f > 1 → cli f i = .usage)) &&
    (decide (groupCount f ≤ 1 → f.pretty = true → f.json = false → f.cyborg = false → cli f i = .exit1)) &&
    (decide (groupCount f ≤ 1 → f.brief = true → f.json = true → cli f i = .exit1))) (by decide +kernel) f i
  simp only [Bool.and_eq_true, decide_eq_true_eq] at h
  exact ⟨h.1.1, h.1.2, h.2⟩

/-- **C20.4** an unreadable file never yields a report, whatever the options; an unprocessable one
    yields one only in raw-dump mode (which does not process). -/
theorem failure_silent (f : Flags) :
    (∀ p c, cli f .unreadable ≠ .exit0 p c) ∧
    (∀ p c, cli f .unprocessable = .exit0 p c → f.dump = true) := by
  have h := forall_of_table (fun f _ =>
    (match cli f .unreadable with | .exit0 _ _ => false | _ => true) &&
    (match cli f .unprocessable with | .exit0 _ _ => f.dump | _ => true)) (by decide +kernel) f .ok
  rw [Bool.and_eq_true] at h
  constructor
  · intro p c hc; rw [hc] at h; exact absurd h.1 (by simp)
  · intro p c hc; rw [hc] at h; exact h.2

/-- **C20.5** the outcome depends on the file only through its class, and a successful run writes
    at most two reports in total, at most one per kind of writer in cyborg mode. -/
theorem reports_bounded (f : Flags) (i : Input) (p c : List Report) (h : cli f i = .exit0 p c) :
    p.length + c.length ≤ 2 ∧ c.length ≤ 1 ∧ (c ≠ [] → f.cyborg = true) := by
  have ht := forall_of_table (fun f i =>
    match cli f i with
    | .exit0 p c => decide (p.length + c.length ≤ 2 ∧ c.length ≤ 1 ∧ (c ≠ [] → f.cyborg = true))
    | _ => true) (by decide +kernel) f i
  rw [h] at ht
  simp only [decide_eq_true_eq] at ht
  exact ht

example : cli ⟨false, false, true, false, true, true⟩ .ok = .exit0 [.humanBrief] [.jsonPretty] := by decide
example : cli ⟨false, true, false, false, false, true⟩ .ok = .exit0 [.jsonPretty] [] := by decide
example : cli ⟨false, false, false, true, true, false⟩ .unprocessable = .exit0 [.dumpBrief] [] := by decide
example : cli ⟨true, true, false, false, false, false⟩ .ok = .usage := by decide
example : cli ⟨false, false, false, false, false, true⟩ .ok = .exit1 := by decide

end MdModel.Cli
