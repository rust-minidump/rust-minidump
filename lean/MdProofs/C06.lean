/-
  C06 — STACK CFI rules evaluate exactly as the documented postfix language.

  Property text: "For every STACK CFI INIT record with its delta records, every lookup address and
  every callee register and memory state, unwinding yields exactly what the documented semantics
  prescribe: rules at or below the address are applied in address order with later ones overriding,
  the CFA is computed first and may not refer to itself, a return-address rule is mandatory, and
  each other register is set from its rule or marked unknown when its rule fails. Arithmetic is
  64-bit wrapping, and stack underflow, leftover operands, division by zero, non-power-of-two
  alignment, unreadable memory, unknown registers and `.undef` make the affected rule fail without
  ever panicking."

  The theorems are about `MdModel.Cfi` — the model the compiled driver executes and the `cfi`
  engine compares with `SymbolFile::walk_frame` on every run. "The documented semantics" are
  stated independently in `MdProofs.Lemmas.Cfi`: expression trees (`Tree`), their denotation by
  structural recursion over ℕ-arithmetic modulo 2^64 (`denote`, `binSem`) and `postfixOf`.
  Environments (`Env`: callee registers, readable memory) are arbitrary functions; programs are
  arbitrary token lists of any length.
-/
import MdProofs.Lemmas.Cfi
import MdProofs.Lemmas.CfiWalk
namespace MdModel.Cfi
open MdModel

/-! ## the evaluator computes the denotation of the tree whose postfix form it is given
  "STACK CFI expressions are in postfix (Reverse Polish) notation … For binary operators the
  right-hand-side (rhs) will be the first value popped from the stack." -/

/-- **C06.1** Evaluating the postfix form of *any* tree gives exactly its denotation: operand
    order (`l` below `r`), 64-bit wrapping arithmetic (`binSem` is ℕ-arithmetic mod 2^64),
    failure of any sub-expression fails the rule. -/
theorem eval_postfix (env : Env) (cfa : Option UInt64) (t : Tree) :
    evalToks env cfa (postfixOf t) = denote env cfa t := by
  unfold evalToks
  have h := run_postfix env cfa t [] []
  simp only [List.append_nil] at h
  rw [h]
  cases denote env cfa t <;> simp [run, single]

/-- **C06.2 (shape)** A token list evaluates to a value **iff** it is the postfix form of a tree
    whose denotation is that value. So: stack underflow, leftover operands, the empty program, or
    any failing sub-expression make the rule fail — nothing else does. -/
theorem eval_shape (env : Env) (cfa : Option UInt64) (ts : List Tok) (v : UInt64) :
    evalToks env cfa ts = some v ↔ ∃ t : Tree, ts = postfixOf t ∧ denote env cfa t = some v := by
  constructor
  · intro h
    obtain ⟨f, rfl, hd⟩ := run_forest env cfa ts _ (single_eq_some h)
    obtain ⟨t, rfl, ht⟩ := List.map_eq_singleton_iff.mp hd
    exact ⟨t, by simp, ht⟩
  · rintro ⟨t, rfl, hd⟩
    rw [eval_postfix, hd]

example : evalToks ⟨fun _ => none, fun _ => none⟩ none (postfixOf (.bin .sub (.lit 10) (.lit 3))) = some 7 := by
  rw [eval_postfix]; decide

/-! ### from text to tokens: the lexical layer (`classify`), A.4 of the design notes -/

theorem classify_fixed :
    classify tPlus = .bin .add ∧ classify tMinus = .bin .sub ∧ classify tStar = .bin .mul ∧
    classify tSlash = .bin .div ∧ classify tPercent = .bin .rem ∧ classify tAt = .bin .align ∧
    classify tCaret = .deref ∧ classify tCfa = .cfa ∧ classify tUndef = .undef := by decide

theorem classify_dollar (n : Name) : classify (0x24 :: n) = .reg n := by
  simp [classify, tPlus, tMinus, tStar, tSlash, tPercent, tAt, tCaret, tCfa, tUndef, afterDollar]

theorem evalCfi_dollar_reg (env : Env) (cfa : Option UInt64) (n : Name) :
    evalCfi env cfa [0x24 :: n] = env.reg n := by
  simp only [evalCfi, List.map_cons, List.map_nil, classify_dollar]
  exact eval_postfix env cfa (.reg n)

/-! "`<a signed decimal integer>`: read this integer constant (limited to i64 precision)" -/

theorem literal_nonneg (n : Nat) :
    parseI64 (renderNat n) = if n < 2^63 then some (UInt64.ofNat n) else none := by
  obtain ⟨d, rest, hd, hr⟩ := renderNat_head n
  have hp := parseDigits_render n
  rw [hr] at hp ⊢
  simp only [parseI64, (digit_not_sign d hd).1, (digit_not_sign d hd).2, Bool.false_eq_true, if_false, hp]

theorem literal_neg (n : Nat) :
    parseI64 (0x2D :: renderNat n) = if n ≤ 2^63 then some (UInt64.ofNat (2^64 - n)) else none := by
  obtain ⟨d, rest, hd, hr⟩ := renderNat_head n
  have hp := parseDigits_render n
  simp only [parseI64, hp]
  rw [hr]; simp

/-- literals: decimal, optional sign, two's complement, `i64` range — out of range is not a
    literal (and then names a register nobody has) -/
example : classify [0x2D, 0x38] = .lit 0xFFFFFFFFFFFFFFF8 := by decide                    -- "-8"
example : classify [0x2B, 0x35] = .lit 5 := by decide                                     -- "+5"
example : classify [0x30, 0x30, 0x37] = .lit 7 := by decide                               -- "007"
example : parseI64 [0x39,0x32,0x32,0x33,0x33,0x37,0x32,0x30,0x33,0x36,0x38,0x35,0x34,0x37,0x37,0x35,0x38,0x30,0x37]
    = some 0x7FFFFFFFFFFFFFFF := by decide                                                -- i64::MAX
example : parseI64 [0x39,0x32,0x32,0x33,0x33,0x37,0x32,0x30,0x33,0x36,0x38,0x35,0x34,0x37,0x37,0x35,0x38,0x30,0x38]
    = none := by decide                                                                   -- i64::MAX + 1
example : parseI64 [0x2D,0x39,0x32,0x32,0x33,0x33,0x37,0x32,0x30,0x33,0x36,0x38,0x35,0x34,0x37,0x37,0x35,0x38,0x30,0x38]
    = some 0x8000000000000000 := by decide                                                -- i64::MIN
example : parseI64 [0x30, 0x78, 0x31] = none := by decide                                 -- "0x1"
example : classify [0x61, 0x24, 0x62] = .reg [0x62] := by decide                          -- "a$b" is register b

/-! ### every failure cause named by the property -/

theorem underflow_fails (env : Env) (cfa : Option UInt64) (o : BinOp) (st : Stack) (h : st.length < 2) :
    step env cfa (.bin o) st = none := by
  match st, h with
  | [], _ => rfl
  | [_], _ => rfl

theorem deref_underflow_fails (env : Env) (cfa : Option UInt64) : step env cfa .deref [] = none := rfl

theorem leftover_fails (env : Env) (cfa : Option UInt64) (t₁ t₂ : Tree) :
    evalToks env cfa (postfixOf t₁ ++ postfixOf t₂) = none := by
  unfold evalToks
  rw [run_postfix]
  cases denote env cfa t₁ with
  | none => rfl
  | some a =>
    have h := run_postfix env cfa t₂ [] [a]
    simp only [List.append_nil] at h
    simp only [h]
    cases denote env cfa t₂ <;> simp [run, single]

theorem empty_fails (env : Env) (cfa : Option UInt64) : evalToks env cfa [] = none := rfl

theorem div_zero_fails (env : Env) (cfa : Option UInt64) (l r : Tree) (h : denote env cfa r = some 0) :
    evalToks env cfa (postfixOf (.bin .div l r)) = none ∧
    evalToks env cfa (postfixOf (.bin .rem l r)) = none := by
  simp only [eval_postfix, denote, h]
  cases denote env cfa l <;> simp [binSem]

theorem align_non_pow2_fails (env : Env) (cfa : Option UInt64) (l r : Tree) (b : UInt64)
    (h : denote env cfa r = some b) (hb : ¬ ∃ k, k < 64 ∧ b.toNat = 2 ^ k) :
    evalToks env cfa (postfixOf (.bin .align l r)) = none := by
  simp only [eval_postfix, denote, h]
  cases denote env cfa l <;> simp [binSem, hb]

theorem unreadable_fails (env : Env) (cfa : Option UInt64) (t : Tree) (a : UInt64)
    (h : denote env cfa t = some a) (hm : env.deref a = none) :
    evalToks env cfa (postfixOf (.deref t)) = none := by
  simp [eval_postfix, denote, h, hm]

theorem unknown_reg_fails (env : Env) (cfa : Option UInt64) (n : Name) (h : env.reg n = none) :
    evalToks env cfa (postfixOf (.reg n)) = none := by
  simp [eval_postfix, denote, h]

theorem failure_propagates (env : Env) (cfa : Option UInt64) (o : BinOp) (l r : Tree)
    (h : denote env cfa l = none ∨ denote env cfa r = none) :
    evalToks env cfa (postfixOf (.bin o l r)) = none ∧
    (denote env cfa l = none → evalToks env cfa (postfixOf (.deref l)) = none) := by
  constructor
  · simp only [eval_postfix, denote]
    rcases h with h | h
    · simp [h]
    · rw [h]; cases denote env cfa l <;> rfl
  · intro hl; simp [eval_postfix, denote, hl]

/-- `.undef` anywhere in a program makes it fail (not only in tree position). -/
theorem undef_fails (env : Env) (cfa : Option UInt64) (pre post : List Tok) :
    evalToks env cfa (pre ++ .undef :: post) = none :=
  evalToks_stuck env cfa .undef (fun _ => rfl) pre post

/-- `.cfa` inside an expression evaluated without a CFA (the CFA's own rule) fails. -/
theorem cfa_unavailable_fails (env : Env) (pre post : List Tok) :
    evalToks env none (pre ++ .cfa :: post) = none :=
  evalToks_stuck env none .cfa (fun _ => rfl) pre post

theorem applyBinO_eq (o : BinOp) (l r : UInt64) : applyBinO o l r = .ok (applyBin o l r) := by
  cases o <;> try rfl
  simp only [applyBinO, applyBin]
  by_cases h : (r = 0 || !isPow2 r) = true
  · simp [h]
  · simp only [h, Bool.false_eq_true, if_false]
    have hr : ¬ r = 0 := by
      intro e; apply h; simp [e]
    have : ¬ r < 1 := fun hlt =>
      hr (UInt64.toNat_inj.mp (Nat.lt_one_iff.mp (UInt64.lt_iff_toNat_lt.mp hlt)))
    simp [checkedSub, this, alignDown]

theorem stepO_eq (env : Env) (cfa : Option UInt64) (t : Tok) (st : Stack) :
    stepO env cfa t st = .ok (step env cfa t st) := by
  unfold stepO
  split
  · rw [applyBinO_eq]; rfl
  · rfl

theorem runO_eq (env : Env) (cfa : Option UInt64) (ts : List Tok) (st : Stack) :
    runO env cfa ts st = .ok (run env cfa ts st) := by
  induction ts generalizing st with
  | nil => rfl
  | cons t ts ih =>
    simp only [runO, run, stepO_eq]
    cases step env cfa t st with
    | none => rfl
    | some st' => exact ih st'

/-- **C06 totality** `eval_cfi_expr` with its only arithmetic panic site (`rhs - 1` under overflow
    checks) made explicit never takes it, for any program, registers and memory; and it agrees
    with the pure evaluator the other theorems are about. -/
theorem evalCfiO_eq (env : Env) (cfa : Option UInt64) (toks : List Bytes) :
    evalCfiO env cfa toks = .ok (evalCfi env cfa toks) := by
  simp [evalCfiO, runO_eq, evalCfi, evalToks]

/-- **C06 totality (walk)** `walk_with_stack_cfi` with its panic sites explicit — the evaluator's
    checked subtraction and the `unreachable!()` for a `.cfa`/`.ra` key met in the loop over the
    remaining rules — never panics, for any rule lines and any walker; and it is the pure `walkCfi`
    the other theorems are about (the driver runs `walkFrameO`). -/
theorem walkCfiO_eq (w : Walker) (lines : List Bytes) : walkCfiO w lines = .ok (walkCfi w lines) := by
  unfold walkCfiO walkCfi
  cases parseAll lines [] with
  | none => rfl
  | some m =>
    simp only []
    rw [get_remove_ne m .ra .cfa (by decide), remove_cfa_ra_eq]
    cases m.get .cfa with
    | none => rfl
    | some cfaE =>
      cases m.get .ra with
      | none => rfl
      | some raE =>
        simp only [evalCfiO_eq]
        cases evalCfi w.env none cfaE with
        | none => rfl
        | some cfa =>
          simp only []
          cases evalCfi w.env (some cfa) raE with
          | none => rfl
          | some ra =>
            simp only []
            cases w.setCfa w.caller0 cfa with
            | none => rfl
            | some c1 =>
              simp only []
              cases w.setRa c1 ra with
              | none => rfl
              | some c2 =>
                simp only []
                have hs : sortBy regLe ((others m).map otherEntry) = (sortOthers (others m)).map otherEntry :=
                  sortBy_map (fun a b : Name × Expr => bytesLe a.1 b.1) regLe otherEntry (fun _ _ => rfl) _
                rw [hs, foldO_applyOtherO w cfa (fun e => evalCfiO_eq _ _ e)]

theorem walkFrameO_eq (r : CfiRec) (base : Nat) (w : Walker) :
    walkFrameO r base w = .ok (walkFrame r base w) := by
  unfold walkFrameO walkFrame
  split
  · rfl
  · simp only []; split
    · exact walkCfiO_eq _ _
    · rfl

/-- **C06.3** for a power of two `r`, `l @ r` is the largest multiple of `r` that is `≤ l`. -/
theorem align_spec (l r : UInt64) (h : ∃ k, k < 64 ∧ r.toNat = 2 ^ k) :
    ∃ v, applyBin .align l r = some v ∧ r.toNat ∣ v.toNat ∧ v.toNat ≤ l.toNat ∧
      ∀ m, r.toNat ∣ m → m ≤ l.toNat → m ≤ v.toNat := by
  have ⟨k, _, hr⟩ := h
  have hpos : 0 < r.toNat := by rw [hr]; exact Nat.pow_pos (by omega)
  have hv : (UInt64.ofNat (l.toNat - l.toNat % r.toNat)).toNat = l.toNat - l.toNat % r.toNat := by
    rw [UInt64.toNat_ofNat', Nat.mod_eq_of_lt (Nat.lt_of_le_of_lt (Nat.sub_le _ _) l.toNat_lt)]
  refine ⟨_, ?_, by rw [hv]; exact Nat.dvd_sub_mod _, by rw [hv]; exact Nat.sub_le _ _, fun m hm hle => ?_⟩
  · rw [applyBin_eq_binSem]
    simp [binSem, h]
  · obtain ⟨q, rfl⟩ := hm
    have h1 : q ≤ l.toNat / r.toNat := (Nat.le_div_iff_mul_le hpos).mpr (by rw [Nat.mul_comm]; exact hle)
    have h2 : l.toNat - l.toNat % r.toNat = r.toNat * (l.toNat / r.toNat) := by
      have := Nat.div_add_mod l.toNat r.toNat; omega
    rw [hv, h2]
    exact Nat.mul_le_mul_left _ h1

example : applyBin .align 0x1237 16 = some 0x1230 := by decide
example : applyBin .align 0x1237 24 = none := by decide

/-! ## which rules apply at a lookup address
  "rules at or below the address are applied in address order with later ones overriding";
  walker.rs: "To get the final rules for a given address, start with its STACK CFI INIT and then
  apply all the applicable STACK CFI diffs in order." -/

/-- **C06.4 (`rules_override`, selection part)** For a record `r` and module-relative address `a`,
    the lines handed to the evaluator are the INIT rules followed by **exactly** the delta records
    whose address is `≤ a` (every one of them; none with a larger address), in the order of the
    parser's sort — non-decreasing address (ties by rule text) — which is a permutation of the
    deltas as written in the file. -/
theorem rules_override (r : CfiRec) (a : Nat) :
    linesAt r a = r.init :: ((sortAdds r.adds).filter (fun d => decide (d.1 ≤ a))).map (·.2) ∧
    (∀ d, d ∈ (sortAdds r.adds).filter (fun d => decide (d.1 ≤ a)) ↔ d ∈ r.adds ∧ d.1 ≤ a) ∧
    (sortAdds r.adds).Pairwise (fun x y => x.1 ≤ y.1) ∧
    (sortAdds r.adds).Perm r.adds := by
  have hperm : (sortAdds r.adds).Perm r.adds := sortBy_perm _ _
  refine ⟨linesAt_eq_filter r a, fun d => ?_, (sortAdds_sorted _).imp (ruleLe_addr _ _), hperm⟩
  simp only [List.mem_filter, decide_eq_true_eq, hperm.mem_iff]

theorem deltas_above_ignored (r : CfiRec) (a : Nat) (extra : List (Nat × Bytes))
    (h : ∀ d ∈ extra, a < d.1) :
    (linesAt { r with adds := r.adds ++ extra } a).length = (linesAt r a).length ∧
    ∀ l, l ∈ linesAt { r with adds := r.adds ++ extra } a ↔ l ∈ linesAt r a := by
  rw [linesAt_append_above r a extra h]
  exact ⟨rfl, fun _ => Iff.rfl⟩

example : linesAt ⟨0x10, 0x10, [1], [(0x12, [3]), (0x11, [2]), (0x13, [4])]⟩ 0x12 = [[1], [2], [3]] := by decide

/-- **C06.4 (`rules_override`, overriding part)** "with later ones overriding": parsing a further
    line into the rules collected so far succeeds iff the line parses on its own, and the result is
    the line's own rules laid over the earlier ones — for every register the line defines, its rule
    replaces the earlier one; every other register keeps its rule. -/
theorem later_overrides (line : Bytes) (m : RuleMap) :
    match parseCfiExprs line m, parseCfiExprs line [] with
    | some m', some own => ∀ k, m'.get k = match own.get k with
                                           | some e => some e
                                           | none => m.get k
    | none, none => True
    | _, _ => False :=
  parseLoop_overlay (splitWs line) none [] m

theorem parseAll_append (ls : List Bytes) (l : Bytes) (m : RuleMap) :
    parseAll (ls ++ [l]) m = match parseAll ls m with
                             | some m' => parseCfiExprs l m'
                             | none => none := by
  rw [parseAll_app]
  cases parseAll ls m with
  | none => rfl
  | some m' => simp only [parseAll]; cases parseCfiExprs l m' <;> rfl

/-- the documentation's example: the 0x11 delta replaces the CFA rule and adds one for `$rax`,
    leaving `.ra` alone (register names and expressions abbreviated to single bytes) -/
example : (parseAll [[0x2E,0x63,0x66,0x61,0x3A,0x20,0x31,0x20,0x2E,0x72,0x61,0x3A,0x20,0x32],
                     [0x2E,0x63,0x66,0x61,0x3A,0x20,0x33,0x20,0x24,0x61,0x3A,0x20,0x34]] []).map
            (fun m => (m.get .cfa, m.get .ra, m.get (.other [0x61]))) =
          some (some [[0x33]], some [[0x32]], some [[0x34]]) := by decide

theorem walkCfi_some_iff (w : Walker) (lines : List Bytes) (c : Caller) :
    walkCfi w lines = some c ↔
      ∃ m cfaE raE cfa ra, parseAll lines [] = some m ∧ m.get .cfa = some cfaE ∧ m.get .ra = some raE ∧
        evalCfi w.env none cfaE = some cfa ∧ evalCfi w.env (some cfa) raE = some ra ∧
        w.fits cfa = true ∧ w.fits ra = true ∧
        c = (sortOthers (others m)).foldl (applyOther w cfa) ⟨some cfa, some ra, w.fwd⟩ := by
  simp only [walkCfi_eq, Option.bind_eq_some_iff, Option.ite_none_right_eq_some, Option.some.injEq]
  constructor
  · rintro ⟨m, hm, cfaE, hc, raE, hr, cfa, h1, ra, h2, ⟨hf1, hf2⟩, rfl⟩
    exact ⟨m, cfaE, raE, cfa, ra, hm, hc, hr, h1, h2, hf1, hf2, rfl⟩
  · rintro ⟨m, cfaE, raE, cfa, ra, hm, hc, hr, h1, h2, hf1, hf2, rfl⟩
    exact ⟨m, hm, cfaE, hc, raE, hr, cfa, h1, ra, h2, ⟨hf1, hf2⟩, rfl⟩

/-- **C06.5a (`cfa_first`)** "the CFA is computed first": the caller's CFA is the value of the
    `.cfa` rule evaluated with no CFA available, the caller's return address is the value of the
    `.ra` rule evaluated with that CFA. -/
theorem cfa_first (w : Walker) (lines : List Bytes) (c : Caller) (h : walkCfi w lines = some c) :
    ∃ m cfaE raE cfa ra, parseAll lines [] = some m ∧ m.get .cfa = some cfaE ∧ m.get .ra = some raE ∧
      evalCfi w.env none cfaE = some cfa ∧ evalCfi w.env (some cfa) raE = some ra ∧
      c.cfa = some cfa ∧ c.ra = some ra := by
  obtain ⟨m, cfaE, raE, cfa, ra, hm, hc, hr, h1, h2, _, _, rfl⟩ := (walkCfi_some_iff w lines c).mp h
  exact ⟨m, cfaE, raE, cfa, ra, hm, hc, hr, h1, h2, foldl_applyOther_cfa_ra w cfa _ _⟩

/-- **C06.5c (`ra_mandatory`)** "a return-address rule is mandatory" (and so is the CFA rule):
    without a `.ra` rule, or a `.cfa` rule, or when either fails to evaluate, the walk fails —
    whatever the other rules are. -/
theorem ra_mandatory (w : Walker) (lines : List Bytes) (m : RuleMap) (hm : parseAll lines [] = some m) :
    (m.get .ra = none → walkCfi w lines = none) ∧
    (m.get .cfa = none → walkCfi w lines = none) ∧
    (∀ cfaE, m.get .cfa = some cfaE → evalCfi w.env none cfaE = none → walkCfi w lines = none) ∧
    (∀ cfaE raE cfa, m.get .cfa = some cfaE → m.get .ra = some raE →
        evalCfi w.env none cfaE = some cfa → evalCfi w.env (some cfa) raE = none →
        walkCfi w lines = none) := by
  simp only [walkCfi_eq, hm, Option.bind_some]
  refine ⟨fun h => ?_, fun h => ?_, fun cfaE hc he => ?_, fun cfaE raE cfa hc hr h1 h2 => ?_⟩
  · rw [h]; cases m.get .cfa <;> rfl
  · rw [h]; rfl
  · rw [hc, Option.bind_some]; cases m.get .ra <;> simp only [he, Option.bind_some, Option.bind_none]
  · simp only [hc, hr, h1, h2, Option.bind_some, Option.bind_none]

theorem classify_cfa : classify tCfa = .cfa := classify_fixed.2.2.2.2.2.2.2.1

/-- **C06.5b (`cfa_no_self`)** "may not refer to itself": if the `.cfa` rule mentions `.cfa`
    anywhere, the walk fails. -/
theorem cfa_no_self (w : Walker) (lines : List Bytes) (m : RuleMap) (cfaE : Expr)
    (hm : parseAll lines [] = some m) (hc : m.get .cfa = some cfaE) (hself : tCfa ∈ cfaE) :
    walkCfi w lines = none := by
  have hfail : evalCfi w.env none cfaE = none := by
    obtain ⟨pre, post, rfl⟩ := List.append_of_mem hself
    unfold evalCfi
    simp only [List.map_append, List.map_cons, classify_cfa]
    exact cfa_unavailable_fails _ _ _
  exact (ra_mandatory w lines m hm).2.2.1 cfaE hc hfail

theorem parse_failure_fails (w : Walker) (lines : List Bytes) (h : parseAll lines [] = none) :
    walkCfi w lines = none := by
  rw [walkCfi_eq, h]; rfl

/-- **C06.6 (`reg_set_or_unknown`)** "each other register is set from its rule or marked unknown
    when its rule fails". After a successful walk with rule map `m` and CFA `cfa`, for a register
    `r` of the walker:
    * if `p = (label, expr)` is the one rule whose label denotes `r` (directly or through an
      alias), the caller's `r` is the rule's value when the rule evaluates (with the CFA
      available) **and** the value fits the register width, and **unknown** otherwise — even if
      the callee's value had been forwarded (a value the register cannot hold counts as a failed
      rule: fix 15b778b; on 64-bit walkers every value fits, `fits_of_ptr8`);
    * if no rule's label denotes `r`, the caller's `r` is what was forwarded from the callee. -/
theorem reg_set_or_unknown (w : Walker) (lines : List Bytes) (c : Caller)
    (h : walkCfi w lines = some c) :
    ∃ m cfa, parseAll lines [] = some m ∧ c.cfa = some cfa ∧
      (∀ r p, p ∈ others m → w.memo p.1 = some r →
          (∀ q ∈ others m, w.memo q.1 = some r → q = p) →
          c.get r = match evalCfi w.env (some cfa) p.2 with
                    | some v => if w.fits v then some v else none
                    | none => none) ∧
      (∀ r, (∀ q ∈ others m, w.memo q.1 ≠ some r) → c.get r = lookupName w.fwd r) := by
  obtain ⟨m, cfaE, raE, cfa, ra, hm, _, _, _, _, _, _, rfl⟩ := (walkCfi_some_iff w lines c).mp h
  refine ⟨m, cfa, hm, (foldl_applyOther_cfa_ra w cfa _ _).1, fun r p hp hmemo huniq => ?_, fun r hnone => ?_⟩
  · rw [get_foldl_applyOther, foldl_upd_unique w cfa r p _ _ hp hmemo huniq]
    cases evalCfi w.env (some cfa) p.2 <;> rfl
  · rw [get_foldl_applyOther, foldl_upd_of_not_memo w cfa r _ _ hnone]
    rfl

/-- on a 64-bit walker every value fits: the register is set exactly when its rule evaluates -/
theorem fits_of_ptr8 (w : Walker) (hp : w.ptr = 8) (v : UInt64) : w.fits v = true := by
  simp only [Walker.fits, hp, decide_eq_true_eq]
  exact v.toNat_lt

/-- **C06.7 (`order_independent`)** If no two labels denote the same register, processing the
    remaining rules in *any* order (any permutation of the hash map's entries) yields the same
    caller: same CFA, same return address, same value-or-unknown for every register. -/
theorem order_independent (w : Walker) (cfa : UInt64) (l₁ l₂ : List (Name × Expr)) (c : Caller)
    (hperm : l₁.Perm l₂)
    (hdistinct : ∀ x ∈ l₁, ∀ y ∈ l₁, w.memo x.1 = w.memo y.1 → w.memo x.1 ≠ none → x = y) :
    (l₁.foldl (applyOther w cfa) c).cfa = (l₂.foldl (applyOther w cfa) c).cfa ∧
    (l₁.foldl (applyOther w cfa) c).ra = (l₂.foldl (applyOther w cfa) c).ra ∧
    ∀ r, (l₁.foldl (applyOther w cfa) c).get r = (l₂.foldl (applyOther w cfa) c).get r := by
  refine ⟨?_, ?_, ?_⟩
  · rw [(foldl_applyOther_cfa_ra w cfa l₁ c).1, (foldl_applyOther_cfa_ra w cfa l₂ c).1]
  · rw [(foldl_applyOther_cfa_ra w cfa l₁ c).2, (foldl_applyOther_cfa_ra w cfa l₂ c).2]
  · intro r
    rw [get_foldl_applyOther, get_foldl_applyOther]
    refine hperm.foldl_eq' (fun x hx y hy z => ruleView_comm _ r _ _ _ _ z fun h1 h2 => ?_) _
    rw [hdistinct x hx y hy (h1.trans h2.symm) (by rw [h1]; simp)]

/-- **C06.7b** Whatever the labels denote: the order in which `walk_with_stack_cfi` processes the
    remaining rules (sorted by name) is a function of the *set* of rules, not of the order in which
    the hash map yields them (the map has one entry per name). Feeds C13. -/
theorem sorted_order_canonical (l₁ l₂ : List (Name × Expr)) (hperm : l₁.Perm l₂)
    (hkeys : ∀ x ∈ l₁, ∀ y ∈ l₁, x.1 = y.1 → x = y) : sortOthers l₁ = sortOthers l₂ := by
  unfold sortOthers
  let le := fun a b : Name × Expr => bytesLe a.1 b.1
  have htot : ∀ a b, le a b = true ∨ le b a = true := fun a b => bytesLe_total a.1 b.1
  have htr : ∀ a b c, le a b = true → le b c = true → le a c = true := fun a b c => bytesLe_trans a.1 b.1 c.1
  exact sortBy_congr_perm le htot htr hperm fun a ha b hb h1 h2 => hkeys a ha b hb (bytesLe_antisymm _ _ h1 h2)

end MdModel.Cfi
