/-
  C04 — Stack walking recovers the true call chain of well-formed stacks.

  Property text: "For every synthetic thread whose stack is laid out by the platform calling
  convention (frame-pointer chains), described by STACK CFI or STACK WIN records, or findable only
  by scanning for return addresses, on x86, x86-64, ARM, ARM64 (both context layouts) and MIPS, the
  walker returns exactly the generated call chain. Each generated call yields one frame with the
  right return address, stack pointer, recovered callee-saved registers, technique label, module
  and function name, and the walk stops at the generated end of stack."

  What is a theorem here, and what is not (claimed: proof, PARTIAL per technique):

  * frame-pointer chains — PROVED for chains of ANY depth (induction on the chain) on x86, x86-64
    (non-Windows), ARM (iOS) and ARM64 (both layouts): `walk_layout_fp` (any environment in which CFI
    yields nothing) and `walk_layout_fp_concrete` (the environment built from a module list and
    symbol records without STACK CFI). The hypothesis is the decidable predicate `preFp`
    (`MdModel/Walk/Layout.lean`), stated on memory words only; the `chain` engine has the driver
    evaluate it (`Pre`) on every generated case.
    Windows x86-64 (record up to 240 bytes above `rbp`, probed in 16-byte steps): PROVED as
    `walk_layout_fp_win` for chains of any depth, under `preFpWin` (= `preFp` with an 8-byte aligned
    outermost record at or above the last stack pointer).
  * scan-only chains — PROVED for chains of ANY depth on all seven context kinds/modes:
    `walk_layout_scan` (ARM64 both layouts, MIPS64) and `walk_layout_scan'` (x86, x86-64 — the junk
    words below 4096 defeat the scanners' frame-pointer recovery —, ARM32 not iOS, MIPS32 with its
    4-word skip), with `_concrete` versions from `Pre … .scan`; hypothesis `preScan`: junk words
    below 4096 that are not valid instructions, inside the 160/40-word (MIPS: 1024-byte) window,
    then a valid instruction; zero words at the end.
  * canonical STACK CFI chains — PROVED for chains of ANY depth on all seven context kinds/modes:
    `walk_layout_cfi` in `MdProofs/C04Cfi.lean` (hypothesis `Pre … .cfi` = `preCfi`, evaluated on
    every generated `cfi` case).
  * technique changing from frame to frame — the model (`mkEnvW`, MdModel/Walk/WinWalk.lean) and the
    precondition `PreW` (MdModel/Walk/LayoutMixed.lean) cover all four techniques on all
    architectures and are evaluated / compared on every generated `mixed` and `win` case. PROVED:
    `walk_layout_mixed_partial` — ARM64 (both layouts) stacks mixing frame-pointer records and
    scanned frames in any order, any depth — through the generic chain induction
    `walkLoop_follows` (Lemmas/Walk.lean). `walk_layout_win` (x86 STACK WIN chains,
    any depth) and the x86 part of `walk_layout_mixed` without STACK CFI frames are PROVED in
    `MdProofs/C04Win.lean`; the full statement `walk_layout_mixed` — all four techniques, any order,
    any depth, all seven context kinds/modes, from `PreW` — is PROVED in `MdProofs/C04Mixed.lean`.
-/
import MdProofs.Lemmas.WalkChain
import MdProofs.Lemmas.WalkScanChain
import MdProofs.Lemmas.WalkChainMixed
import MdProofs.Lemmas.WalkCfiChain
namespace MdModel.Walk
open MdModel

/-- CFI / STACK WIN evaluation yields nothing for any frame (symbol files without such records) -/
def NoCfi (env : Env) : Prop := ∀ f g, env.cfi f g = none

/-- **C04, frame-pointer chains (any depth).** In an environment without CFI, for a context whose
    registers are all valid and a stack memory on which `preFp` holds for the generated chain, the
    walker returns exactly: the context frame, then one frame per generated call with the generated
    return address, stack pointer and saved frame pointer, found by `frame_pointer`, lookup address
    `ret - adj`, module and function as symbolication of that address gives them — and nothing
    after the generated end of stack. -/
theorem walk_layout_fp (env : Env) (a : Arch) (harch : env.arch = a) (ha : a.hasFp = true)
    (hwin : a = .amd64 → env.os ≠ .windows) (hcfi : NoCfi env)
    (mem : Mem) (hm : mem.range?.isSome = true) (ctx : Ctx) (hv : ctx.valid = none) (h64 : ctx.m64 = false)
    (chain : List Exp)
    (hpre : preFp a env.os env.mask mem ctx.sp (ctx.raw a a.fpName) chain = true) :
    walk env (some mem) ctx = symbolise env (Frame.ofCtx ctx .context) :: expectedFp env a chain := by
  -- `h64` is not needed: the context's MIPS mode plays no part off MIPS
  exact walk_layout_fp_any env a harch ha hwin hcfi mem hm ctx hv chain hpre

/-- the generated frames: what the property text lists, frame by frame -/
theorem expectedFp_spec (env : Env) (a : Arch) (ha : a.hasFp = true) (chain : List Exp) (i : Nat)
    (h : i < chain.length) :
    ((expectedFp env a chain)[i]'(by simpa [expectedFp] using h)).ctx.ip = chain[i].ret ∧
    ((expectedFp env a chain)[i]'(by simpa [expectedFp] using h)).ctx.sp = chain[i].sp ∧
    ((expectedFp env a chain)[i]'(by simpa [expectedFp] using h)).trust = .fp ∧
    ((expectedFp env a chain)[i]'(by simpa [expectedFp] using h)).instruction = chain[i].ret - a.adj ∧
    ((expectedFp env a chain)[i]'(by simpa [expectedFp] using h)).ctx.raw a a.fpName = chain[i].fp.getD 0 := by
  simp only [expectedFp, List.getElem_map, symbolise_ctx, symbolise_trust, symbolise_instruction]
  cases a <;> simp only [Arch.hasFp, Bool.false_eq_true] at ha
  all_goals exact ⟨rfl, rfl, rfl, rfl, rfl⟩

private theorem cfiRecordAt_noCfi (w : World) (instr : Nat) (h : noCfi w = true) : cfiRecordAt w instr = none := by
  cases hr : cfiRecordAt w instr with
  | none => rfl
  | some rec =>
    obtain ⟨_, _, sf, _, _, _, hs, _, _, hj⟩ := cfiRecordAt_cases hr
    have hc : sf.cfis.isEmpty = true := List.all_eq_true.mp h _ (List.mem_of_getElem? hs)
    rw [List.isEmpty_iff.mp hc] at hj
    cases hj

theorem mkEnv_noCfi (arch : Arch) (os : Os) (w : World) (mem : Mem) (h : noCfi w = true) :
    NoCfi (mkEnv arch os w mem) := by
  intro f g
  exact cfiOf_of_none (g := g) (cfiRecordAt_noCfi w _ h)

/-- **C04, frame-pointer chains, for module lists and symbol records.** `Pre … .fp` is exactly what
    the `chain` engine has the driver evaluate on each generated case. -/
theorem walk_layout_fp_concrete (a : Arch) (os : Os) (w : World) (mem : Mem) (ctx : Ctx) (chain : List Exp)
    (ha : a.hasFp = true) (hwin : a = .amd64 → os ≠ .windows) (h64 : ctx.m64 = false)
    (hpre : Pre w (mkEnv a os w mem) a os .fp mem ctx chain = true) :
    walk (mkEnv a os w mem) (some mem) ctx =
      symbolise (mkEnv a os w mem) (Frame.ofCtx ctx .context) :: expectedFp (mkEnv a os w mem) a chain := by
  simp only [Pre, Bool.and_eq_true, Option.isNone_iff_eq_none] at hpre
  obtain ⟨hm, ⟨hno, hv⟩, hp⟩ := hpre
  exact walk_layout_fp (mkEnv a os w mem) a rfl ha hwin (mkEnv_noCfi a os w mem hno) mem hm ctx hv h64 chain hp

-- `hos` is not used: a chain with this precondition is walked like this on every OS
set_option linter.unusedVariables false in
/-- **C04, frame-pointer chains on Windows x86-64 (any depth).** "…a Windows x64 240-byte
    frame-pointer slack…": with the frame record up to 15 × 16 bytes above `rbp` (the smaller probe
    positions holding a zero "saved rbp"), in an environment without CFI the walker returns exactly
    the context frame and one `frame_pointer` frame per generated call, and stops at the generated
    end (`preFpWin` = `preFp` plus: the outermost record `(0, 0)` lies 8-byte aligned at or above the
    last stack pointer, so that every further probe reads a zero word or nothing). -/
theorem walk_layout_fp_win (env : Env) (harch : env.arch = .amd64) (hos : env.os = .windows)
    (hcfi : NoCfi env) (mem : Mem) (hm : mem.range?.isSome = true) (ctx : Ctx) (hv : ctx.valid = none)
    (h64 : ctx.m64 = false) (chain : List Exp)
    (hpre : preFpWin env.os env.mask mem ctx.sp (ctx.raw .amd64 Arch.amd64.fpName) chain = true) :
    walk env (some mem) ctx = symbolise env (Frame.ofCtx ctx .context) :: expectedFp env .amd64 chain :=
  walk_layout_fp_amd64_any env harch hcfi mem hm ctx hv chain hpre

/-! ### the numbers of the property text are the numbers of the code

  `Pre` uses the property's numbers as literals; the model uses the constants translated from the
  Rust sources on every run. These theorems tie the two together: a changed window, probe or
  adjustment in the code breaks them (besides making generated chains fail). -/

/-- "scan windows of 40/160 words" (MIPS: 1024 bytes) -/
theorem scan_windows :
    (∀ a, a = .x86 ∨ a = .amd64 ∨ a = .arm ∨ a = .arm64 ∨ a = .arm64old →
      scanWindow a .context = 160 ∧ scanWindow a .scan = 40 ∧ scanWindow a .fp = 40 ∧ scanWindow a .cfi = 40) ∧
    (∀ t, scanWindow .mips32 t = 256 ∧ scanWindow .mips64 t = 128) ∧ Consts.mips_min_args = 4 := by
  refine ⟨?_, ?_, rfl⟩
  · intro a ha
    rcases ha with h | h | h | h | h <;> subst h <;> exact ⟨rfl, rfl, rfl, rfl⟩
  · intro t; cases t <;> exact ⟨rfl, rfl⟩

/-- "Windows x64 240-byte frame-pointer slack": 16 probes, 16 bytes apart -/
theorem windows_probe : Consts.win_probe_max = 15 ∧ Consts.win_probe_step = 16 ∧
    Consts.win_probe_max * Consts.win_probe_step = 240 := ⟨rfl, rfl, rfl⟩

/-- return-address adjustment (1, 2, 4, 8 bytes back) and pointer widths -/
theorem adjustments_and_widths :
    Arch.x86.adj = 1 ∧ Arch.amd64.adj = 1 ∧ Arch.arm.adj = 2 ∧ Arch.arm64.adj = 4 ∧ Arch.arm64old.adj = 4 ∧
    Arch.mips32.adj = 8 ∧ Arch.mips64.adj = 8 ∧
    Arch.x86.ptr = 4 ∧ Arch.amd64.ptr = 8 ∧ Arch.arm.ptr = 4 ∧ Arch.arm64.ptr = 8 ∧ Arch.arm64old.ptr = 8 ∧
    Arch.mips32.ptr = 4 ∧ Arch.mips64.ptr = 8 := by decide

/-- **C04, scan-only chains (any depth) on ARM64 (both layouts) and MIPS64.** In an environment
    without CFI, for a context with all registers valid and a zero frame pointer: the walker returns
    the context frame, then one `scan` frame per generated call with the generated return address
    and stack pointer, lookup address `ret - adj`, and stops at the generated end of stack. -/
theorem walk_layout_scan (env : Env) (a : Arch) (harch : env.arch = a) (ha : a.plainScan64 = true)
    (hcfi : NoCfi env) (mem : Mem) (hm : mem.range?.isSome = true) (ctx : Ctx) (hv : ctx.valid = none)
    (hfp : ctx.raw a a.fpName = 0) (h64 : a = .mips64 → ctx.m64 = true) (chain : List Exp)
    (hpre : preScanFrom env a mem ctx.sp true chain = true) :
    walk env (some mem) ctx = symbolise env (Frame.ofCtx ctx .context) :: expectedScan env a chain := by
  have heff : effArch a ctx = a := by
    rcases Arch.plainScan64_cases ha with (rfl | rfl) | rfl
    · rfl
    · rfl
    · simp only [effArch, Arch.isMips, h64 rfl, if_true]
  rw [walk_layout_scan_any env a harch (fun h => by subst h; cases ha) hcfi (fun h => by subst h; cases ha) mem hm
    (fun h => by rcases h with rfl | rfl <;> cases ha) ctx hv hfp heff (fun h => by subst h; cases ha) chain hpre]
  simp only [expectedScan, scanFrame_eq ha]

theorem walk_layout_scan_concrete (a : Arch) (os : Os) (w : World) (mem : Mem) (ctx : Ctx) (chain : List Exp)
    (ha : a.plainScan64 = true) (h64 : a = .mips64 → ctx.m64 = true)
    (hpre : Pre w (mkEnv a os w mem) a os .scan mem ctx chain = true) :
    walk (mkEnv a os w mem) (some mem) ctx =
      symbolise (mkEnv a os w mem) (Frame.ofCtx ctx .context) :: expectedScan (mkEnv a os w mem) a chain := by
  simp only [Pre, preScan, Bool.and_eq_true, Option.isNone_iff_eq_none, decide_eq_true_eq] at hpre
  obtain ⟨hm, hno, ⟨⟨⟨_, hv⟩, hfp⟩, _⟩, hp⟩ := hpre
  exact walk_layout_scan (mkEnv a os w mem) a rfl ha (mkEnv_noCfi a os w mem hno) mem hm ctx hv hfp h64 chain hp

/-- **C04, technique changing from frame to frame (partial: ARM64, frame pointer / scan).**
    "…laid out by the platform calling convention (frame-pointer chains) … or findable only by
    scanning …": on ARM64 (both context layouts), in an environment without CFI, a stack in which
    every frame is EITHER a frame-pointer record (`linkFp`) OR findable only by scanning
    (`linkScan`, the callee's frame pointer being invalid or 0) — in any order, to any depth — is
    walked to exactly the generated frames: each with its own technique label (`frame_pointer` /
    `scan`), return address, stack pointer, recovered frame pointer, and the walk stops at the
    generated end. PARTIAL with respect to the full statement `walk_layout_mixed` (comment below):
    two of the four techniques, one architecture family. -/
theorem walk_layout_mixed_partial (env : Env) (a : Arch) (ha : a = .arm64 ∨ a = .arm64old)
    (harch : env.arch = a) (hcfi : NoCfi env) (mem : Mem) (hm : mem.range?.isSome = true)
    (ctx : Ctx) (hv : ctx.valid = none) (h64 : ctx.m64 = false) (chain : List Exp)
    (hpre : preMix env a mem { sp := ctx.sp, fp := some (ctx.raw a a.fpName), first := true } chain = true) :
    walk env (some mem) ctx =
      symbolise env (Frame.ofCtx ctx .context) ::
        expectedMix env a { sp := ctx.sp, fp := some (ctx.raw a a.fpName), first := true } chain := by
  -- `h64` is not needed: the context's MIPS mode plays no part off MIPS
  exact walk_layout_mix_arm64 env a ha harch hcfi mem hm ctx hv chain hpre

/-- the frames of a mixed chain carry their own technique label -/
theorem expectedMix_trust (env : Env) (a : Arch) (ha : a = .arm64 ∨ a = .arm64old) (st : MixSt) (e : Exp)
    (rest : List Exp) :
    (expectedMix env a st (e :: rest)).head?.map (·.trust) = some (if e.tech = "fp" then Trust.fp else Trust.scan) := by
  simp only [expectedMix, List.head?_cons, Option.map_some, symbolise_trust, mixFrame]
  rcases ha with ha | ha <;> subst ha <;> by_cases h : e.tech = "fp" <;> simp [h, fpFrame, scanFrame]

/-- **C04, scan-only chains (any depth) on x86, x86-64, ARM32 (not iOS) and MIPS32.** "…findable
    only by scanning for return addresses … scan windows of 40/160 words …": in an environment
    without CFI, for a context with all registers valid and a zero frame pointer, stack memory at
    or above 4096 (so that nothing is readable at the zero frame pointer): the walker returns the
    context frame, then one `scan` frame per generated call with the generated return address and
    stack pointer, lookup address `ret - adj`, no recovered frame pointer (the junk words below
    4096 defeat the frame-pointer recovery of the x86 scanners), MIPS32 skipping four words on every
    frame but the first — and stops at the generated end of stack. On ARM32 the by-symbols check
    must reject the word 0 (`hok0`; `instruction_seems_valid_by_symbols` does: `mkEnv_instrOk_zero`). -/
theorem walk_layout_scan' (env : Env) (a : Arch) (harch : env.arch = a) (ha : a.scan32 = true)
    (hos : a = .arm → env.os ≠ .ios) (hcfi : NoCfi env) (hok0 : a = .arm → env.instrOk 0 = false)
    (mem : Mem) (hm : mem.range?.isSome = true) (hbase : 4096 ≤ mem.base)
    (ctx : Ctx) (hv : ctx.valid = none) (hfp : ctx.raw a a.fpName = 0) (h64 : ctx.m64 = false)
    (hsp : ctx.sp ≤ a.regMax) (chain : List Exp)
    (hpre : preScanFrom env a mem ctx.sp true chain = true) :
    walk env (some mem) ctx = symbolise env (Frame.ofCtx ctx .context) :: expectedScan32 env a chain := by
  rw [walk_layout_scan_any env a harch hos hcfi hok0 mem hm (fun _ => hbase) ctx hv hfp
    (effArch_scan32 ha h64) (fun h => by subst h; exact hsp) chain hpre]
  simp only [expectedScan32, scanFrame32_eq ha]

/-- `instruction_seems_valid_by_symbols(0)` is false (`0.saturating_sub(1) == 0`) -/
theorem mkEnv_instrOk_zero (a : Arch) (os : Os) (w : World) (mem : Mem) : (mkEnv a os w mem).instrOk 0 = false := by
  simp [mkEnv, instrOkOf]

theorem walk_layout_scan'_concrete (a : Arch) (os : Os) (w : World) (mem : Mem) (ctx : Ctx) (chain : List Exp)
    (ha : a.scan32 = true) (h64 : ctx.m64 = false) (hsp : ctx.sp ≤ a.regMax)
    (hpre : Pre w (mkEnv a os w mem) a os .scan mem ctx chain = true) :
    walk (mkEnv a os w mem) (some mem) ctx =
      symbolise (mkEnv a os w mem) (Frame.ofCtx ctx .context) :: expectedScan32 (mkEnv a os w mem) a chain := by
  simp only [Pre, preScan, Bool.and_eq_true, Option.isNone_iff_eq_none, decide_eq_true_eq, Bool.not_eq_true'] at hpre
  obtain ⟨hm, hno, ⟨⟨⟨hbase, hv⟩, hfp⟩, hni⟩, hp⟩ := hpre
  refine walk_layout_scan' (mkEnv a os w mem) a rfl ha ?_ (mkEnv_noCfi a os w mem hno)
    (fun _ => mkEnv_instrOk_zero a os w mem) mem hm hbase ctx hv hfp h64 hsp chain hp
  intro harm hio
  have hos : os = .ios := hio
  subst harm
  subst hos
  simp at hni

/-
  The full statement — all four techniques, any order, any depth, all seven context kinds/modes, from
  `PreW` — is `walk_layout_mixed` in `MdProofs/C04Mixed.lean`. `walk_layout_mixed_partial` above,
  `walk_layout_win` / `walk_layout_mixed_x86_partial` (MdProofs/C04Win.lean) and `walk_layout_cfi` /
  `walk_layout_cfi_regs` (MdProofs/C04Cfi.lean) are its single-technique cases; their conclusions
  give the frames in closed form.
-/

/-! ## non-vacuity: a two-call frame-pointer chain on x86-64 satisfying `preFp` -/

def exChainMem : Mem :=
  { base := 4096, bytes := #[
      0x20, 0x10, 0, 0, 0, 0, 0, 0,   0x00, 0x50, 0, 0, 0, 0, 0, 0,    -- record 0 at 0x1000: fp 0x1020, ret 0x5000
      0, 0, 0, 0, 0, 0, 0, 0,         0, 0, 0, 0, 0, 0, 0, 0,
      0x40, 0x10, 0, 0, 0, 0, 0, 0,   0x00, 0x60, 0, 0, 0, 0, 0, 0,    -- record 1 at 0x1020: fp 0x1040, ret 0x6000
      0, 0, 0, 0, 0, 0, 0, 0,         0, 0, 0, 0, 0, 0, 0, 0,
      0, 0, 0, 0, 0, 0, 0, 0,         0, 0, 0, 0, 0, 0, 0, 0,          -- outermost record at 0x1040: (0, 0)
      0, 0, 0, 0, 0, 0, 0, 0 ] }

def exChain : List Exp :=
  [ { ret := 0x5000, sp := 0x1010, fp := some 0x1020 }, { ret := 0x6000, sp := 0x1030, fp := some 0x1040 } ]

private theorem exChain_pre : preFp .amd64 .other 0 exChainMem 4096 4096 exChain = true := by decide +kernel

example : preFp .amd64 .other 0 exChainMem 4096 4096 exChain = true := exChain_pre

example : (walk { arch := .amd64, os := .other, cfi := fun _ _ => none, instrOk := fun _ => true,
                  symb := fun _ => (none, none), mask := 0 }
      (some exChainMem) { ip := 0x7000, sp := 4096, rest := [("rbp", 4096)] }).length = 3 := by
  rw [walk_layout_fp _ .amd64 rfl rfl (fun _ => by decide) (fun _ _ => rfl) exChainMem (by decide) _ rfl rfl exChain ?_]
  · rfl
  · exact exChain_pre

/-! ## non-vacuity: an ARM64 stack with one frame-pointer frame followed by one scanned frame -/

def exMixMem : Mem :=
  { base := 4096, bytes := #[
      0, 0, 0, 0, 0, 0, 0, 0,         0, 0, 0, 0, 0, 0, 0, 0,
      0, 0, 0, 0, 0, 0, 0, 0,         0x00, 0x50, 0, 0, 0, 0, 0, 0,    -- record at 0x1010: fp 0, ret 0x5000
      7, 0, 0, 0, 0, 0, 0, 0,         0x00, 0x60, 0, 0, 0, 0, 0, 0,    -- junk 7, then 0x6000 (found by scan)
      0, 0, 0, 0, 0, 0, 0, 0,         0, 0, 0, 0, 0, 0, 0, 0 ] }

def exMixEnv : Env :=
  { arch := .arm64, os := .other, cfi := fun _ _ => none, instrOk := fun ip => ip == 0x6000,
    symb := fun _ => (none, none), mask := 2 ^ 47 - 1 }

def exMixChain : List Exp :=
  [ { ret := 0x5000, sp := 0x1020, fp := some 0, tech := "fp" },
    { ret := 0x6000, sp := 0x1030, fp := none, tech := "scan" } ]

private theorem exMix_pre :
    preMix exMixEnv .arm64 exMixMem { sp := 0x1000, fp := some 0x1010, first := true } exMixChain = true := by
  decide +kernel

example : preMix exMixEnv .arm64 exMixMem { sp := 0x1000, fp := some 0x1010, first := true } exMixChain = true :=
  exMix_pre

example : (walk exMixEnv (some exMixMem) { ip := 0x7000, sp := 0x1000, rest := [("fp", 0x1010)] }).map (·.trust) =
    [.context, .fp, .scan] := by
  rw [walk_layout_mixed_partial exMixEnv .arm64 (Or.inl rfl) rfl (fun _ _ => rfl) exMixMem (by decide) _ rfl rfl
    exMixChain ?_]
  · rfl
  · exact exMix_pre

/-! ## non-vacuity: a Windows x86-64 frame whose record sits 16 bytes above `rbp` -/

def exWinMem : Mem :=
  { base := 4096, bytes := #[
      0, 0, 0, 0, 0, 0, 0, 0,         0, 0, 0, 0, 0, 0, 0, 0,          -- probe 0 at rbp = 0x1000: "saved rbp" 0
      0x40, 0x10, 0, 0, 0, 0, 0, 0,   0x00, 0x50, 0, 0, 0, 0, 0, 0,    -- record at rbp + 16: fp 0x1040, ret 0x5000
      0, 0, 0, 0, 0, 0, 0, 0,         0, 0, 0, 0, 0, 0, 0, 0,
      0, 0, 0, 0, 0, 0, 0, 0,         0, 0, 0, 0, 0, 0, 0, 0,
      0, 0, 0, 0, 0, 0, 0, 0,         0, 0, 0, 0, 0, 0, 0, 0 ] }          -- outermost record at 0x1040: (0, 0)

def exWinChain : List Exp := [ { ret := 0x5000, sp := 0x1020, fp := some 0x1040 } ]

private theorem exWin_pre : preFpWin .windows 0 exWinMem 4096 4096 exWinChain = true := by decide +kernel

example : preFpWin .windows 0 exWinMem 4096 4096 exWinChain = true := exWin_pre

example : (walk { arch := .amd64, os := .windows, cfi := fun _ _ => none, instrOk := fun _ => true,
                  symb := fun _ => (none, none), mask := 0 }
      (some exWinMem) { ip := 0x7000, sp := 4096, rest := [("rbp", 4096)] }).length = 2 := by
  rw [walk_layout_fp_win _ rfl rfl (fun _ _ => rfl) exWinMem (by decide) _ rfl rfl exWinChain ?_]
  · rfl
  · exact exWin_pre

/-! ## non-vacuity: an x86 stack whose two return addresses are findable only by scanning -/

def exScanMem : Mem :=
  { base := 4096, bytes := #[
      7, 0, 0, 0,   0x00, 0x50, 0, 0,     -- junk 7, then 0x5000
      0x00, 0x60, 0, 0,                   -- 0x6000 right at the caller's stack pointer
      0, 0, 0, 0,   0, 0, 0, 0,   0, 0, 0, 0 ] }

def exScanEnv : Env :=
  { arch := .x86, os := .other, cfi := fun _ _ => none, instrOk := fun ip => ip == 0x5000 || ip == 0x6000,
    symb := fun _ => (none, none), mask := 0 }

def exScanChain : List Exp := [ { ret := 0x5000, sp := 0x1008, fp := none }, { ret := 0x6000, sp := 0x100c, fp := none } ]

private theorem exScan_pre : preScanFrom exScanEnv .x86 exScanMem 4096 true exScanChain = true := by decide +kernel

example : preScanFrom exScanEnv .x86 exScanMem 4096 true exScanChain = true := exScan_pre

example : (walk exScanEnv (some exScanMem) { ip := 0x7000, sp := 4096, rest := [("ebp", 0)] }).map (·.trust) =
    [.context, .scan, .scan] := by
  rw [walk_layout_scan' exScanEnv .x86 rfl rfl (fun h => by cases h) (fun _ _ => rfl) (fun h => by cases h)
    exScanMem (by decide) (by decide) _ rfl rfl rfl (by decide) exScanChain ?_]
  · rfl
  · exact exScan_pre

end MdModel.Walk
