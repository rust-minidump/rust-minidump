/-
  C06, instantiated inside the stack-walk environment — every `cfi` frame of every walk carries
  exactly the registers the documented postfix language prescribes.

  `MdProofs.C06` proves the property text about the evaluator model `MdModel.Cfi`; `MdProofs.C06Walk`
  proves that the evaluator inside the stack-walk model (`MdModel.Walk.Cfi`) is the same function.
  The walks C04/C05/C03/C14 talk about run that evaluator through `Env.cfi` of `mkEnv`
  (`get_caller_by_cfi` of each architecture: stack-pointer validity test, module lookup,
  `SymbolFile::walk_frame` on a fresh `CfiStackWalker` seeded by `callee_forwarded_regs`, ARM64
  pointer-authentication strip) and then the epilogue of `get_caller_frame`. This file states what
  that whole path computes, in C06's terms:
  `mkEnv_cfi_spec` (the oracle; the grand-callee frame is not looked at), `cfi_frame_epilogue` (the
  epilogue, exactly), `walk_frames_follow_c06` (every frame of `walk (mkEnv …)` whose trust is `cfi`).

  `stack_entry_eq_walker` ties `stackGlue` (the `cfi stack` protocol entry of C06's model) to the
  same function.
-/
import MdProofs.Lemmas.CfiEnvStack
import MdProofs.C06Walk
namespace MdModel.CfiBridge
open MdModel

/-- "the grand-callee parameter is unused for CFI": STACK CFI evaluation looks at the callee frame only -/
theorem cfi_grand_unused (arch : Walk.Arch) (os : Walk.Os) (w : Walk.World) (mem : Walk.Mem)
    (callee : Walk.Frame) (grand : Option Walk.Frame) :
    (Walk.mkEnv arch os w mem).cfi callee grand = (Walk.mkEnv arch os w mem).cfi callee none := by
  rw [mkEnv_cfi, cfiOf_eq, cfiOf_eq]

/-- **`mkEnv_cfi_spec`** — what `get_caller_by_cfi` computes inside the environment of a concrete
    walk, for EVERY architecture (`a` = the architecture the callee frame is unwound as), module
    list, symbol records, stack memory and callee frame whose context is well-formed (`CtxOk`:
    validity set over the context type's register names, 64-bit registers — an invariant of every
    frame of a walk, `walk_ctxOk`). With `W` the C06 `Walker` of the callee frame:

    * no caller when the callee's stack pointer is not valid, when no module covers the lookup
      address (C08's table), when the module has no symbol file, when no `STACK CFI INIT` record
      covers the module-relative address (the symbol file's CFI table, C08);
    * otherwise, with `rec` the record the table yields (it covers the address): no caller iff C06's
      `walkFrame (recOf rec) m.base W` finds none; else the caller context `r` has as validity set
      exactly the registers C06's walk (CFA and return address stored in sp/ip: `seeded`) reports,
      each with C06's value (ARM64: `pc`, `lr`, `fp` masked), the callee's MIPS flag, and — for
      single-named sp/ip, i.e. everywhere but 32-bit ARM — raw `sp`/`ip` = the register's value if
      valid, else the CFA / the (masked) return address. -/
theorem mkEnv_cfi_spec (arch : Walk.Arch) (os : Walk.Os) (w : Walk.World) (mem : Walk.Mem)
    (callee : Walk.Frame) (grand : Option Walk.Frame) (hok : CtxOk arch callee.ctx) :
    (spValid (Walk.effArch arch callee.ctx) callee.ctx = false →
      (Walk.mkEnv arch os w mem).cfi callee grand = none) ∧
    (Walk.moduleAt (Walk.modTable w.mods) callee.instruction = none →
      (Walk.mkEnv arch os w mem).cfi callee grand = none) ∧
    (∀ k, Walk.moduleAt (Walk.modTable w.mods) callee.instruction = some k →
      ∃ m, w.mods[k]? = some m ∧ m.base ≤ callee.instruction ∧ callee.instruction < m.base + m.size ∧
      ((∀ sf, w.syms[k]? ≠ some (some sf)) → (Walk.mkEnv arch os w mem).cfi callee grand = none) ∧
      ∀ sf, w.syms[k]? = some (some sf) →
        (RangeMap.get (Walk.cfiTable sf) (callee.instruction - m.base) = none →
          (Walk.mkEnv arch os w mem).cfi callee grand = none) ∧
        ∀ j, RangeMap.get (Walk.cfiTable sf) (callee.instruction - m.base) = some j →
          ∃ rec, sf.cfis[j]? = some rec ∧ (recOf rec).covers (callee.instruction - m.base) = true ∧
          (spValid (Walk.effArch arch callee.ctx) callee.ctx = true →
            match Cfi.walkFrame (recOf rec) m.base (c06Walker (Walk.effArch arch callee.ctx) mem callee) with
            | none => (Walk.mkEnv arch os w mem).cfi callee grand = none
            | some c =>
              ∃ cfa ra c' r vs, c.cfa = some cfa ∧ c.ra = some ra ∧
                Cfi.walkFrame (recOf rec) m.base
                  (seeded (Walk.effArch arch callee.ctx) (c06Walker (Walk.effArch arch callee.ctx) mem callee) cfa ra) = some c' ∧
                (Walk.mkEnv arch os w mem).cfi callee grand = some r ∧
                r.valid = some vs ∧ r.m64 = callee.ctx.m64 ∧
                (∀ s, viewW (Walk.effArch arch callee.ctx) ⟨r, vs⟩ s =
                  ((c'.get (utf8 s)).map UInt64.toNat).map
                    (paMask (Walk.effArch arch callee.ctx) (Walk.mkEnv arch os w mem).mask s)) ∧
                (Walk.effArch arch callee.ctx ≠ .arm →
                  r.sp = ((c'.get (utf8 (Walk.effArch arch callee.ctx).spName)).map UInt64.toNat).getD cfa.toNat ∧
                  r.ip = paMask (Walk.effArch arch callee.ctx) (Walk.mkEnv arch os w mem).mask
                    (Walk.effArch arch callee.ctx).ipName
                    (((c'.get (utf8 (Walk.effArch arch callee.ctx).ipName)).map UInt64.toNat).getD ra.toNat)))) := by
  rw [mkEnv_cfi]
  have e := cfiOf_eq arch w (Walk.modTable w.mods) (Walk.cfiTables w) (Walk.mkEnv arch os w mem).mask mem callee grand
  rw [cfiWalk_mkEnv] at e
  refine ⟨by intro h; rw [e, h]; rfl, by intro h; rw [e, h]; split <;> rfl, ?_⟩
  intro k hk
  obtain ⟨m, hm, hlo, hhi⟩ := Walk.moduleAt_sound w.mods _ _ hk
  rw [hk] at e
  simp only [hm] at e
  refine ⟨m, hm, hlo, hhi, ?_, ?_⟩
  · intro hno
    rw [e]
    cases hs : w.syms[k]? with
    | none => split <;> rfl
    | some s =>
      cases s with
      | none => split <;> rfl
      | some sf => exact absurd hs (hno sf)
  intro sf hsf
  constructor
  · intro hget
    rw [e, hsf]
    simp only [Walk.walkFrameCfi_eq, hget]
    split <;> (try split) <;> rfl
  · intro j hget
    obtain ⟨rec, hrec, hcov⟩ := cfiTable_index sf _ j hget
    refine ⟨rec, hrec, hcov, fun hsp => ?_⟩
    obtain ⟨hnone, hsome⟩ :=
      cfiOf_at_record (Walk.mkEnv arch os w mem).mask grand hok rfl hk hm hsf hget hrec hsp
    cases hc : Cfi.walkFrame (recOf rec) m.base (c06Walker (Walk.effArch arch callee.ctx) mem callee) with
    | none => exact hnone hc
    | some c => exact hsome c hc

/-- **the epilogue of `get_caller_frame`, exactly**: `get_caller_frame` returns a frame of trust
    `cfi` iff CFI evaluation yields a context `r` whose (raw) instruction pointer is at least 4096
    and whose (raw) stack pointer is above the callee's — or equal to it, on ARM / ARM64 / MIPS, when
    the callee is the context frame; the frame is then `r` with lookup address `r.ip` − the
    architecture's call adjustment. -/
theorem cfi_frame_epilogue (env : Walk.Env) (mem : Walk.Mem) (p f : Walk.Frame) (g : Option Walk.Frame) :
    (Walk.step env mem p g = some f ∧ f.trust = .cfi) ↔
    ∃ r, env.cfi p g = some r ∧ 4096 ≤ r.ip ∧
      (p.ctx.sp < r.sp ∨ (env.arch.leafOk = true ∧ p.trust = .context ∧ r.sp = p.ctx.sp)) ∧
      f = { ctx := r, trust := .cfi, instruction := r.ip - env.arch.adj } := by
  constructor
  · rintro ⟨hs, ht⟩
    obtain ⟨hc, he⟩ := step_cfi hs ht
    obtain ⟨_, _, _, h4, h5⟩ := Walk.epilogue_spec he
    rw [Walk.leafOk_eff] at h5
    exact ⟨f.ctx, hc, h4, h5, Option.some.inj (hs.symm.trans (Walk.step_cfi_accept hc h4 h5))⟩
  · rintro ⟨r, hc, hip, hsp, rfl⟩
    exact ⟨Walk.step_cfi_accept hc hip hsp, rfl⟩

/-- **frame `f` is what C06 prescribes for its callee `p`** (the statement of
    `walk_frames_follow_c06`; `a` = `effArch arch p.ctx` is the architecture `p` is unwound as) -/
def FollowsC06 (arch : Walk.Arch) (os : Walk.Os) (w : Walk.World) (mem0 : Walk.Mem) (p f : Walk.Frame) : Prop :=
  CtxOk arch p.ctx ∧ spValid (Walk.effArch arch p.ctx) p.ctx = true ∧
  ∃ k m sf j rec c cfa ra c' vs,
    -- the module covering the lookup address (C08), its symbol file, the record covering the
    -- module-relative address (C08)
    Walk.moduleAt (Walk.modTable w.mods) p.instruction = some k ∧ w.mods[k]? = some m ∧
    m.base ≤ p.instruction ∧ p.instruction < m.base + m.size ∧ w.syms[k]? = some (some sf) ∧
    RangeMap.get (Walk.cfiTable sf) (p.instruction - m.base) = some j ∧ sf.cfis[j]? = some rec ∧
    (recOf rec).covers (p.instruction - m.base) = true ∧
    -- C06's `walk_frame` on the callee's `Walker`; again with CFA / RA stored in sp / ip
    Cfi.walkFrame (recOf rec) m.base (c06Walker (Walk.effArch arch p.ctx) mem0 p) = some c ∧
    c.cfa = some cfa ∧ c.ra = some ra ∧
    Cfi.walkFrame (recOf rec) m.base
      (seeded (Walk.effArch arch p.ctx) (c06Walker (Walk.effArch arch p.ctx) mem0 p) cfa ra) = some c' ∧
    -- validity set and register values
    f.ctx.valid = some vs ∧ f.ctx.m64 = p.ctx.m64 ∧
    (∀ s, viewW (Walk.effArch arch p.ctx) ⟨f.ctx, vs⟩ s =
      ((c'.get (utf8 s)).map UInt64.toNat).map
        (paMask (Walk.effArch arch p.ctx) (Walk.mkEnv arch os w mem0).mask s)) ∧
    (Walk.effArch arch p.ctx ≠ .arm →
      f.ctx.sp = ((c'.get (utf8 (Walk.effArch arch p.ctx).spName)).map UInt64.toNat).getD cfa.toNat ∧
      f.ctx.ip = paMask (Walk.effArch arch p.ctx) (Walk.mkEnv arch os w mem0).mask (Walk.effArch arch p.ctx).ipName
        (((c'.get (utf8 (Walk.effArch arch p.ctx).ipName)).map UInt64.toNat).getD ra.toNat)) ∧
    -- the epilogue
    f.trust = .cfi ∧ 4096 ≤ f.ctx.ip ∧ f.instruction = f.ctx.ip - arch.adj ∧
    (p.ctx.sp < f.ctx.sp ∨ (arch.leafOk = true ∧ p.trust = .context ∧ f.ctx.sp = p.ctx.sp))

/-- a `get_caller_frame` step that yields a frame of trust `cfi`, in any environment that unwinds as
    `arch` with the `get_caller_by_cfi` of `mkEnv arch os w mem0`: its symbolication, `instrOk` and
    `os` are free, since `FollowsC06` does not look at a frame's module or function -/
theorem follows_of_step {env : Walk.Env} {arch : Walk.Arch} {os : Walk.Os} {w : Walk.World} {mem0 : Walk.Mem}
    (harch : env.arch = arch) (hcfi : env.cfi = (Walk.mkEnv arch os w mem0).cfi) (m : Walk.Mem)
    (p f' : Walk.Frame) (g : Option Walk.Frame) (hp : CtxOk arch p.ctx)
    (hstep : Walk.step env m p g = some f') (ht : f'.trust = .cfi) :
    FollowsC06 arch os w mem0 p (Walk.symbolise env f') := by
  obtain ⟨r, hc, hip, hsp, hf⟩ := (cfi_frame_epilogue env m p f' g).mp ⟨hstep, ht⟩
  rw [hcfi, mkEnv_cfi] at hc
  rw [harch] at hsp hf
  subst hf
  -- the oracle answered: the stack pointer is valid and `cfiWalk`'s look-ups found a record
  have hc' := hc
  rw [cfiOf_eq] at hc'
  split at hc'
  · cases hc'
  rename_i hspv
  obtain ⟨o, ho, _⟩ := Option.map_eq_some_iff.mp hc'
  obtain ⟨_, he⟩ := Walk.cfiWalk_eq (Walk.effArch arch p.ctx) w mem0 p
  obtain ⟨rec, hrec, _⟩ := Option.bind_eq_some_iff.mp (he ▸ ho)
  obtain ⟨k, md, sf, j, hk, hm, hs, _, hget, hrec⟩ := Walk.cfiRecordAt_cases hrec
  obtain ⟨_, hm', hlo, hhi⟩ := Walk.moduleAt_sound w.mods _ _ hk
  cases hm.symm.trans hm'
  have hspv : spValid (Walk.effArch arch p.ctx) p.ctx = true := by simpa using hspv
  obtain ⟨hnone, hsome⟩ := cfiOf_at_record (Walk.mkEnv arch os w mem0).mask g hp rfl hk hm hs hget hrec hspv
  cases hw : Cfi.walkFrame (recOf rec) md.base (c06Walker (Walk.effArch arch p.ctx) mem0 p) with
  | none => rw [hnone hw] at hc; cases hc
  | some c =>
    obtain ⟨cfa, ra, c', r', vs, h1, h2, h3, h4, h5, h6, h7, h8⟩ := hsome c hw
    cases h4.symm.trans hc
    exact ⟨hp, hspv, k, md, sf, j, rec, c, cfa, ra, c', vs, hk, hm, hlo, hhi, hs, hget, hrec,
      covers_of_cfiTable sf _ j rec hget hrec, hw, h1, h2, h3, h5, h6, h7, h8, ht, hip, rfl, hsp⟩

/-- **`walk_frames_follow_c06`** — EVERY frame with trust `cfi` of EVERY walk in the environment
    built from a module list and symbol records, for every architecture, context (well-formed:
    `CtxOk`), stack memory: with `p` the frame below it (its callee) and `W` the C06 `Walker` of `p`,
    a module covers `p`'s lookup address, its symbol file has a `STACK CFI INIT` record covering the
    module-relative address, C06's `walkFrame` on that record succeeds, and the frame's

    * validity set is exactly the set of registers C06 reports, each valid register holding C06's
      value (ARM64: `pc`/`lr`/`fp` with the pointer-authentication bits masked off);
    * raw stack pointer / instruction pointer (single-named: everywhere but 32-bit ARM) are the
      register's value if valid, else the CFA / the masked return address;
    * epilogue: instruction pointer ≥ 4096, lookup address = instruction pointer − call adjustment,
      stack pointer above the callee's (equal allowed only above the context frame on ARM / ARM64 /
      MIPS); module and function are those of the lookup address (`walk_covered`, C05). -/
theorem walk_frames_follow_c06 (arch : Walk.Arch) (os : Walk.Os) (w : Walk.World) (mem0 : Walk.Mem)
    (mem : Option Walk.Mem) (ctx : Walk.Ctx) (hctx : CtxOk arch ctx) :
    ∀ (i : Nat) (h : i + 1 < (Walk.walk (Walk.mkEnv arch os w mem0) mem ctx).length),
      (Walk.walk (Walk.mkEnv arch os w mem0) mem ctx)[i + 1].trust = .cfi →
      FollowsC06 arch os w mem0 (Walk.walk (Walk.mkEnv arch os w mem0) mem ctx)[i]
        (Walk.walk (Walk.mkEnv arch os w mem0) mem ctx)[i + 1] :=
  walk_cfi_frames (walk_ctxOk (cfiOk_of_eq rfl rfl) mem hctx) (follows_of_step rfl rfl)

/-! ## the `cfi stack` protocol entry of C06's model is the walker model's step

  `MdModel.Cfi.stackFrame` (two `walkFrame`s + `stackGlue`) answers the `stack` cases of engine
  `cfi`, which run the real `walk_stack`. It computes what the walker model — the model the `walk`
  engine ties to the same `walk_stack` — computes for frame 1: in-range test of `walk_stack`,
  `get_caller_by_cfi`, epilogue. -/

/-- a `stack` answer and a frame of the walker model tell the same story: both absent, or a `cfi`
    frame whose stack pointer / instruction pointer / every other register is valid with the same
    value, or unknown, on both sides -/
def StackRel (a : Walk.Arch) : Option Cfi.Caller → Option Walk.Frame → Prop
  | none, none => True
  | some c, some f =>
    f.trust = .cfi ∧ ∃ vs, f.ctx.valid = some vs ∧
      c.cfa.map UInt64.toNat = viewW a ⟨f.ctx, vs⟩ a.spName ∧
      c.ra.map UInt64.toNat = viewW a ⟨f.ctx, vs⟩ a.ipName ∧
      ∀ s, s ≠ a.spName → s ≠ a.ipName → (c.get (utf8 s)).map UInt64.toNat = viewW a ⟨f.ctx, vs⟩ s
  | _, _ => False

/-- the driver runs `stackFrameO`; it has no panic outcome and equals `stackFrame` -/
theorem stack_entry_total (r : Cfi.CfiRec) (base : Nat) (w : Cfi.Walker) (spN ipN : Cfi.Name) (sp : Nat)
    (leaf : Bool) (strip : Option UInt64) :
    Cfi.stackFrameO r base w spN ipN sp leaf strip = .ok (Cfi.stackFrame r base w spN ipN sp leaf strip) := by
  unfold Cfi.stackFrameO Cfi.stackFrame
  split
  · rfl
  · rw [Cfi.walkFrameO_eq]
    cases Cfi.walkFrame r base w with
    | none => rfl
    | some c0 =>
      simp only
      cases c0.cfa with
      | none => rfl
      | some cfa =>
        cases c0.ra with
        | none => rfl
        | some ra =>
          simp only
          rw [Cfi.walkFrameO_eq]
          cases Cfi.walkFrame r base { w with fwd := Cfi.storeCfaRa spN ipN w.fwd cfa ra } <;> rfl

/-- `stackOf` against the walker model's in-range test and epilogue, for a caller context `r` that
    holds the second walk's registers -/
private theorem stackOf_rel (a : Walk.Arch) (mask : Nat) (hmask : mask < 2 ^ 64) (W : Cfi.Walker) (mem : Walk.Mem)
    (hWmem : W.mem = mem.bytes.toList) (hWbase : W.memBase = mem.base) (p : Walk.Frame) (cfa ra : UInt64)
    (c' : Cfi.Caller) (r : Walk.Ctx) (vs : List String) (hvs : r.valid = some vs)
    (hview : ∀ s, viewW a ⟨r, vs⟩ s = ((c'.get (utf8 s)).map UInt64.toNat).map (paMask a mask s))
    (hrsp : r.sp = ((c'.get (utf8 a.spName)).map UInt64.toNat).getD cfa.toNat)
    (hrip : r.ip = paMask a mask a.ipName (((c'.get (utf8 a.ipName)).map UInt64.toNat).getD ra.toNat)) :
    StackRel a
      (Cfi.stackOf W (utf8 a.spName) (utf8 a.ipName) p.ctx.sp (a.leafOk && p.trust == .context)
        (stripOf a mask) cfa ra c')
      (if mem.inRange p.ctx.sp then Walk.epilogue a p r .cfi else none) := by
  unfold Cfi.stackOf
  simp only
  by_cases hin : mem.inRange p.ctx.sp = true
  · rw [stackGlue_spec W mem hWmem hWbase _ _ _ _ _ _ hin, if_pos hin]
    have eip : (stripV (stripOf a mask) ((c'.get (utf8 a.ipName)).getD ra)).toNat = r.ip := by
      rw [stripV_paMask a _ hmask, hrip]
      cases c'.get (utf8 a.ipName) <;> rfl
    have esp : ((c'.get (utf8 a.spName)).getD cfa).toNat = r.sp := by
      rw [hrsp]
      cases c'.get (utf8 a.spName) <;> rfl
    rw [eip, esp]
    unfold Walk.epilogue
    rw [Walk.nullish_eq]
    -- `stackGlue` tests the epilogue's two conditions, written as Booleans
    have hcond : ((decide (r.sp ≤ p.ctx.sp) && !((a.leafOk && p.trust == Walk.Trust.context) && r.sp == p.ctx.sp)) = true) ↔
        (r.sp ≤ p.ctx.sp ∧ (!(a.leafOk && p.trust == Walk.Trust.context && r.sp == p.ctx.sp)) = true) := by simp
    simp only [hcond]
    by_cases hlow : r.ip < 4096
    · simp only [hlow, if_true]; trivial
    · by_cases hprog : r.sp ≤ p.ctx.sp ∧ (!(a.leafOk && p.trust == Walk.Trust.context && r.sp == p.ctx.sp)) = true
      · simp only [hlow, hprog, if_false]; trivial
      · simp only [hlow, hprog, if_false]
        refine ⟨rfl, vs, hvs, ?_, ?_, ?_⟩
        ·
          rw [hview]
          cases hv : c'.get (utf8 a.spName) with
          | none => rfl
          | some v =>
            simp only [Option.isSome_some, if_true, Option.getD_some, Option.map_some, Option.some.injEq]
            exact (paMask_sp a mask _).symm
        ·
          rw [hview]
          cases hv : c'.get (utf8 a.ipName) with
          | none => rfl
          | some v =>
            simp only [Option.isSome_some, if_true, Option.getD_some, Option.map_some, Option.some.injEq]
            exact stripV_paMask a _ hmask v
        · intro s hs1 hs2
          rw [hview]
          unfold Cfi.Caller.get
          simp only
          rw [lookupName_map_snd _ (regStrip (stripOf a mask))]
          have e1 : utf8 a.ipName ≠ utf8 s := fun e => hs2 (utf8_inj e).symm
          have e2 : utf8 a.spName ≠ utf8 s := fun e => hs1 (utf8_inj e).symm
          rw [Cfi.lookupName_erase_ne _ _ _ e1, Cfi.lookupName_erase_ne _ _ _ e2]
          show Option.map UInt64.toNat (Option.map _ (Cfi.lookupName c'.regs (utf8 s))) =
            Option.map _ (Option.map UInt64.toNat (Cfi.lookupName c'.regs (utf8 s)))
          cases Cfi.lookupName c'.regs (utf8 s) with
          | none => rfl
          | some v =>
            simp only [Option.map_some, Option.some.injEq]
            exact regStrip_paMask a _ hmask s hs2 v
  · rw [stackGlue_out W mem hWmem hWbase _ _ _ _ (by simpa using hin), if_neg hin]
    trivial

/-- **`stack_entry_eq_walker`** — for every architecture with single-named sp/ip (all but 32-bit
    ARM; the `stack` cases use x86, amd64, arm64: `spIpOfArch_eq`), every callee frame `p` with a
    well-formed context, stack memory, module list and symbol records in which record `rec` of
    module `m` covers `p`'s lookup address: the `stack` entry on `p`'s C06 `Walker` (sp / ip names of
    the architecture, `leaf` = "ARM/ARM64/MIPS and `p` is the context frame", `strip` = ARM64's
    pointer-authentication mask) and the walker model's "`p`'s stack pointer is in the stack
    memory, `get_caller_by_cfi` yields a context, the epilogue accepts it" agree (`StackRel`). -/
theorem stack_entry_eq_walker (arch : Walk.Arch) (os : Walk.Os) (w : Walk.World) (mem : Walk.Mem)
    (p : Walk.Frame) (g : Option Walk.Frame) (hok : CtxOk arch p.ctx)
    (harm : Walk.effArch arch p.ctx ≠ .arm)
    (k : Nat) (m : Walk.Module) (sf : Walk.SymFile) (j : Nat) (rec : Walk.CfiRec)
    (hmod : Walk.moduleAt (Walk.modTable w.mods) p.instruction = some k) (hm : w.mods[k]? = some m)
    (hsf : w.syms[k]? = some (some sf))
    (hget : RangeMap.get (Walk.cfiTable sf) (p.instruction - m.base) = some j) (hrec : sf.cfis[j]? = some rec) :
    StackRel (Walk.effArch arch p.ctx)
      (Cfi.stackFrame (recOf rec) m.base (c06Walker (Walk.effArch arch p.ctx) mem p)
        (utf8 (Walk.effArch arch p.ctx).spName) (utf8 (Walk.effArch arch p.ctx).ipName) p.ctx.sp
        ((Walk.effArch arch p.ctx).leafOk && p.trust == .context)
        (stripOf (Walk.effArch arch p.ctx) (Walk.mkEnv arch os w mem).mask))
      (if mem.inRange p.ctx.sp then
        ((Walk.mkEnv arch os w mem).cfi p g).bind fun r => Walk.epilogue (Walk.effArch arch p.ctx) p r .cfi
       else none) := by
  obtain ⟨hsimW, _⟩ := c06Walker_related mem p hok
  rw [mkEnv_cfi]
  generalize ha : Walk.effArch arch p.ctx = a at *
  -- the callee's stack pointer is valid on both sides, or on neither
  have hspv : ((c06Walker a mem p).getCallee (utf8 a.spName)).isNone = !spValid a p.ctx := by
    have h1 : (p.ctx.get a a.spName).isNone = ((c06Walker a mem p).getCallee (utf8 a.spName)).isNone := by
      rw [← Option.isNone_map (f := UInt64.toNat)]
      exact congrArg Option.isNone (hsimW.env.reg a.spName)
    rw [← h1, spValid_eq]
    unfold Walk.Ctx.get
    cases p.ctx.has a a.spName <;> rfl
  unfold Cfi.stackFrame
  rw [hspv]
  cases hsp : spValid a p.ctx with
  | false =>
    rw [cfiOf_eq, ha, hsp]
    simp only [Bool.not_false, if_true, Option.bind_none, ite_self]
    trivial
  | true =>
    simp only [Bool.not_true, Bool.false_eq_true, if_false]
    obtain ⟨hnone, hsome⟩ := cfiOf_at_record (Walk.mkEnv arch os w mem).mask g hok ha hmod hm hsf hget hrec hsp
    cases hc : Cfi.walkFrame (recOf rec) m.base (c06Walker a mem p) with
    | none =>
      rw [hnone hc]
      simp only [Option.bind_none, ite_self]
      trivial
    | some c =>
      obtain ⟨cfa, ra, c', r, vs, h1, h2, h3, h4, h5, _, h7, h8⟩ := hsome c hc
      obtain ⟨hrsp, hrip⟩ := h8 harm
      simp only [h1, h2]
      have hseed : ({ c06Walker a mem p with
          fwd := Cfi.storeCfaRa (utf8 a.spName) (utf8 a.ipName) (c06Walker a mem p).fwd cfa ra } : Cfi.Walker) =
          seeded a (c06Walker a mem p) cfa ra := rfl
      rw [hseed, h3, h4]
      simp only [Option.bind_some]
      exact stackOf_rel a _ (mkEnv_mask_lt arch os w mem) _ mem rfl rfl p cfa ra c' r vs h5 h7 hrsp hrip

/-! ## non-vacuity: a concrete x86-64 walk whose second frame is found by CFI

  One module at `0x400000`, one `STACK CFI INIT` record `[0x1000, 0x1100)` with the rule text of
  `MdProofs.C06Walk`'s example (`exRule`: CFA = `rsp + 32`, return address and saved `rbp` on the
  stack), the register file and stack memory of `exIn`. The range tables are computed with C08's
  lemmas, the C06 side by kernel evaluation, the walker side through the theorems above. -/

def exSf : Walk.SymFile := { cfis := [{ addr := 0x1000, size := 0x100, init := exRule, adds := [] }] }
def exWorld : Walk.World := { mods := [{ base := 0x400000, size := 0x2000, name := "m" }], syms := [some exSf] }

theorem ex_modTable : Walk.modTable exWorld.mods = [(⟨0x400000, 0x401fff⟩, 0)] :=
  Walk.modTable_singleton (by decide)

theorem ex_cfiTable : Walk.cfiTable exSf = [(⟨0x1000, 0x10ff⟩, 0)] :=
  Walk.cfiTable_of_sep (by simp [RangeMap.Sep, RangeMap.WF, U64MAX]) (by decide)

theorem exCtx_ok : CtxOk .amd64 exIn.callee := ⟨trivial, by decide, by decide, by decide⟩

/-- the C06 `Walker` of any frame with `exIn`'s context and lookup address `0x401000` -/
def exW2 : Cfi.Walker := walkerOf exIn 0x401000 (fwdOf .amd64 ⟨exIn.callee, Walk.forwarded .amd64 exIn.callee⟩)

/-- three decidable facts as one Boolean: the kernel evaluates what they share once -/
private theorem and3_of_decide {p q r : Prop} [Decidable p] [Decidable q] [Decidable r]
    (h : (decide p && decide q && decide r) = true) : p ∧ q ∧ r := by
  rw [Bool.and_eq_true, Bool.and_eq_true] at h
  exact ⟨of_decide_eq_true h.1.1, of_decide_eq_true h.1.2, of_decide_eq_true h.2⟩

/-- the C06 side of the example, by kernel evaluation: the first walk's CFA and return address, the
    registers of the second walk, the `stack` entry (together: most of the work is the tokenisation
    of the rule text, which the three share) -/
private theorem ex_vals :
    (Cfi.walkFrame (recOf { addr := 0x1000, size := 0x100, init := exRule, adds := [] }) 0x400000 exW2).map
      (fun c => (c.cfa, c.ra)) = some (some 0x1020, some 0x401234) ∧
    (Cfi.walkFrame (recOf { addr := 0x1000, size := 0x100, init := exRule, adds := [] }) 0x400000
      (seeded .amd64 exW2 0x1020 0x401234)).map
      (fun c => (c.get (utf8 "rsp"), c.get (utf8 "rip"), c.get (utf8 "rbp"), c.get (utf8 "rbx"), c.get (utf8 "rax"))) =
      some (some 0x1020, some 0x401234, some 0x2040, some 7, none) ∧
    (Cfi.stackFrame (recOf { addr := 0x1000, size := 0x100, init := exRule, adds := [] }) 0x400000 exW2
      (utf8 "rsp") (utf8 "rip") 0x1000 false none).map
      (fun c => (c.cfa, c.ra, c.get (utf8 "rbp"), c.get (utf8 "rbx"), c.get (utf8 "rax"))) =
    some (some 0x1020, some 0x401234, some 0x2040, some 7, none) := and3_of_decide (by decide +kernel)

/-- `mkEnv_cfi_spec`'s last case (`cfiOf_at_record`) applied: `get_caller_by_cfi` on such a frame
    succeeds; the caller's validity set and registers are C06's — CFA `0x1020` in `rsp`, return
    address `0x401234` in `rip`, `rbp` restored from the stack, `rbx` forwarded -/
theorem ex_cfi (callee : Walk.Frame) (grand : Option Walk.Frame) (hc : callee.ctx = exIn.callee)
    (hi : callee.instruction = 0x401000) :
    ∃ r vs, (Walk.mkEnv .amd64 .other exWorld exIn.mem).cfi callee grand = some r ∧ r.valid = some vs ∧
      viewW .amd64 ⟨r, vs⟩ "rsp" = some 0x1020 ∧ viewW .amd64 ⟨r, vs⟩ "rip" = some 0x401234 ∧
      viewW .amd64 ⟨r, vs⟩ "rbp" = some 0x2040 ∧ viewW .amd64 ⟨r, vs⟩ "rbx" = some 7 ∧
      viewW .amd64 ⟨r, vs⟩ "rax" = none ∧ r.sp = 0x1020 ∧ r.ip = 0x401234 := by
  obtain ⟨ctx, trust, instr, md, fn⟩ := callee
  simp only at hc hi
  subst hc hi
  rw [mkEnv_cfi]
  have hk : Walk.moduleAt (Walk.modTable exWorld.mods) 0x401000 = some 0 := by rw [ex_modTable]; decide
  have hj : RangeMap.get (Walk.cfiTable exSf) (0x401000 - 0x400000) = some 0 := by rw [ex_cfiTable]; decide
  obtain ⟨c, hc, hv⟩ := Option.map_eq_some_iff.mp ex_vals.1
  obtain ⟨cfa, ra, c', r, vs, h1, h2, h3, h4, h5, _, h7, h8⟩ :=
    (cfiOf_at_record (a := .amd64) (mem := exIn.mem) (callee := ⟨exIn.callee, trust, 0x401000, md, fn⟩)
      (Walk.mkEnv .amd64 .other exWorld exIn.mem).mask grand exCtx_ok rfl hk rfl rfl hj rfl rfl).2 c hc
  obtain rfl : cfa = 0x1020 := Option.some.inj (h1.symm.trans (Prod.mk.inj hv).1)
  obtain rfl : ra = 0x401234 := Option.some.inj (h2.symm.trans (Prod.mk.inj hv).2)
  obtain ⟨_, hc', hregs⟩ := Option.map_eq_some_iff.mp ex_vals.2.1
  cases hc'.symm.trans h3
  simp only [Prod.mk.injEq] at hregs
  obtain ⟨r1, r2, r3, r4, r5⟩ := hregs
  have hp : ∀ s v, paMask .amd64 (Walk.mkEnv .amd64 .other exWorld exIn.mem).mask s v = v := by
    intro s v; simp [paMask, isArm64]
  obtain ⟨hsp, hip⟩ := h8 (by decide)
  refine ⟨r, vs, h4, h5, ?_, ?_, ?_, ?_, ?_, ?_, ?_⟩
  · rw [h7, r1]; simp [hp]
  · rw [h7, r2]; simp [hp]
  · rw [h7, r3]; simp [hp]
  · rw [h7, r4]; simp [hp]
  · rw [h7, r5]; rfl
  · rw [hsp]; show (Option.map UInt64.toNat (c'.get (utf8 "rsp"))).getD _ = _; rw [r1]; rfl
  · rw [hip, hp]; show (Option.map UInt64.toNat (c'.get (utf8 "rip"))).getD _ = _; rw [r2]; rfl

theorem walk_second (env : Walk.Env) (m : Walk.Mem) (ctx : Walk.Ctx) (f' : Walk.Frame)
    (hr : m.range?.isSome = true) (hin : m.inRange ctx.sp = true)
    (hstep : Walk.step env m (Walk.symbolise env (Walk.Frame.ofCtx ctx .context)) none = some f') :
    ∃ rest, Walk.walk env (some m) ctx =
      Walk.symbolise env (Walk.Frame.ofCtx ctx .context) :: Walk.symbolise env f' :: rest := by
  obtain ⟨rest, hrest, _⟩ := Walk.walkLoop_chain (env := env) (mem := m) (m.size + 1) f'
    (some (Walk.symbolise env (Walk.Frame.ofCtx ctx .context)))
  exact ⟨rest, by rw [Walk.walk_of_range ctx hr, show Walk.walkFuel m = m.size + 1 + 1 from rfl,
    Walk.walkLoop_cons hin hstep, hrest]⟩

/-- the hypotheses of `walk_frames_follow_c06` are satisfiable, and its conclusion is about a real
    frame: the walk from `exIn`'s context has (at least) two frames, the second one found by CFI
    with stack pointer `0x1020`, return address `0x401234`, lookup address `0x401233` -/
example : ∃ (h : 0 + 1 < (Walk.walk (Walk.mkEnv .amd64 .other exWorld exIn.mem) (some exIn.mem) exIn.callee).length),
    (Walk.walk (Walk.mkEnv .amd64 .other exWorld exIn.mem) (some exIn.mem) exIn.callee)[0 + 1].trust = .cfi ∧
    (Walk.walk (Walk.mkEnv .amd64 .other exWorld exIn.mem) (some exIn.mem) exIn.callee)[0 + 1].ctx.sp = 0x1020 ∧
    (Walk.walk (Walk.mkEnv .amd64 .other exWorld exIn.mem) (some exIn.mem) exIn.callee)[0 + 1].instruction = 0x401233 ∧
    FollowsC06 .amd64 .other exWorld exIn.mem
      (Walk.walk (Walk.mkEnv .amd64 .other exWorld exIn.mem) (some exIn.mem) exIn.callee)[0]
      (Walk.walk (Walk.mkEnv .amd64 .other exWorld exIn.mem) (some exIn.mem) exIn.callee)[0 + 1] := by
  obtain ⟨r, vs, hcfi, _, _, _, _, _, _, hsp, hip⟩ :=
    ex_cfi (Walk.symbolise (Walk.mkEnv .amd64 .other exWorld exIn.mem) (Walk.Frame.ofCtx exIn.callee .context)) none rfl rfl
  have hstep := (cfi_frame_epilogue (Walk.mkEnv .amd64 .other exWorld exIn.mem) exIn.mem
    (Walk.symbolise (Walk.mkEnv .amd64 .other exWorld exIn.mem) (Walk.Frame.ofCtx exIn.callee .context))
    { ctx := r, trust := .cfi, instruction := r.ip - 1 } none).mpr
      ⟨r, hcfi, by rw [hip]; decide, .inl (by rw [hsp]; decide), rfl⟩
  obtain ⟨rest, hw⟩ := walk_second _ exIn.mem exIn.callee _ (by decide) (by decide) hstep.1
  have hlen : 0 + 1 < (Walk.walk (Walk.mkEnv .amd64 .other exWorld exIn.mem) (some exIn.mem) exIn.callee).length := by
    rw [hw]; simp
  refine ⟨hlen, ?_⟩
  have h1 : (Walk.walk (Walk.mkEnv .amd64 .other exWorld exIn.mem) (some exIn.mem) exIn.callee)[0 + 1] =
      Walk.symbolise (Walk.mkEnv .amd64 .other exWorld exIn.mem) { ctx := r, trust := .cfi, instruction := r.ip - 1 } := by
    simp only [hw]; rfl
  have ht : (Walk.walk (Walk.mkEnv .amd64 .other exWorld exIn.mem) (some exIn.mem) exIn.callee)[0 + 1].trust = .cfi := by
    rw [h1]; rfl
  refine ⟨ht, by rw [h1]; exact hsp, by rw [h1]; show r.ip - 1 = _; rw [hip], ?_⟩
  exact walk_frames_follow_c06 .amd64 .other exWorld exIn.mem (some exIn.mem) exIn.callee exCtx_ok 0 hlen ht

/-- the `stack` entry computed on the example (C06 side, by kernel evaluation): frame 1 has CFA
    `0x1020`, return address `0x401234`, `rbp` restored, `rbx` forwarded … -/
example : (Cfi.stackFrame (recOf { addr := 0x1000, size := 0x100, init := exRule, adds := [] }) 0x400000 exW2
      (utf8 "rsp") (utf8 "rip") 0x1000 false none).map
      (fun c => (c.cfa, c.ra, c.get (utf8 "rbp"), c.get (utf8 "rbx"), c.get (utf8 "rax"))) =
    some (some 0x1020, some 0x401234, some 0x2040, some 7, none) := ex_vals.2.2

/-- … and `stack_entry_eq_walker`'s hypotheses hold of it: the answer is related to the walker
    model's step from the context frame -/
example : StackRel .amd64
    (Cfi.stackFrame (recOf { addr := 0x1000, size := 0x100, init := exRule, adds := [] }) 0x400000 exW2
      (utf8 "rsp") (utf8 "rip") 0x1000 false none)
    (if exIn.mem.inRange 0x1000 then
      ((Walk.mkEnv .amd64 .other exWorld exIn.mem).cfi (Walk.Frame.ofCtx exIn.callee .context) none).bind fun r =>
        Walk.epilogue .amd64 (Walk.Frame.ofCtx exIn.callee .context) r .cfi
     else none) := by
  have hk : Walk.moduleAt (Walk.modTable exWorld.mods) 0x401000 = some 0 := by rw [ex_modTable]; decide
  have hj : RangeMap.get (Walk.cfiTable exSf) (0x401000 - 0x400000) = some 0 := by rw [ex_cfiTable]; decide
  exact stack_entry_eq_walker .amd64 .other exWorld exIn.mem (Walk.Frame.ofCtx exIn.callee .context) none exCtx_ok
    (by decide) 0 { base := 0x400000, size := 0x2000, name := "m" } exSf 0
    { addr := 0x1000, size := 0x100, init := exRule, adds := [] } hk rfl rfl hj rfl

end MdModel.CfiBridge
