/-
  C16 — The on-disk symbol cache only ever holds complete, parseable files.

  Property text: "For every sequence of download outcomes — success, HTTP error, connection cut at
  any byte, corrupt content, abandoned request — a file appears at a cache path only after the whole
  symbol file was downloaded and parsed successfully, and it then consists of exactly the downloaded
  bytes followed by the source-URL note. Failed or abandoned downloads leave no entry and no stray
  temporary file in the cache, and a later lookup served from the cache without network access
  yields the same symbol table and URL as the original download."

  The theorems are about `MdModel.CacheFs` (the state machine of `locate_symbols` /
  `fetch_symbol_file` / `commit_cache_file` over an abstract file system), for ANY list of events
  (network outcomes, i/o failures of the caching side, the drop point) and, where stated for a
  `World`, for any number of concurrent calls of the same process under ANY interleaving.
  They are stated twice:
    * for an ARBITRARY parser model `P` satisfying the interface `ParserLaws P` (`callback_prefix`,
      `chunk_independent`, `info_url_trailer`);
    * for the REAL parser — `Real.model`: the byte-level model of the Breakpad symbol parser of
      C09/C10 (`MdModel.SymLine`, `MdModel.SymParse`) inside the loop of `parse_async`
      (`MdModel.Stream` blocks) — with NO assumed law: `MdProofs.Lemmas.CacheFsReal` proves
      `ParserLaws Real.model` (`Real.laws`; `callback_prefix` and `chunk_independent` from C10's
      machinery, `info_url_trailer` from the parser model, `MdProofs.Lemmas.SymTrailer`). This is
      the instance the compiled model runs in the correspondence check.
  `MdProofs.Lemmas.CacheFsToy` proves the laws for a small line-buffering instance as well, on which
  the concrete runs at the end are decided by evaluation.

  What no theorem here shows (level: proof, PARTIAL): crashes of the process or the OS between
  `write` and `rename`, other processes sharing the cache directory, and file-system specific
  semantics of `link`/`rename`; the temp file is identified with its handle (RAII), which is the
  assumed behaviour of `tempfile::NamedTempFile`.
-/
import MdProofs.Lemmas.CacheFs
import MdProofs.Lemmas.CacheFsToy
import MdProofs.Lemmas.CacheFsReal
import MdProofs.Lemmas.CacheFsFile
namespace MdModel.CacheFs

variable {P : ParserModel}


/-- An entry made by a download: there is a response, delivered completely in the chunks `rx`
    (end-of-response seen), whose streaming parse returned `Ok` and whose body ends in a line feed,
    requested at `u` by a call for the module cached at `p`; the entry is that body followed by the
    URL note. -/
def GoodEntry (P : ParserModel) (reqs : List Req) (p : Path) (n : Node) : Prop :=
  ∃ rx u t, P.stream rx = some (bodyOf rx, t) ∧ EndsNl (bodyOf rx) ∧
    n = .file (bodyOf rx ++ trailer u) ∧ ∃ r ∈ reqs, r.path = p ∧ u ∈ r.urls

/-- Invariant of the world: the calls are, statically, `reqs`; each satisfies its local invariant;
    every entry is an initial one or a `GoodEntry`. -/
def WorldInv (P : ParserModel) (init : Cache) (reqs : List Req) (w : World P) : Prop :=
  w.tasks.map Prod.fst = reqs ∧ (∀ t ∈ w.tasks, PhaseInv t.1 t.2) ∧
  ∀ p n, w.cache p = some n → init p = some n ∨ GoodEntry P reqs p n

private theorem World.step_inv (hl : ParserLaws P) (init : Cache) (reqs : List Req) (w : World P) (i : Nat)
    (e : Ev) (h : WorldInv P init reqs w) : WorldInv P init reqs (w.step i e) := by
  unfold World.step
  cases hi : w.tasks[i]? with
  | none => exact h
  | some tk =>
    obtain ⟨req, ph⟩ := tk
    obtain ⟨hreqs, hphs, hcache⟩ := h
    have hmem : (req, ph) ∈ w.tasks := List.mem_of_getElem? hi
    have hph : PhaseInv req ph := hphs _ hmem
    refine ⟨(getElem?_set_fst w.tasks i req ph _ hi).trans hreqs, ?_, ?_⟩
    · intro t ht
      rcases List.mem_or_eq_of_mem_set ht with h1 | h1
      · exact hphs t h1
      · subst h1; exact CacheFs.step_inv hl _ _ _ _ hph
    · intro p n hn
      simp only [] at hn
      rcases step_spec hl w.cache req ph e hph with ⟨hc, _⟩ | ⟨u, rx, io, t, _, hu, hs, _, hc | ⟨hends, hcm⟩⟩
      · rw [hc] at hn; exact hcache p n hn
      · rw [hc] at hn; exact hcache p n hn
      · rcases commit_entry (hcm ▸ hn) with h1 | ⟨rfl, rfl⟩
        · exact hcache p n h1
        · exact .inr ⟨rx, u, t, hs, hends, rfl, req, hreqs ▸ List.mem_map.mpr ⟨_, hmem, rfl⟩, rfl, hu⟩

private theorem World.run_inv (hl : ParserLaws P) (init : Cache) (reqs : List Req) (w : World P)
    (evs : List (Nat × Ev)) (h : WorldInv P init reqs w) : WorldInv P init reqs (w.run evs) := by
  induction evs generalizing w with
  | nil => exact h
  | cons x xs ih => exact ih _ (World.step_inv hl init reqs w x.1 x.2 h)

/-- **cache_inv** — "a file appears at a cache path only after the whole symbol file was downloaded
    and parsed successfully, and it then consists of exactly the downloaded bytes followed by the
    source-URL note": start any number of calls (all in their initial state) on any cache `c0`; after
    ANY interleaved event sequence (statuses, chunks, ends, network errors, i/o failures, drops),
    every entry of the cache is an entry `c0` already had, or `body ++ "INFO URL " ++ u ++ "\n"` for a
    response that arrived completely, stream-parsed `Ok`, and was requested at `u` by one of the
    calls for exactly that cache path. -/
theorem cache_inv (hl : ParserLaws P) (c0 : Cache) (reqs : List Req) (evs : List (Nat × Ev)) :
    let w := (World.mk (P := P) c0 (reqs.map fun r => (r, .start))).run evs
    ∀ p n, w.cache p = some n → c0 p = some n ∨ GoodEntry P reqs p n := by
  have h0 : WorldInv P c0 reqs (World.mk c0 (reqs.map fun r => (r, .start))) := by
    refine ⟨by simp [Function.comp_def], fun t ht => ?_, fun _ _ h => .inl h⟩
    obtain ⟨r, _, rfl⟩ := List.mem_map.mp ht
    trivial
  exact (World.run_inv hl c0 reqs _ evs h0).2.2

/-- … and with the whole-buffer parser: the body of a `GoodEntry` ends in a line feed and — on
    C10's domain of chunk independence (all lines shorter than 80 KiB) — parses (`parseOk`). -/
theorem goodEntry_parses (hl : ParserLaws P) {reqs : List Req} {p : Path} {n : Node}
    (h : GoodEntry P reqs p n) :
    ∃ body u, n = .file (body ++ trailer u) ∧ EndsNl body ∧
      (P.shortLines body → P.parseOk body = true) := by
  obtain ⟨rx, u, t, hs, hends, hn, _⟩ := h
  exact ⟨bodyOf rx, u, hn, hends, fun hsl => by
    simp [ParserModel.parseOk, hl.chunk_independent rx _ t hsl hs]⟩


/-- the future has completed or has been dropped -/
def Phase.finished : Phase P → Prop
  | .done _ => True
  | .dropped => True
  | _ => False

private theorem finished_temp {ph : Phase P} (h : ph.finished) : ph.temp = none := by
  cases ph with
  | streaming _ _ _ _ _ _ => exact h.elim
  | _ => rfl

/-- **no_stray_temp** — "… and no stray temporary file": the tmp directory holds exactly the temp
    files of the calls still in flight; once every call has completed or has been dropped — at
    whatever point of whatever interleaving — it is empty. -/
theorem no_stray_temp (w : World P) (h : ∀ t ∈ w.tasks, t.2.finished) : w.liveTemps = [] := by
  unfold World.liveTemps
  rw [List.filterMap_eq_nil_iff]
  intro t ht
  exact finished_temp (h t ht)

/-- … for one call, spelled out: drop the future after ANY events `es`; whatever else happens
    afterwards (`fs`), the call holds no temp file, and dropping did not touch the cache. -/
theorem no_stray_temp_after_drop (c : Cache) (req : Req) (es fs : List Ev) :
    let before := runTask (P := P) c req .start es
    let after := runTask (P := P) c req .start (es ++ .drop :: fs)
    after.2.temp = none ∧ after.2.finished ∧ after.1 = before.1 := by
  intro before after
  have : after = runTask before.1 req before.2 (.drop :: fs) := runTask_append c req .start es (.drop :: fs)
  rw [this]
  rcases runTask_drop before.1 req before.2 fs with h | ⟨r, _, h⟩ <;> rw [h] <;> exact ⟨rfl, trivial, rfl⟩

/-- while a download is in flight its temp file is a prefix of the body received so far
    (this is what C10's `callback_prefix` gives) — it is never anything else than part of the file -/
theorem temp_is_prefix (hl : ParserLaws P) (c : Cache) (req : Req) (es : List Ev) (t : Bytes)
    (h : (runTask (P := P) c req .start es).2.temp = some t) :
    ∃ u rest temp nl ps rx, (runTask (P := P) c req .start es).2 = .streaming u rest temp nl ps rx ∧
      ∃ more, t ++ more = bodyOf rx :=
  PhaseInv.temp_prefix hl (runTask_inv hl c req .start es trivial) h


/-- **failure_leaves_nothing** — "Failed or abandoned downloads leave no entry": run one call on any
    events from any reachable state; unless it ends as `downloaded` (a complete response that
    parsed `Ok`), the cache is literally unchanged. Error status, network error, body shorter than
    announced, unparseable body, unterminated last line, drop at any point, or a call still in
    flight — all are "not `downloaded`". Applied to every prefix of the events this also says that
    nothing becomes visible in the cache while the download is in flight. -/
theorem failure_leaves_nothing (hl : ParserLaws P) (c : Cache) (req : Req) (ph : Phase P)
    (hph : PhaseInv req ph) (es : List Ev)
    (hfail : ∀ rx u, (runTask c req ph es).2 ≠ .done (.downloaded rx u)) :
    (runTask c req ph es).1 = c :=
  runTask_quiet c req ph es hfail

/-- the ways of not ending as `downloaded`, one by one (being served from a local file among them) -/
theorem failure_kinds (hl : ParserLaws P) (c : Cache) (req : Req) (es : List Ev) :
    let r := runTask (P := P) c req .start es
    (r.2 = .done .notFound ∨ r.2 = .dropped ∨ r.2 = .start ∨
      (∃ u rest, r.2 = .awaitStatus u rest) ∨ (∃ u rest temp nl ps rx, r.2 = .streaming u rest temp nl ps rx) ∨
      (∃ b, r.2 = .done (.localFile b))) → r.1 = c := by
  intro r h
  apply failure_leaves_nothing hl c req .start trivial es
  intro rx u hd
  have hd' : r.2 = .done (.downloaded rx u) := hd
  rcases h with h | h | h | ⟨_, _, h⟩ | ⟨_, _, _, _, _, _, h⟩ | ⟨_, h⟩ <;> rw [h] at hd' <;> simp at hd'

/-- conversely: a `downloaded` result is only produced from a complete response that parsed `Ok` -/
theorem downloaded_is_complete (hl : ParserLaws P) (c : Cache) (req : Req) (ph : Phase P)
    (hph : PhaseInv req ph) (es : List Ev) (rx : List Bytes) (u : Url)
    (hd : (runTask c req ph es).2 = .done (.downloaded rx u)) :
    ph = .done (.downloaded rx u) ∨ (u ∈ req.urls ∧ ∃ t, P.stream rx = some (bodyOf rx, t)) := by
  rcases runTask_spec hl c req ph hph es with ⟨_, _, hq⟩ | ⟨u', rx', _, t, hu, hs, hd', _⟩
  · exact .inl (hq rx u hd)
  · cases hd'.symm.trans hd
    exact .inr ⟨hu, t, hs⟩


/-- **preexisting_preserved_or_replaced** — what `commit_cache_file` does with the name it is
    about to fill (`remove_file` if it `exists()`, then `persist_noclobber`), exactly:
    * no other name changes;
    * if the trailer cannot be written nothing changes;
    * a directory or a dangling symlink at the name stays (the commit fails);
    * a free name receives the new file iff `persist_noclobber` succeeds;
    * a regular (or special) file at the name is removed first: if that fails it stays; otherwise the
      new file takes its place — or, when `persist_noclobber` then fails, the name is left EMPTY
      (the old entry is lost; this is the code's `// TODO: don't do this`). -/
theorem preexisting_preserved_or_replaced (c : Cache) (p : Path) (u : Url) (t : Bytes) (io : CommitIo) :
    (∀ q, q ≠ p → commit c p u t io q = c q) ∧
    (io.trailerOk = false → commit c p u t io p = c p) ∧
    (c p = some .dir ∨ c p = some .dangling → commit c p u t io p = c p) ∧
    (io.trailerOk = true → c p = none →
      commit c p u t io p = if io.persistOk then some (.file (t ++ trailer u)) else none) ∧
    (io.trailerOk = true → (c p = some .special ∨ ∃ old, c p = some (.file old)) →
      commit c p u t io p =
        if io.removeOk = false then c p
        else if io.persistOk then some (.file (t ++ trailer u)) else none) := by
  obtain ⟨w, tr, rm, ps⟩ := io
  refine ⟨fun _ => commit_ne c u t _, ?_, ?_, ?_, ?_⟩
  · intro h; simp at h; subst h; simp [commit]
  · intro h
    rcases h with h | h <;> cases tr <;> simp [commit, h]
  · intro h hc; simp at h; subst h
    cases ps <;> simp [commit, hc, Cache.set]
  · intro h hc; simp at h; subst h
    rcases hc with hc | ⟨old, hc⟩ <;> cases rm <;> cases ps <;> simp [commit, hc, Cache.set]

/-- a call never touches a regular file that is already at its cache path — it is served from
    it (or from a local symbol path) and sends no request at all: whatever the events, the call
    is never in a network phase and the cache is unchanged. (`remove_file` in the commit can
    therefore only hit an entry that appeared after the lookup: a concurrent call, or another
    process.) -/
theorem preexisting_file_served_not_touched (c : Cache) (req : Req) (b : Bytes)
    (h : lookupLocal c req = some b) (es : List Ev) :
    let r := runTask (P := P) c req .start es
    r.1 = c ∧ (r.2 = .start ∨ r.2 = .dropped ∨ r.2 = .done (.localFile b)) := by
  -- the call is in `start` until the first `lookup` or `drop`, which finish it
  induction es with
  | nil => exact ⟨rfl, .inl rfl⟩
  | cons e es ih =>
    cases e with
    | lookup =>
      have : step (P := P) c req .start .lookup = (c, .done (.localFile b)) := by simp [step, h]
      simp only [runTask, this, runTask_done]
      exact ⟨trivial, .inr (.inr trivial)⟩
    | drop =>
      have : step (P := P) c req .start .drop = (c, .dropped) := rfl
      simp only [runTask, this, runTask_dropped]
      exact ⟨trivial, .inr (.inl trivial)⟩
    | _ => exact ih


def Result.sym (P : ParserModel) : Result → Option P.Sym
  | .localFile b => P.parse b
  | .downloaded rx u => (P.stream rx).map fun r => P.setUrl r.2 u
  | .notFound => none

/-- the entry a successful download leaves on a free name is the body followed by the note, and
    that body ends in a line feed (`ends_with_newline`, /repo 4002240) -/
theorem cached_entry_shape (hl : ParserLaws P) (c : Cache) (req : Req) (es : List Ev)
    (rx : List Bytes) (u : Url) (e : Bytes) (hfree : c req.path = none)
    (hrun : (runTask (P := P) c req .start es).2 = .done (.downloaded rx u))
    (hentry : (runTask (P := P) c req .start es).1 req.path = some (.file e)) :
    e = bodyOf rx ++ trailer u ∧ EndsNl (bodyOf rx) := by
  rcases runTask_spec hl c req .start trivial es with ⟨h, _⟩ | ⟨u', rx', io, _, _, _, hd, h | ⟨hends, hcm⟩⟩
  · rw [h, hfree] at hentry; cases hentry
  · rw [h, hfree] at hentry; cases hentry
  · cases hd.symm.trans hrun
    rcases commit_entry (hcm ▸ hentry) with h1 | ⟨_, h1⟩
    · rw [hfree] at h1; cases h1
    · cases h1; exact ⟨rfl, hends⟩

/-- **cached_equals_original** — "a later lookup served from the cache without network access yields
    the same symbol table and URL as the original download": a call ends as `downloaded rx u` and
    has put an entry `e` at its cache path (the name was free before). Then a later call for the
    same module with NO server configured finds `e`, and parsing `e` gives exactly the table the
    download returned, URL included. Uses `info_url_trailer` (for URLs as `Url::to_string` writes
    them) and `chunk_independent` (hence `hshort`/`hshortE`: all lines of the body, and of the entry
    — i.e. the note too —, shorter than 80 KiB, the domain on which C10 proves that the streaming
    parse and the parse of the file agree).

    That the committed body ends in a line feed — which `info_url_trailer` needs — is established
    by the commit step itself (`ends_with_newline`, /repo 4002240). Before that repair the real
    parser's `Ok` for a body with an over-long unterminated last line led to an entry whose note
    was glued to that line and lost on re-reading; this check found it (corpus case `+L170000`). -/
theorem cached_equals_original (hl : ParserLaws P) (c : Cache) (req : Req) (es : List Ev)
    (rx : List Bytes) (u : Url) (e : Bytes) (hu : UrlClean u) (hshort : P.shortLines (bodyOf rx))
    (hshortE : P.shortLines (bodyOf rx ++ trailer u)) (hfree : c req.path = none)
    (hrun : (runTask (P := P) c req .start es).2 = .done (.downloaded rx u))
    (hentry : (runTask (P := P) c req .start es).1 req.path = some (.file e)) :
    let c' := (runTask (P := P) c req .start es).1
    let later : Req := { path := req.path, localHit := none, urls := [] }
    e = bodyOf rx ++ trailer u ∧
    step (P := P) c' later .start .lookup = (c', .done (.localFile e)) ∧
    (∃ t, Result.sym P (.downloaded rx u) = some (P.setUrl t u)) ∧
    Result.sym P (.localFile e) = Result.sym P (.downloaded rx u) := by
  intro c' later
  obtain ⟨he, hnl⟩ := cached_entry_shape hl c req es rx u e hfree hrun hentry
  obtain ⟨t, hs⟩ : ∃ t, P.stream rx = some (bodyOf rx, t) := by
    rcases downloaded_is_complete hl c req .start trivial es rx u hrun with h | ⟨_, h⟩
    · cases h
    · exact h
  have hparse : P.parse (bodyOf rx) = some t := hl.chunk_independent rx _ t hshort hs
  refine ⟨he, ?_, ⟨t, by simp [Result.sym, hs]⟩, ?_⟩
  · have : lookupLocal c' later = some e := by
      simp only [lookupLocal, later]
      rw [show c' req.path = some (.file e) from hentry]
    simp only [step, this]
  · simp only [Result.sym, hs, he, Option.map_some]
    exact hl.info_url_trailer (bodyOf rx) t u hu hnl hshortE hparse

/-! ### the real parser: the same theorems with NO assumption about the parser

  `Real.model` is the byte-level model of the Breakpad symbol parser (C09/C10: `MdModel.SymLine`,
  `MdModel.SymParse`) driven by the loop of `parse_async` (the blocks of `MdModel.Stream`).
  `Real.laws : ParserLaws Real.model` is proved in `MdProofs.Lemmas.CacheFsReal`; `Real.feed_total` /
  `Real.finish_total` there show that the model's `none` only ever stands for an `Err` of
  `parse_async` (no panic outcome, fuel never exhausted, `Ok` only at the end of the response). -/

/-- the three parser laws are theorems for the real parser model -/
theorem real_parser_laws : ParserLaws Real.model := Real.laws

/-- **cache_inv**, real parser: every entry is an initial one, or
    `body ++ "INFO URL " ++ url ++ "\n"` for a response that arrived completely and that
    `parse_async` parsed `Ok`, requested at that URL for that path -/
theorem cache_inv_real (c0 : Cache) (reqs : List Req) (evs : List (Nat × Ev)) :
    let w := (World.mk (P := Real.model) c0 (reqs.map fun r => (r, .start))).run evs
    ∀ p n, w.cache p = some n → c0 p = some n ∨ GoodEntry Real.model reqs p n :=
  cache_inv Real.laws c0 reqs evs

/-- … and such an entry's body ends in a line feed and (all lines shorter than 80 KiB) is
    accepted by `SymbolFile::from_bytes` -/
theorem goodEntry_parses_real {reqs : List Req} {p : Path} {n : Node} (h : GoodEntry Real.model reqs p n) :
    ∃ body u, n = .file (body ++ trailer u) ∧ EndsNl body ∧
      (Real.shortLines body → (Real.parse body).isSome = true) := by
  simpa only [ParserModel.parseOk, Real.model] using goodEntry_parses Real.laws h

/-- **failure_leaves_nothing**, real parser -/
theorem failure_leaves_nothing_real (c : Cache) (req : Req) (ph : Phase Real.model)
    (hph : PhaseInv req ph) (es : List Ev)
    (hfail : ∀ rx u, (runTask c req ph es).2 ≠ .done (.downloaded rx u)) :
    (runTask c req ph es).1 = c :=
  failure_leaves_nothing Real.laws c req ph hph es hfail

/-- **downloaded_is_complete**, real parser -/
theorem downloaded_is_complete_real (c : Cache) (req : Req) (es : List Ev) (rx : List Bytes) (u : Url)
    (hd : (runTask (P := Real.model) c req .start es).2 = .done (.downloaded rx u)) :
    u ∈ req.urls ∧ ∃ t, Real.model.stream rx = some (bodyOf rx, t) := by
  rcases downloaded_is_complete Real.laws c req .start trivial es rx u hd with h | h
  · cases h
  · exact h

/-- **temp_is_prefix**, real parser -/
theorem temp_is_prefix_real (c : Cache) (req : Req) (es : List Ev) (t : Bytes)
    (h : (runTask (P := Real.model) c req .start es).2.temp = some t) :
    ∃ u rest temp nl ps rx, (runTask (P := Real.model) c req .start es).2 = .streaming u rest temp nl ps rx ∧
      ∃ more, t ++ more = bodyOf rx :=
  temp_is_prefix Real.laws c req es t h

/-- **cached_equals_original**, real parser — "a later lookup served from the cache without network
    access yields the same symbol table and URL as the original download", with no assumption about
    the parser: a call ends as `downloaded rx u` and has put an entry `e` on a free name, every line
    of `e` being shorter than 80 KiB (C10's domain). Then `e` is the body followed by the note, a
    later call with no server finds `e`, and `SymbolFile::from_file` on `e` (`Real.parse`) returns
    exactly the table `parse_async` returned for the download, with `url = Some(u)`. -/
theorem cached_equals_original_real (c : Cache) (req : Req) (es : List Ev)
    (rx : List Bytes) (u : Url) (e : Bytes) (hu : UrlClean u) (hshort : Real.shortLines e)
    (hfree : c req.path = none)
    (hrun : (runTask (P := Real.model) c req .start es).2 = .done (.downloaded rx u))
    (hentry : (runTask (P := Real.model) c req .start es).1 req.path = some (.file e)) :
    let c' := (runTask (P := Real.model) c req .start es).1
    let later : Req := { path := req.path, localHit := none, urls := [] }
    e = bodyOf rx ++ trailer u ∧
    step (P := Real.model) c' later .start .lookup = (c', .done (.localFile e)) ∧
    ∃ t, Real.model.stream rx = some (bodyOf rx, t) ∧ Real.parse e = some { t with url := some u } := by
  intro c' later
  obtain ⟨he, _⟩ := cached_entry_shape Real.laws c req es rx u e hfree hrun hentry
  have hE : Real.shortLines (bodyOf rx ++ trailer u) := he ▸ hshort
  have hB : Real.shortLines (bodyOf rx) := Real.ShortLines.prefix hE
  obtain ⟨h1, h2, _, h4⟩ := cached_equals_original Real.laws c req es rx u e hu hB hE hfree hrun hentry
  obtain ⟨_, t, hs⟩ := downloaded_is_complete_real c req es rx u hrun
  rw [Result.sym, Result.sym, hs, Real.model_parse] at h4
  exact ⟨h1, h2, t, hs, h4⟩

/-- … the same with the hypothesis split into its parts: all lines of the BODY shorter than 80 KiB and a
    URL shorter than 80 KiB − 10 (that the body ends in a line feed is established by the commit step) -/
theorem cached_equals_original_real' (c : Cache) (req : Req) (es : List Ev)
    (rx : List Bytes) (u : Url) (e : Bytes) (hu : UrlClean u) (hshort : Real.shortLines (bodyOf rx))
    (hulen : u.length + 10 < 81920) (hfree : c req.path = none)
    (hrun : (runTask (P := Real.model) c req .start es).2 = .done (.downloaded rx u))
    (hentry : (runTask (P := Real.model) c req .start es).1 req.path = some (.file e)) :
    e = bodyOf rx ++ trailer u ∧
    ∃ t, Real.model.stream rx = some (bodyOf rx, t) ∧ Real.parse e = some { t with url := some u } := by
  obtain ⟨he, hnl⟩ := cached_entry_shape Real.laws c req es rx u e hfree hrun hentry
  have hE : Real.shortLines e := he ▸ Real.shortLines_entry (bodyOf rx) u hshort hnl hulen
  obtain ⟨h1, _, h3⟩ := cached_equals_original_real c req es rx u e hu hE hfree hrun hentry
  exact ⟨h1, h3⟩

/-- **download_is_cached_real** — the other direction of `cache_inv` for the real parser, under
    EVERY chunking: a response whose body `SymbolFile::from_bytes` accepts (all lines shorter than
    80 KiB, ending in a line feed), delivered completely in ANY chunks to a call that found nothing
    locally, with no i/o failure and a free name, ends as `downloaded` and leaves exactly
    `body ++ "INFO URL " ++ url ++ "\n"` at the cache path. (So `GoodEntry` is inhabited for every
    such response and chunking; uses the completeness of the stream parse, `Real.stream_complete`.) -/
theorem download_is_cached_real (c : Cache) (req : Req) (u : Url) (rest : List Url) (chunks : List Bytes)
    (t : Sym.SymbolFile) (hurls : req.urls = u :: rest) (hlocal : req.localHit = none)
    (hfree : c req.path = none) (hshort : Real.shortLines chunks.flatten) (hnl : EndsNl chunks.flatten)
    (hparse : Real.parse chunks.flatten = some t) :
    runTask (P := Real.model) c req .start
      ([.lookup, .status 200 true] ++ (chunks.map fun b => Ev.chunk b true) ++ [.eof ⟨true, true, true, true⟩]) =
    (c.set req.path (some (.file (chunks.flatten ++ trailer u))), .done (.downloaded chunks.reverse u)) := by
  have hbody : bodyOf chunks.reverse = chunks.flatten := bodyOf_reverse chunks
  refine runTask_download c req u rest chunks t hurls hlocal hfree hnl ?_
  rw [← hbody]
  exact Real.stream_complete chunks.reverse t (hbody ▸ hshort) (by rw [hbody, Real.model_parse]; exact hparse)

/-- a sufficient condition for the hypothesis: an entry shorter than 80 KiB has short lines -/
theorem shortLines_of_length (e : Bytes) (h : e.length < 81920) : Real.shortLines e :=
  Stream.ShortLines.of_length h

/-! ### the opaque download path (`locate_file` → `fetch_lookup`): binaries and extra debug files

  No parser is involved: an entry must be exactly the bytes of a completely received response (no
  URL note), under the same temp-file discipline. Theorems about `MdModel.CacheFs.File`, for ANY
  events, drop point and interleaving of calls. -/
namespace File

/-- An entry made by an opaque download: some call for that path ended as `fetched rx u` — which
    only the END of a response produces (`File.step_spec`), `rx` being all the chunks of that
    response — at one of its URLs, and the entry is exactly those bytes. -/
def FileEntry (w : World) (p : Path) (n : Node) : Prop :=
  ∃ r rx u, (r, Phase.done (.fetched rx u)) ∈ w.tasks ∧ r.path = p ∧ u ∈ r.urls ∧ n = .file (bodyOf rx)

def WorldInv (init : Cache) (w : World) : Prop :=
  (∀ t ∈ w.tasks, PhaseInv t.1 t.2) ∧
  (∀ p n, init p = some n → w.cache p = some n) ∧
  (∀ p n, w.cache p = some n → init p = some n ∨ FileEntry w p n)

private theorem World.step_inv (init : Cache) (w : World) (i : Nat) (e : Ev) (h : WorldInv init w) :
    WorldInv init (w.step i e) := by
  unfold World.step
  cases hi : w.tasks[i]? with
  | none => exact h
  | some tk =>
    obtain ⟨req, ph⟩ := tk
    have hmem : (req, ph) ∈ w.tasks := List.mem_of_getElem? hi
    have hph : PhaseInv req ph := h.1 _ hmem
    -- finished calls stay in the task list
    have hkeep : ∀ p n, FileEntry w p n →
        FileEntry { cache := (File.step w.cache req ph e).1, tasks := w.tasks.set i (req, (File.step w.cache req ph e).2) } p n := by
      intro p n ⟨r, rx, u, hm, h1, h2, h3⟩
      refine ⟨r, rx, u, ?_, h1, h2, h3⟩
      obtain ⟨j, hj⟩ := List.mem_iff_getElem?.mp hm
      by_cases hij : i = j
      · subst hij
        rw [hj] at hi
        cases hi
        rw [step_done]
        exact List.mem_set (List.getElem?_eq_some_iff.mp hj).1 _
      · exact List.mem_iff_getElem?.mpr ⟨j, by rw [List.getElem?_set_ne hij]; exact hj⟩
    refine ⟨?_, ?_, ?_⟩
    · intro t ht
      rcases List.mem_or_eq_of_mem_set ht with h1 | h1
      · exact h.1 t h1
      · subst h1; exact File.step_inv _ _ _ _ hph
    · intro p n hn
      exact step_keeps w.cache req ph e hph p n (h.2.1 p n hn)
    · intro p n hn
      simp only [] at hn
      have hold : w.cache p = some n → _ := fun hn' => (h.2.2 p n hn').imp_right (hkeep p n)
      rcases step_spec w.cache req ph e hph with ⟨hc, _⟩ | ⟨u, rx, _, _, hu, hfree, hs⟩
      · exact hold (hc ▸ hn)
      · simp only [hs] at hn
        rcases Cache.set_eq_some hn with h1 | ⟨rfl, h1⟩
        · exact hold h1
        · refine .inr ⟨req, rx, u, ?_, rfl, hu, (Option.some.inj h1).symm⟩
          show (req, Phase.done (.fetched rx u)) ∈ w.tasks.set i (req, (File.step w.cache req ph e).2)
          rw [hs]
          exact List.mem_set (List.getElem?_eq_some_iff.mp hi).1 _

private theorem World.run_inv (init : Cache) (w : World) (evs : List (Nat × Ev)) (h : WorldInv init w) :
    WorldInv init (w.run evs) := by
  induction evs generalizing w with
  | nil => exact h
  | cons x xs ih => exact ih _ (World.step_inv init w x.1 x.2 h)

/-- **file_cache_inv** — "a file appears at a cache path only after the whole [file] was
    downloaded": start any number of `locate_file` calls on any cache `c0`; after ANY interleaved
    event sequence every entry of the cache is one `c0` already had, or exactly the bytes of a
    response that was received completely (the call ended as `fetched`), for that path, at one of
    the call's URLs — with no note appended; and everything `c0` had is still there, untouched
    (`fetch_lookup` has no `remove_file`; `persist_noclobber` never replaces). -/
theorem file_cache_inv (c0 : Cache) (reqs : List Req) (evs : List (Nat × Ev)) :
    let w := (World.mk c0 (reqs.map fun r => (r, .start))).run evs
    (∀ p n, c0 p = some n → w.cache p = some n) ∧
    (∀ p n, w.cache p = some n → c0 p = some n ∨ FileEntry w p n) := by
  intro w
  have h0 : WorldInv c0 (World.mk c0 (reqs.map fun r => (r, .start))) := by
    refine ⟨?_, fun _ _ h => h, fun _ _ h => Or.inl h⟩
    intro t ht
    obtain ⟨r, _, rfl⟩ := List.mem_map.mp ht
    trivial
  exact (World.run_inv c0 _ evs h0).2

/-- **file_failure_leaves_nothing** — a call that does not end as `fetched` (error status, network
    error, body shorter than announced, `create_cache_file` or a write failing, the name being
    taken, drop at any point, still in flight) leaves the cache literally unchanged. -/
theorem file_failure_leaves_nothing (c : Cache) (req : Req) (ph : Phase) (hph : PhaseInv req ph)
    (es : List Ev) (hfail : ∀ rx u, (runTask c req ph es).2 ≠ .done (.fetched rx u)) :
    (runTask c req ph es).1 = c := by
  rcases runTask_spec c req ph hph es with ⟨h, _⟩ | ⟨rx, u, _, _, h⟩
  · exact h
  · exact absurd (congrArg Prod.snd h) (hfail rx u)

/-- **file_fetched_entry** — a call that ends as `fetched rx u` has put exactly the received bytes at
    its path, which was free, and a later network-less lookup finds that file. -/
theorem file_fetched_entry (c : Cache) (req : Req) (es : List Ev) (rx : List Bytes) (u : Url)
    (hrun : (runTask c req .start es).2 = .done (.fetched rx u)) :
    c req.path = none ∧ (runTask c req .start es).1 = c.set req.path (some (.file (bodyOf rx))) ∧
    lookupLocal (runTask c req .start es).1 { path := req.path, localHit := none, urls := [] } = some (bodyOf rx) := by
  rcases runTask_spec c req .start trivial es with ⟨_, _, hq⟩ | ⟨rx', u', _, hfree, h⟩
  · cases hq rx u hrun
  · rw [h] at hrun ⊢
    cases hrun
    exact ⟨hfree, rfl, by simp [lookupLocal, Cache.set]⟩

def Phase.finished : Phase → Prop
  | .done _ => True
  | .dropped => True
  | _ => False

private theorem finished_temp {ph : Phase} (h : ph.finished) : ph.temp = none := by
  cases ph with
  | streaming _ _ _ _ => exact h.elim
  | _ => rfl

/-- **file_no_stray_temp** — once every call has completed or has been dropped the tmp directory is
    empty; and dropping a call after ANY events leaves no temp file and does not touch the cache. -/
theorem file_no_stray_temp (w : World) (h : ∀ t ∈ w.tasks, t.2.finished) : w.liveTemps = [] := by
  unfold World.liveTemps
  rw [List.filterMap_eq_nil_iff]
  intro t ht
  exact finished_temp (h t ht)

theorem file_no_stray_temp_after_drop (c : Cache) (req : Req) (ph : Phase) :
    (step c req ph .drop).2.temp = none ∧ (step c req ph .drop).2.finished ∧ (step c req ph .drop).1 = c := by
  cases ph <;> simp [step, Phase.temp, Phase.finished]

/-- **file_temp_is_body** — a live temp file holds exactly the chunks received so far of the response
    being downloaded: never anything that is not part of the file. -/
theorem file_temp_is_body (c : Cache) (req : Req) (es : List Ev) (t : Bytes)
    (h : (runTask c req .start es).2.temp = some t) :
    ∃ u rest rx, (runTask c req .start es).2 = .streaming u rest t rx ∧ t = bodyOf rx :=
  PhaseInv.temp_body (runTask_inv c req .start es trivial) h

end File


/-- the small line-buffering instance of the runs below satisfies the three laws too -/
example : ParserLaws Toy.model := Toy.laws

section examples
open Toy

private def asc (s : String) : Bytes := s.toList.map fun c => UInt8.ofNat c.toNat
private def l1 : Bytes := asc "MODULE Linux x86 ABC a\n"
private def l2 : Bytes := asc "FILE 0 x.c\nPUB"
private def l3 : Bytes := asc "LIC 10 0 f\n"
private def bad : Bytes := asc "!garbage\n"
private def url0 : Url := asc "http://h/s0/a.sym"
private def url1 : Url := asc "http://h/s1/a.sym"
private def req0 : Req := { path := "a/ID/a.sym", localHit := none, urls := [url0, url1] }
private def empty : Cache := fun _ => none
private def okIo : CommitIo := ⟨true, true, true, true⟩

/-- The test strings as data: evaluating `String.toList` on a literal (UTF-8 decoding) would be by
    far the slowest part of every run below. The kernel reads a literal as `String.ofList` of its
    characters, so `String.toList_ofList` decodes it — provided the rewrite happens in a
    small goal like these: in a goal with projections the kernel evaluates both sides instead. -/
private theorem l1_bytes : l1 =
    [77, 79, 68, 85, 76, 69, 32, 76, 105, 110, 117, 120, 32, 120, 56, 54, 32, 65, 66, 67, 32, 97, 10] := by
  rw [l1, asc, String.toList_ofList]
  rfl
private theorem l2_bytes : l2 = [70, 73, 76, 69, 32, 48, 32, 120, 46, 99, 10, 80, 85, 66] := by
  rw [l2, asc, String.toList_ofList]
  rfl
private theorem l3_bytes : l3 = [76, 73, 67, 32, 49, 48, 32, 48, 32, 102, 10] := by
  rw [l3, asc, String.toList_ofList]
  rfl
private theorem url0_bytes : url0 =
    [104, 116, 116, 112, 58, 47, 47, 104, 47, 115, 48, 47, 97, 46, 115, 121, 109] := by
  rw [url0, asc, String.toList_ofList]
  rfl

/-- success: the entry is the body plus the note -/
example :
    (runTask (P := model) empty req0 .start
      [.lookup, .status 200 true, .chunk l1 true, .chunk l2 true, .chunk l3 true, .eof okIo]).1 "a/ID/a.sym"
    = some (.file (l1 ++ l2 ++ l3 ++ trailer url0)) := by
  simp only [req0, l1_bytes, l2_bytes, l3_bytes, url0_bytes]
  decide +kernel

/-- 404 at the first server, success at the second: cached with the second URL -/
example :
    (runTask (P := model) empty req0 .start
      [.lookup, .status 404 true, .status 200 true, .chunk (l1 ++ l2 ++ l3) true, .eof okIo]).1 "a/ID/a.sym"
    = some (.file (l1 ++ l2 ++ l3 ++ trailer url1)) := by
  have url1_bytes : url1 = [104, 116, 116, 112, 58, 47, 47, 104, 47, 115, 49, 47, 97, 46, 115, 121, 109] := by
    rw [url1, asc, String.toList_ofList]
    rfl
  simp only [req0, l1_bytes, l2_bytes, l3_bytes, url1_bytes]
  decide +kernel

/-- truncated (network error before the end), corrupt line, unterminated last line, drop mid-body:
    nothing is cached -/
example :
    (runTask (P := model) empty req0 .start
      [.lookup, .status 200 true, .chunk l1 true, .chunk l2 true, .netError, .netError]).1 "a/ID/a.sym" = none := by
  simp only [l1_bytes, l2_bytes]
  decide +kernel
example :
    (runTask (P := model) empty req0 .start
      [.lookup, .status 200 true, .chunk l1 true, .chunk bad true, .chunk l3 true, .eof okIo, .status 500 true]).1
      "a/ID/a.sym" = none := by
  have bad_bytes : bad = [33, 103, 97, 114, 98, 97, 103, 101, 10] := by
    rw [bad, asc, String.toList_ofList]
    rfl
  simp only [l1_bytes, bad_bytes, l3_bytes]
  decide +kernel
example :
    (runTask (P := model) empty req0 .start
      [.lookup, .status 200 true, .chunk l1 true, .chunk l2 true, .eof okIo, .netError]).1 "a/ID/a.sym" = none := by
  simp only [l1_bytes, l2_bytes]
  decide +kernel
example :
    (runTask (P := model) empty req0 .start
      [.lookup, .status 200 true, .chunk l1 true, .drop, .chunk l2 true, .chunk l3 true, .eof okIo]).1 "a/ID/a.sym"
    = none := by
  simp only [l1_bytes]
  decide +kernel

/-- the tee gave up (a write failed): the parse still succeeds, nothing is cached -/
example :
    (runTask (P := model) empty req0 .start
      [.lookup, .status 200 true, .chunk l1 true, .chunk l2 false, .chunk l3 true, .eof okIo]).1 "a/ID/a.sym"
    = none := by
  simp only [l1_bytes, l2_bytes, l3_bytes]
  decide +kernel

/-- a later lookup is served from the entry, with the URL -/
example :
    Toy.parse (l1 ++ l2 ++ l3 ++ trailer url0) =
      some { recs := (Toy.symOf (l1 ++ l2 ++ l3)).recs, url := some url0 } := by
  simp only [l1_bytes, l2_bytes, l3_bytes, url0_bytes]
  decide +kernel

/-! #### the real parser on a concrete download

  `MODULE Linux x86 ABC a\nFUNC 1000 10 0 f\n` arrives in two chunks split inside the FUNC line
  (the body ends inside an open FUNC item, which the note then finishes). Only the whole-buffer
  parse of the body is evaluated: `download_is_cached_real` turns it into the run of the cache
  protocol on these chunks, and `cached_equals_original_real` reads the entry back. -/

private def rb1 : Bytes := asc "MODULE Linux x86 ABC a\nFUNC 10"
private def rb2 : Bytes := asc "00 10 0 f\n"

/-- the hypotheses of `cached_equals_original_real` are satisfiable, and its conclusion on that run -/
example : ∃ t, Real.parse (rb1 ++ rb2 ++ trailer url0) = some { t with url := some url0 } ∧
    Real.model.stream [rb2, rb1] = some (rb1 ++ rb2, t) := by
  have rb1_bytes : rb1 =
      [77, 79, 68, 85, 76, 69, 32, 76, 105, 110, 117, 120, 32, 120, 56, 54, 32, 65, 66, 67, 32, 97, 10,
       70, 85, 78, 67, 32, 49, 48] := by
    rw [rb1, asc, String.toList_ofList]
    rfl
  have rb2_bytes : rb2 = [48, 48, 32, 49, 48, 32, 48, 32, 102, 10] := by
    rw [rb2, asc, String.toList_ofList]
    rfl
  -- the one evaluation: `SymbolFile::from_bytes` accepts the body
  obtain ⟨t, ht⟩ : ∃ t, Real.parse (rb1 ++ rb2) = some t :=
    Option.isSome_iff_exists.mp (by rw [rb1_bytes, rb2_bytes]; decide +kernel)
  have hlen : (rb1 ++ rb2 ++ trailer url0).length < 81920 := by
    rw [rb1_bytes, rb2_bytes, url0_bytes]
    decide +kernel
  have hu : UrlClean url0 := by
    rw [url0_bytes]
    unfold UrlClean
    decide +kernel
  have hnl : EndsNl [rb1, rb2].flatten := ⟨rb1 ++ rb2.dropLast, by rw [rb2_bytes]; simp⟩
  have hrun := download_is_cached_real empty req0 url0 [url1] [rb1, rb2] t rfl rfl rfl
    (shortLines_of_length _ (by rw [rb1_bytes, rb2_bytes]; decide +kernel)) hnl (by simpa using ht)
  have h := cached_equals_original_real empty req0 _ [rb2, rb1] url0 (rb1 ++ rb2 ++ trailer url0) hu
    (shortLines_of_length _ hlen) rfl (by rw [hrun]; rfl)
    (by rw [hrun]; simp only [Cache.set_self, List.flatten_cons, List.flatten_nil, List.append_nil])
  -- stated for variables: met with `rb1`, `rb2` themselves, the kernel unfolds them, literals and all
  have hbody (a b : Bytes) : bodyOf [b, a] = a ++ b := rfl
  rw [hbody] at h
  exact h.2.2.imp fun _ => And.symm

/-- real parser: a corrupt line makes `parse_async` return `Err` (nothing will be cached) -/
example : (Real.feed Real.init (asc "MODULE Linux x86 ABC a\n!garbage\n")).isNone = true := by
  rw [asc, String.toList_ofList]
  decide +kernel

/-- real parser: an unterminated last line — the complete line is handed to the callback, and the
    end of the response is an `Err` (`unexpected EOF`) -/
example : (match Real.feed Real.init (asc "MODULE Linux x86 ABC a\nPUB") with
    | some (s, cb) => cb == asc "MODULE Linux x86 ABC a\n" && (Real.finish s).isNone
    | none => false) = true := by
  -- the two literals, decoded where they stand (see `l1_bytes`)
  conv in asc _ => rw [asc, String.toList_ofList]
  conv in asc _ => rw [asc, String.toList_ofList]
  decide +kernel


private def binReq : Req := { path := "a.pdb/ID/a.dll", localHit := none, urls := [url0, url1] }
private def f1 : Bytes := [0x4d, 0x5a, 0x90, 0x00]
private def f2 : Bytes := [0x03, 0x00, 0x0a]

/-- success: the entry is exactly the received bytes (no note) -/
example : File.runTask empty binReq .start [.lookup, .status 200 true, .chunk f1 true, .chunk f2 true, .eof okIo]
    = (empty.set "a.pdb/ID/a.dll" (some (.file (f1 ++ f2))), .done (.fetched [f2, f1] url0)) := rfl

/-- a response cut short, then a 404 at the second server: nothing is cached, no temp file -/
example : (File.runTask empty binReq .start [.lookup, .status 200 true, .chunk f1 true, .netError, .status 404 true]).2
    = .done .notFound := rfl
example : (File.runTask empty binReq .start [.lookup, .status 200 true, .chunk f1 true, .netError, .status 404 true]).1
    "a.pdb/ID/a.dll" = none := rfl

/-- a failing write ENDS this fetch (unlike the symbol path, which only gives up on caching): the
    second server is asked, and its complete response is what gets cached -/
example : (File.runTask empty binReq .start
      [.lookup, .status 200 true, .chunk f1 false, .chunk f2 true, .status 200 true, .chunk f2 true, .eof okIo]).2
    = .done (.fetched [f2] url1) := rfl

/-- a directory (or anything else) at the name: `persist_noclobber` fails, the entry is never replaced -/
example : (File.runTask (fun q => if q = "a.pdb/ID/a.dll" then some .dir else none) binReq .start
      [.lookup, .status 200 true, .chunk f1 true, .eof okIo, .status 200 true, .chunk f1 true, .eof okIo]).2
    = .done .notFound := rfl

/-- dropped mid-body: no temp file, cache untouched -/
example : File.runTask empty binReq .start [.lookup, .status 200 true, .chunk f1 true, .drop, .chunk f2 true, .eof okIo]
    = (empty, .dropped) := rfl

/-- the machines the compiled model runs in the correspondence check are the step functions the
    theorems are about -/
example : Real.machine.step = step (P := Real.model) := rfl
example : File.machine.step = File.step := rfl

end examples

end MdModel.CacheFs
