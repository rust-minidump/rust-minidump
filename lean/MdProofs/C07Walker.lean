/-
  C07 on the REAL `FrameWalker`: STACK WIN evaluation (`SymbolFile::walk_frame` →
  `walk_with_stack_win_framedata` / `_fpo` / `eval_win_expr` / `clear_stack_win_caller_registers`)
  running against `CfiStackWalker<CONTEXT_X86>`.

  C07's theorems (`MdProofs.C07`) are about `MdModel.Win`'s evaluator applied to its own caller
  record `Win.Caller`; `MdProofs.C06Walker.x86_win_caller_refines` relates single
  `set`/`clear` calls of that record to the model of the real walker (`MdModel.CfiWalker`, over the
  machine-translated register tables of C18). This file lifts that to the WHOLE walk
  (`win_walk_refines`) and carries C07's guarantees and the known finding C07-clear-dollar-names
  over to the real x86 walker.
-/
import MdProofs.Lemmas.WinWalker
namespace MdModel.WinWalker
open MdModel MdModel.CfiWalker MdModel.Win MdModel.Gen.Regs MdModel.Regs

/-- The invariants of every walker the x86 unwinder builds: the context type is CONTEXT_X86, the
    callee's validity set names only its registers (C18's hypothesis), and the cells of the
    caller's context hold `u32` values (the fields of CONTEXT_X86 are `u32`). -/
structure X86Walker (w : CfiStackWalker) : Prop where
  cpu : w.cpu = .ctx .X86
  names : validityWf .X86 w.calleeValidity = true
  cells : ∀ s ∈ x86Regs, rawOf .X86 w.callerCtx s < 2 ^ 32

/-- **`win_walk_refines`.** For EVERY real x86 walker `w` (any register file, validity set, stack
    memory, grand callee, module, caller state), every C07 record `c` that agrees with its caller
    half on the ten registers of CONTEXT_X86 (`callerOf w` is one: `callerOf_sim`), every pair of
    selected STACK WIN records, every list of names `clear_stack_win_caller_registers` might pass
    and every STACK CFI continuation acting alike on both sides: `SymbolFile::walk_frame` on the real
    walker (`walkSelectedReal`: the real `clear_caller_register` / `set_caller_register`, reads
    through the validity set and the stack memory) and C07's `walkSelected` on the record
    * panic together (neither does: `real_win_no_panic`),
    * return the same `Some`/`None`,
    * leave every register `eip esp ebp ebx esi edi eax ecx edx eflags` with the same validity and,
      when valid, the same value (`Sim w' c'`: register by register, validity set by validity set),
    * and the real walk changes nothing but the caller context and validity set. -/
theorem win_walk_refines (w : CfiStackWalker) (hx : w.cpu = .ctx .X86) (c : Caller) (hsim : Sim w c)
    (names : List String) (fd fpo : Option SInfo)
    (cfiR : Option Script) (cfi : Option (Caller → Option Caller)) (hcfi : CfiRefines cfiR cfi) :
    (∀ s, walkSelected names fd fpo cfi (readOf w) c = .panic s →
      walkSelectedReal names fd fpo cfiR w = .panic s) ∧
    (∀ b c', walkSelected names fd fpo cfi (readOf w) c = .ok (b, c') →
      ∃ w', walkSelectedReal names fd fpo cfiR w = .ok (b, w') ∧ SameCallee w w' ∧ Sim w' c') :=
  (winResult_refines w hx c hsim names fd fpo).orElseCfi hx hcfi

/-- **what the evaluator reads of the real walker**: a callee register is `Some` iff the context
    type knows the name and the callee's validity set covers the register (`calleeView` of
    Lemmas/CfiWalker.lean: C18 `validity_honoured`), truncated by `as u32`; a memory word is the 4-byte read
    of the stack memory in the dump's byte order; the grand callee as the walker stores it. -/
theorem real_reads (w : CfiStackWalker) (hw : X86Walker w) :
    (∀ n, (readOf w).reg n = (calleeView w n).map UInt32.ofNat) ∧
    (∀ a, (readOf w).mem a = (w.stack.read a 4).map UInt32.ofNat) ∧
    (readOf w).hasGC = w.hasGrandCallee ∧
    (readOf w).gcParam = UInt32.ofNat w.grandCalleeParameterSize := by
  refine ⟨fun n => ?_, fun a => ?_, rfl, rfl⟩
  · have hn : validityWf w.cpu.tbl w.calleeValidity = true := by rw [hw.cpu]; exact hw.names
    show (okOr none (w.getCalleeRegister n)).map UInt32.ofNat = _
    rw [getCalleeRegister_eq w hn n]; rfl
  · show (w.getRegisterAtAddress a).map UInt32.ofNat = _
    unfold CfiStackWalker.getRegisterAtAddress
    rw [hw.cpu]; rfl

/-- **`win_no_panic` on the real walker**: for records of the kinds the parser files, any program
    text, size fields, register file, validity set, stack memory, grand callee and caller state —
    `SymbolFile::walk_frame` on `CfiStackWalker<CONTEXT_X86>` returns; no panic outcome. -/
theorem real_win_no_panic (w : CfiStackWalker) (hw : X86Walker w) (names : List String)
    (fd fpo : Option SInfo)
    (hfd : ∀ i, fd = some i → ∃ e, i.thing = .prog e)
    (hfpo : ∀ i, fpo = some i → ∃ b, i.thing = .abp b)
    (cfiR : Option Script) (cfi : Option (Caller → Option Caller)) (hcfi : CfiRefines cfiR cfi) :
    ∃ r, walkSelectedReal names fd fpo cfiR w = .ok r := by
  obtain ⟨⟨b, c'⟩, hr⟩ := win_no_panic names fd fpo hfd hfpo cfi (readOf w) (callerOf w)
  obtain ⟨w', h, _⟩ := (win_walk_refines w hw.cpu _ (callerOf_sim w hw.cells) names fd fpo cfiR cfi hcfi).2 b c' hr
  exact ⟨_, h⟩

/-- **`outputs_only_six` on the real walker**: whatever STACK WIN record is selected, success or
    failure, a register of CONTEXT_X86 outside `eip esp ebp ebx esi edi` cannot become valid, and
    if the frame reports it, it reports the value it had before. -/
theorem real_outputs_only_six (w : CfiStackWalker) (hw : X86Walker w) (names : List String)
    (fd fpo : Option SInfo) (b : Bool) (w' : CfiStackWalker)
    (h : winResultReal names fd fpo w = .ok (b, w')) (r : String) (hr : r ∈ x86Regs)
    (hout : r ∉ outputRegs) :
    r ∈ w'.callerValidity →
      r ∈ w.callerValidity ∧ rawOf .X86 w'.callerCtx r = rawOf .X86 w.callerCtx r := by
  have hsim := callerOf_sim w hw.cells
  obtain ⟨hp, hok⟩ := winResult_refines w hw.cpu _ hsim names fd fpo
  cases hc : winResult names fd fpo (readOf w) (callerOf w) with
  | panic s => rw [hp s hc] at h; cases h
  | ok res =>
    obtain ⟨b1, c'⟩ := res
    obtain ⟨w1, h1, _, hs1⟩ := hok b1 c' hc
    rw [h1] at h
    simp only [Outcome.ok.injEq, Prod.mk.injEq] at h
    obtain ⟨rfl, rfl⟩ := h
    exact hsim.frame hs1 hr (outputs_only_six hc hout)

/-- **the caller after a successful program string, on the real walker** (C07 `framedata_caller`,
    `assign`/`.undef` semantics through `finalVars`): with `vs` the variable map at the end of the
    program evaluated against the real walker's reads, the walk succeeds, a register of
    CONTEXT_X86 is valid afterwards iff it was valid before and is not cleared (named by the clear
    list AND a name of the context type) or the program left `$<reg>` defined (one of the six);
    every defined `$<reg>` is the register's value; and a register the program leaves undefined, if
    valid afterwards, was valid before with the same value. -/
theorem real_framedata_caller (w : CfiStackWalker) (hw : X86Walker w) (names : List String)
    (i : SInfo) (expr : List Char) (vs : Vars) (hi : i.thing = .prog expr)
    (hv : finalVars expr i.info (readOf w) = .ok vs) :
    ∃ w', walkFramedataReal names i w = .ok (true, w') ∧ SameCallee w w' ∧
      (∀ r ∈ x86Regs, r ∈ w'.callerValidity ↔
        (r ∈ w.callerValidity ∧ ¬ (r ∈ names ∧ r ∈ x86Regs)) ∨
          (r ∈ outputRegs ∧ ∃ u, vs.get ("$" ++ r) = some u)) ∧
      (∀ r ∈ outputRegs, ∀ u, vs.get ("$" ++ r) = some u →
        rawOf .X86 w'.callerCtx r = u.toNat) ∧
      (∀ r ∈ x86Regs, r ∈ w'.callerValidity → vs.get ("$" ++ r) = none →
        r ∈ w.callerValidity ∧ rawOf .X86 w'.callerCtx r = rawOf .X86 w.callerCtx r) := by
  have hsim := callerOf_sim w hw.cells
  obtain ⟨c', hc'⟩ := framedata_succeeds (names := names) (callerOf w) hi hv
  obtain ⟨_, hok⟩ := winResult_refines w hw.cpu _ hsim names (some i) none
  obtain ⟨w', h1, hsc, hs⟩ := hok true c' hc'
  obtain ⟨hvalid, hvals⟩ := framedata_caller hi hv hc'
  refine ⟨w', h1, hsc, ?_, ?_, ?_⟩
  · intro r hr
    rw [← (hs r hr).1, hvalid r, (hsim r hr).1]
  · intro r hr u hu
    have hx86 := six_sub_x86 r hr
    have hin : r ∈ c'.valid := (hvalid r).mpr (Or.inr ⟨hr, u, hu⟩)
    have e := (hs r hx86).2 hin
    rw [hvals r hr u hu] at e
    simpa using e.symm
  · -- through the record, whose walk leaves a register the program does not define alone
    intro r hr hin hnone
    exact hsim.frame hs hr (framedata_frame hi hv hc' hnone) hin

/-- **the known finding C07-clear-dollar-names, on the whole walk of the REAL walker**: with the
    names `clear_stack_win_caller_registers` passes today (`$eip … $edi`) the clear is a no-op
    (`x86_clear_dollar_noop`), so after EVERY successful program string every register that was
    valid in the walker before — the callee-saved registers `callee_forwarded_regs` seeded — is
    STILL valid, whether the record set it or not: a register is valid afterwards iff it was
    forwarded or the program defined it. This contradicts "registers the record did not set are
    unknown in the caller" whenever a forwarded register is not assigned (witness: the example
    below, and `corpus/win/rw.txt`). -/
theorem real_win_forwarding_known_finding (w : CfiStackWalker) (hw : X86Walker w)
    (i : SInfo) (expr : List Char) (vs : Vars) (hi : i.thing = .prog expr)
    (hv : finalVars expr i.info (readOf w) = .ok vs) :
    clearAllReal clearNamesActual w = .ok w ∧
    ∃ w', walkFramedataReal clearNamesActual i w = .ok (true, w') ∧
      (∀ r ∈ x86Regs, r ∈ w'.callerValidity ↔
        r ∈ w.callerValidity ∨ (r ∈ outputRegs ∧ ∃ u, vs.get ("$" ++ r) = some u)) ∧
      (∀ r ∈ x86Regs, r ∈ w.callerValidity → vs.get ("$" ++ r) = none →
        r ∈ w'.callerValidity ∧ rawOf .X86 w'.callerCtx r = rawOf .X86 w.callerCtx r) := by
  refine ⟨(x86_clear_dollar_noop w hw.cpu).2, ?_⟩
  obtain ⟨w', h1, _, hvalid, _, hframe⟩ := real_framedata_caller w hw clearNamesActual i expr vs hi hv
  have hiff : ∀ r ∈ x86Regs, r ∈ w'.callerValidity ↔
      r ∈ w.callerValidity ∨ (r ∈ outputRegs ∧ ∃ u, vs.get ("$" ++ r) = some u) := by
    intro r hr
    rw [hvalid r hr, and_iff_left fun h => dollar_not_x86 r h.1 h.2]
  refine ⟨w', h1, hiff, fun r hr hin hnone => ?_⟩
  have hin' := (hiff r hr).mpr (Or.inl hin)
  exact ⟨hin', (hframe r hr hin' hnone).2⟩

/-- **what would hold with the `$` stripped** (`clearNamesFixed`, the proposed patch), on the real
    walker: after a successful program string one of the six registers is valid in the caller iff
    the program left `$<reg>` defined, and then it holds that value — nothing is forwarded. -/
theorem real_win_no_forwarding_if_plain_names (w : CfiStackWalker) (hw : X86Walker w)
    (i : SInfo) (expr : List Char) (vs : Vars) (hi : i.thing = .prog expr)
    (hv : finalVars expr i.info (readOf w) = .ok vs) :
    ∃ w', walkFramedataReal clearNamesFixed i w = .ok (true, w') ∧
      ∀ r ∈ outputRegs, (r ∈ w'.callerValidity ↔ ∃ u, vs.get ("$" ++ r) = some u) ∧
        ∀ u, vs.get ("$" ++ r) = some u → rawOf .X86 w'.callerCtx r = u.toNat := by
  obtain ⟨w', h1, _, hvalid, hvals, _⟩ := real_framedata_caller w hw clearNamesFixed i expr vs hi hv
  refine ⟨w', h1, ?_⟩
  intro r hr
  have hx86 := six_sub_x86 r hr
  have hn : r ∈ clearNamesFixed := hr
  refine ⟨?_, hvals r hr⟩
  rw [hvalid r hx86]
  constructor
  · rintro (⟨_, h3⟩ | ⟨_, h3⟩)
    · exact absurd ⟨hn, hx86⟩ h3
    · exact h3
  · intro h3; exact Or.inr ⟨hr, h3⟩

/-! ## concrete instances (non-vacuity) -/

/-- a real x86 walker: callee `esp=0x1000 ebp=0x1020 esi=0x51 edi=0xd1` (all valid), the four
    callee-saved registers forwarded, sixteen stack words `0x401000+i` at `0x1000` -/
def exRw : CfiStackWalker :=
  let st := (((Regs.State.zero.write ⟨"esp", none⟩ 0x1000).write ⟨"ebp", none⟩ 0x1020).write
    ⟨"esi", none⟩ 0x51).write ⟨"edi", none⟩ 0xd1
  { cpu := .ctx .X86, instruction := 0x401005, hasGrandCallee := false, grandCalleeParameterSize := 0,
    calleeCtx := st, calleeValidity := .all, callerCtx := st,
    callerValidity := ["ebp", "ebx", "edi", "esi"], moduleBase := 0x400000,
    stack := { base := 0x1000,
               bytes := (List.range 16).flatMap fun i => [UInt8.ofNat i, 0x10, 0x40, 0], bigEndian := false } }

/-- the record of the known finding's witness: `$eip .raSearch ^ = $esp .raSearch 4 + =` -/
def exRec : SInfo := { info := ⟨0, 0, 8⟩, thing := .prog witnessProg }

theorem exRw_x86 : X86Walker exRw :=
  ⟨rfl, rfl, by decide +kernel⟩

-- the hypothesis set of `win_walk_refines`: `callerOf` is a record that agrees with the walker
example : Sim exRw (callerOf exRw) := callerOf_sim exRw exRw_x86.cells

-- a CFI continuation acting alike on both sides (here: one that always fails)
example : CfiRefines (some fun w => .ok (false, w)) (some fun _ => none) :=
  fun w _ _ _ => ⟨w, rfl⟩

-- the hypotheses of `real_framedata_caller` / `real_win_forwarding_known_finding` are satisfiable,
-- and the finding shows on the model of the REAL walker: the program defines only `$eip`/`$esp`
-- (`.raSearch` = esp + 8 = 0x1008, the word there is 0x401002), yet `ebp ebx edi esi` are still
-- valid afterwards, `esi` with the callee's value 0x51
example : (match finalVars witnessProg exRec.info (readOf exRw) with
    | .ok vs => (vs.get "$eip", vs.get "$esp", vs.get "$esi", vs.get "$edi")
    | _ => (none, none, none, none)) = (some 0x401002, some 0x100c, none, none) := by decide +kernel

example : (match walkFramedataReal clearNamesActual exRec exRw with
    | .ok (b, w') => some (b, w'.callerValidity, callerView w' "eip", callerView w' "esp", callerView w' "esi")
    | .panic _ => none) =
    some (true, ["ebp", "ebx", "edi", "esi", "eip", "esp"], some 0x401002, some 0x100c, some 0x51) := by
  decide +kernel

-- with the `$` stripped from the clear list nothing is forwarded (`$ebp`/`$ebx` are variables the
-- evaluator initialises from the callee, so the program itself reports them; `esi`/`edi` are unknown)
example : (match walkFramedataReal clearNamesFixed exRec exRw with
    | .ok (b, w') => some (b, w'.callerValidity)
    | .panic _ => none) = some (true, ["eip", "esp", "ebp", "ebx"]) := by decide +kernel

-- fpo on the real walker (no base pointer): `ebx` is valid in the callee (`.all`) and passed
-- through, `eip = *(esp + 8)`, `esp = esp + 12`, `ebp` = the callee's
example : (match walkFpoReal clearNamesActual { info := ⟨0, 0, 8⟩, thing := .abp false } exRw with
    | .ok (b, w') => some (b, callerView w' "eip", callerView w' "esp", callerView w' "ebp", callerView w' "ebx")
    | .panic _ => none) = some (true, some 0x401002, some 0x100c, some 0x1020, some 0) := by decide +kernel

end MdModel.WinWalker
