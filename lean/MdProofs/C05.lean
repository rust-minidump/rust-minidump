/-
  C05 — Every produced call stack is well-formed and makes progress.

  Property text: "For arbitrary register contexts, stack bytes, module lists and symbol files, any
  returned call stack starts with the context frame (exact instruction pointer, trust 'context'),
  and every later frame has a return address of at least 4096 with its lookup address set back by
  the architecture's call adjustment and a trust of cfi, frame-pointer or scan. Stack pointers
  strictly increase from callee to caller (ARM, ARM64 and MIPS may repeat it only between the first
  two frames), each scanned frame's return address is the word stored just below its stack pointer
  inside the thread's stack memory, and a frame's module and function, when present, cover its
  address."

  The theorems are about `MdModel.Walk.walk` (`walk_stack` + the six `get_caller_frame`s), the model
  the compiled driver executes and the `walk` engine compares with `minidump_unwind::walk_stack`
  on every run. They hold for EVERY environment `env : Env`: the result of CFI / STACK WIN
  evaluation (`env.cfi`), the symbol test used by scanning (`env.instrOk`), symbolication
  (`env.symb`) and the ptr-auth mask are arbitrary functions/values — "whatever a symbol file
  says". Only the last clause (module/function cover the address) is about the concrete
  environment `mkEnv` built from a module list and symbol records, and rests on C08's theorems.

  `walk` is total (a `List Frame`): no arithmetic of the unwinders can overflow any more — the
  Windows-x64 frame-pointer probe used to (found by the `walk` engine, repaired in /repo by
  90f11fe, `checked_add`); the model follows the repaired code.
-/
import MdProofs.Lemmas.Walk
import MdProofs.Lemmas.WalkSym
namespace MdModel.Walk
open MdModel

/-- **The invariant of the property**, for a call stack `fs` returned for context `ctx0`. -/
structure WF (arch : Arch) (mem : Option Mem) (ctx0 : Ctx) (fs : List Frame) : Prop where
  /-- "starts with the context frame (exact instruction pointer, trust 'context')" -/
  head : ∃ f0 rest, fs = f0 :: rest ∧ f0.trust = .context ∧ f0.ctx = ctx0 ∧ f0.instruction = ctx0.ip
  /-- every later frame `f = fs[i+1]` with its callee `p = fs[i]` -/
  later : ∀ (i : Nat) (h : i + 1 < fs.length),
    -- "a trust of cfi, frame-pointer or scan"
    (fs[i + 1].trust = .cfi ∨ fs[i + 1].trust = .fp ∨ fs[i + 1].trust = .scan) ∧
    -- "a return address of at least 4096"
    4096 ≤ fs[i + 1].ctx.ip ∧
    -- "its lookup address set back by the architecture's call adjustment" (no underflow: 4096 ≥ adj)
    fs[i + 1].instruction = fs[i + 1].ctx.ip - arch.adj ∧ arch.adj ≤ fs[i + 1].ctx.ip ∧
    -- "stack pointers strictly increase from callee to caller (ARM, ARM64 and MIPS may repeat it
    --  only between the first two frames)"
    (fs[i].ctx.sp < fs[i + 1].ctx.sp ∨ (i = 0 ∧ arch.leafOk = true ∧ fs[i + 1].ctx.sp = fs[i].ctx.sp)) ∧
    -- "each scanned frame's return address is the word stored just below its stack pointer inside
    --  the thread's stack memory" (a pointer-sized word in the dump's byte order; on MIPS the width is
    --  that of the mode the callee frame was unwound in)
    (fs[i + 1].trust = .scan → ∃ m, mem = some m ∧
      (effArch arch fs[i].ctx).ptr ≤ fs[i + 1].ctx.sp ∧
      m.read (fs[i + 1].ctx.sp - (effArch arch fs[i].ctx).ptr) (effArch arch fs[i].ctx).ptr = some fs[i + 1].ctx.ip)

/-- **C05 (main theorem).** Whatever the register context, the validity set, the stack memory (or
    its absence), the CFI oracle, the symbol test, symbolication and the mask are: the returned call
    stack satisfies the invariant. -/
theorem walk_wf (env : Env) (mem : Option Mem) (ctx : Ctx) :
    WF env.arch (usedMem mem) ctx (walk env mem ctx) := by
  obtain ⟨rest, hfs, hc⟩ := walk_chain env mem ctx
  rw [hfs]
  refine ⟨⟨_, rest, rfl, rfl, rfl, rfl⟩, fun i hi => ?_⟩
  obtain ⟨m, hm, hcall⟩ := hc.index i hi
  have hl := isCaller_link hcall
  have hadj : env.arch.adj ≤ 4096 := nullish_eq env.arch ▸ adj_le_nullish env.arch
  refine ⟨hl.trust, hl.ip, hl.instr, Nat.le_trans hadj hl.ip, hl.sp.imp_right fun ⟨h1, h2, h3⟩ => ⟨?_, h1, h3⟩,
    fun hs => ⟨m, hm, hl.scan hs⟩⟩
  -- only frame 0 has trust `context`: every later frame was returned by `get_caller_frame`
  cases i with
  | zero => rfl
  | succ j =>
    obtain ⟨_, _, hcall'⟩ := hc.index j (by omega)
    rcases (isCaller_link hcall').trust with hp | hp | hp <;> rw [h2] at hp <;> cases hp

/-- "the architecture's call adjustment" and the 4096 cut-off, as the property text has them; the
    model's values are translated from the Rust sources on every run — a change there breaks this. -/
theorem adjustment_table :
    Arch.x86.adj = 1 ∧ Arch.amd64.adj = 1 ∧ Arch.arm.adj = 2 ∧ Arch.arm64.adj = 4 ∧ Arch.arm64old.adj = 4 ∧
    Arch.mips32.adj = 8 ∧ Arch.mips64.adj = 8 ∧ (∀ a : Arch, a.nullish = 4096) :=
  ⟨rfl, rfl, rfl, rfl, rfl, rfl, rfl, nullish_eq⟩

/-- **C03 (walk bound), also part of "makes progress".** No thread is walked for more frames than
    its stack memory has bytes, plus two. -/
theorem walk_bound (env : Env) (mem : Option Mem) (ctx : Ctx) :
    (walk env mem ctx).length ≤ (mem.map Mem.size).getD 0 + 2 := by
  cases hu : usedMem mem with
  | none => rw [walk_of_unused ctx hu]; exact Nat.le_add_left 1 _
  | some m =>
    obtain ⟨rfl, _⟩ := usedMem_some hu
    rw [walk_of_used ctx hu]
    exact Nat.le_trans (walkLoop_length _ _ _) (need_context_le m ctx)

/-- **Termination with an explicit fuel bound.** The loop of `walk_stack` stops by itself within
    `stack bytes + 2` iterations: any larger fuel gives the same outcome (so the fuel of the model is
    never what ends a walk). -/
theorem walk_fuel_enough (env : Env) (m : Mem) (ctx : Ctx) (n : Nat) (hn : walkFuel m ≤ n) :
    walkLoop env m n (Frame.ofCtx ctx .context) none =
      walkLoop env m (walkFuel m) (Frame.ofCtx ctx .context) none :=
  walkLoop_fuel n (walkFuel m) _ _ (Nat.le_trans (need_context_le m ctx) hn) (need_context_le m ctx)

/-! ## "a frame's module and function, when present, cover its address" -/

/-- every frame of a returned stack carries exactly what `fill_source_line_info` computes for its
    lookup address -/
def Symbolised (env : Env) (f : Frame) : Prop :=
  f.module = (env.symb f.instruction).1 ∧
  f.func = (if (env.symb f.instruction).1.isSome then (env.symb f.instruction).2 else none)

theorem walk_symbolised (env : Env) (mem : Option Mem) (ctx : Ctx) :
    ∀ x ∈ walk env mem ctx, Symbolised env x :=
  walk_forall ⟨rfl, rfl⟩ fun _ _ _ _ _ _ => ⟨rfl, rfl⟩

/-- the module (by position in the list) contains the lookup address; the function is a FUNC of the
    module's symbol records whose range contains it, or a PUBLIC at or below it -/
def Covered (w : World) (f : Frame) : Prop :=
  (∀ i, f.module = some i → ∃ m, w.mods[i]? = some m ∧ m.base ≤ f.instruction ∧ f.instruction < m.base + m.size) ∧
  (∀ g, f.func = some g → ∃ i m sf, f.module = some i ∧ w.mods[i]? = some m ∧ w.syms[i]? = some (some sf) ∧
      FuncCovers sf m.base f.instruction g)

theorem symbOf_sound (w : World) (instr : Nat) :
    let r := symbOf w (modTable w.mods) (w.syms.map fun s => match s with
        | some sf => funcTable sf
        | none => []) instr
    (∀ i, r.1 = some i → ∃ m, w.mods[i]? = some m ∧ m.base ≤ instr ∧ instr < m.base + m.size) ∧
    (∀ g, r.2 = some g → ∃ i m sf, r.1 = some i ∧ w.mods[i]? = some m ∧ w.syms[i]? = some (some sf) ∧
        FuncCovers sf m.base instr g) := by
  simp only
  unfold symbOf
  split
  · exact ⟨fun i h => by simp at h, fun g h => by simp at h⟩
  · rename_i i hi
    have hmod := moduleAt_sound _ _ _ hi
    split
    · rename_i m sf ft hm hsf hft
      refine ⟨fun j hj => by cases hj; exact hmod, ?_⟩
      intro g hg
      simp only at hg
      have hs : w.syms[i]? = some (some sf) := Option.join_eq_some_iff.mp hsf
      have hft' : ft = funcTable sf := by
        simp only [List.getElem?_map, hs, Option.map_some] at hft
        injection hft with hft
        exact hft.symm
      subst hft'
      exact ⟨i, m, sf, rfl, hm, hs, fillSymbol_sound _ _ _ _ hg⟩
    · exact ⟨fun j hj => by cases hj; exact hmod, fun g h => by cases h⟩

/-- **C05, last clause.** For the environment built from a module list and symbol records, every
    frame of a returned stack is covered by its module and function (on top of C08: `get_sound`,
    `getP_sound`). -/
theorem walk_covered (arch : Arch) (os : Os) (w : World) (mem0 : Mem) (mem : Option Mem) (ctx : Ctx) :
    ∀ f ∈ walk (mkEnv arch os w mem0) mem ctx, Covered w f := by
  intro f hf
  obtain ⟨h1, h2⟩ := walk_symbolised _ _ _ f hf
  have hs := symbOf_sound w f.instruction
  simp only at hs
  have e : (mkEnv arch os w mem0).symb = symbOf w (modTable w.mods) (w.syms.map fun s => match s with
        | some sf => funcTable sf
        | none => []) := rfl
  rw [e] at h1 h2
  refine ⟨fun i hi => hs.1 i (by rw [← h1]; exact hi), ?_⟩
  intro g hg
  rw [h2] at hg
  split at hg
  · obtain ⟨i, m, sf, a, b, c, d⟩ := hs.2 g hg
    exact ⟨i, m, sf, by rw [h1]; exact a, b, c, d⟩
  · cases hg

/-! ## non-vacuity: concrete walks (abstract environment without CFI; every scanned word passes) -/

def exEnv (a : Arch) (os : Os) : Env :=
  { arch := a, os := os, cfi := fun _ _ => none, instrOk := fun _ => true,
    symb := fun _ => (none, none), mask := 2 ^ 48 - 1 }

/-- amd64: stack at 0x1000, `rbp` → saved rbp 0x1020, return address 0x5000; then one scan frame -/
def exMem : Mem :=
  { base := 4096, bytes := #[0x20, 0x10, 0, 0, 0, 0, 0, 0,  0x00, 0x50, 0, 0, 0, 0, 0, 0,
                              0, 0, 0, 0, 0, 0, 0, 0,        0x00, 0x60, 0, 0, 0, 0, 0, 0,
                              0, 0, 0, 0, 0, 0, 0, 0 ] }

example : walk (exEnv .amd64 .other) (some exMem) { ip := 0x7000, sp := 4096, rest := [("rbp", 4096)] } =
    [ { ctx := { ip := 0x7000, sp := 4096, rest := [("rbp", 4096)] }, trust := .context, instruction := 0x7000 },
          { ctx := { ip := 0x5000, sp := 4112, rest := [("rbp", 0x1020)], valid := some ["rip", "rsp", "rbp"] },
            trust := .fp, instruction := 0x4fff },
          { ctx := { ip := 0x6000, sp := 4128, rest := [("rbp", 0x1020)], valid := some ["rip", "rsp", "rbp"] },
            trust := .scan, instruction := 0x5fff } ] := by
  rfl

/-- ARM64 leaf: CFI oracle returning the same stack pointer for the context frame is accepted once -/
example : walk { exEnv .arm64 .other with cfi := fun f _ => if f.trust = .context then some { ip := 0x9000, sp := 4096 } else none }
      (some { base := 4096, bytes := #[0x20, 0x10, 0, 0, 0, 0, 0, 0, 0, 0, 0, 0, 0, 0, 0, 0] }) { ip := 0x7000, sp := 4096 } =
    [ { ctx := { ip := 0x7000, sp := 4096 }, trust := .context, instruction := 0x7000 },
          { ctx := { ip := 0x9000, sp := 4096 }, trust := .cfi, instruction := 0x8ffc },
          { ctx := { ip := 0x1020, sp := 4104, valid := some ["pc", "sp"] }, trust := .scan, instruction := 0x101c } ] := by
  rfl

/-- the Windows-x64 probe with `rbp` 24 bytes below 2^64: the second probe step does not fit `u64`
    and ends the search (this input used to panic before 90f11fe); scanning finds nothing -/
example : walk (exEnv .amd64 .windows)
      (some { base := 2 ^ 64 - 41, bytes := (List.replicate 40 (0 : UInt8)).toArray })
      { ip := 0x7000, sp := 2 ^ 64 - 41, rest := [("rbp", 2 ^ 64 - 24)] } =
    [ { ctx := { ip := 0x7000, sp := 2 ^ 64 - 41, rest := [("rbp", 2 ^ 64 - 24)] }, trust := .context,
        instruction := 0x7000 } ] := by
  rfl

end MdModel.Walk
