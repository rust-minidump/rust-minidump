/-
  C06 in the environment of walks whose symbol files carry STACK WIN records (`Walk.mkEnvW`).

  `MdProofs.C06Env` proves `walk_frames_follow_c06` about `Walk.mkEnv`. The walks of `index`
  (C14) run in `Walk.mkEnvW` as soon as ANY loaded module's symbol file has a STACK WIN record.
  Off x86 that environment's `get_caller_by_cfi` is `Walk.cfiOf` exactly as in `mkEnv`
  (`mkEnvW_cfi_arch`), its architecture and pointer-authentication mask are `mkEnv`'s; only
  `symb` differs (`fillSymbolW`: a FUNC's parameter size comes from the STACK WIN record), which
  `FollowsC06` does not look at. `MdProofs.Lemmas.CfiEnvGen` proves the C06Env theorems of every
  environment with that architecture and oracle (`CfiEnv`); here it is instantiated.

  x86 is excluded from that statement: there `mkEnvW`'s oracle is `cfiWalkW` (STACK WIN evaluation
  first, C07; STACK CFI on the walker STACK WIN left), so a `cfi` frame need not come from a STACK CFI
  record; `walk_cfi_frames_x86W` says which of the two it comes from.
-/
import MdProofs.Lemmas.CfiEnvGen
namespace MdModel.CfiBridge
open MdModel

theorem mkEnvW_cfiEnv {a : Walk.Arch} (ha : a ≠ .x86) (os : Walk.Os) (w : Walk.World)
    (wins : List (List Win.Rec)) (mem0 : Walk.Mem) :
    CfiEnv (Walk.mkEnvW a os w wins mem0) a os w mem0 :=
  ⟨rfl, rfl, by funext f g; exact Walk.mkEnvW_cfi_arch ha os w wins mem0 f g⟩

/-- off x86 `get_caller_by_cfi` of `mkEnvW` IS `get_caller_by_cfi` of `mkEnv` (so `mkEnv_cfi_spec`,
    `cfi_grand_unused`, `stack_entry_eq_walker` describe it) -/
theorem mkEnvW_cfi_specW {a : Walk.Arch} (ha : a ≠ .x86) (os : Walk.Os) (w : Walk.World)
    (wins : List (List Win.Rec)) (mem0 : Walk.Mem) :
    (Walk.mkEnvW a os w wins mem0).cfi = (Walk.mkEnv a os w mem0).cfi :=
  (mkEnvW_cfiEnv ha os w wins mem0).cfi_eq

/-- **`walk_frames_follow_c06_envP`** — `walk_frames_follow_c06_env` as a property statement, the
    three fields of `CfiEnv` written out (symbolication, `instrOk`, `os` of `env` arbitrary) -/
theorem walk_frames_follow_c06_envP (env : Walk.Env) (arch : Walk.Arch) (os : Walk.Os) (w : Walk.World)
    (mem0 : Walk.Mem) (harch : env.arch = arch) (hmask : env.mask = (Walk.mkEnv arch os w mem0).mask)
    (hcfi : env.cfi = Walk.cfiOf arch w (Walk.modTable w.mods) (Walk.cfiTables w) env.mask mem0)
    (mem : Option Walk.Mem) (ctx : Walk.Ctx) (hctx : CtxOk arch ctx) :
    ∀ (i : Nat) (hi : i + 1 < (Walk.walk env mem ctx).length),
      (Walk.walk env mem ctx)[i + 1].trust = .cfi →
      FollowsC06 arch os w mem0 (Walk.walk env mem ctx)[i] (Walk.walk env mem ctx)[i + 1] :=
  walk_frames_follow_c06_env ⟨harch, hmask, hcfi⟩ mem ctx hctx

/-- **`walk_frames_follow_c06W`** — `walk_frames_follow_c06` for the environment WITH STACK WIN
    records, on the six non-x86 context kinds: every frame of trust `cfi` of every
    `walk (mkEnvW a os w wins mem0) …` from a well-formed context is what C06 prescribes for the
    frame below it — whatever `wins` is. (The frames' `func` may differ from `mkEnv`'s walk in the
    parameter size; `FollowsC06` is about registers, validity, trust, lookup address.) -/
theorem walk_frames_follow_c06W {a : Walk.Arch} (ha : a ≠ .x86) (os : Walk.Os) (w : Walk.World)
    (wins : List (List Win.Rec)) (mem0 : Walk.Mem) (mem : Option Walk.Mem) (ctx : Walk.Ctx)
    (hctx : CtxOk a ctx) :
    ∀ (i : Nat) (h : i + 1 < (Walk.walk (Walk.mkEnvW a os w wins mem0) mem ctx).length),
      (Walk.walk (Walk.mkEnvW a os w wins mem0) mem ctx)[i + 1].trust = .cfi →
      FollowsC06 a os w mem0 (Walk.walk (Walk.mkEnvW a os w wins mem0) mem ctx)[i]
        (Walk.walk (Walk.mkEnvW a os w wins mem0) mem ctx)[i + 1] :=
  walk_frames_follow_c06_env (mkEnvW_cfiEnv ha os w wins mem0) mem ctx hctx

/-- non-vacuity: the six non-x86 context kinds are six -/
example : ∀ a : Walk.Arch, a ≠ .x86 ↔ a ∈ [.amd64, .arm, .arm64, .arm64old, .mips32, .mips64] := by
  intro a; cases a <;> simp

/-- a STACK WIN record (frame data, `[0x1000, 0x1100)`, parameter size 8) for `exWorld`'s module:
    with it `noWins` fails and `index`-style environments are `mkEnvW` -/
def exWins : List (List Win.Rec) := [[⟨'4', 0x1000, 0x100, 8, 0, 0, '1', "$T0 .raSearch =".toList⟩]]

example : Walk.noWins exWins = false := by decide

/-- non-vacuity of `walk_frames_follow_c06W`: C06Env's example walk, run in `mkEnvW` with a STACK
    WIN record present (amd64): it has a second frame, of trust `cfi`, stack pointer `0x1020`,
    lookup address `0x401233`, and the theorem applies to it -/
example : ∃ (h : 0 + 1 < (Walk.walk (Walk.mkEnvW .amd64 .other exWorld exWins exIn.mem) (some exIn.mem) exIn.callee).length),
    (Walk.walk (Walk.mkEnvW .amd64 .other exWorld exWins exIn.mem) (some exIn.mem) exIn.callee)[0 + 1].trust = .cfi ∧
    (Walk.walk (Walk.mkEnvW .amd64 .other exWorld exWins exIn.mem) (some exIn.mem) exIn.callee)[0 + 1].ctx.sp = 0x1020 ∧
    (Walk.walk (Walk.mkEnvW .amd64 .other exWorld exWins exIn.mem) (some exIn.mem) exIn.callee)[0 + 1].instruction = 0x401233 ∧
    FollowsC06 .amd64 .other exWorld exIn.mem
      (Walk.walk (Walk.mkEnvW .amd64 .other exWorld exWins exIn.mem) (some exIn.mem) exIn.callee)[0]
      (Walk.walk (Walk.mkEnvW .amd64 .other exWorld exWins exIn.mem) (some exIn.mem) exIn.callee)[0 + 1] := by
  have hne : Walk.Arch.amd64 ≠ .x86 := by decide
  obtain ⟨r, vs, hcfi, _, _, _, _, _, _, hsp, hip⟩ :=
    ex_cfi (Walk.symbolise (Walk.mkEnvW .amd64 .other exWorld exWins exIn.mem) (Walk.Frame.ofCtx exIn.callee .context)) none rfl rfl
  rw [← mkEnvW_cfi_specW hne .other exWorld exWins exIn.mem] at hcfi
  obtain ⟨hlen, h1⟩ := walk_second_cfi (Walk.mkEnvW .amd64 .other exWorld exWins exIn.mem) exIn.mem exIn.callee r
    (by decide) (by decide) hcfi (by rw [hip]; decide) (by rw [hsp]; decide)
  have ht : (Walk.walk (Walk.mkEnvW .amd64 .other exWorld exWins exIn.mem) (some exIn.mem) exIn.callee)[0 + 1].trust = .cfi := by
    rw [h1]; rfl
  exact ⟨hlen, ht, by rw [h1]; exact hsp, by rw [h1]; show r.ip - 1 = _; rw [hip],
    walk_frames_follow_c06W hne .other exWorld exWins exIn.mem (some exIn.mem) exIn.callee exCtx_ok 0 hlen ht⟩

/-- **frame `f` of trust `cfi` above `p` in `mkEnvW` on x86**: `p`'s `esp` is valid; a module `i`
    with symbol file `sf` covers `p`'s lookup address; with `(fd, fpo)` the frame-data / FPO STACK WIN
    records of that module at the module-relative address (none, when the file has none there), the
    caller context `r = f.ctx` is

    * EITHER (`.inl`) what C07's `Win.winResult` (the subject of `MdProofs.C07`: `walkSelected`,
      `MdProofs.C04Win`'s `FrameIs`) returns with success on `p`'s `winWalker` — a STACK WIN frame;
    * OR (`.inr`) STACK WIN had nothing to evaluate (`.ok (false, c)`, `c` = the callee's registers
      re-read as a caller) and `r` is STACK CFI evaluation `Walk.walkFrameCfi` (C06's evaluator,
      `MdProofs.C06Walk.walkFrame_eq_c06`) of `sf`'s record on that walker — a STACK CFI frame;

    and the epilogue of `get_caller_frame` holds (`ip ≥ 4096`, lookup address = `ip − 1`, stack
    pointer strictly above `p`'s: x86 has no leaf exception). -/
def CfiFrameX86 (w : Walk.World) (wins : List (List Win.Rec)) (mem0 : Walk.Mem) (p f : Walk.Frame) : Prop :=
  p.ctx.hasLit "esp" = true ∧
  ∃ g r i m sf fd fpo,
    f.ctx = r ∧ f.trust = .cfi ∧ 4096 ≤ r.ip ∧ f.instruction = r.ip - Walk.Arch.x86.adj ∧ p.ctx.sp < r.sp ∧
    Walk.moduleAt (Walk.modTable w.mods) p.instruction = some i ∧ w.mods[i]? = some m ∧
    w.syms[i]? = some (some sf) ∧ m.base ≤ p.instruction ∧
    ((wins.map Walk.winTables)[i]?.getD Walk.WinTables.empty).at (p.instruction - m.base) = (fd, fpo) ∧
    ((∃ c, Win.winResult Win.clearNamesActual fd fpo (Walk.winWalker mem0 p g) (Walk.callerOfCtx p.ctx) = .ok (true, c) ∧
        r = Walk.ctxOfCaller c) ∨
     (∃ c o, Win.winResult Win.clearNamesActual fd fpo (Walk.winWalker mem0 p g) (Walk.callerOfCtx p.ctx) = .ok (false, c) ∧
        Walk.walkFrameCfi sf (Walk.cfiTable sf) m.base { arch := .x86, callee := p.ctx, mem := mem0 }
          { Walk.cfiOutOfCaller c with ctx := { (Walk.cfiOutOfCaller c).ctx with valid := p.ctx.valid } }
          p.instruction = some o ∧
        r = { o.ctx with valid := some o.valid }))

/-- **`walk_cfi_frames_x86W`** — the x86 counterpart of `walk_frames_follow_c06W`: every frame of
    trust `cfi` of every walk in `mkEnvW .x86 …` (any context, no well-formedness needed) is a STACK
    WIN frame or a STACK CFI frame in the sense of `CfiFrameX86`; for some grand-callee frame `g`
    (`walk_stack` passes the frame below `p`; STACK WIN evaluation reads its parameter size). -/
theorem walk_cfi_frames_x86W (os : Walk.Os) (w : Walk.World) (wins : List (List Win.Rec)) (mem0 : Walk.Mem)
    (mem : Option Walk.Mem) (ctx : Walk.Ctx) :
    ∀ (i : Nat) (h : i + 1 < (Walk.walk (Walk.mkEnvW .x86 os w wins mem0) mem ctx).length),
      (Walk.walk (Walk.mkEnvW .x86 os w wins mem0) mem ctx)[i + 1].trust = .cfi →
      CfiFrameX86 w wins mem0 (Walk.walk (Walk.mkEnvW .x86 os w wins mem0) mem ctx)[i]
        (Walk.walk (Walk.mkEnvW .x86 os w wins mem0) mem ctx)[i + 1] := by
  refine walk_cfi_frames (I := fun _ => True) (fun _ _ => trivial) fun m p f' g _ hstep ht => ?_
  obtain ⟨r, hc, hip, hsp, hfr⟩ := (cfi_frame_epilogue _ m p f' g).mp ⟨hstep, ht⟩
  obtain ⟨hesp, hw⟩ := mkEnvW_cfi_x86_some hc
  obtain ⟨k, md, sf, ct, fd, fpo, hk, hm, hs, hct, hlo, hat, hcase⟩ := cfiWalkW_cases hw
  have hs' : w.syms[k]? = some (some sf) := Option.join_eq_some_iff.mp hs
  have hct' : ct = Walk.cfiTable sf := by
    rw [cfiTables_get, hs'] at hct
    exact (Option.some.inj hct).symm
  subst hct'
  have hsp' : p.ctx.sp < r.sp := by
    rcases hsp with hlt | ⟨hl, _, _⟩
    · exact hlt
    · cases hl
  refine ⟨hesp, g, r, k, md, sf, fd, fpo, by rw [hfr]; rfl, ht, hip, by rw [hfr]; rfl, hsp', hk, hm, hs', hlo, hat, hcase⟩

end MdModel.CfiBridge
