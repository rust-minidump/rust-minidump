/-
  C04 — Stack walking recovers the true call chain of well-formed stacks: canonical STACK CFI chains.

  Property text: "For every synthetic thread whose stack is … described by STACK CFI … records …,
  on x86, x86-64, ARM, ARM64 (both context layouts) and MIPS, the walker returns exactly the
  generated call chain. Each generated call yields one frame with the right return address, stack
  pointer, recovered callee-saved registers, technique label, module and function name, and the
  walk stops at the generated end of stack."

  PROVED here, for chains of ANY depth (induction on the chain: `walkLoop_follows` with the
  one-step lemma `step_cfi`), on ALL SEVEN context kinds/modes (x86, x86-64, ARM, ARM64 both
  layouts, MIPS32, MIPS64) and every OS: `walk_layout_cfi`. The hypothesis is `Pre … .cfi`
  (`preCfi`, MdModel/Walk/Layout.lean) — the decidable predicate the `chain` engine has the driver
  evaluate on every generated `cfi` case:
    * the context has every register valid;
    * the record covering each lookup address (context ip, then `ret - adj`; through the module
      and CFI range tables) has no delta lines and its classified tokens are the canonical rule
      `.cfa: $sp N + .ra: .cfa -W + ^` for N = the generated frame size, optionally followed by
      `$fp: .cfa -2W + ^` (the one callee-saved register the single-technique generator saves), or —
      for the context frame on ARM / ARM64 / MIPS — the leaf rule `.cfa: sp 0 + .ra: lr`;
    * the memory words are as generated (return address at `sp' - W`, saved frame pointer at
      `sp' - 2W`; on ARM64 up to the pointer-authentication bits the walker strips);
    * the outermost frame has no record, a zero frame pointer, and only zero words follow.
  Conclusion: `walk_stack`'s model returns the context frame followed by exactly one frame per
  generated call, found by `cfi`, with the generated return address, stack pointer, lookup address
  `ret - adj`, the claimed frame pointer (valid), every other callee-saved register forwarded from
  the context (validity set = callee-saved registers + sp + ip), module and function as
  symbolication of the lookup address gives them — and nothing after the generated end
  (`expectedCfi_spec`, `expectedCfi_fp` spell the frames out).

  Records saving SEVERAL callee-saved registers — PROVED as `walk_layout_cfi_regs` (second half of
  this file): the canonical rule followed by ANY list of groups `$r: .cfa LIT + ^` (`r` callee-saved,
  pairwise distinct, every slot readable), any depth, all seven context kinds/modes. Its
  precondition `preCfiG` (MdProofs/Lemmas/WalkCfiChainRegsLoop.lean) is a decidable predicate of the
  same kind as `preCfi`, but it is NOT the one the `chain` engine evaluates (the single-technique
  generator saves at most the frame pointer; multi-register records are generated by `mixed`, whose
  cases are admitted by `PreW` on the STACK-WIN-aware environment `mkEnvW`).

  NOT covered here: contexts with partial validity, CFI frames above frames found by other
  techniques — these are `walk_layout_mixed` / `walk_layout_mixed_cfi` of `MdProofs/C04Mixed.lean`
  (from `PreW`, the predicate the engine evaluates on the `mixed` cases).
-/
import MdProofs.Lemmas.WalkCfiChainBase
import MdProofs.Lemmas.WalkCfiChainRegsLoop
import MdProofs.Lemmas.WalkCfiRecordAt
import MdProofs.Lemmas.WalkCfiRuleText
import MdProofs.Lemmas.RangeMap
namespace MdModel.Walk
open MdModel

/-- **C04, canonical STACK CFI chains (any depth, any of the seven context kinds/modes)**, for an
    environment whose `get_caller_by_cfi` is the model's `cfiOf` over the module list and symbol
    records `w`. `heff`: the context's MIPS mode is the walk's (`CONTEXT_MIPS64` set iff the
    architecture is `mips64`; vacuous elsewhere). `hsp`: the context's stack pointer fits the
    register (relevant for MIPS32, whose context stores 64-bit values). `hok0` (ARM32 only): the
    by-symbols check rejects the word 0, as `instruction_seems_valid_by_symbols` does. -/
theorem walk_layout_cfi_env (env : Env) (a : Arch) (w : World) (mem : Mem) (harch : env.arch = a)
    (hcfi : env.cfi = cfiOf a w (modTable w.mods) (cfiTables w) env.mask mem)
    (hok0 : a = .arm → env.instrOk 0 = false)
    (hm : mem.range?.isSome = true) (ctx : Ctx) (heff : effArch a ctx = a) (hsp : ctx.sp ≤ a.regMax)
    (chain : List Exp) (hpre : preCfi w a env.os env.mask mem ctx chain = true) :
    walk env (some mem) ctx =
      symbolise env (Frame.ofCtx ctx .context) :: expectedCfi env w a (Frame.ofCtx ctx .context) chain := by
  simp only [preCfi, Bool.and_eq_true, Option.isNone_iff_eq_none] at hpre
  obtain ⟨hv, hp⟩ := hpre
  rw [walk_of_range ctx hm]
  obtain ⟨_, h, rfl⟩ := walkLoop_follows (fun f _ => CfiView a f) (cfiLink w a env.mask mem) (cfiEnd w a mem)
    (fun st => st.ctx.sp) (cfiFrame w a)
    (fun st chain => ∃ lr, (st.trust = .context → lr = st.ctx.raw a (lrName a)) ∧
      preCfiFrom w a env.os env.mask mem st.instruction st.ctx.sp (st.ctx.raw a a.fpName) lr (st.trust == .context)
        chain = true)
    (fun st c fs => fs = expectedCfi env w a st c)
    (fun st ⟨_, _, h⟩ => by simpa [preCfiFrom, cfiEnd] using h)
    (fun st e r ⟨_, hlr, h⟩ =>
      have ⟨h1, h2, h3⟩ := preCfiFrom_cons hlr h
      ⟨Bool.and_eq_true_iff.mpr ⟨h1, h2⟩, 0, fun h => Trust.noConfusion h, h3⟩)
    (fun _ => rfl) (fun f _ st h => by rw [h.1])
    (fun f g st e hv hl => ⟨_, step_cfi harch hcfi (symbolise env f) g st e hv hl, cfiFrame_view e hv hl,
      fun _ _ h => h ▸ rfl⟩)
    (fun f g => step_cfi_end harch hcfi hok0 (symbolise env f) g) chain (walkFuel mem) _ none _
    ⟨rfl, rfl, rfl, heff, Or.inl ⟨rfl, hv⟩, hsp⟩ ⟨_, fun _ => rfl, hp⟩ (need_context_le mem ctx)
  exact h

/-- **C04, canonical STACK CFI chains, for module lists and symbol records.** `Pre … .cfi` is
    exactly what the `chain` engine has the driver evaluate on each generated `cfi` case. -/
theorem walk_layout_cfi (a : Arch) (os : Os) (w : World) (mem : Mem) (ctx : Ctx) (chain : List Exp)
    (heff : effArch a ctx = a) (hsp : ctx.sp ≤ a.regMax)
    (hpre : Pre w (mkEnv a os w mem) a os .cfi mem ctx chain = true) :
    walk (mkEnv a os w mem) (some mem) ctx =
      symbolise (mkEnv a os w mem) (Frame.ofCtx ctx .context) ::
        expectedCfi (mkEnv a os w mem) w a (Frame.ofCtx ctx .context) chain := by
  simp only [Pre, Bool.and_eq_true] at hpre
  obtain ⟨hm, hp⟩ := hpre
  exact walk_layout_cfi_env (mkEnv a os w mem) a w mem rfl rfl (fun _ => by simp [mkEnv, instrOkOf]) hm ctx
    heff hsp chain hp

/-- "Each generated call yields one frame with the right return address, stack pointer, …
    technique label, module and function name": frame `i` of the expected list has
    ip = `ret`, sp, trust `cfi`, lookup address `ret - adj`, the validity set "callee-saved
    registers + sp + ip", and module / function as symbolication of the lookup address. -/
theorem expectedCfi_spec (env : Env) (w : World) (a : Arch) (chain : List Exp) :
    ∀ (st : Frame) (i : Nat) (h : i < chain.length),
      ∃ f, (expectedCfi env w a st chain)[i]? = some f ∧
        f.ctx.ip = chain[i].ret ∧ f.ctx.sp = chain[i].sp ∧ f.trust = .cfi ∧
        f.instruction = chain[i].ret - a.adj ∧ f.ctx.valid = some (validAfter a) ∧
        f.module = (env.symb (chain[i].ret - a.adj)).1 := by
  induction chain with
  | nil => intro st i h; cases h
  | cons e rest ih =>
    intro st i h
    cases i with
    | zero => exact ⟨_, rfl, rfl, rfl, rfl, rfl, rfl, rfl⟩
    | succ i =>
      obtain ⟨f, hf, hrest⟩ := ih (cfiFrame w a st e) i (by simpa using h)
      exact ⟨f, by simpa [expectedCfi] using hf, hrest⟩

theorem expectedCfi_length (env : Env) (w : World) (a : Arch) (chain : List Exp) (st : Frame) :
    (expectedCfi env w a st chain).length = chain.length := by
  induction chain generalizing st with
  | nil => rfl
  | cons e rest ih => simp [expectedCfi, ih]

/-- "… recovered callee-saved registers …": under the precondition, frame `i` carries the claimed
    frame pointer, as a valid register -/
theorem expectedCfi_fp (env : Env) (w : World) (a : Arch) (os : Os) (mask : Nat) (mem : Mem) (chain : List Exp) :
    ∀ (st : Frame) (lr : Nat), (st.trust = .context → lr = st.ctx.raw a (lrName a)) →
      preCfiFrom w a os mask mem st.instruction st.ctx.sp (st.ctx.raw a a.fpName) lr (st.trust == .context)
        chain = true →
      ∀ (i : Nat) (h : i < chain.length),
        ∃ f, (expectedCfi env w a st chain)[i]? = some f ∧
          chain[i].fp = some (f.ctx.raw a a.fpName) ∧ f.ctx.has a a.fpName = true := by
  induction chain with
  | nil => intro st lr _ _ i h; cases h
  | cons e rest ih =>
    intro st lr hlr hp i h
    obtain ⟨_, hl, hrest⟩ := preCfiFrom_cons hlr hp
    cases i with
    | zero =>
      exact ⟨symbolise env (cfiFrame w a st e), rfl, cfiFrame_fp hl, has_calleeSaved rfl (fpName_calleeSaved a).1⟩
    | succ i =>
      obtain ⟨f, hf, hr⟩ := ih (cfiFrame w a st e) 0 (fun h => by cases h) hrest i (by simpa using h)
      exact ⟨f, by simpa [expectedCfi] using hf, hr⟩

/-! ### the renderings of the canonical rules are the token lists of the precondition

  `canonicalRule` / `leafRule` (the dumper's spelling, what the Rust generator emits) tokenize to
  `canonicalToks` / `leafToks`, for every frame size (`tokenize_canonicalRule`,
  Lemmas/WalkCfiRuleText.lean). `Pre` is stated on the token lists because that is what a rule can
  be evaluated on for a symbolic size: an interpolated string does not reduce. -/

example : ∀ a ∈ [Arch.x86, .amd64, .arm, .arm64, .arm64old, .mips32, .mips64], ∀ n ∈ [8, 4096],
    tokenize (canonicalRule a n true) = canonicalToks a n true ∧
    tokenize (canonicalRule a n false) = canonicalToks a n false ∧
    tokenize (leafRule a) = leafToks a := by
  intro a _ n hn
  have h : n < 2 ^ 63 := by
    simp only [List.mem_cons, List.not_mem_nil, or_false] at hn
    rcases hn with rfl | rfl <;> decide
  exact ⟨tokenize_canonicalRule a n h true, tokenize_canonicalRule a n h false, tokenize_leafRule a⟩

/-! ## non-vacuity: a two-call STACK CFI chain on x86-64 satisfying `Pre … .cfi`

  One module with two records: `[0x100, 0x200)` saves `$rbp`, `[0x300, 0x400)` does not. The
  context frame is in the second (its caller inherits `rbp = 7`), the caller in the first (its
  caller's `rbp` is the saved word 0), the outermost frame at `0x4007ff` has no record.
  The range tables are computed with C08's lemmas (`sortEntries_of_sep`, `pass_of_sep`: a sorted,
  separated list of records is its own table), everything else — tokenizing the rule texts,
  reading the stack words — by kernel evaluation. -/

def exCfiSf : SymFile :=
  { cfis := [ { addr := 0x100, size := 0x100, init := ".cfa: $rsp 16 + .ra: .cfa -8 + ^ $rbp: .cfa -16 + ^", adds := [] },
              { addr := 0x300, size := 0x100, init := ".cfa: $rsp 16 + .ra: .cfa -8 + ^", adds := [] } ] }
def exCfiW : World := { mods := [{ base := 0x400000, size := 0x1000, name := "m" }], syms := [some exCfiSf] }
def exCfiMem : Mem :=
  { base := 4096, bytes := #[
      0, 0, 0, 0, 0, 0, 0, 0,         0x20, 0x01, 0x40, 0, 0, 0, 0, 0,
      0, 0, 0, 0, 0, 0, 0, 0,         0x00, 0x08, 0x40, 0, 0, 0, 0, 0,
      0, 0, 0, 0, 0, 0, 0, 0,         0, 0, 0, 0, 0, 0, 0, 0 ] }
def exCfiCtx : Ctx := { ip := 0x400310, sp := 0x1000, rest := [("rbp", 7)] }
def exCfiChain : List Exp :=
  [ { ret := 0x400120, sp := 0x1010, fp := some 7 }, { ret := 0x400800, sp := 0x1020, fp := some 0 } ]

theorem exCfi_modTable : modTable exCfiW.mods = [(⟨0x400000, 0x400fff⟩, 0)] :=
  modTable_singleton (by decide)

private theorem exCfi_sep : RangeMap.Sep [(⟨0x100, 0x1ff⟩, 0), (⟨0x300, 0x3ff⟩, 1)] := by
  simp [RangeMap.Sep, RangeMap.WF, RangeMap.Gap, RangeMap.satSucc, U64MAX]

theorem exCfi_cfiTable : cfiTable exCfiSf = [(⟨0x100, 0x1ff⟩, 0), (⟨0x300, 0x3ff⟩, 1)] :=
  cfiTable_of_sep exCfi_sep (by decide)

private theorem exCfi_r0 : cfiRecordAt exCfiW 0x400310 = exCfiSf.cfis[1]? :=
  cfiRecordAt_lookups exCfi_modTable exCfi_cfiTable _ (some 1) (by decide) (by decide) (by decide)
private theorem exCfi_r1 : cfiRecordAt exCfiW 0x40011f = exCfiSf.cfis[0]? :=
  cfiRecordAt_lookups exCfi_modTable exCfi_cfiTable _ (some 0) (by decide) (by decide) (by decide)
private theorem exCfi_r2 : cfiRecordAt exCfiW 0x4007ff = none :=
  cfiRecordAt_lookups exCfi_modTable exCfi_cfiTable _ none (by decide) (by decide) (by decide)

example : cfiRecordAt exCfiW 0x400310 = exCfiSf.cfis[1]? := exCfi_r0
example : cfiRecordAt exCfiW 0x40011f = exCfiSf.cfis[0]? := exCfi_r1
example : cfiRecordAt exCfiW 0x4007ff = none := exCfi_r2

/-- the two records as the precondition sees them: no delta lines, the canonical tokens. (The
    texts are turned into character lists by `String.toList_ofList` before the kernel evaluates the
    lexer; `String.toList` in the kernel is slow.) -/
private theorem exCfi_recs : ∃ rec0 rec1, exCfiSf.cfis = [rec0, rec1] ∧ rec0.adds = [] ∧ rec1.adds = [] ∧
    tokenize rec0.init = canonicalToks .amd64 16 true ∧ tokenize rec1.init = canonicalToks .amd64 16 false := by
  refine ⟨_, _, rfl, rfl, rfl, ?_, ?_⟩ <;> rw [tokenize, String.toList_ofList] <;> decide +kernel

theorem exCfi_pre :
    Pre exCfiW (mkEnv .amd64 .other exCfiW exCfiMem) .amd64 .other .cfi exCfiMem exCfiCtx exCfiChain = true := by
  obtain ⟨rec0, rec1, hsf, ha0, ha1, ht0, ht1⟩ := exCfi_recs
  simp only [Pre, preCfi, exCfiChain, preCfiFrom, linkCfi, exCfiCtx, Arch.adj, Consts.adj_amd64, Nat.reduceSub,
    exCfi_r0, exCfi_r1, exCfi_r2, hsf, List.getElem?_cons_succ, List.getElem?_cons_zero, ha0, ha1, ht0, ht1]
  decide +kernel

example : (walk (mkEnv .amd64 .other exCfiW exCfiMem) (some exCfiMem) exCfiCtx).map
      (fun f => (f.trust, f.ctx.ip, f.ctx.sp, f.instruction, f.ctx.raw .amd64 "rbp")) =
    [(.context, 0x400310, 0x1000, 0x400310, 7), (.cfi, 0x400120, 0x1010, 0x40011f, 7),
     (.cfi, 0x400800, 0x1020, 0x4007ff, 0)] := by
  obtain ⟨rec0, rec1, hsf, _, _, ht0, ht1⟩ := exCfi_recs
  rw [walk_layout_cfi .amd64 .other exCfiW exCfiMem exCfiCtx exCfiChain rfl (by decide) exCfi_pre]
  simp only [exCfiChain, expectedCfi, List.map_cons, List.map_nil, symbolise_trust, symbolise_ctx,
    symbolise_instruction, cfiFrame, savesFpAt, Frame.ofCtx, exCfiCtx, Arch.adj, Consts.adj_amd64, Nat.reduceSub,
    exCfi_r0, exCfi_r1, hsf, List.getElem?_cons_succ, List.getElem?_cons_zero, ht0, ht1]
  decide +kernel

/-- the same lookup from record-level facts, through the completeness of C08's range table
    (`get_complete_of_mem`, the lemma under C08's `get_complete`): the module intersects no other
    module, the record no other record (`cfiRecordAt_of_isolated`) -/
example : cfiRecordAt exCfiW 0x40011f = exCfiSf.cfis[0]? :=
  cfiRecordAt_of_isolated exCfiW [] [] { base := 0x400000, size := 0x1000, name := "m" } exCfiSf
    [] [{ addr := 0x300, size := 0x100, init := ".cfa: $rsp 16 + .ra: .cfa -8 + ^", adds := [] }]
    { addr := 0x100, size := 0x100, init := ".cfa: $rsp 16 + .ra: .cfa -8 + ^ $rbp: .cfa -16 + ^", adds := [] }
    ⟨0x400000, 0x400fff⟩ ⟨0x100, 0x1ff⟩ 0x40011f rfl rfl rfl (by decide) (by decide)
    (by intro m' hm'; cases hm')
    (by
      intro c hc s hs
      simp only [List.nil_append, List.mem_singleton] at hc
      subst hc
      have : s = ⟨0x300, 0x3ff⟩ := by
        have h : RangeMap.mkRange 0x300 0x100 = some s := hs
        have h' : RangeMap.mkRange 0x300 0x100 = some ⟨0x300, 0x3ff⟩ := by decide
        rw [h'] at h; injection h with h; exact h.symm
      subst this
      decide)
    (by decide) (by decide)

/-! ## non-vacuity: ARM64 — a leaf first frame, then a frame saving `fp`, with pointer-authentication bits

  The context frame is in a leaf function (record `.cfa: sp 0 + .ra: lr`): its caller has the same
  stack pointer and the return address `lr` with the ptr-auth bits (above bit 47) stripped. That
  caller's record saves `fp`; the return-address word on the stack carries ptr-auth bits too. -/

def exLeafSf : SymFile :=
  { cfis := [ { addr := 0x100, size := 0x100, init := ".cfa: sp 32 + .ra: .cfa -8 + ^ fp: .cfa -16 + ^", adds := [] },
              { addr := 0x500, size := 0x100, init := ".cfa: sp 0 + .ra: lr", adds := [] } ] }
def exLeafW : World := { mods := [{ base := 0x400000, size := 0x1000, name := "m" }], syms := [some exLeafSf] }
def exLeafMem : Mem :=
  { base := 4096, bytes := #[
      0, 0, 0, 0, 0, 0, 0, 0,         0, 0, 0, 0, 0, 0, 0, 0,
      0, 0, 0, 0, 0, 0, 0, 0,         0x00, 0x08, 0x40, 0, 0, 0, 0x7b, 0,
      0, 0, 0, 0, 0, 0, 0, 0,         0, 0, 0, 0, 0, 0, 0, 0 ] }
def exLeafCtx : Ctx := { ip := 0x400510, sp := 0x1000, rest := [("fp", 0x1234), ("lr", 0x00a5000000400120)] }
def exLeafChain : List Exp :=
  [ { ret := 0x400120, sp := 0x1000, fp := some 0x1234 }, { ret := 0x400800, sp := 0x1020, fp := some 0 } ]

theorem exLeaf_cfiTable : cfiTable exLeafSf = [(⟨0x100, 0x1ff⟩, 0), (⟨0x500, 0x5ff⟩, 1)] :=
  cfiTable_of_sep (by simp [RangeMap.Sep, RangeMap.WF, RangeMap.Gap, RangeMap.satSucc, U64MAX]) (by decide)

private theorem exLeaf_r0 : cfiRecordAt exLeafW 0x400510 = exLeafSf.cfis[1]? :=
  cfiRecordAt_lookups exCfi_modTable exLeaf_cfiTable _ (some 1) (by decide) (by decide) (by decide)
private theorem exLeaf_r1 : cfiRecordAt exLeafW 0x40011c = exLeafSf.cfis[0]? :=
  cfiRecordAt_lookups exCfi_modTable exLeaf_cfiTable _ (some 0) (by decide) (by decide) (by decide)
private theorem exLeaf_r2 : cfiRecordAt exLeafW 0x4007fc = none :=
  cfiRecordAt_lookups exCfi_modTable exLeaf_cfiTable _ none (by decide) (by decide) (by decide)

/-- the walk's ptr-auth mask: 47 bits (the module ends far below) -/
theorem exLeaf_mask : (mkEnv .arm64 .other exLeafW exLeafMem).mask = 2 ^ 47 - 1 := by
  show ptrAuthMask exLeafW (modTable exLeafW.mods) _ = _
  rw [show modTable exLeafW.mods = _ from exCfi_modTable]
  decide

private theorem exLeaf_recs : ∃ rec0 rec1, exLeafSf.cfis = [rec0, rec1] ∧ rec0.adds = [] ∧ rec1.adds = [] ∧
    tokenize rec0.init = canonicalToks .arm64 32 true ∧ tokenize rec1.init = leafToks .arm64 := by
  refine ⟨_, _, rfl, rfl, rfl, ?_, ?_⟩ <;> rw [tokenize, String.toList_ofList] <;> decide +kernel

theorem exLeaf_pre :
    Pre exLeafW (mkEnv .arm64 .other exLeafW exLeafMem) .arm64 .other .cfi exLeafMem exLeafCtx exLeafChain = true := by
  obtain ⟨rec0, rec1, hsf, ha0, ha1, ht0, ht1⟩ := exLeaf_recs
  simp only [Pre, preCfi, exLeafChain, preCfiFrom, linkCfi, exLeafCtx, Arch.adj, Consts.adj_arm64, Nat.reduceSub,
    exLeaf_r0, exLeaf_r1, exLeaf_r2, exLeaf_mask, hsf, List.getElem?_cons_succ, List.getElem?_cons_zero, ha0, ha1,
    ht0, ht1]
  decide +kernel

example : (walk (mkEnv .arm64 .other exLeafW exLeafMem) (some exLeafMem) exLeafCtx).map
      (fun f => (f.trust, f.ctx.ip, f.ctx.sp, f.instruction, f.ctx.raw .arm64 "fp")) =
    [(.context, 0x400510, 0x1000, 0x400510, 0x1234), (.cfi, 0x400120, 0x1000, 0x40011c, 0x1234),
     (.cfi, 0x400800, 0x1020, 0x4007fc, 0)] := by
  obtain ⟨rec0, rec1, hsf, _, _, ht0, ht1⟩ := exLeaf_recs
  rw [walk_layout_cfi .arm64 .other exLeafW exLeafMem exLeafCtx exLeafChain rfl (by decide) exLeaf_pre]
  simp only [exLeafChain, expectedCfi, List.map_cons, List.map_nil, symbolise_trust, symbolise_ctx,
    symbolise_instruction, cfiFrame, savesFpAt, Frame.ofCtx, exLeafCtx, Arch.adj, Consts.adj_arm64, Nat.reduceSub,
    exLeaf_r0, exLeaf_r1, hsf, List.getElem?_cons_succ, List.getElem?_cons_zero, ht0, ht1]
  decide +kernel

/-! ## records saving several callee-saved registers

  "… recovered callee-saved registers …": the canonical rule followed by any list of groups
  `$r: .cfa LIT + ^`. `cfiLinkG` (one frame), `preCfiG` (the chain), `cfiFrameG` (the expected
  frame: every saved register := its slot word, applied in name order as `walk_with_stack_cfi`
  does, the others forwarded) are in `Lemmas/WalkCfiChainRegsLoop.lean`; `callerReg` is the value a
  callee-saved register has in the expected frame (`cfiFrameG_reg`). -/

/-- **C04, canonical STACK CFI chains whose records save several callee-saved registers (any depth,
    any of the seven context kinds/modes).** -/
theorem walk_layout_cfi_regs_env (env : Env) (a : Arch) (w : World) (mem : Mem) (harch : env.arch = a)
    (hcfi : env.cfi = cfiOf a w (modTable w.mods) (cfiTables w) env.mask mem)
    (hok0 : a = .arm → env.instrOk 0 = false)
    (hm : mem.range?.isSome = true) (ctx : Ctx) (hv : ctx.valid = none) (heff : effArch a ctx = a)
    (hsp : ctx.sp ≤ a.regMax) (chain : List Exp)
    (hpre : preCfiG w a env.mask mem (Frame.ofCtx ctx .context) chain = true) :
    walk env (some mem) ctx =
      symbolise env (Frame.ofCtx ctx .context) :: expectedCfiG env w a mem (Frame.ofCtx ctx .context) chain := by
  rw [walk_of_range ctx hm]
  exact walkLoop_cfiG_chain harch hcfi hok0 chain (walkFuel mem) (Frame.ofCtx ctx .context) none
    (Frame.ofCtx ctx .context) ⟨rfl, rfl, rfl, heff, Or.inl ⟨rfl, hv⟩, hsp⟩ hpre (need_context_le mem ctx)

theorem walk_layout_cfi_regs (a : Arch) (os : Os) (w : World) (mem : Mem) (ctx : Ctx) (chain : List Exp)
    (hm : mem.range?.isSome = true) (hv : ctx.valid = none) (heff : effArch a ctx = a) (hsp : ctx.sp ≤ a.regMax)
    (hpre : preCfiG w a (mkEnv a os w mem).mask mem (Frame.ofCtx ctx .context) chain = true) :
    walk (mkEnv a os w mem) (some mem) ctx =
      symbolise (mkEnv a os w mem) (Frame.ofCtx ctx .context) ::
        expectedCfiG (mkEnv a os w mem) w a mem (Frame.ofCtx ctx .context) chain :=
  walk_layout_cfi_regs_env (mkEnv a os w mem) a w mem rfl rfl (fun _ => by simp [mkEnv, instrOkOf]) hm ctx hv
    heff hsp chain hpre

theorem expectedCfiG_spec (env : Env) (w : World) (a : Arch) (mem : Mem) (chain : List Exp) :
    ∀ (st : Frame) (i : Nat) (h : i < chain.length),
      ∃ f, (expectedCfiG env w a mem st chain)[i]? = some f ∧
        f.ctx.ip = chain[i].ret ∧ f.ctx.sp = chain[i].sp ∧ f.trust = .cfi ∧
        f.instruction = chain[i].ret - a.adj ∧ f.ctx.valid = some (validAfter a) ∧
        f.module = (env.symb (chain[i].ret - a.adj)).1 := by
  induction chain with
  | nil => intro st i h; cases h
  | cons e rest ih =>
    intro st i h
    cases i with
    | zero => exact ⟨_, rfl, rfl, rfl, rfl, rfl, rfl, rfl⟩
    | succ i =>
      obtain ⟨f, hf, hrest⟩ := ih (cfiFrameG w a env.mask mem st e) i (by simpa using h)
      exact ⟨f, by simpa [expectedCfiG] using hf, hrest⟩

/-- "… recovered callee-saved registers …": under the precondition, frame `i` carries the claimed
    frame pointer and every claimed callee-saved register, as valid registers -/
theorem expectedCfiG_regs (env : Env) (w : World) (a : Arch) (mem : Mem) (chain : List Exp) :
    ∀ (st : Frame), preCfiG w a env.mask mem st chain = true →
      ∀ (i : Nat) (h : i < chain.length),
        ∃ f, (expectedCfiG env w a mem st chain)[i]? = some f ∧
          chain[i].fp = some (f.ctx.raw a a.fpName) ∧ f.ctx.has a a.fpName = true ∧
          ∀ p ∈ chain[i].regs, f.ctx.raw a p.1 = p.2 ∧ f.ctx.has a p.1 = true := by
  induction chain with
  | nil => intro st _ i h; cases h
  | cons e rest ih =>
    intro st hp i h
    simp only [preCfiG, Bool.and_eq_true] at hp
    obtain ⟨⟨_, hl⟩, hrest⟩ := hp
    cases i with
    | zero =>
      obtain ⟨_, _, _, _, hfp, hregs⟩ := cfiLinkG_cases hl
      have hfpn := fpName_calleeSaved a
      refine ⟨symbolise env (cfiFrameG w a env.mask mem st e), rfl, ?_, has_calleeSaved rfl hfpn.1, fun p hp => ?_⟩
      · show e.fp = some ((cfiFrameG w a env.mask mem st e).ctx.raw a a.fpName)
        rw [cfiFrameG_reg hl hfpn.1 hfpn.2, hfp]
      · obtain ⟨hcs, hnsp, hval⟩ := hregs p hp
        exact ⟨(cfiFrameG_reg hl hcs hnsp).trans hval, has_calleeSaved rfl hcs⟩
    | succ i =>
      obtain ⟨f, hf, hr⟩ := ih (cfiFrameG w a env.mask mem st e) hrest i (by simpa using h)
      exact ⟨f, by simpa [expectedCfiG] using hf, hr⟩

/-! ## non-vacuity: an x86-64 record saving `$rbp`, `$rbx`, `$r12` (in that textual order), then a plain one

  The context frame is at `0x400110` in a function whose frame of 48 bytes holds `r12`, `rbx`,
  `rbp` and the return address; its caller (record without groups) forwards everything; `r13` is
  never saved and is forwarded from the context. -/

def exRegsRec0 : CfiRec :=
  { addr := 0x100, size := 0x100,
    init := ".cfa: $rsp 48 + .ra: .cfa -8 + ^ $rbp: .cfa -16 + ^ $rbx: .cfa -24 + ^ $r12: .cfa -32 + ^", adds := [] }
def exRegsRec1 : CfiRec := { addr := 0x300, size := 0x100, init := ".cfa: $rsp 16 + .ra: .cfa -8 + ^", adds := [] }
def exRegsSf : SymFile := { cfis := [exRegsRec0, exRegsRec1] }
def exRegsW : World := { mods := [{ base := 0x400000, size := 0x1000, name := "m" }], syms := [some exRegsSf] }
def exRegsMem : Mem :=
  { base := 4096, bytes := #[
      0, 0, 0, 0, 0, 0, 0, 0,         0, 0, 0, 0, 0, 0, 0, 0,
      0x22, 0, 0, 0, 0, 0, 0, 0,      0x11, 0, 0, 0, 0, 0, 0, 0,          -- r12 at 0x1010, rbx at 0x1018
      0, 0, 0, 0, 0, 0, 0, 0,         0x20, 0x03, 0x40, 0, 0, 0, 0, 0,    -- rbp at 0x1020, return address at 0x1028
      0, 0, 0, 0, 0, 0, 0, 0,         0x00, 0x08, 0x40, 0, 0, 0, 0, 0,    -- return address at 0x1038
      0, 0, 0, 0, 0, 0, 0, 0,         0, 0, 0, 0, 0, 0, 0, 0 ] }
def exRegsCtx : Ctx := { ip := 0x400110, sp := 0x1000, rest := [("rbp", 7), ("rbx", 1), ("r12", 2), ("r13", 3)] }
def exRegsChain : List Exp :=
  [ { ret := 0x400320, sp := 0x1030, fp := some 0, regs := [("rbx", 0x11), ("r12", 0x22), ("r13", 3)] },
    { ret := 0x400800, sp := 0x1040, fp := some 0, regs := [("rbx", 0x11), ("r12", 0x22)] } ]

theorem exRegs_cfiTable : cfiTable exRegsSf = [(⟨0x100, 0x1ff⟩, 0), (⟨0x300, 0x3ff⟩, 1)] :=
  cfiTable_of_sep exCfi_sep (by decide)

theorem exRegs_r0 : cfiRecordAt exRegsW 0x400110 = some exRegsRec0 :=
  cfiRecordAt_lookups exCfi_modTable exRegs_cfiTable _ (some 0) (by decide) (by decide) (by decide)
theorem exRegs_r1 : cfiRecordAt exRegsW 0x40031f = some exRegsRec1 :=
  cfiRecordAt_lookups exCfi_modTable exRegs_cfiTable _ (some 1) (by decide) (by decide) (by decide)
theorem exRegs_r2 : cfiRecordAt exRegsW 0x4007ff = none :=
  cfiRecordAt_lookups exCfi_modTable exRegs_cfiTable _ none (by decide) (by decide) (by decide)

/-- the groups of the first record, in the order of the text (`-16`, `-24`, `-32` as `u64`) -/
def exRegsSaved : List (String × Nat) := [("rbp", 2 ^ 64 - 16), ("rbx", 2 ^ 64 - 24), ("r12", 2 ^ 64 - 32)]

private theorem exRegs_toks0 : tokenize exRegsRec0.init = canonToksS .amd64 (spTok .amd64) 48 exRegsSaved := by
  rw [tokenize, exRegsRec0, String.toList_ofList]; decide +kernel
private theorem exRegs_toks1 : tokenize exRegsRec1.init = canonToksS .amd64 (spTok .amd64) 16 [] := by
  rw [tokenize, exRegsRec1, String.toList_ofList]; decide +kernel

private theorem exRegs_saved0 : savedAt exRegsW 0x400110 = exRegsSaved := by
  simp only [savedAt, exRegs_r0, exRegs_toks0]; rfl
private theorem exRegs_saved1 : savedAt exRegsW 0x40031f = [] := by
  simp only [savedAt, exRegs_r1, exRegs_toks1]; rfl

/-- `walk_with_stack_cfi` applies them in name order -/
theorem exRegs_byName : byName exRegsSaved = [("r12", 2 ^ 64 - 32), ("rbp", 2 ^ 64 - 16), ("rbx", 2 ^ 64 - 24)] := by
  simp [byName, exRegsSaved, List.mergeSort, strLe]

def exRegsF1 : Frame :=
  { ctx := { ip := 0x400320, sp := 0x1030, rest := [("rbp", 0), ("rbx", 0x11), ("r12", 0x22), ("r13", 3)],
             valid := some (validAfter .amd64) }, trust := .cfi, instruction := 0x40031f }
def exRegsF2 : Frame :=
  { ctx := { ip := 0x400800, sp := 0x1040, rest := [("rbp", 0), ("rbx", 0x11), ("r12", 0x22), ("r13", 3)],
             valid := some (validAfter .amd64) }, trust := .cfi, instruction := 0x4007ff }

theorem exRegs_f1 (mask : Nat) :
    cfiFrameG exRegsW .amd64 mask exRegsMem (Frame.ofCtx exRegsCtx .context) exRegsChain[0] = exRegsF1 := by
  have w1 : slotWord .amd64 exRegsMem 0x1030 (2 ^ 64 - 32) = 0x22 := by decide +kernel
  have w2 : slotWord .amd64 exRegsMem 0x1030 (2 ^ 64 - 16) = 0 := by decide +kernel
  have w3 : slotWord .amd64 exRegsMem 0x1030 (2 ^ 64 - 24) = 0x11 := by decide +kernel
  unfold cfiFrameG
  simp only [Frame.ofCtx, exRegsCtx, exRegs_saved0, exRegs_byName, exRegsChain, List.getElem_cons_zero,
    List.foldl_cons, List.foldl_nil, w1, w2, w3]
  rfl

theorem exRegs_f2 (mask : Nat) : cfiFrameG exRegsW .amd64 mask exRegsMem exRegsF1 exRegsChain[1] = exRegsF2 := by
  unfold cfiFrameG
  simp only [exRegsF1, exRegs_saved1, byName, List.mergeSort_nil, List.foldl_nil]
  rfl

theorem exRegs_pre (mask : Nat) :
    preCfiG exRegsW .amd64 mask exRegsMem (Frame.ofCtx exRegsCtx .context) exRegsChain = true := by
  have hstrip : stripOf Arch.amd64 mask = fun v => v := by funext v; rfl
  have l1 : cfiLinkG exRegsW .amd64 mask exRegsMem (Frame.ofCtx exRegsCtx .context) exRegsChain[0] = true := by
    simp only [cfiLinkG, callerReg, hstrip, Frame.ofCtx, exRegsCtx, exRegs_r0, exRegs_toks0]
    decide +kernel
  have l2 : cfiLinkG exRegsW .amd64 mask exRegsMem exRegsF1 exRegsChain[1] = true := by
    simp only [cfiLinkG, callerReg, hstrip, exRegsF1, exRegs_r1, exRegs_toks1]
    decide +kernel
  have hend : cfiEnd exRegsW .amd64 exRegsMem exRegsF2 = true := by
    simp only [cfiEnd, exRegsF2, exRegs_r2]
    decide +kernel
  have e0 : exRegsChain = [exRegsChain[0], exRegsChain[1]] := rfl
  rw [e0]
  simp only [preCfiG, l1, exRegs_f1, l2, exRegs_f2, hend]
  decide +kernel

example : (walk (mkEnv .amd64 .other exRegsW exRegsMem) (some exRegsMem) exRegsCtx).map
      (fun f => (f.trust, f.ctx.ip, f.ctx.sp, f.ctx.raw .amd64 "rbp", f.ctx.raw .amd64 "rbx",
        f.ctx.raw .amd64 "r12", f.ctx.raw .amd64 "r13")) =
    [(.context, 0x400110, 0x1000, 7, 1, 2, 3), (.cfi, 0x400320, 0x1030, 0, 0x11, 0x22, 3),
     (.cfi, 0x400800, 0x1040, 0, 0x11, 0x22, 3)] := by
  rw [walk_layout_cfi_regs .amd64 .other exRegsW exRegsMem exRegsCtx exRegsChain (by decide) rfl rfl (by decide)
    (exRegs_pre _)]
  have e0 : exRegsChain = [exRegsChain[0], exRegsChain[1]] := rfl
  rw [e0]
  simp only [expectedCfiG, exRegs_f1, exRegs_f2, List.map_cons, List.map_nil, symbolise_trust, symbolise_ctx]
  rfl

end MdModel.Walk
