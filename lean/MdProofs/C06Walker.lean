/-
  C06 (and C07's walker interface), for the REAL `FrameWalker`: `CfiStackWalker<C>`.

  C06's theorems (`MdProofs.C06`) are about `walk_with_stack_cfi` running against an abstract
  `Walker` record. The implementation the unwinders hand to it is `CfiStackWalker<C: CpuContext>`
  (minidump-unwind/src/lib.rs:553-655), which maps register NAMES to context cells through
  `memoize_register`, enforces validity, converts `u64` to the CPU's register width with `TryFrom`,
  keeps the caller's validity set and seeds it with `callee_forwarded_regs`. `MdModel.CfiWalker` is
  its model over the machine-translated register tables of C18. The real walker, at any of the ten
  context types, IS an instance of the abstract `Walker` (`walker_refines_c06`); hence C06's property
  text holds of `walk_with_stack_cfi` on the REAL walker, on every CPU (`real_*`); and the CFI step of
  the stack-walk model (C03/C04/C05) is C06's `walkFrame` run with this walker
  (`walkcfi_uses_cfiwalker`).
-/
import MdProofs.C06Walk
import MdProofs.Lemmas.CfiWalkerSim
import MdProofs.Lemmas.CfiWalkerArch
import MdProofs.Lemmas.Win
namespace MdModel.CfiWalker
open MdModel MdModel.Gen.Regs MdModel.Regs MdModel.CfiBridge

/-- The invariants of every walker the unwinders build (and the hypotheses of this file): the
    callee's validity set names only registers or aliases of the context type (C18's hypothesis;
    `foreign_name_in_set_panics` shows it cannot be dropped), and the dump is little-endian (not
    needed: the C06 record reads in the dump's byte order, `readMem_toWalker`, and the theorems of
    `Lemmas/CfiWalkerSim` this file rests on hold for either order). -/
structure Wf (w : CfiStackWalker) : Prop where
  names : validityWf w.cpu.tbl w.calleeValidity = true
  little : w.stack.bigEndian = false

/-- **`walker_refines_c06`.** For EVERY real walker `w` — any of the nine context types of
    context.rs or `Mips32Context`, any register file, any validity set of the type's names, any
    little-endian stack image, any module, grand callee and caller state — the C06 record
    `toWalker w` answers everything `walk_with_stack_cfi` asks exactly as `w` does:
    1. names: `memoize_register` never panics; the record's `memo` is its result on every text, and
       `none` on a label that is not text;
    2. aliases denote ONE cell: names with the same canonical name read and write the same storage
       cell (C18 `alias_same_cell`);
    3. reads: `get_callee_register(n)` never panics and is the record's `getCallee`: `None` for an
       unknown name, else the value of the register's cell iff the validity set covers that
       register — under any of its names (C18 `validity_honoured`);
    4. memory: `get_register_at_address` is the record's `readMem`;
    5. `fits` is the width test `C::Register::try_from(u64)`;
    6. writes: one iteration of the loop over the remaining rules (evaluate, `set_caller_register`,
       `clear_caller_register` when the rule or the write fails) never panics, changes only the
       caller half, and leaves every canonical caller register valid-with-the-same-value or unknown
       on both sides if it was so before;
    7. `set_cfa` / `set_ra` are `set_caller_register` under the stack-pointer / instruction-pointer
       name. -/
theorem walker_refines_c06 (w : CfiStackWalker) (h : Wf w) (fwd : List (Cfi.Name × UInt64)) :
    (∀ n : String, w.cpu.memoize n = .ok (w.cpu.canon n) ∧
        (toWalker w fwd).memo (utf8 n) = (w.cpu.canon n).map utf8) ∧
    (∀ b : Cfi.Name, (∀ n : String, b ≠ utf8 n) → (toWalker w fwd).memo b = none) ∧
    (∀ n m r : String, w.cpu.canon n = some r → w.cpu.canon m = some r →
        getCell w.cpu.tbl n = getCell w.cpu.tbl m ∧ calleeView w n = calleeView w m) ∧
    (∀ n : String, w.getCalleeRegister n = .ok (calleeView w n) ∧
        (toWalker w fwd).getCallee (utf8 n) = (calleeView w n).map UInt64.ofNat) ∧
    (∀ a : UInt64, (toWalker w fwd).readMem a = toU64 (w.getRegisterAtAddress a.toNat)) ∧
    (∀ v : UInt64, (toWalker w fwd).fits v = w.cpu.fits v.toNat) ∧
    envOf w = (toWalker w fwd).env ∧
    (∀ (cfa : UInt64) (c : Cfi.Caller) (r : Cfi.Name × Cfi.Expr),
        ∃ st vs, applyOtherReal cfa w r = .ok (w.withCaller st vs) ∧
          ∀ s ∈ registers w.cpu.tbl, CallerSim w c s →
            CallerSim (w.withCaller st vs) (Cfi.applyOther (toWalker w fwd) cfa c r) s) ∧
    (∀ v : Nat, w.setCfa v = w.setCallerRegister w.cpu.spName v ∧
        w.setRa v = w.setCallerRegister w.cpu.ipName v) := by
  refine ⟨fun n => ⟨w.cpu.memoize_eq n, memo_toWalker w fwd n⟩, memo_toWalker_not_text w fwd, ?_,
    fun n => ⟨getCalleeRegister_eq w h.names n, getCallee_toWalker w fwd n⟩,
    readMem_toWalker w fwd, fits_toWalker w fwd, envOf_eq w fwd h.names,
    applyOtherReal_sim w fwd h.names, fun v => ⟨setCfa_eq w v, setRa_eq w v⟩⟩
  intro n m r hn hm
  exact ⟨(canon_cell hn).trans (canon_cell hm).symm, (calleeView_canon w hn).trans (calleeView_canon w hm).symm⟩

/-- the writes, spelled out: what `set_caller_register` and `clear_caller_register` do to the
    frame the unwinder will report — for ANY name (alias, `$`-prefixed, unknown) and any value -/
theorem real_writes (w : CfiStackWalker) (n : String) (v : Nat) :
    (∃ b w', w.setCallerRegister n v = .ok (b, w') ∧
      (b = true ↔ (w.cpu.canon n).isSome = true ∧ v < 2 ^ w.cpu.bits) ∧
      (b = false → w' = w) ∧
      (∀ m, w.cpu.canon n = some m → b = true → ∀ s ∈ registers w.cpu.tbl,
          callerView w' s = if s = m then some v else callerView w s)) ∧
    (∃ w', w.clearCallerRegister n = .ok w' ∧ w'.callerCtx = w.callerCtx ∧
      (w.cpu.canon n = none → w' = w) ∧
      (∀ m, w.cpu.canon n = some m → ∀ s, callerView w' s = if s = m then none else callerView w s)) := by
  obtain ⟨st, vs, hset, hfail, hsetv⟩ := setCallerRegister_view w n v
  obtain ⟨vs', hcl, hnone, hclv⟩ := clearCallerRegister_view w n
  refine ⟨⟨_, _, hset, by simp [Cpu.fits], hfail, fun m hm hb s hs => ?_⟩, _, hcl, rfl, hnone, fun m hm s => ?_⟩
  · rw [hsetv s hs, hm]
    simp [((Bool.and_eq_true _ _).mp hb).2, eq_comm]
  · rw [hclv s, hm]
    simp [eq_comm]

/-- the real walker never panics and only its caller half changes, whatever the rule lines -/
theorem real_no_panic (w : CfiStackWalker) (h : Wf w) (lines : List Cfi.Bytes) :
    ∃ b st vs, walkCfiReal w lines = .ok (b, w.withCaller st vs) := by
  rcases walkCfiReal_view w _ (envOf_eq w [] h.names) (fits_toWalker w []) lines with
    ⟨_, st, vs, e⟩ | ⟨_, _, _, _, _, st, vs, _, e, _⟩
  · exact ⟨false, st, vs, e⟩
  · exact ⟨true, st, vs, e⟩

/-- **`real_cfa_first`** (C06.5a on the real walker) — "the CFA is computed first": when
    `walk_with_stack_cfi` succeeds on the real walker, the lines parse into a map with a `.cfa` and
    a `.ra` rule; the CFA is the `.cfa` rule evaluated — against the real walker's registers and
    memory — with NO CFA available, the return address the `.ra` rule evaluated with that CFA;
    both fit the register width; and they are what the caller's stack pointer and instruction
    pointer hold unless a later rule names those registers. -/
theorem real_cfa_first (w : CfiStackWalker) (h : Wf w) (lines : List Cfi.Bytes) (w' : CfiStackWalker)
    (hw : walkCfiReal w lines = .ok (true, w')) :
    ∃ m cfaE raE cfa ra, Cfi.parseAll lines [] = some m ∧ m.get .cfa = some cfaE ∧ m.get .ra = some raE ∧
      Cfi.evalCfi (envOf w) none cfaE = some cfa ∧ Cfi.evalCfi (envOf w) (some cfa) raE = some ra ∧
      cfa.toNat < 2 ^ w.cpu.bits ∧ ra.toNat < 2 ^ w.cpu.bits ∧
      ((∀ q ∈ Cfi.others m, labelReg w q.1 ≠ some w.cpu.spName) → callerView w' w.cpu.spName = some cfa.toNat) ∧
      ((∀ q ∈ Cfi.others m, labelReg w q.1 ≠ some w.cpu.ipName) → callerView w' w.cpu.ipName = some ra.toNat) := by
  obtain ⟨m, cfaE, raE, cfa, ra, h1, h2, h3, h4, h5, h6, h7, hreg⟩ := real_walk_regs w h.names lines w' hw
  refine ⟨m, cfaE, raE, cfa, ra, h1, h2, h3, h4, h5, h6, h7, fun hno => ?_, fun hno => ?_⟩
  · rw [(hreg _ (sp_known w.cpu).1).2 hno, if_neg (sp_known w.cpu).2.2, if_pos rfl]
  · rw [(hreg _ (sp_known w.cpu).2.1).2 hno, if_pos rfl]

/-- **`real_ra_mandatory`** (C06.5b/c on the real walker) — without a `.ra` rule, or a `.cfa` rule,
    or with a `.cfa` rule that mentions `.cfa`, or when either fails to evaluate against the real
    walker, or when a line does not parse: `walk_with_stack_cfi` on the real walker returns `None`
    (and does not panic) — whatever the other rules are. -/
theorem real_ra_mandatory (w : CfiStackWalker) (h : Wf w) (lines : List Cfi.Bytes) :
    (Cfi.parseAll lines [] = none → ∃ w', walkCfiReal w lines = .ok (false, w')) ∧
    (∀ m, Cfi.parseAll lines [] = some m →
      (m.get .ra = none → ∃ w', walkCfiReal w lines = .ok (false, w')) ∧
      (m.get .cfa = none → ∃ w', walkCfiReal w lines = .ok (false, w')) ∧
      (∀ cfaE, m.get .cfa = some cfaE → Cfi.tCfa ∈ cfaE → ∃ w', walkCfiReal w lines = .ok (false, w')) ∧
      (∀ cfaE, m.get .cfa = some cfaE → Cfi.evalCfi (envOf w) none cfaE = none →
          ∃ w', walkCfiReal w lines = .ok (false, w')) ∧
      (∀ cfaE raE cfa, m.get .cfa = some cfaE → m.get .ra = some raE →
          Cfi.evalCfi (envOf w) none cfaE = some cfa → Cfi.evalCfi (envOf w) (some cfa) raE = none →
          ∃ w', walkCfiReal w lines = .ok (false, w'))) := by
  have hb := walkCfiReal_sim w [] h.names lines
  have key : Cfi.walkCfi (toWalker w []) lines = none → ∃ w', walkCfiReal w lines = .ok (false, w') := by
    intro hc; rw [hc] at hb; obtain ⟨st, vs, e⟩ := hb; exact ⟨_, e⟩
  have henv := envOf_eq w [] h.names
  refine ⟨fun hp => key (Cfi.parse_failure_fails _ _ hp), fun m hm => ⟨?_, ?_, ?_, ?_, ?_⟩⟩
  · exact fun hr => key ((Cfi.ra_mandatory _ _ m hm).1 hr)
  · exact fun hc => key ((Cfi.ra_mandatory _ _ m hm).2.1 hc)
  · exact fun cfaE hc hself => key (Cfi.cfa_no_self _ _ m cfaE hm hc hself)
  · intro cfaE hc he; rw [henv] at he; exact key ((Cfi.ra_mandatory _ _ m hm).2.2.1 cfaE hc he)
  · intro cfaE raE cfa hc hr h1 h2
    rw [henv] at h1 h2
    exact key ((Cfi.ra_mandatory _ _ m hm).2.2.2 cfaE raE cfa hc hr h1 h2)

/-- **`real_reg_set_or_unknown`** (C06.6 on the real walker) — "each other register is set from its
    rule or marked unknown when its rule fails", for the frame `w'` the real walker holds after a
    successful `walk_with_stack_cfi`. With `m` the rule map and `cfa`/`ra` the computed CFA and
    return address, for every register `s` of the context type (canonical name):
    * if `p` is the one remaining rule whose label denotes `s` — directly, through an alias
      (`x29` for `fp`) or `$`-prefixed in the symbol file — `s` is valid in the caller with the
      rule's value when the rule evaluates (against the real walker, CFA available) and the value
      fits the CPU's register width, and UNKNOWN otherwise — even if the callee's value had been
      forwarded (this is where the defects F8, F8b lived);
    * if no remaining rule's label denotes `s`: the instruction pointer holds the return address,
      the stack pointer the CFA, any other register what was forwarded from the callee. -/
theorem real_reg_set_or_unknown (w : CfiStackWalker) (h : Wf w) (lines : List Cfi.Bytes) (w' : CfiStackWalker)
    (hw : walkCfiReal w lines = .ok (true, w'))
    (h64 : ∀ s, w.callerValidity.contains s = true → rawOf w.cpu.tbl w.callerCtx s < 2 ^ 64) :
    ∃ m cfaE raE cfa ra, Cfi.parseAll lines [] = some m ∧ m.get .cfa = some cfaE ∧ m.get .ra = some raE ∧
      Cfi.evalCfi (envOf w) none cfaE = some cfa ∧ Cfi.evalCfi (envOf w) (some cfa) raE = some ra ∧
      (∀ s ∈ registers w.cpu.tbl, ∀ p ∈ Cfi.others m, labelReg w p.1 = some s →
          (∀ q ∈ Cfi.others m, labelReg w q.1 = some s → q = p) →
          callerView w' s = match Cfi.evalCfi (envOf w) (some cfa) p.2 with
                            | some v => if v.toNat < 2 ^ w.cpu.bits then some v.toNat else none
                            | none => none) ∧
      (∀ s ∈ registers w.cpu.tbl, (∀ q ∈ Cfi.others m, labelReg w q.1 ≠ some s) →
          callerView w' s = if s = w.cpu.ipName then some ra.toNat
                            else if s = w.cpu.spName then some cfa.toNat
                            else callerView w s) := by
  obtain ⟨m, cfaE, raE, cfa, ra, h1, h2, h3, h4, h5, _, _, hreg⟩ := real_walk_regs w h.names lines w' hw
  exact ⟨m, cfaE, raE, cfa, ra, h1, h2, h3, h4, h5, fun s hs => (hreg s hs).1, fun s hs => (hreg s hs).2⟩

/-- **`real_order_independent`** (C06.7 on the real walker) — if no two labels denote the same
    register, processing the remaining rules in ANY order (any permutation of the hash map's
    entries) leaves every register of the real walker's caller with the same value-or-unknown. -/
theorem real_order_independent (w : CfiStackWalker) (h : Wf w) (cfa : UInt64)
    (l₁ l₂ : List (Cfi.Name × Cfi.Expr)) (hperm : l₁.Perm l₂)
    (hdistinct : ∀ x ∈ l₁, ∀ y ∈ l₁, labelReg w x.1 = labelReg w y.1 → labelReg w x.1 ≠ none → x = y)
    (s : String) (hs : s ∈ registers w.cpu.tbl)
    (h64 : w.callerValidity.contains s = true → rawOf w.cpu.tbl w.callerCtx s < 2 ^ 64) :
    ∃ w₁ w₂, foldReal cfa l₁ w = .ok w₁ ∧ foldReal cfa l₂ w = .ok w₂ ∧ callerView w₁ s = callerView w₂ s :=
  foldReal_order_independent w cfa l₁ l₂ hperm hdistinct s hs

/-- **`forwarded_regs_spec`** — `callee_forwarded_regs(valid)` never panics and returns EXACTLY the
    callee-saved registers of the architecture (`CALLEE_SAVED_REGS`, machine-read from the six
    unwinder files) that are valid in the callee — valid through ANY of their names: a frame pointer
    the frame-pointer unwinder recorded as `r11` / `x29` is forwarded as `fp` (the repaired
    behaviour of F28; on x86, x86-64 and MIPS the literal `which.contains(reg)` is the same thing
    because their context types have no aliases: table fact `literal_default`). -/
theorem forwarded_regs_spec (k : Kind) (valid : Validity) (hv : validityWf k.rawCtx valid = true) :
    ∃ fwd, calleeForwardedRegs k valid = .ok fwd ∧
      ∀ r, r ∈ fwd ↔ r ∈ Gen.CfiWalkerConsts.calleeSaved k.file ∧ covers k.rawCtx valid r = true := by
  unfold calleeForwardedRegs
  cases valid with
  | all => exact ⟨_, rfl, fun r => by simp [covers]⟩
  | some S =>
    have hS := validityWf_some hv
    simp only
    cases hk : Gen.CfiWalkerConsts.fwdLookup k.file with
    | literal =>
      refine ⟨_, rfl, fun r => ?_⟩
      rw [List.mem_filter]
      constructor
      · rintro ⟨hr, hc⟩
        refine ⟨hr, ?_⟩
        have hrS : r ∈ S := by simpa using hc
        simp only [covers, List.any_eq_true]
        exact ⟨r, hrS, sameReg_self (known_of_registers (saved_known k hr))⟩
      · rintro ⟨hr, hc⟩
        refine ⟨hr, ?_⟩
        simp only [covers, List.any_eq_true] at hc
        obtain ⟨n, hnS, hsame⟩ := hc
        rw [← sameReg_default (literal_default k (.inl hk)) (known_of_registers (saved_known k hr)) (hS n hnS) hsame]
        simpa using hnS
    | isValid =>
      have := filterO_ok (fun r => Regs.isValid k.rawCtx r (.some S)) (fun r => S.any (sameReg k.rawCtx r))
        (Gen.CfiWalkerConsts.calleeSaved k.file)
        (fun r hr => isValid_some_sameReg (known_of_registers (saved_known k hr)) hS)
      refine ⟨_, this, fun r => ?_⟩
      rw [List.mem_filter]
      rfl

/-- **the walker `from_ctx_and_args` builds**: the caller context is a clone of the callee's, the
    caller's validity set is exactly `forwarded_regs_spec`'s set, and every forwarded register is
    reported with the callee's raw cell value (verbatim — on MIPS in 32-bit mode the full 64-bit
    cell, although reads of the callee are truncated to 32 bits); nothing else is valid: neither
    the instruction pointer nor any caller-saved register is forwarded. -/
theorem forwarded_walker (a : Args) (hv : validityWf a.kind.rawCtx a.valid = true) (w : CfiStackWalker)
    (h : fromCtxAndArgs a = .ok (some w)) :
    w.cpu = a.kind.cpu ∧ w.instruction = a.instruction ∧ w.calleeCtx = a.ctx ∧ w.calleeValidity = a.valid ∧
    w.callerCtx = a.ctx ∧ w.stack = a.stack ∧
    w.hasGrandCallee = a.grand.isSome ∧
    (∀ r, r ∈ w.callerValidity ↔
        r ∈ Gen.CfiWalkerConsts.calleeSaved a.kind.file ∧ covers a.kind.rawCtx a.valid r = true) ∧
    (∀ r, callerView w r =
        if r ∈ Gen.CfiWalkerConsts.calleeSaved a.kind.file ∧ covers a.kind.rawCtx a.valid r = true
        then some (rawOf a.kind.rawCtx a.ctx r) else none) ∧
    callerView w (Gen.Regs.ipName a.kind.rawCtx) = none := by
  obtain ⟨fwd, hf, hmem⟩ := forwarded_regs_spec a.kind a.valid hv
  unfold fromCtxAndArgs at h
  split at h
  · cases h
  · split at h
    · cases h
    · rw [hf] at h
      simp only [Outcome.ok.injEq, Option.some.injEq] at h
      subst h
      have hval : ∀ r, r ∈ toSet fwd ↔
          r ∈ Gen.CfiWalkerConsts.calleeSaved a.kind.file ∧ covers a.kind.rawCtx a.valid r = true :=
        fun r => (mem_toSet fwd r).trans (hmem r)
      refine ⟨rfl, rfl, rfl, rfl, rfl, rfl, rfl, hval,
        fun r => ite_congr (propext (List.contains_iff_mem.trans (hval r))) (fun _ => rfl) (fun _ => rfl), ?_⟩
      exact if_neg fun hin =>
        ((calleeSaved_registers a.kind).1 _ ((hval _).mp (List.contains_iff_mem.mp hin)).1).2 rfl

theorem x86_registers : registers .X86 = Win.x86Regs := by decide

/-- CONTEXT_X86 has the trait's default `memoize_register`: the ten registers and nothing else -/
private theorem x86_canon (n : String) : Cpu.canon (.ctx .X86) n = if n ∈ Win.x86Regs then some n else none := by
  rw [← x86_registers]
  show memoName .X86 n = _
  rw [memoName_of_arms (as := []) rfl]
  simp [List.lookup]

/-- the six names C07's evaluators write are registers of CONTEXT_X86, their own canonical names;
    the `$`-prefixed spellings `clear_stack_win_caller_registers` passes are NOT names of the
    context type -/
theorem x86_six_names :
    (∀ n ∈ Win.clearNamesFixed, Cpu.canon (.ctx .X86) n = some n) ∧
    (∀ n ∈ Win.clearNamesActual, Cpu.canon (.ctx .X86) n = none) :=
  ⟨fun n hn => (x86_canon n).trans (if_pos (Win.six_sub_x86 n hn)),
    fun n hn => (x86_canon n).trans (if_neg (Win.dollar_not_x86 n hn))⟩

/-- **what `clear_caller_register("$ebx")` does today: nothing** — for each of the six names
    `clear_stack_win_caller_registers` passes (`$eip $esp $ebp $ebx $esi $edi`) and hence for the
    whole call, on every x86 walker: the walker is returned unchanged, so every callee-saved
    register `callee_forwarded_regs` seeded stays valid in the caller (the known finding
    C07-clear-dollar-names, here on the REAL walker). -/
theorem x86_clear_dollar_noop (w : CfiStackWalker) (hx : w.cpu = .ctx .X86) :
    (∀ n ∈ Win.clearNamesActual, w.clearCallerRegister n = .ok w) ∧
    clearAllReal Win.clearNamesActual w = .ok w :=
  clearAllReal_unknown w _ fun n hn => by rw [hx]; exact x86_six_names.2 n hn

/-- **what clearing `ebx` would do** (the names WITHOUT `$`, the proposed patch): exactly the six
    registers become unknown in the caller, every other register keeps its value and validity, the
    register file is untouched. -/
theorem x86_clear_plain (w : CfiStackWalker) (hx : w.cpu = .ctx .X86) :
    ∃ vs, clearAllReal Win.clearNamesFixed w = .ok (w.withCaller w.callerCtx vs) ∧
      ∀ s, callerView (w.withCaller w.callerCtx vs) s =
        if s ∈ Win.clearNamesFixed then none else callerView w s :=
  clearAllReal_view w _ (fun n hn => by rw [hx]; exact x86_six_names.1 n hn)

/-- C07's caller record and the real x86 walker agree on a register: same validity, and when valid
    the same value -/
def WinSim (w : CfiStackWalker) (c : Win.Caller) (s : String) : Prop :=
  (s ∈ c.valid ↔ s ∈ w.callerValidity) ∧
  (s ∈ c.valid → (c.vals.get s).map UInt32.toNat = some (rawOf .X86 w.callerCtx s))

private theorem winSim_view {w : CfiStackWalker} (hx : w.cpu = .ctx .X86) (c : Win.Caller) (s : String) :
    WinSim w c s ↔ (s ∈ c.valid ↔ (callerView w s).isSome = true) ∧
      (s ∈ c.valid → (c.vals.get s).map UInt32.toNat = callerView w s) := by
  have htbl : w.cpu.tbl = .X86 := by rw [hx]; rfl
  unfold WinSim callerView
  rw [htbl]
  by_cases h : s ∈ w.callerValidity
  · have hc : w.callerValidity.contains s = true := by simpa using h
    simp only [h, hc, if_true, Option.isSome_some]
  · have hc : w.callerValidity.contains s = false := by simpa using h
    simp only [h, hc, iff_false, Bool.false_eq_true, if_false, Option.isSome_none]
    exact ⟨fun ⟨h1, _⟩ => ⟨h1, fun h' => absurd h' h1⟩, fun ⟨h1, _⟩ => ⟨h1, fun h' => absurd h' h1⟩⟩

/-- **C07's `Caller` is the caller half of `CfiStackWalker<CONTEXT_X86>`**: `setCore` (the model of
    `set_caller_register` / `set_cfa` / `set_ra` the C07 theorems use) succeeds exactly when the real
    method does — the name is one of the ten registers WITHOUT `$` and the value fits 32 bits — and
    then both sides stay related on every register; `clear` likewise (a `$`-prefixed name clears
    nothing on either side). -/
theorem x86_win_caller_refines (w : CfiStackWalker) (hx : w.cpu = .ctx .X86) (c : Win.Caller)
    (hsim : ∀ s ∈ Win.x86Regs, WinSim w c s) (name : String) (v : Nat) :
    (∃ b w', w.setCallerRegister name v = .ok (b, w') ∧ (b = (c.setCore name v).isSome) ∧
      ∀ c', c.setCore name v = some c' → ∀ s ∈ Win.x86Regs, WinSim w' c' s) ∧
    (∃ w', w.clearCallerRegister name = .ok w' ∧ ∀ s ∈ Win.x86Regs, WinSim w' (c.clear name) s) := by
  have hcan : ∀ n, w.cpu.canon n = if n ∈ Win.x86Regs then some n else none := hx ▸ x86_canon
  have hreg : ∀ s ∈ Win.x86Regs, s ∈ registers w.cpu.tbl := fun s hs => by rw [hx]; exact x86_registers ▸ hs
  have hbits : ∀ x, w.cpu.fits x = decide (x ≤ U32MAX) := by
    intro x; rw [hx]; simp only [Cpu.fits, Cpu.bits, U32MAX]
    congr 1; apply propext
    show x < 2 ^ 32 ↔ _
    omega
  -- both sides obey one update law: the real walker's view by `setCallerRegister_view` /
  -- `clearCallerRegister_view`, the record's by `Win.Caller.set_valid` / `set_vals` / `clear_valid`
  obtain ⟨st, vs, hset, _, hsetv⟩ := setCallerRegister_view w name v
  obtain ⟨vs', hcl, _, hclv⟩ := clearCallerRegister_view w name
  refine ⟨⟨_, _, hset, ?_, fun c' hc' s hs => (winSim_view (w := w.withCaller st vs) hx _ _).mpr ?_⟩, _, hcl,
    fun s hs => (winSim_view (w := w.withCaller w.callerCtx vs') hx _ _).mpr ?_⟩
  · rw [hcan, hbits]
    unfold Win.Caller.setCore
    by_cases hn : name ∈ Win.x86Regs <;> by_cases hv : v ≤ U32MAX <;> simp [hn, hv]
  · obtain ⟨h1, h2⟩ := (winSim_view hx c s).mp (hsim s hs)
    have hc'' : c.set name v = some { c' with log := c'.log ++ [(name, v)] } := congrArg (Option.map _) hc'
    obtain ⟨hn, hv, _⟩ := Win.Caller.set_some hc''
    have hvalid : s ∈ c'.valid ↔ s = name ∨ s ∈ c.valid := Win.Caller.set_valid hc'' s
    have hvals : c'.vals.get s = if s = name then some (UInt32.ofNat v) else c.vals.get s := Win.Caller.set_vals hc'' s
    rw [hsetv s (hreg s hs), hcan, hbits, if_pos hn, hvalid, hvals]
    by_cases hsn : s = name
    · subst hsn
      simp only [hv, decide_true, and_self, if_true, true_or, Option.isSome_some, Option.map_some, true_implies,
        Option.some.injEq, true_and, UInt32.toNat_ofNat']
      apply Nat.mod_eq_of_lt
      simp only [U32MAX] at hv; omega
    · simp only [hsn, false_or, Option.some.injEq, Ne.symm hsn, false_and, if_false]
      exact ⟨h1, h2⟩
  · obtain ⟨h1, h2⟩ := (winSim_view hx c s).mp (hsim s hs)
    rw [hclv s, hcan, Win.Caller.clear_valid, Win.Caller.clear_vals]
    by_cases hn : name ∈ Win.x86Regs
    · by_cases hsn : name = s
      · subst hsn; simp [hn]
      · simp only [hn, if_true, Option.some.injEq, hsn, if_false, true_and, Ne.symm hsn, not_false_eq_true, and_true]
        exact ⟨h1, h2⟩
    · simp only [hn, if_false, false_and, not_false_eq_true, and_true, reduceCtorEq]
      exact ⟨h1, h2⟩

/-- **the pointer-authentication strip of arm64.rs / arm64_old.rs** never panics and does exactly
    this to the caller context the walker left: the instruction pointer is ALWAYS masked (read raw —
    also when a rule cleared it), the link register and the frame pointer are masked when they are
    valid in the caller (under either of their names), every other register is untouched -/
theorem strip_spec (k : Kind) (hk : k = .arm64 ∨ k = .arm64old) (valid : List String)
    (hvalid : ∀ s ∈ valid, s ∈ knownNames k.rawCtx) (mask : Nat) (st : Regs.State) :
    ∃ st', stripAll k valid mask st (Gen.CfiWalkerConsts.stripRegs k.file) = .ok st' ∧
      ∀ s ∈ registers k.rawCtx, rawOf k.rawCtx st' s =
        if s = "pc" then rawOf k.rawCtx st "pc" &&& mask
        else if s = "lr" ∧ valid.any (sameReg k.rawCtx "lr") = true then rawOf k.rawCtx st "lr" &&& mask
        else if s = "fp" ∧ valid.any (sameReg k.rawCtx "fp") = true then rawOf k.rawCtx st "fp" &&& mask
        else rawOf k.rawCtx st s := by
  have hlist : Gen.CfiWalkerConsts.stripRegs k.file = [("pc", true), ("x30", false), ("x29", false)] := by
    rcases hk with rfl | rfl <;> rfl
  have hcan : [k.cpu.canon "pc", k.cpu.canon "x30", k.cpu.canon "x29"] = [some "pc", some "lr", some "fp"] := by
    have := Eq.mpr (strip_regs k) rfl
    rw [hlist] at this
    rcases hk with rfl | rfl <;> exact this
  simp only [List.cons.injEq, and_true] at hcan
  obtain ⟨hpc, hlr, hfp⟩ := hcan
  obtain ⟨st1, e1, r1⟩ := stripStep_raw k valid hvalid mask st ("pc", true) hpc
  obtain ⟨st2, e2, r2⟩ := stripStep_raw k valid hvalid mask st1 ("x30", false) hlr
  obtain ⟨st3, e3, r3⟩ := stripStep_raw k valid hvalid mask st2 ("x29", false) hfp
  refine ⟨st3, by simp only [hlist, stripAll, e1, e2, e3], fun s hs => ?_⟩
  have mlr := (canon_canon hlr).1
  have mfp := (canon_canon hfp).1
  rw [r3 s hs, r2 s hs, r2 "fp" mfp, r1 s hs, r1 "lr" mlr, r1 "fp" mfp]
  have hne : ("lr" : String) ≠ "pc" ∧ ("fp" : String) ≠ "pc" ∧ ("fp" : String) ≠ "lr" := by decide
  simp only [Bool.true_or, Bool.false_or, and_true, hne.1, hne.2.1, hne.2.2, false_and, if_false]
  by_cases h1 : s = "pc"
  · simp [h1]
  · by_cases h2 : s = "lr"
    · simp [h2]
    · simp [h1, h2]

/-- **`cfi_frame_spec`** — what `get_caller_by_cfi` returns, on every architecture. `walk_frame` is
    reached only when the callee's stack pointer is valid and a module covers the callee's
    instruction; it receives the walker of `forwarded_walker`; when it returns `Some`, the frame is
    the walker's caller context after the post-processing (`strip_spec` on ARM64, nothing elsewhere)
    with `Some(caller_validity)` as its validity — and its `instruction` is the instruction-pointer
    cell read RAW: a stack pointer or instruction pointer a later rule cleared is still used by the
    checks that follow, it is merely not reported as valid. -/
theorem cfi_frame_spec (a : Args) (script : Script) (f : CfiFrame)
    (h : getCallerByCfi a script = .ok (.frame f)) :
    spTest a = .ok true ∧
    ∃ w0 w st, fromCtxAndArgs a = .ok (some w0) ∧ script w0 = .ok (true, w) ∧
      stripAll a.kind w.callerValidity (stripMask a.kind a.modules) w.callerCtx
        (Gen.CfiWalkerConsts.stripRegs a.kind.file) = .ok st ∧
      (Gen.CfiWalkerConsts.stripRegs a.kind.file = [] → st = w.callerCtx) ∧
      f.ctx = st ∧ f.valid = w.callerValidity ∧
      Regs.instructionPointer a.kind.rawCtx st = .ok f.instruction := by
  unfold getCallerByCfi at h
  split at h
  · cases h
  · cases h
  · rename_i hsp
    refine ⟨hsp, ?_⟩
    split at h
    · cases h
    · cases h
    · rename_i w0 hw0
      split at h
      · cases h
      · cases h
      · rename_i w hs
        split at h
        · cases h
        · rename_i st hst
          split at h
          · cases h
          · rename_i ip hip
            simp only [Outcome.ok.injEq, CfiResult.frame.injEq] at h
            subst h
            refine ⟨w0, w, st, hw0, hs, hst, ?_, rfl, rfl, hip⟩
            intro hnil
            rw [hnil] at hst
            simp only [stripAll, Outcome.ok.injEq] at hst
            exact hst.symm

/-- **`walkcfi_uses_cfiwalker`.** The walker model of C03/C04/C05 (`MdModel.Walk.Cfi`: `CfiIn` /
    `CfiOut`, hand-written register tables) has the `CfiStackWalker` built in. For every
    architecture, callee context (validity set naming registers of the type, 64-bit values), stack
    memory, caller state `o0`, lookup address and module base, let `cw = cwOf x o0 instr modBase` be
    the REAL walker (`MdModel.CfiWalker`, C18's translated tables) of that frame and
    `W = toWalker cw (fwdOf x.arch o0)` its C06 record. Then
    1. `W` is related to the walker-model frame by the bridge's simulation relation, and the two
       initial caller states are related at every register — so every theorem of
       `MdProofs.C06Walk` holds with the real walker's record in the place of `walkerOf`;
    2. `SymbolFile::walk_frame` of the walker model (`walkFrameCfi`, through its own range table) is
       C06's `walkFrame` run with the real walker's record (`walkFrame_eq_c06` at `W`);
    3. (stated for little-endian stack memory; `walkCfiReal_view`, which it rests on on the real
       walker's side, holds for either byte order)
       `walk_with_stack_cfi` of the walker model and `walkCfiReal cw` — the same rule lines on the
       real walker — fail together and, when they succeed, report every register of the context type
       alike: the same value, or unknown on both sides. -/
theorem walkcfi_uses_cfiwalker (x : Walk.CfiIn) (o0 : Walk.CfiOut) (instr modBase : Nat)
    (hvalid : ValidWf x.arch x.callee) (h64 : ∀ n v, x.reg n = some v → v < 2 ^ 64)
    (ho64 : ∀ s, o0.valid.contains s = true → rawC x.arch o0.ctx s < 2 ^ 64) :
    let cw := cwOf x o0 instr modBase
    let W := toWalker cw (fwdOf x.arch o0)
    (WalkerSim x W ∧ W.instr = instr ∧ ∀ s, OutSimAt x.arch o0 W.caller0 s) ∧
    (∀ (sf : Walk.SymFile) (i : Nat) (rec : Walk.CfiRec), ¬ instr < modBase →
        RangeMap.get (Walk.cfiTable sf) (instr - modBase) = some i → sf.cfis[i]? = some rec →
        match Cfi.walkFrame (recOf rec) modBase W with
        | none => Walk.walkFrameCfi sf (Walk.cfiTable sf) modBase x o0 instr = none
        | some _ => ∃ o, Walk.walkFrameCfi sf (Walk.cfiTable sf) modBase x o0 instr = some o) ∧
    (∀ (init : String) (adds : List String), x.mem.be = false →
        match Walk.walkCfi x o0 init adds with
        | none => ∃ w', walkCfiReal cw ((init :: adds).map utf8) = .ok (false, w')
        | some o => ∃ w', walkCfiReal cw ((init :: adds).map utf8) = .ok (true, w') ∧
            ∀ s ∈ registers cw.cpu.tbl, viewW x.arch o s = callerView w' s) := by
  intro cw W
  have hsim : WalkerSim x W := cwOf_sim x o0 instr modBase _ hvalid h64
  have hout : ∀ s, OutSimAt x.arch o0 W.caller0 s := fun s => fwdOf_related x.arch o0 s (ho64 s)
  refine ⟨⟨hsim, rfl, hout⟩, ?_, ?_⟩
  · intro sf i rec hlt hget hrec
    have hb := (walkFrame_eq_c06 sf modBase x o0 W hsim).2.2 i rec hlt hget hrec
    cases hc : Cfi.walkFrame (recOf rec) modBase W with
    | none => rw [hc] at hb; exact hb
    | some c =>
      rw [hc] at hb
      obtain ⟨_, _, o, _, _, _, ho, _⟩ := hb
      exact ⟨o, ho⟩
  · intro init adds _
    have hwf : validityWf cw.cpu.tbl cw.calleeValidity = true := cwOf_validityWf x o0 instr modBase hvalid
    -- both models' views of a register are the same loop over the same rules from the same start
    rcases walkCfi_view x W hsim o0 init adds with
      ⟨hn, hw⟩ | ⟨m, cfaE, raE, cfa, ra, o, hst, hw, hview⟩ <;>
    rcases walkCfiReal_view cw W (envOf_eq cw _ hwf) (fits_toWalker cw _) ((init :: adds).map utf8) with
      ⟨hn', st, vs, e⟩ | ⟨m', cfaE', raE', cfa', ra', st, vs, hst', e, hview'⟩
    · rw [hw]; exact ⟨_, e⟩
    · cases hst'.walk.symm.trans hn
    · cases hst.walk.symm.trans hn'
    · obtain ⟨rfl, rfl, rfl, rfl, rfl⟩ := hst.unique hst'
      rw [hw]
      refine ⟨_, e, fun s hs => ?_⟩
      rw [← hview s (.inr (.inr (hout s))), hview' s hs, foldl_upd_ruleOn cw _ hwf, seedFwd_eq_storeCfaRa,
        arch_spName, arch_ipName]
      refine congrArg (fun z => List.foldl (ruleOn cw cfa s) z _) (lookup_storeCfaRa_view _ _ s _ cfa ra _ (.inr (.inr ?_)))
      rw [callerView_cwOf x o0 instr modBase hs]
      exact hout s

/-- ARM64 callee: `sp = 0x1000`, `pc = 0x400010`, `x29 = 0x1010`, `x19 = 7`; the validity set holds the
    frame pointer under its ALIAS `x29`; 32 bytes of stack with a saved frame pointer (`0x2040` at
    `0x1010`) and a return address (`0x401234` at `0x1018`) -/
def exSt : Regs.State :=
  (((Regs.State.zero.write ⟨"sp", none⟩ 0x1000).write ⟨"pc", none⟩ 0x400010).write ⟨"iregs", some 29⟩ 0x1010).write
    ⟨"iregs", some 19⟩ 7

def exArgs : Args :=
  { kind := .arm64, ctx := exSt, valid := .some ["sp", "pc", "x29", "x19"], instruction := 0x400010,
    isContext := true, grand := none, modules := [{ base := 0x400000, size := 0x10000, name := "m" }],
    stack := { base := 0x1000, bigEndian := false,
               bytes := [0,0,0,0,0,0,0,0, 0,0,0,0,0,0,0,0, 0x40,0x20,0,0,0,0,0,0, 0x34,0x12,0x40,0,0,0,0,0] } }

/-- the walker `from_ctx_and_args` builds for it -/
def exW : CfiStackWalker :=
  { cpu := .ctx .ARM64, instruction := 0x400010, hasGrandCallee := false, grandCalleeParameterSize := 0,
    calleeCtx := exSt, calleeValidity := .some ["sp", "pc", "x29", "x19"],
    callerCtx := exSt, callerValidity := ["x19", "fp"], moduleBase := 0x400000, stack := exArgs.stack }

/-- the hypotheses of `walker_refines_c06` / `real_*` hold of it -/
theorem exW_wf : Wf exW := ⟨validityWf_tableNames (by decide +kernel), rfl⟩

-- `forwarded_regs_spec` / `forwarded_walker`: `fp` is forwarded although the set says `x29` (F28)
example : validityWf exArgs.kind.rawCtx exArgs.valid = true := exW_wf.1
example : calleeForwardedRegs .arm64 exArgs.valid = .ok ["x19", "fp"] := by decide +kernel
example : (match fromCtxAndArgs exArgs with
           | .ok (some w) => some (w.callerValidity, callerView w "fp", callerView w "x19", callerView w "x20")
           | _ => none) = some (["x19", "fp"], some 0x1010, some 7, none) := by decide +kernel
-- x86: the literal test; a register that is valid but not callee-saved is not forwarded
example : calleeForwardedRegs .x86 (.some ["esp", "eax", "esi"]) = .ok ["esi"] := by decide +kernel

-- reads through aliases, validity honoured (both names of the frame pointer, an invalid register,
-- an unknown name, a `$`-prefixed spelling)
example : exW.getCalleeRegister "fp" = .ok (some 0x1010) ∧ exW.getCalleeRegister "x29" = .ok (some 0x1010) ∧
    exW.getCalleeRegister "x20" = .ok none ∧ exW.getCalleeRegister "nosuch" = .ok none ∧
    exW.getCalleeRegister "$sp" = .ok none := by decide +kernel

/-- `walk_with_stack_cfi` on the real walker: the CFA from `sp`, the return address from the stack,
    the frame pointer restored through its ALIAS `x29`, the forwarded `x19` cleared by `.undef` -/
def exRule : Cfi.Bytes := ".cfa: sp 32 + .ra: .cfa 8 - ^ x29: .cfa 16 - ^ x19: .undef".toUTF8.data.toList

private theorem exW_real_eval : (match walkCfiReal exW [exRule] with
           | .ok (b, w') => some (b, callerView w' "sp", callerView w' "pc", callerView w' "fp", callerView w' "x19")
           | .panic _ => none) = some (true, some 0x1020, some 0x401234, some 0x2040, none) := by decide +kernel

example : (match walkCfiReal exW [exRule] with
           | .ok (b, w') => some (b, callerView w' "sp", callerView w' "pc", callerView w' "fp", callerView w' "x19")
           | .panic _ => none) = some (true, some 0x1020, some 0x401234, some 0x2040, none) := exW_real_eval

/-- the same through `real_reg_set_or_unknown`: the hypotheses are satisfiable and the conclusion is
    about a walk that succeeds -/
example : ∃ w', walkCfiReal exW [exRule] = .ok (true, w') ∧ callerView w' "fp" = some 0x2040 := by
  obtain ⟨b, st, vs, hw⟩ := real_no_panic exW exW_wf [exRule]
  have hv := exW_real_eval
  rw [hw] at hv
  simp only [Option.some.injEq, Prod.mk.injEq] at hv
  exact ⟨_, hv.1 ▸ hw, hv.2.2.2.1⟩

/-- a 32-bit walker: a rule whose value does not fit the register CLEARS the forwarded register
    (F8b / fix 15b778b), `$`-prefixed labels as x86 symbol files write them -/
def exX86 : CfiStackWalker :=
  { cpu := .ctx .X86, instruction := 0x400010, hasGrandCallee := false, grandCalleeParameterSize := 0,
    calleeCtx := (Regs.State.zero.write ⟨"esp", none⟩ 0x1000).write ⟨"esi", none⟩ 5,
    calleeValidity := .all,
    callerCtx := (Regs.State.zero.write ⟨"esp", none⟩ 0x1000).write ⟨"esi", none⟩ 5,
    callerValidity := ["ebp", "ebx", "edi", "esi"], moduleBase := 0x400000,
    stack := { base := 0x1000, bytes := [], bigEndian := false } }

example : Wf exX86 := ⟨rfl, rfl⟩

example : (match walkCfiReal exX86 [".cfa: $esp 24 + .ra: 1073750224 $esi: 4294967296".toUTF8.data.toList] with
           | .ok (b, w') => some (b, callerView w' "esp", callerView w' "eip", callerView w' "esi", callerView w' "edi")
           | .panic _ => none) = some (true, some 0x1018, some 1073750224, none, some 0) := by decide +kernel

-- C07 on the real x86 walker: `$ebx` clears nothing, `ebx` clears `ebx`
example : (match exX86.clearCallerRegister "$ebx" with | .ok w' => w'.callerValidity | .panic _ => []) =
    ["ebp", "ebx", "edi", "esi"] := by decide +kernel
example : (match exX86.clearCallerRegister "ebx" with | .ok w' => w'.callerValidity | .panic _ => []) =
    ["ebp", "edi", "esi"] := by decide +kernel
example : ∀ s ∈ Win.x86Regs, WinSim exX86 (Win.Caller.init [("esp", 0x1000), ("esi", 5), ("ebp", 0), ("ebx", 0), ("edi", 0)]
    (fun _ => true)) s := by
  intro s hs
  simp only [Win.x86Regs, List.mem_cons, List.not_mem_nil, or_false] at hs
  rcases hs with rfl | rfl | rfl | rfl | rfl | rfl | rfl | rfl | rfl | rfl <;>
    (constructor <;> decide +kernel)

-- `cfi_frame_spec` / `strip_spec`: the post-processing and the end of `get_caller_frame` on the ARM64
-- frame, with a return address that carries pointer-authentication bits (`0xff…401234`, written as the
-- negative `i64` literal the rule language has for it): the frame's
-- pc is masked to 47 bits (`ptr_auth_strip` without modules above 2^47), `instruction` = pc − 4
-- (the module table of `from_ctx_and_args` is C08's range map, whose sort does not reduce in the
-- kernel: the walker `exW` is the one it builds — see the `fromCtxAndArgs` example above for its fields)
example : (match walkCfiReal exW [".cfa: sp 32 + .ra: -72057594033728972 x29: .cfa 16 - ^".toUTF8.data.toList] with
           | .ok (true, w) =>
             (match stripAll .arm64 w.callerValidity (2 ^ 47 - 1) w.callerCtx (Gen.CfiWalkerConsts.stripRegs .arm64) with
              | .ok st =>
                (match frameTail exArgs { ctx := st, valid := w.callerValidity, instruction := 0 } with
                 | .ok (some f') => some (f'.instruction, f'.valid, rawOf .ARM64 f'.ctx "pc", rawOf .ARM64 f'.ctx "fp")
                 | _ => none)
              | _ => none)
           | _ => none) = some (0x401230, ["x19", "fp", "sp", "pc"], 0x401234, 0x2040) := by decide +kernel
-- the stack-pointer test: without `sp` in the validity set `walk_frame` is never called
example : spTest exArgs = .ok true ∧ spTest { exArgs with valid := .some ["pc", "x29"] } = .ok false := by
  decide +kernel
-- the end of `get_caller_frame`: a nullish instruction pointer / a stack pointer that does not grow
example : (match frameTail exArgs { ctx := exSt, valid := [], instruction := 0 } with
           | .ok (some f) => some f.instruction | _ => none) = some 0x40000c ∧
    (match frameTail { exArgs with isContext := false } { ctx := exSt, valid := [], instruction := 0 } with
     | .ok none => true | _ => false) = true := by decide +kernel

-- `real_order_independent`: two rules for different registers, processed in either order
example : ∀ x ∈ [(utf8 "x19", [[0x31]]), (utf8 "x29", [Cfi.tCfa])], ∀ y ∈ [(utf8 "x19", [[0x31]]), (utf8 "x29", [Cfi.tCfa])],
    labelReg exW x.1 = labelReg exW y.1 → labelReg exW x.1 ≠ none → x = y := by decide +kernel

-- `walkcfi_uses_cfiwalker` on the concrete pair of `MdProofs.C06Walk`
example : ValidWf exIn.arch exIn.callee ∧ (∀ n v, exIn.reg n = some v → v < 2 ^ 64) ∧
    (∀ s, exOut.valid.contains s = true → rawC exIn.arch exOut.ctx s < 2 ^ 64) := by
  refine ⟨trivial, exIn_reg64, ?_⟩
  have : ∀ s ∈ exOut.valid, rawC exIn.arch exOut.ctx s < 2 ^ 64 := by decide
  intro s hs
  exact this s (by simpa using hs)

end MdModel.CfiWalker
