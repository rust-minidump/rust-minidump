/-
  C13 (text report) — "Processing the same minidump with the same symbols always yields
  byte-identical JSON and text reports, across repeated runs …", and C03's "the resulting state can
  always be written as full text, brief text and JSON".

  `MdProofs/C13.lean` proves order-freedom of the places of the PIPELINE where a hash iteration
  order or a completion order is consumed. This file is about the last stage for the TEXT report:
  the printer `ProcessState::print` / `print_brief` itself, modelled in `MdModel.Text` (the model
  the compiled driver executes and engine `text` compares byte for byte with the real printer).

  Every `HashMap`/`HashSet` the state carries, and what the text printer does with it
  (process_state.rs:559-875, minidump-unwind/src/lib.rs:384-550):
    * `cert_info: HashMap<String, String>`            `.get(name)` only  (lines 805, 826)
    * `MinidumpContextValidity::Some(HashSet<&str>)`  `.contains(reg)` only, inside a walk over the
      fixed `general_purpose_registers()` list (lib.rs:397-398); for `All` a HashSet is BUILT from
      that list and again only queried with `contains`
    * `symbol_stats: HashMap<String, SymbolStats>`    not read by the text printer
    * `linux_proc_limits.limits: HashMap<…>`          not read by the text printer
  No `HashMap`/`HashSet` is ever ITERATED by the text printer. (`StackFrame::unloaded_modules` is
  a `BTreeMap<String, BTreeSet<u64>>`: iterated, in key order — part of the state's value.)
  The remaining order-sensitive spot is `sort_unstable_by` on the bit flips
  (`flip_order_irrelevant`).
-/
import MdProofs.Lemmas.Text
import MdProofs.C15
namespace MdModel.Text
open MdModel MdModel.Json

/-- Well-formedness the text printer needs: the requesting thread is an index, and for every frame
    the bases it subtracts are not above the instruction (`module base`, `function base`,
    `source line base`). Unlike the JSON report NOTHING is required of the module lists:
    `by_addr()` only yields modules whose `base + size` fits (C08). -/
structure WFT (s : StateModel) (x : TextExtra) : Prop where
  req : ∀ i, s.requestingThread = some i → i < s.threads.length
  frames : ∀ p ∈ zipD ThreadX.dflt s.threads x.threads, ThreadOK p.1 p.2

theorem requestingLines_total (s : StateModel) (x : TextExtra) (wf : WFT s x) :
    ∃ ls, requestingLines s x = .ok ls := by
  unfold requestingLines
  cases hreq : s.requestingThread with
  | none => exact ⟨[], rfl⟩
  | some i =>
    have hi := wf.req i hreq
    have h1 : s.threads[i]? = some s.threads[i] := List.getElem?_eq_getElem hi
    have hz : (zipD ThreadX.dflt s.threads x.threads)[i]? =
        some (s.threads[i], x.threads[i]?.getD ThreadX.dflt) := by
      rw [zipD_getElem?, h1]; rfl
    simp only [h1]
    exact obind_total (stackLines_total _ _ (wf.frames _ (List.mem_of_getElem? hz))) fun _ => ⟨_, rfl⟩

theorem briefLines_total (pw : PW) (s : StateModel) (x : TextExtra) (wf : WFT s x) :
    ∃ ls, briefLines pw s x = .ok ls :=
  obind_total (requestingLines_total s x wf) fun _ => ⟨_, rfl⟩

theorem restLines_total (s : StateModel) (x : TextExtra) (wf : WFT s x) : ∃ ls, restLines s x = .ok ls :=
  obind_total (otherThreadsLines_total s.requestingThread 0 _ wf.frames) fun _ =>
    obind_total (moduleLines_total s _ fun _ h => h) fun _ =>
      obind_total (unloadedLines_total s _ fun _ h => h) fun _ => ⟨_, rfl⟩

/-- **printText_total** — on a well-formed state neither `print` nor `print_brief` panics. -/
theorem printText_total (s : StateModel) (x : TextExtra) (brief : Bool) (wf : WFT s x) :
    ∃ cs, printText s x brief = .ok cs := by
  refine obind_total (obind_total (briefLines_total _ s x wf) fun head => ?_) fun _ => ⟨_, rfl⟩
  cases brief
  · exact obind_total (restLines_total s x wf) fun _ => ⟨_, rfl⟩
  · exact ⟨_, rfl⟩

/-- the source-line clause on top of C15's `WF` -/
def LineOK (s : StateModel) (x : TextExtra) : Prop :=
  ∀ p ∈ zipD ThreadX.dflt s.threads x.threads, ∀ q ∈ zipD FrameX.dflt p.1.frames p.2.frames,
    ∀ lb, q.2.lineBase = some lb → lb ≤ q.1.instruction

/-- under the hypothesis of C15's `printJson_total` plus "source line base ≤ instruction" -/
theorem wft_of_wf (s : StateModel) (x : TextExtra) (wf : WF s) (hl : LineOK s x) : WFT s x where
  req := wf.req
  frames := by
    intro p hp q hq
    have ht : p.1 ∈ s.threads := mem_zipD_fst hp
    have hf : q.1 ∈ p.1.frames := mem_zipD_fst hq
    exact ⟨wf.frameMod p.1 ht q.1 hf, wf.frameFn p.1 ht q.1 hf, hl p hp q hq⟩

theorem printText_total_of_wf (s : StateModel) (x : TextExtra) (brief : Bool) (wf : WF s) (hl : LineOK s x) :
    ∃ cs, printText s x brief = .ok cs :=
  printText_total s x brief (wft_of_wf s x wf hl)

/-- extras for C15's example state: a line base below the instruction, recovered arguments, the
    second (frameless) thread is the dump writer, one bit flip printed at position 0 -/
def exExtra : TextExtra :=
  { times := some (1700000123999999999, 1700000000000000001),
    threads := [⟨false, [⟨some 0x401230, some ⟨.cdecl, [("int", some 1), ("char*", none)]⟩, 4⟩]⟩, ⟨true, []⟩],
    flips := [⟨0x3f666666, "0.900"⟩], flipOrder := [0],
    unimplemented := [⟨20, "JavaScriptDataStream", "Official", 0x100⟩], unknown := [⟨0x12345678, "", "Unknown Extension", 0⟩] }

example : WFT exState exExtra := by
  constructor
  · simp [exState]
  · intro p hp q hq
    simp [exState, exExtra, zipD] at hp
    rcases hp with rfl | rfl
    · simp [zipD] at hq
      subst hq
      refine ⟨?_, ?_, ?_⟩ <;> simp [exFrame]
    · simp [zipD] at hq

example : shapeOk exState exExtra = true := by decide

example : LineOK exState exExtra := by
  intro p hp q hq
  simp [exState, exExtra, zipD] at hp
  rcases hp with rfl | rfl
  · simp [zipD] at hq
    subst hq
    simp [exFrame]
  · simp [zipD] at hq

/-- `req` is needed: a requesting thread that is no index panics in `print` AND `print_brief` -/
example (brief : Bool) : printText { exState with requestingThread := some 2 } exExtra brief =
    .panic "self.threads[requesting_thread]: index out of bounds" := by
  cases brief <;>
    simp [printText, printLines, linesAfter, linesWith, briefLines, requestingLines, exState, obind]

/-- the line-base clause is needed (and is NOT implied by C15's `WF`): `addr - src_base` -/
example : WF exState ∧ printText exState { exExtra with threads := [⟨false, [⟨some 0x401235, none, 4⟩]⟩] } true =
    .panic "frame line: addr - src_base" := by
  refine ⟨by constructor <;> simp [exState, exFrame, U64MAX], ?_⟩
  simp [printText, printLines, linesAfter, linesWith, briefLines, requestingLines, exState, exFrame, obind,
    stackLines, zipD, framesLines, frameBody, checkedSub]

/-- the function-base clause is needed when there is no complete source line: `addr - func_base` -/
example : printText { exState with threads := [⟨[{ exFrame with functionBase := some 0x401235, sourceLine := none }], 7, none, none⟩] }
    exExtra true = .panic "frame line: addr - func_base" := by
  simp [printText, printLines, linesAfter, linesWith, briefLines, requestingLines, exState, exFrame, obind,
    stackLines, zipD, framesLines, frameBody, checkedSub, exExtra]

/-- the module-base clause is needed when there is no function: `addr - module.base_address()` -/
example : printText { exState with threads := [⟨[{ exFrame with instruction := 0x3fffff, functionName := none }], 7, none, none⟩] }
    exExtra true = .panic "frame line: addr - module.base_address()" := by
  simp [printText, printLines, linesAfter, linesWith, briefLines, requestingLines, exState, exFrame, obind,
    stackLines, zipD, framesLines, frameBody, checkedSub, exExtra]

/-- a frame of ANOTHER thread outside `WFT`: `print` panics, `print_brief` does not -/
example :
    let s := { exState with threads := [⟨[exFrame], 7, none, none⟩, ⟨[{ exFrame with instruction := 0 }], 8, none, none⟩] }
    let x := { exExtra with threads := [⟨false, [⟨none, none, 4⟩]⟩, ⟨false, [⟨some 1, none, 4⟩]⟩] }
    (∃ cs, printText s x true = .ok cs) ∧
    printText s x false = .panic "frame line: addr - src_base" := by
  refine ⟨⟨_, by
    simp [printText, printLines, linesAfter, linesWith, briefLines, requestingLines, exState, exFrame, obind,
      stackLines, zipD, framesLines, frameBody, checkedSub, exExtra]
    rfl⟩, ?_⟩
  simp [printText, printLines, linesAfter, linesWith, briefLines, requestingLines, exState, exFrame, obind,
    stackLines, zipD, framesLines, frameBody, checkedSub, exExtra, restLines, otherThreadsLines]

/-- C15's `modEnd` clause is NOT needed by the text report: a module whose end wraps is simply
    not listed (`memory_range()` is `None`), where `print_json` panics -/
example : ∃ ls, moduleLines { exState with modules := [⟨U64MAX, 2, "wraps", none, "0", "", none⟩] }
    (modulesByAddr [⟨U64MAX, 2, "wraps", none, "0", "", none⟩]) = .ok ls :=
  moduleLines_total _ _ (fun _ h => h)

/-- **text_history_free** — `print_internal` begins with `set_print_context`, which OVERWRITES the
    thread-local pointer width: whatever earlier prints (of any dumps, on this thread or tokio
    worker) left there (`before`, `before'`), the lines are the same. -/
theorem text_history_free (before before' : Option PW) (s : StateModel) (x : TextExtra) (brief : Bool) :
    linesAfter setCtx before s x brief = linesAfter setCtx before' s x brief := rfl

/-- the variant of seeded break C13-2b (fill the context only when it is empty) makes the text
    depend on the history: an x86 state printed after an amd64 state shows an 18-character crash
    address, printed first it shows 10 characters. -/
theorem text_ctx_once_history_dependent :
    ∃ (before before' : Option PW) (s : StateModel) (x : TextExtra),
      linesAfter setCtxOnce before s x true ≠ linesAfter setCtxOnce before' s x true := by
  refine ⟨none, some .b64, { exState with requestingThread := none }, exExtra, fun h => ?_⟩
  -- only the `Crash address:` line is looked at, and of it only the length
  have h2 : some ("Crash address: ".toList ++ addr .b32 0x10 ++ " **".toList).length =
      some ("Crash address: ".toList ++ addr .b64 0x10 ++ " **".toList).length :=
    congrArg (fun (o : Outcome (List TLine)) => match o with
      | Outcome.ok ls => ls[6]?.map fun (l : TLine) => l.text.length
      | Outcome.panic _ => none) h
  have := digitsB_length_le 16 (by decide) 0x10 8 (by decide) (by decide)
  simp only [Option.some.injEq, List.length_append, addr_length, PW.digits, hexDigits] at h2
  omega

/-- The same printed state, whatever order its hash containers iterate in: `cert_info` is any
    permutation of the same entries (keys of a map are distinct), every frame's validity set any
    permutation of the same names. The members the text report never reads — `process_id`,
    `handles`, and the two other hash maps `symbol_stats` and `linux_proc_limits` — are not
    constrained at all. -/
structure HashEquiv (s s' : StateModel) : Prop where
  cert : s.certInfo.Perm s'.certInfo
  certKeys : (s.certInfo.map (·.1)).Nodup
  threads : AllRel ThreadEquiv s.threads s'.threads
  exc : s.exc = s'.exc
  assertion : s.assertion = s'.assertion
  requestingThread : s.requestingThread = s'.requestingThread
  sys : s.sys = s'.sys
  lsb : s.lsb = s'.lsb
  macCrashInfo : s.macCrashInfo = s'.macCrashInfo
  macBootArgs : s.macBootArgs = s'.macBootArgs
  modules : s.modules = s'.modules
  unloaded : s.unloaded = s'.unloaded
  memoryMapCount : s.memoryMapCount = s'.memoryMapCount
  softErrors : s.softErrors = s'.softErrors

theorem briefLines_hash (pw : PW) {s s' : StateModel} (h : HashEquiv s s') (x : TextExtra) :
    briefLines pw s x = briefLines pw s' x := by
  have h1 : sysLines s = sysLines s' := by unfold sysLines; rw [h.sys, h.lsb]
  have h2 : miscLines s x = miscLines s' x := by
    unfold miscLines; rw [h.assertion, h.macCrashInfo, h.macBootArgs, h.memoryMapCount]
  simp only [briefLines, requestingLines_equiv x h.requestingThread h.exc h.threads, h1, h2, h.exc]

theorem restLines_hash {s s' : StateModel} (h : HashEquiv s s') (x : TextExtra) :
    restLines s x = restLines s' x := by
  have hc := lookupS_perm h.cert h.certKeys
  have h3 : softLines s = softLines s' := by unfold softLines; rw [h.softErrors]
  simp only [restLines, ← h.requestingThread,
    otherThreadsLines_equiv s.requestingThread ThreadX.dflt x.threads 0 h.threads,
    moduleLines_congr h.modules hc, unloadedLines_congr h.unloaded hc, ← h.modules, ← h.unloaded, h3]

/-- **text_hash_order_free** — `print` and `print_brief` write the same lines for every iteration
    order of every `HashMap`/`HashSet` of the state (fresh `RandomState`s: "repeated runs"), and
    whatever `symbol_stats` / `linux_proc_limits` / `handles` / `process_id` hold. -/
theorem text_hash_order_free {s s' : StateModel} (h : HashEquiv s s') (x : TextExtra) (brief : Bool) :
    printText s x brief = printText s' x brief := by
  have hpw : setCtx none s = setCtx none s' := by simp only [setCtx, h.sys]
  simp only [printText, printLines, linesAfter, linesWith, hpw, briefLines_hash _ h, restLines_hash h]

/-- non-vacuity: the example state with its two certificates swapped, the validity set of its
    frame in another order and other symbol statistics / limits is `HashEquiv` to itself -/
example :
    let s := { exState with certInfo := [("a.dll", "A"), ("b.dll", "B")],
                            threads := [⟨[{ exFrame with ctx := ⟨4, [("eip", 1), ("esp", 2)], some ["eip", "esp"]⟩ }], 7, none, none⟩] }
    let s' := { exState with certInfo := [("b.dll", "B"), ("a.dll", "A")], pid := none, handles := none,
                             symbolStats := [("x", defaultStats)], procLimits := some [],
                             threads := [⟨[{ exFrame with ctx := ⟨4, [("eip", 1), ("esp", 2)], some ["esp", "eip"]⟩ }], 7, none, none⟩] }
    HashEquiv s s' := by
  refine ⟨List.Perm.swap _ _ _, by decide, ?_, rfl, rfl, rfl, rfl, rfl, rfl, rfl, rfl, rfl, rfl, rfl⟩
  exact ⟨⟨rfl, ⟨⟨rfl, ⟨rfl, rfl, List.Perm.swap _ _ _⟩⟩, trivial⟩⟩, trivial⟩

/-- a register printer that ITERATES the validity set (the mutation the check must catch) -/
def regNamesBySet (c : RegCtx) : List String :=
  match c.valid with
  | none => c.gpr.map (·.1)
  | some names => names.filter fun n => (c.gpr.map (·.1)).contains n

/-- … is order dependent, while the real walk over the fixed register list is not -/
theorem regs_by_set_order_dependent :
    ∃ c c' : RegCtx, CtxEquiv c c' ∧ regNamesBySet c ≠ regNamesBySet c' ∧ regLines c = regLines c' := by
  refine ⟨⟨4, [("eip", 1), ("esp", 2)], some ["eip", "esp"]⟩, ⟨4, [("eip", 1), ("esp", 2)], some ["esp", "eip"]⟩,
    ⟨rfl, rfl, List.Perm.swap _ _ _⟩, by decide, ?_⟩
  exact regLines_equiv ⟨rfl, rfl, List.Perm.swap _ _ _⟩

def flipsOf (s : StateModel) (x : TextExtra) : List (BitFlip × FlipX) :=
  match s.exc with
  | some e => zipD FlipX.dflt e.bitFlips x.flips
  | none => []

/-- **flip_order_irrelevant** — `sort_unstable_by` is only assumed to return SOME arrangement that
    is sorted by the comparator (confidence descending under `total_cmp`, then address): any two
    such arrangements print the same lines provided entries that tie on (confidence, address) show
    the same register and confidence text. -/
theorem flip_order_irrelevant (pw : PW) (fs : List (BitFlip × FlipX)) (o₁ o₂ : List Nat)
    (h₁ : validOrder fs o₁ = true) (h₂ : validOrder fs o₂ = true)
    (ties : ∀ a ∈ fs, ∀ b ∈ fs, flipKey a = flipKey b → flipShown a = flipShown b) :
    flipLines pw 0 (o₁.filterMap (fs[·]?)) = flipLines pw 0 (o₂.filterMap (fs[·]?)) := by
  apply flipLines_shown
  apply map_eq_of_key flipKey flipShown
  · exact fun a ha b hb => ties a (mem_filterMap_getElem? ha) b (mem_filterMap_getElem? hb)
  · rw [validOrder_keys h₁, validOrder_keys h₂]

/-- in particular when no two entries tie -/
theorem flip_order_irrelevant_of_distinct_keys (pw : PW) (fs : List (BitFlip × FlipX)) (o₁ o₂ : List Nat)
    (h₁ : validOrder fs o₁ = true) (h₂ : validOrder fs o₂ = true) (nd : (fs.map flipKey).Nodup) :
    flipLines pw 0 (o₁.filterMap (fs[·]?)) = flipLines pw 0 (o₂.filterMap (fs[·]?)) := by
  apply flip_order_irrelevant pw fs o₁ o₂ h₁ h₂
  intro a ha b hb hk
  rw [List.eq_of_mem_of_map_eq nd ha hb hk]

/-- the hypothesis on ties is needed: `rax` and `rbx` holding the same value give two candidates
    with one address and one confidence; both arrangements are sorted, the lines differ. -/
theorem flip_order_matters_for_differing_ties :
    ∃ (fs : List (BitFlip × FlipX)) (o₁ o₂ : List Nat), validOrder fs o₁ = true ∧ validOrder fs o₂ = true ∧
      (o₁.filterMap (fs[·]?)).map flipShown ≠ (o₂.filterMap (fs[·]?)).map flipShown :=
  ⟨[(⟨16, some "rax", false, false, false, 0, false, none⟩, ⟨0x3e800000, "0.250"⟩),
    (⟨16, some "rbx", false, false, false, 0, false, none⟩, ⟨0x3e800000, "0.250"⟩)],
   [0, 1], [1, 0], by decide, by decide, by decide⟩

/-- non-vacuity: three candidates, two of them tied and showing the same; `[2, 0, 1]` and
    `[2, 1, 0]` are the valid orders (confidence 0.9 first), `[0, 1, 2]` is not -/
example :
    let fs : List (BitFlip × FlipX) :=
      [(⟨16, none, false, false, false, 0, false, none⟩, ⟨0x3e800000, "0.250"⟩),
       (⟨16, none, false, false, false, 1, true, none⟩, ⟨0x3e800000, "0.250"⟩),
       (⟨8, some "rax", false, false, false, 0, false, none⟩, ⟨0x3f666666, "0.900"⟩)]
    validOrder fs [2, 0, 1] = true ∧ validOrder fs [2, 1, 0] = true ∧ validOrder fs [0, 1, 2] = false ∧
    (∀ a ∈ fs, ∀ b ∈ fs, flipKey a = flipKey b → flipShown a = flipShown b) := by
  decide

/-- `total_cmp`: -NaN < -inf < -0.0 < +0.0 < 0.25 < +inf < +NaN as keys -/
example : [0xffc00000, 0xff800000, 0x80000000, 0, 0x3e800000, 0x7f800000, 0x7fc00000].map totalKey =
    [4194303, 8388607, 2147483647, 2147483648, 3196059648, 4286578688, 4290772992] := by decide

/-- **printText_function_of_state** — the characters `print` / `print_brief` write are a function of
    the printed state and `brief`: two prints agree whenever the states are equal up to the
    iteration order of their hash containers (and up to the members the text report never reads),
    whatever the print context of the thread held before, and whichever sorted arrangement the
    unstable sort chose for the bit flips (ties showing the same). -/
theorem printText_function_of_state {s s' : StateModel} (h : HashEquiv s s') (x : TextExtra) (order' : List Nat)
    (before before' : Option PW) (brief : Bool)
    (h₁ : validOrder (flipsOf s x) x.flipOrder = true) (h₂ : validOrder (flipsOf s x) order' = true)
    (ties : ∀ a ∈ flipsOf s x, ∀ b ∈ flipsOf s x, flipKey a = flipKey b → flipShown a = flipShown b) :
    obind (linesAfter setCtx before s x brief) (fun ls => .ok (renderLines ls)) =
    obind (linesAfter setCtx before' s' { x with flipOrder := order' } brief) (fun ls => .ok (renderLines ls)) := by
  have hx : ∀ pw, briefLines pw s x = briefLines pw s { x with flipOrder := order' } := by
    intro pw
    revert h₁ h₂ ties
    unfold briefLines flipsOf
    cases s.exc with
    | none => exact fun _ _ _ => rfl
    | some e =>
      intro h₁ h₂ ties
      simp only [crashLines, flip_order_irrelevant pw _ _ _ h₁ h₂ ties]
      rfl
  have hr : restLines s x = restLines s { x with flipOrder := order' } := rfl
  show printText s x brief = printText s' { x with flipOrder := order' } brief
  rw [← text_hash_order_free h]
  simp only [printText, printLines, linesAfter, linesWith, hx, hr]

/-- **brief_is_prefix** — the exact relation between the two reports: `print_internal` returns
    after the requesting thread's block when `brief`; otherwise it goes on with `restLines` (the
    other threads, `Loaded modules:`, `Unloaded modules:`, the stream lists, the soft errors). So
    if `print_brief` panics `print` panics at the same site, and if `print_brief` writes `b` then
    `print` writes `b` followed by the rest (or panics in the rest). -/
theorem brief_is_prefix (s : StateModel) (x : TextExtra) :
    match printText s x true with
    | .panic m => printText s x false = .panic m
    | .ok b => printText s x false = obind (restLines s x) fun r => .ok (b ++ renderLines r) := by
  simp only [printText, printLines, linesAfter, linesWith]
  cases briefLines (setCtx none s) s x with
  | panic m => rfl
  | ok hd =>
    cases restLines s x with
    | panic m => rfl
    | ok r => simp [obind, renderLines_append]

/-- as characters: the full report starts with the brief report -/
theorem brief_prefix_chars (s : StateModel) (x : TextExtra) (b f : List Char)
    (hb : printText s x true = .ok b) (hf : printText s x false = .ok f) : ∃ r, f = b ++ r := by
  have h := brief_is_prefix s x
  rw [hb] at h
  simp only at h
  rw [hf] at h
  obtain ⟨r, _, hr⟩ := obind_ok_iff.mp h.symm
  cases hr
  exact ⟨_, rfl⟩

/-- whenever `print` succeeds so does `print_brief` -/
theorem brief_ok_of_full_ok (s : StateModel) (x : TextExtra) (f : List Char)
    (hf : printText s x false = .ok f) : ∃ b, printText s x true = .ok b := by
  have h := brief_is_prefix s x
  cases hb : printText s x true with
  | ok b => exact ⟨b, rfl⟩
  | panic m => rw [hb] at h; simp only at h; rw [hf] at h; cases h

/-- what the brief report consists of, and what it leaves out: no module list, no other thread -/
theorem brief_contents (s : StateModel) (x : TextExtra) (ls : List TLine) (h : printLines s x true = .ok ls) :
    (∃ pre blk, ls = pre ++ blk ∧ AllPlain pre ∧ requestingLines s x = .ok blk) ∧
    ls.filterMap loadedOf = [] ∧ ls.filterMap unloadedOf = [] ∧
    ls.filterMap headerOf = (match s.requestingThread with
                            | some i => [(i, true)]
                            | none => []) := by
  obtain ⟨pre, req, rfl, hpre, hreq⟩ := briefLines_shape _ s x ls (printLines_brief_ok.mp h)
  obtain ⟨h1, h2, h3⟩ := printLines_brief_marks h
  exact ⟨⟨pre, req, rfl, hpre, hreq⟩, h2, h3, h1⟩

/-- **lines_of_report** — the structure theorems below speak about the LINES of the model
    (`printLines`); `printText` writes each followed by `\n`. When no line contains a newline (no
    printed name does — the condition under which the engine's line-based oracle runs) the
    characters split at `\n` are exactly those lines. -/
theorem lines_of_report (s : StateModel) (x : TextExtra) (brief : Bool) (ls : List TLine)
    (h : printLines s x brief = .ok ls) (tame : ∀ l ∈ ls, '\n' ∉ l.text) :
    ∃ cs, printText s x brief = .ok cs ∧ splitLines cs [] = ls.map (·.text) :=
  ⟨renderLines ls, by simp only [printText, h, obind], splitLines_render ls tame⟩

/-- **frame_lines_count** — in the block `CallStack::print` writes for a thread the numbered lines
    are numbered `0, 1, 2, …` in order, and there are exactly `Σ (1 + inline frames)` of them:
    one for every frame and one for every inline frame. Every other line of the block is plain. -/
theorem frame_lines_count (t : ThreadM) (x : ThreadX) (ls : List TLine) (h : stackLines t x = .ok ls) :
    ls.filterMap frameOf = List.range (t.frames.length + (t.frames.map (·.inlines.length)).sum) ∧
    (∀ l ∈ ls, l.kind = .plain ∨ ∃ i, l.kind = .frame i) :=
  stackLines_frames t x ls h

/-- **frame_lines_count_chars** — the same count read off the CHARACTERS, with the very test the
    engine's oracle applies to the lines of the real output (`isFrameLine`: a space and one digit,
    or at least two digits, followed by two spaces): in a call-stack block exactly the numbered
    frame lines look like numbered frame lines (register lines, `Found by:` lines, argument lines,
    `<no frames>` and blank lines do not), so their number is frames + inline frames. -/
theorem frame_lines_count_chars (t : ThreadM) (x : ThreadX) (ls : List TLine) (h : stackLines t x = .ok ls) :
    (∀ l ∈ ls, isFrameLine l.text = (frameOf l).isSome) ∧
    (ls.filter fun l => isFrameLine l.text).length = t.frames.length + (t.frames.map (·.inlines.length)).sum := by
  have hc : ∀ l ∈ ls, isFrameLine l.text = (frameOf l).isSome := by
    intro l hl
    rcases stackLines_ok t x ls h l hl with ⟨i, body, hk, ht⟩ | ⟨hk, hn⟩
    · rw [ht, isFrameLine_numbered]
      simp only [frameOf, hk, Option.isSome_some]
    · rw [hn]
      simp only [frameOf, hk, Option.isSome_none]
  refine ⟨hc, ?_⟩
  have e : (ls.filter fun l => isFrameLine l.text) = ls.filter fun l => (frameOf l).isSome :=
    List.filter_congr (fun l hl => hc l hl)
  rw [e, ← List.countP_eq_length_filter, ← List.length_filterMap_eq_countP, (frame_lines_count t x ls h).1,
    List.length_range]

/-- the oracle's test on concrete lines -/
example : isFrameLine " 0  app.exe!main [a.c : 7 + 0x4]".toList = true ∧ isFrameLine "12  0x1000".toList = true ∧
    isFrameLine "    Found by: call frame info".toList = false ∧ isFrameLine "     rax = 0x0000000000000001".toList = false ∧
    isFrameLine "<no frames>".toList = false ∧ isFrameLine " 12  x".toList = false ∧ isFrameLine "1  x".toList = false := by
  repeat rw [String.toList_ofList]
  decide

/-- a thread without frames gets the line `<no frames>` and no numbered line -/
example : stackLines ⟨[], 8, none, none⟩ ThreadX.dflt = .ok [pl "<no frames>"] := rfl

/-- non-vacuity: the example thread (one frame with one inline frame) has the numbered lines 0, 1 -/
example : ∃ ls, stackLines ⟨[exFrame], 7, some "t", none⟩ ⟨false, [⟨some 0x401230, none, 4⟩]⟩ = .ok ls ∧
    ls.filterMap frameOf = [0, 1] := by
  obtain ⟨ls, hls⟩ := stackLines_total ⟨[exFrame], 7, some "t", none⟩ ⟨false, [⟨some 0x401230, none, 4⟩]⟩ (by
    intro p hp
    simp [zipD] at hp
    subst hp
    refine ⟨?_, ?_, ?_⟩ <;> simp [exFrame])
  refine ⟨ls, hls, ?_⟩
  rw [(frame_lines_count _ _ ls hls).1]
  rfl

/-- **thread_blocks_match_threads** — the `Thread N` headers of the full report, in order: first the
    requesting thread (marked), then every thread of the state in index order except the
    requesting one and the ones whose stack walk was skipped because they wrote the dump. -/
theorem thread_blocks_match_threads (s : StateModel) (x : TextExtra) (ls : List TLine)
    (h : printLines s x false = .ok ls) :
    ls.filterMap headerOf =
      (match s.requestingThread with
       | some i => [(i, true)]
       | none => []) ++
      (((zipD ThreadX.dflt s.threads x.threads).zipIdx.filter (otherSel s.requestingThread)).map
        fun p => (p.2, false)) :=
  (printLines_full_marks h).1

/-- the requesting thread's block is the first thing after the plain summary lines, in both reports,
    and its header carries `(crashed)` exactly when the state has exception info -/
theorem requesting_block_first (s : StateModel) (x : TextExtra) (brief : Bool) (ls : List TLine)
    (h : printLines s x brief = .ok ls) (i : Nat) (hi : s.requestingThread = some i) :
    ∃ pre t tail rest, ls = pre ++ (⟨.header i true, headerText i t (some s.exc.isSome)⟩ :: tail) ++ rest ∧
      AllPlain pre ∧ s.threads[i]? = some t := by
  have key : ∀ hd, printLines s x true = .ok hd →
      ∃ pre t tail, hd = pre ++ (⟨.header i true, headerText i t (some s.exc.isSome)⟩ :: tail) ∧
        AllPlain pre ∧ s.threads[i]? = some t := by
    intro hd hb
    obtain ⟨pre, blk, rfl, hpre, hblk⟩ := briefLines_shape _ s x hd (printLines_brief_ok.mp hb)
    obtain ⟨t, sl, ht, _, rfl⟩ := requestingLines_some hi hblk
    exact ⟨pre, t, _, rfl, hpre, ht⟩
  cases brief with
  | true =>
    obtain ⟨pre, t, tail, rfl, hpre, ht⟩ := key ls h
    exact ⟨pre, t, tail, [], (List.append_nil _).symm, hpre, ht⟩
  | false =>
    obtain ⟨hd, _, _, hb, _, _, rfl⟩ := printLines_full_ok h
    obtain ⟨pre, t, tail, rfl, hpre, ht⟩ := key hd hb
    exact ⟨pre, t, tail, _, rfl, hpre, ht⟩

/-- every other header is the unmarked header of the thread at that index -/
theorem other_headers_text (s : StateModel) (x : TextExtra) (ls : List TLine) (h : printLines s x false = .ok ls) :
    ∀ l ∈ ls, ∀ k, l.kind = .header k false → ∃ t, s.threads[k]? = some t ∧ l.text = headerText k t none := by
  obtain ⟨hd, others, tail, hb, ho, ht, rfl⟩ := printLines_full_ok h
  intro l hl k hk
  rcases List.mem_append.mp hl with h1 | h1
  · -- the brief part: its only header is marked
    have h2 := (printLines_brief_marks hb).header_mem h1 hk
    split at h2
    · cases List.mem_singleton.mp h2
    · exact nomatch h2
  rcases List.mem_append.mp h1 with h1 | h1
  · obtain ⟨⟨⟨t, x'⟩, j⟩, hp, rfl, he⟩ := (otherThreadsLines_marks _ _ _ _ ho).2 l h1 k false hk
    have hz := List.mem_zipIdx_iff_getElem?.mp hp
    rw [zipD_getElem?, Option.map_eq_some_iff] at hz
    obtain ⟨t', ht, hz⟩ := hz
    obtain ⟨rfl, _⟩ := Prod.mk.inj hz
    exact ⟨t', ht, he⟩
  · exact nomatch ht.header_mem h1 hk

/-- the marks: `(crashed)` with exception info, `(requested dump, did not crash)` without -/
example (t : ThreadM) :
    headerText 3 t (some true) = "Thread ".toList ++ dec 3 ++ [' '] ++ (t.threadName.getD "").toList ++
      " (crashed)".toList ++ " - tid: ".toList ++ dec t.threadId ∧
    headerText 3 t (some false) = "Thread ".toList ++ dec 3 ++ [' '] ++ (t.threadName.getD "").toList ++
      " (requested dump, did not crash)".toList ++ " - tid: ".toList ++ dec t.threadId ∧
    headerText 3 t none = "Thread ".toList ++ dec 3 ++ [' '] ++ (t.threadName.getD "").toList ++ [] ++
      " - tid: ".toList ++ dec t.threadId :=
  ⟨rfl, rfl, rfl⟩

/-- **modules_listed_by_address** — the lines under `Loaded modules:` / `Unloaded modules:` are, in
    order, exactly the modules `by_addr()` yields; no other line of the report is a module line. -/
theorem modules_listed_by_address (s : StateModel) (x : TextExtra) (ls : List TLine)
    (h : printLines s x false = .ok ls) :
    ls.filterMap loadedOf = modulesByAddr s.modules ∧ ls.filterMap unloadedOf = unloadedByAddr s.unloaded :=
  (printLines_full_marks h).2

/-- **loaded_modules_in_address_order** — what `by_addr()` of the loaded list is (C08, with module
    positions as values): every listed position is a module of the state with a valid range
    (`size > 0`, `base + size` fits — so `base + size - 1` cannot panic), the list is strictly
    ascending with pairwise disjoint ranges, no module is listed twice, and a module with a valid
    range that intersects no other module's range IS listed. -/
theorem loaded_modules_in_address_order (ms : List ModuleM) :
    (∀ i ∈ modulesByAddr ms, ∃ m r, ms[i]? = some m ∧ RangeMap.mkRange m.base m.size = some r) ∧
    ((modulesByAddr ms).Pairwise fun i j =>
      ∃ mi mj, ms[i]? = some mi ∧ ms[j]? = some mj ∧ 0 < mi.size ∧ mi.base + mi.size ≤ mj.base) ∧
    (modulesByAddr ms).Nodup ∧
    (∀ i m r, ms[i]? = some m → RangeMap.mkRange m.base m.size = some r →
      (∀ j m' r', j ≠ i → ms[j]? = some m' → RangeMap.mkRange m'.base m'.size = some r' →
        r.intersects r' = false) → i ∈ modulesByAddr ms) :=
  ⟨fun _ h => mem_modulesByAddr h, modulesByAddr_sorted ms, modulesByAddr_nodup ms, modulesByAddr_complete ms⟩

/-- **unloaded_modules_in_address_order** — `by_addr()` of the unloaded list: exactly the modules with
    a valid range, each once, in `(base, end)` order (overlaps are kept: a DLL may have been loaded
    and unloaded at overlapping places). -/
theorem unloaded_modules_in_address_order (ms : List UnloadedM) :
    (∀ i, i ∈ unloadedByAddr ms ↔ ∃ m r, ms[i]? = some m ∧ RangeMap.mkRange m.base m.size = some r) ∧
    (unloadedByAddr ms).Nodup ∧
    ((unloadedByAddr ms).Pairwise fun i j =>
      ∃ mi mj ri rj, ms[i]? = some mi ∧ ms[j]? = some mj ∧ RangeMap.mkRange mi.base mi.size = some ri ∧
        RangeMap.mkRange mj.base mj.size = some rj ∧ RangeMap.rle ri rj = true) :=
  ⟨mem_unloadedByAddr_iff ms, unloadedByAddr_nodup ms, unloadedByAddr_sorted ms⟩

/-- non-vacuity of the isolation hypothesis: the example state's only module is isolated, hence
    listed -/
example : (0 : Nat) ∈ modulesByAddr exState.modules :=
  modulesByAddr_complete exState.modules 0 _ ⟨0x400000, 0x40ffff⟩ rfl (by decide) (by
    intro j m' r' hj hm
    cases j with
    | zero => exact absurd rfl hj
    | succ k => simp [exState] at hm)

end MdModel.Text
